/-
C03 — reported state and costs along a route are the true sums over its edges.

Component statements over `Model/Instance.lean`: state accumulation (`add_distance`, `add_time`:
the delta is converted to the feature's unit and added to the feature's own slot, as the code does),
the distance traversal model (`distance_traverse_spec`; of the speed-table model only what it is built
from: `speed_engine_model`, `speed_table_is_the_file`), turn classification and heading wrap.
Route level (`Proofs/SearchDiscipline`, `Proofs/RouteSums`): the link relation and the closed forms
along every route of a Dijkstra search (`dijkstra_…`: the Dijkstra restriction is forced — for A* with
an estimate that is inconsistent for the network the statement is false of model and code, see
`stale_link_counterexample`; `SearchDiscipline.route_links_fresh_of_heur` extends the link relation to
every consistent vertex estimate), vertex-oriented and edge-oriented (`dijkstra_edge_oriented_…`,
`edge_oriented_adjacent_…`); the response's `traversal_summary`
(`traversal_summary_is_state_after_last_edge`).  The k-shortest-path routes (both halves of a
single-via alternative, Yen's root and spur parts) are C13's theorems
(`Props/C13.lean`: every alternative's re-created part is the forward re-accumulation from the last
edge and state of the part it continues), not restated here.

Modelled rather than verified, and why it is harmless here:
* the turn-delay access model writes its delay to the state feature named by its
  `time_feature_name` (configurable, default `"time"`); `AccessModel.access` of the search model writes
  to the feature called `"time"`.  The search harness always configures `"time"`; the builder stream
  (`bld heads`, `Drv/Build.lean`) covers other names by renaming the probe's state feature, and
  `Build.turnDelayBuild_ok` says which name the builder hands over.  A configuration whose access model
  writes to a time feature other than the one the speed-table model writes to (`"time"`, fixed in
  `speed_traversal_model.rs`) is outside the route-level theorems.
-/
import Compass.Gen.Decisions
import Compass.Gen.FnsC03
import Compass.Proofs.SearchDiscipline
import Compass.Proofs.RouteSums
import Compass.Proofs.StateRefine
import Compass.Proofs.Build
import Compass.Proofs.SearchRoute

namespace Compass
namespace C03

variable {α : Type} [Field α] [LinearOrder α] [IsStrictOrderedRing α] [Lit α] [LawfulLit α]

/-- `add_distance` touches exactly the named slot and adds the delta expressed in the feature's unit -/
theorem addDistance_spec (fs : List (Feat α)) (state : List α) (name : String) (d : α)
    (fromU : DistanceUnit) (st' : List α) (h : addDistance fs state name d fromU = some st') :
    ∃ i x fu, featIndex fs name = some i ∧ state[i]? = some x ∧
      (fs[i]?.map (·.kind)) = some (FeatKind.dist fu) ∧
      st' = state.set i (x + fromU.convert fu d) ∧ st'.length = state.length := by
  rw [addDistance_eq] at h
  obtain ⟨p, hp, h⟩ := Option.bind_eq_some_iff.1 h
  obtain ⟨x, hx, rfl⟩ := Option.map_eq_some_iff.1 h
  exact ⟨p.1, x, p.2, (distSlot_some hp).1, hx, (distSlot_some hp).2, rfl, List.length_set⟩

/-- `add_time` touches exactly the named slot and adds the delta expressed in the feature's unit -/
theorem addTime_spec (fs : List (Feat α)) (state : List α) (name : String) (t : α)
    (fromU : TimeUnit) (st' : List α) (h : addTime fs state name t fromU = some st') :
    ∃ i x fu, featIndex fs name = some i ∧ state[i]? = some x ∧
      (fs[i]?.map (·.kind)) = some (FeatKind.time fu) ∧
      st' = state.set i (x + fromU.convert fu t) ∧ st'.length = state.length := by
  rw [addTime_eq] at h
  obtain ⟨p, hp, h⟩ := Option.bind_eq_some_iff.1 h
  obtain ⟨x, hx, rfl⟩ := Option.map_eq_some_iff.1 h
  exact ⟨p.1, x, p.2, (timeSlot_some hp).1, hx, (timeSlot_some hp).2, rfl, List.length_set⟩

/-- writing slot `i` leaves every other slot as it was (`add_distance` / `add_time` write one slot:
`addDistance_spec`, `addTime_spec`) -/
theorem set_other_slot (state : List α) (i j : Nat) (v : α) (hij : j ≠ i) :
    (state.set i v)[j]? = state[j]? :=
  List.getElem?_set_ne (Ne.symm hij)

/-- the initial state holds the declared initial values, one per feature, in slot order -/
theorem initialState_spec (fs : List (Feat α)) :
    (initialState fs).length = fs.length ∧ ∀ i : Nat, (initialState fs)[i]? = (fs[i]?).map Feat.init :=
  ⟨by simp [initialState], RouteSums.init_slot fs⟩

/-- distance traversal: the slot of the "distance" feature grows by the edge length converted metres → model
unit `du` → a unit `fu` (that `fu` is the feature's unit is the kind clause of `addDistance_spec`, which
this statement leaves out) -/
theorem distance_traverse_spec (fs : List (Feat α)) (edges : List (EdgeRec α)) (du : DistanceUnit)
    (e : Nat) (state st' : List α) (h : (TravModel.distance du).traverse fs edges e state = some st') :
    ∃ er i x fu, edges[e]? = some er ∧ featIndex fs "distance" = some i ∧ state[i]? = some x ∧
      st' = state.set i (x + du.convert fu (baseDistanceUnit.convert du er.dist)) := by
  obtain ⟨er, her, h⟩ := TravModel.traverse_ok h
  obtain ⟨i, x, fu, hi, hx, _, hst, _⟩ := addDistance_spec _ _ _ _ _ _ h
  exact ⟨er, i, x, fu, her, hi, hx, hst⟩

example : addDistance [⟨"distance", .dist .meters, (0 : ℚ)⟩] [5] "distance" 2 .meters = some [7] := by
  decide +kernel

/-! ### Turn classification and heading wrap (tables regenerated from the source) -/

theorem turn_rejects_every_angle_outside (a : Int) (h : a < -180 ∨ 180 < a) : turnOfAngle a = none :=
  Option.not_isSome_iff_eq_none.1 fun hs => by have := (turnOfAngle_isSome_iff a).1 hs; omega

/-- an instance of `turnOfAngle_isSome_iff` for headings outside [0, 360) (the loader accepts any `i16`, the
code takes the difference in `i32`): 1000 → 1010 differ by 10 and classify as an ordinary turn -/
theorem far_headings_small_difference_is_a_turn :
    turnOfAngle (bearing (1000, none) (1010, none)) = some .noTurn := by decide +kernel

/-- the code's final `wrapped.clamp(i16::MIN, i16::MAX) as i16` in `bearing_to_destination`, which
`Model/Instance.lean`'s `bearing` does not have -/
def clampI16 (a : Int) : Int := max (-32768) (min 32767 a)

/-- the clamp never changes the classification: leaving it out of the model's `bearing` is harmless for
`Turn::from_angle`, its only consumer (as numbers the two bearings can differ:
`bearing (0, some (-32768)) (32767, none) = 65175`, clamped to 32767 by the code) -/
theorem turnOfAngle_clamp (a : Int) : turnOfAngle (clampI16 a) = turnOfAngle a := by
  by_cases h : -180 ≤ a ∧ a ≤ 180
  · have : clampI16 a = a := by unfold clampI16; omega
    rw [this]
  · have hc : ¬ (-180 ≤ clampI16 a ∧ clampI16 a ≤ 180) := by unfold clampI16; omega
    rw [← turnOfAngle_isSome_iff, Option.not_isSome_iff_eq_none] at h hc
    rw [h, hc]

example : bearing (0, some (-32768)) (32767, none) = 65175 ∧ clampI16 65175 = 32767 ∧
    turnOfAngle (clampI16 65175) = none ∧ turnOfAngle 65175 = none := by decide +kernel

/-- the class boundaries as the property describes them: straight ahead is "no turn",
a quarter turn to the right is "right", a reversal is a U-turn (spot checks on the generated table;
the full table is compared with the implementation bit for bit by the correspondence run) -/
theorem turn_spot_checks :
    turnOfAngle 0 = some .noTurn ∧ turnOfAngle 90 = some .right ∧ turnOfAngle (-90) = some .left ∧
    turnOfAngle 180 = some .uTurn ∧ turnOfAngle (-180) = some .uTurn ∧
    turnOfAngle 30 = some .slightRight ∧ turnOfAngle (-30) = some .slightLeft ∧
    turnOfAngle 150 = some .sharpRight ∧ turnOfAngle (-150) = some .sharpLeft := by decide +kernel

/-- a turn seen in a mirror: left and right change places -/
def mirrorTurn : Turn → Turn
  | .slightRight => .slightLeft
  | .slightLeft => .slightRight
  | .right => .left
  | .left => .right
  | .sharpRight => .sharpLeft
  | .sharpLeft => .sharpRight
  | t => t

/-- how far a turn departs from straight ahead -/
def turnSeverity : Turn → Nat
  | .noTurn => 0
  | .slightRight | .slightLeft => 1
  | .right | .left => 2
  | .sharpRight | .sharpLeft => 3
  | .uTurn => 4

/-- the table is its own mirror image, row by row -/
theorem turnRanges_mirror : ∀ r ∈ turnRanges, (-r.2.1, -r.1, mirrorTurn r.2.2) ∈ turnRanges := by
  decide +kernel

/-- the turn through `-a` is the mirror image of the turn through `a`, for every angle: the mirror image
of the range that holds `a` is a range of the table, and it holds `-a` -/
theorem turnOfAngle_neg (a : Int) : turnOfAngle (-a) = (turnOfAngle a).map mirrorTurn := by
  have key : ∀ a t, turnOfAngle a = some t → turnOfAngle (-a) = some (mirrorTurn t) := by
    intro a t h
    obtain ⟨r, hr, h1, h2, rfl⟩ := (turnOfAngle_eq_some_iff a t).1 h
    exact (turnOfAngle_eq_some_iff _ _).2
      ⟨_, turnRanges_mirror r hr, by simp only; omega, by simp only; omega, rfl⟩
  cases h : turnOfAngle a with
  | some t => exact key a t h
  | none =>
    cases h' : turnOfAngle (-a) with
    | none => rfl
    | some t' =>
      have := key (-a) t' h'
      rw [Int.neg_neg, h] at this
      cases this

/-- **the classification does not prefer a side**: the turn through `-a` is the mirror image of the
turn through `a`, for every angle of the table regenerated from `Turn::from_angle` (so a left turn of
45° is a "left" exactly as a right turn of 45° is a "right": a class boundary moved on one side only
charges the wrong delay for the angles between the two boundaries) -/
theorem turn_mirror_symmetric : ∀ i : Fin 361,
    turnOfAngle (-((i : Int) - 180)) = (turnOfAngle ((i : Int) - 180)).map mirrorTurn :=
  fun _ => turnOfAngle_neg _

/-- of two ranges that reach the non-negative side, the one that starts later is at least as severe -/
theorem turnRanges_severity : ∀ r ∈ turnRanges, ∀ r' ∈ turnRanges, 0 ≤ r.2.1 → r.1 ≤ r'.1 →
    turnSeverity r.2.2 ≤ turnSeverity r'.2.2 := by decide +kernel

theorem turnSeverity_mirror (t : Turn) : turnSeverity (mirrorTurn t) = turnSeverity t := by
  cases t <;> rfl

/-- from straight ahead to a reversal the class only grows in severity -/
theorem turn_severity_le_of_le {a b : Int} (ha : 0 ≤ a) (hab : a ≤ b) (hb : b ≤ 180) :
    ((turnOfAngle a).map turnSeverity).getD 0 ≤ ((turnOfAngle b).map turnSeverity).getD 0 := by
  obtain ⟨t, ht⟩ := Option.isSome_iff_exists.1 ((turnOfAngle_isSome_iff a).2 ⟨by omega, by omega⟩)
  obtain ⟨t', ht'⟩ := Option.isSome_iff_exists.1 ((turnOfAngle_isSome_iff b).2 ⟨by omega, by omega⟩)
  obtain ⟨r, hr, h1, h2, rfl⟩ := (turnOfAngle_eq_some_iff a t).1 ht
  obtain ⟨r', hr', h1', h2', rfl⟩ := (turnOfAngle_eq_some_iff b t').1 ht'
  rw [ht, ht']
  by_cases hlo : r.1 ≤ r'.1
  · exact turnRanges_severity r hr r' hr' (by omega) hlo
  · -- `r'` starts before `r` and reaches `b ≥ a`: it holds `a` too, so the two carry the same class
    have := (turnOfAngle_eq_some_iff a r'.2.2).2 ⟨r', hr', by omega, by omega, rfl⟩
    rw [ht] at this
    rw [Option.some.inj this]

/-- **a larger deviation is never a milder turn**: from straight ahead to a reversal, on either side,
the class only grows in severity (the ranges are contiguous and ordered) -/
theorem turn_severity_monotone : ∀ i : Fin 180,
    ((turnOfAngle (i : Int)).map turnSeverity).getD 0 ≤ ((turnOfAngle ((i : Int) + 1)).map turnSeverity).getD 0 ∧
    ((turnOfAngle (-(i : Int))).map turnSeverity).getD 0 ≤ ((turnOfAngle (-((i : Int) + 1))).map turnSeverity).getD 0 := by
  intro i
  have h := turn_severity_le_of_le (a := i) (b := i + 1) (by omega) (by omega) (by omega)
  refine ⟨h, ?_⟩
  rw [turnOfAngle_neg, turnOfAngle_neg]
  simpa only [Option.map_map, Function.comp_def, turnSeverity_mirror] using h

/-- hence a turn delay lookup never fails on classification for headings in [0, 360) -/
theorem bearing_classified (a₁ a₂ : Int) (d₁ d₂ : Option Int) (h1 : 0 ≤ a₂ ∧ a₂ < 360)
    (h2 : ∀ d, d₁ = some d → 0 ≤ d ∧ d < 360) (h3 : 0 ≤ a₁ ∧ a₁ < 360) :
    (turnOfAngle (bearing (a₁, d₁) (a₂, d₂))).isSome = true := by
  obtain ⟨hlo, hhi, _⟩ := bearing_wrapped a₁ a₂ d₁ d₂ h1 h2 h3
  exact (turnOfAngle_isSome_iff _).2 ⟨hlo, hhi⟩

example : bearing (10, some 10) (350, none) = -20 := by decide
example : bearing (350, none) (10, none) = 20 := by decide

/-! ### Route level: the reported states and costs are the accumulation along the route -/

open SearchDiscipline in
/-- the route a Dijkstra run returns satisfies the link relation (recursive form of `Proofs/RouteSums`) -/
theorem dijkstra_route_links (c : Config α) (hadj : c.AdjConsistent) (hwf : c.wf = some 0)
    {source t : Nat} {sched : List Nat} {res : SearchResult α} (hts : t ≠ source)
    (hrun : runVertexOriented c.inst source (some t) sched = .ok res) :
    ∃ route, res.route = some route ∧ route ≠ [] ∧ RouteSums.Accumulates c route := by
  obtain ⟨route, h1, h2, _, h4⟩ := config_route_links_fresh c hadj hwf hts hrun
  exact ⟨route, h1, h2, accFrom_of_linksFresh c none route h4⟩

/- FULL STATEMENT (the property): for every algorithm — any weight factor — along the returned route
the first element was produced from the initial state with no previous edge and every further element
from its predecessor's reported state and edge.  FALSE of model and code for A* with an estimate that
is inconsistent for the network (`stale_link_counterexample` below; recorded finding
`route/stale-link-after-reopening`).  Proved: the statement restricted to `weight_factor = 0`
(Dijkstra); `SearchDiscipline.route_links_fresh_of_heur` gives it for every consistent vertex estimate.
What is missing for the full statement is a repair of the code (refresh descendants on re-expansion,
or re-traverse the route at the end).  The closed-form, monotonicity and summary theorems `dijkstra_…` of
this file rest on this link relation (in its recursive form `dijkstra_route_links`) and share the
restriction; `dijkstra_route_cost_is_label` rests on `SearchDiscipline.route_cost_eq_label_of_heur`, under the
same restriction. -/
/-- Dijkstra (effective weight factor 0), every configuration — with or without turn delays, any
units, forward or reverse: along the returned route the first element was produced from the initial
state with no previous edge, and every further element from its predecessor's reported state and
edge by the traversal (access model, then traversal model, then cost model): state₀ = initial,
stateᵢ = stepᵢ(stateᵢ₋₁, eᵢ₋₁, eᵢ), and each reported cost is the cost model's value for that step. -/
theorem route_accumulates_partial (c : Config α) (hadj : c.AdjConsistent) (hwf : c.wf = some 0)
    {source t : Nat} {sched : List Nat} {res : SearchResult α} (hts : t ≠ source)
    (hrun : runVertexOriented c.inst source (some t) sched = .ok res) :
    ∃ route, res.route = some route ∧ route ≠ [] ∧
      (∀ b, route.head? = some b →
        edgeTraversal c b.edge none (initialState c.feats) = .ok (b.access, b.traversal, b.state)) ∧
      ∀ i (hi : i + 1 < route.length),
        edgeTraversal c route[i + 1].edge (some (route[i]'(Nat.lt_of_succ_lt hi)).edge)
            (route[i]'(Nat.lt_of_succ_lt hi)).state =
          .ok (route[i + 1].access, route[i + 1].traversal, route[i + 1].state) := by
  obtain ⟨route, h1, h2, hacc⟩ := dijkstra_route_links c hadj hwf hts hrun
  refine ⟨route, h1, h2, fun b hb => ?_, hacc.getElem⟩
  cases route with
  | nil => cases hb
  | cons x xs =>
    cases hb
    exact hacc.1

open SearchDiscipline in
/-- Dijkstra, every configuration: the summed reported cost (access + traversal) of the route equals the
destination's label -/
theorem dijkstra_route_cost_is_label (c : Config α) (hadj : c.AdjConsistent) (hwf : c.wf = some 0)
    {source t : Nat} {sched : List Nat} {res : SearchResult α} (hts : t ≠ source)
    (hrun : runVertexOriented c.inst source (some t) sched = .ok res) :
    ∃ route gt, res.route = some route ∧ res.final.g t = some gt ∧
      (route.map (fun b => b.access + b.traversal)).sum = gt :=
  route_cost_eq_label_of_heur (c.inst_wf hadj) ((config_zeroH c hwf).heur (c.inst_wf hadj) true) hts hrun

/-! #### Closed forms (`Proofs/RouteSums`): what the accumulation adds up to

The terms, all total functions of the configuration (`Proofs/RouteSums`):
`distTerm trav edges fu e` = length of `e` converted base unit → the traversal model's unit → the
feature's unit `fu`; `timeTerm trav edges ftu e` = the value `create_time` returned for `e` (table
speed, converted length; speed-table model — `0` under the distance model) converted from the model's
time unit to the feature's unit `ftu`; `turnDelayTerm c ftu l e` = the delay the table holds for the
turn classified from the headings of `l` and `e`, converted from the table's unit to `ftu` (`0`
without turn delays).  `prefixEdges route k` are the edges of the first `k + 1` elements, `pairs` the
consecutive pairs.  (No term is a default on a returned route: header of `Proofs/RouteSums`.) -/

/-- Dijkstra, every configuration: distance and time never decrease from the initial state to the first
route element nor from one element to the next, under two premises on the *data*: `hlen`, no edge has a
negative length (graph data, read as it stands), and `hdel`, no configured turn delay is negative (true
of every access model the builder returns: `turn_delay_builder_delays_nonneg`).  Both are needed:
`route_monotone_negative_length_counterexample`, `route_monotone_negative_delay_counterexample`.
Siblings: `dijkstra_route_distance_monotone` (no "time" feature assumed), `dijkstra_edge_oriented_route_monotone`. -/
theorem dijkstra_route_monotone (c : Config α) (hadj : c.AdjConsistent) (hwf : c.wf = some 0)
    {source t : Nat} {sched : List Nat} {res : SearchResult α} (hts : t ≠ source)
    (hrun : runVertexOriented c.inst source (some t) sched = .ok res)
    {i : Nat} {fu : DistanceUnit} (hi : featIndex c.feats "distance" = some i)
    (hik : (c.feats[i]?).map (·.kind) = some (FeatKind.dist fu))
    {j : Nat} {ftu : TimeUnit} (hj : featIndex c.feats "time" = some j)
    (hjk : (c.feats[j]?).map (·.kind) = some (FeatKind.time ftu))
    (hlen : ∀ er ∈ c.edges, 0 ≤ er.dist) (hdel : RouteSums.DelaysNonneg c.access) :
    ∃ route, res.route = some route ∧ route ≠ [] ∧
      (∀ (hr : 0 < route.length),
        (∀ x y, (initialState c.feats)[i]? = some x → route[0].state[i]? = some y → x ≤ y) ∧
        (∀ x y, (initialState c.feats)[j]? = some x → route[0].state[j]? = some y → x ≤ y)) ∧
      ∀ k (hk : k + 1 < route.length),
        (∀ x y, route[k].state[i]? = some x → route[k + 1].state[i]? = some y → x ≤ y) ∧
        (∀ x y, route[k].state[j]? = some x → route[k + 1].state[j]? = some y → x ≤ y) := by
  obtain ⟨route, h1, h2, hacc⟩ := dijkstra_route_links c hadj hwf hts hrun
  have hd := RouteSums.route_distance_monotone hacc ⟨hi, hik⟩ hlen
  have ht := RouteSums.route_time_monotone hacc ⟨hj, hjk⟩ hdel
  exact ⟨route, h1, h2, fun hr => ⟨hd.1 hr, ht.1 hr⟩, fun k hk => ⟨hd.2 k hk, ht.2 k hk⟩⟩

/-- the distance half alone, without the premise that a "time" feature exists (distance-only state
models; no premise on the access model either): with non-negative edge lengths the reported distance
never decreases from the initial state to the first route element nor between consecutive elements -/
theorem dijkstra_route_distance_monotone (c : Config α) (hadj : c.AdjConsistent)
    (hwf : c.wf = some 0) {source t : Nat} {sched : List Nat} {res : SearchResult α}
    (hts : t ≠ source) (hrun : runVertexOriented c.inst source (some t) sched = .ok res)
    {i : Nat} {fu : DistanceUnit} (hi : featIndex c.feats "distance" = some i)
    (hik : (c.feats[i]?).map (·.kind) = some (FeatKind.dist fu))
    (hlen : ∀ er ∈ c.edges, 0 ≤ er.dist) :
    ∃ route, res.route = some route ∧ route ≠ [] ∧
      (∀ (hr : 0 < route.length) x y, (initialState c.feats)[i]? = some x →
        route[0].state[i]? = some y → x ≤ y) ∧
      ∀ k (hk : k + 1 < route.length) x y, route[k].state[i]? = some x →
        route[k + 1].state[i]? = some y → x ≤ y := by
  obtain ⟨route, h1, h2, hacc⟩ := dijkstra_route_links c hadj hwf hts hrun
  exact ⟨route, h1, h2, RouteSums.route_distance_monotone hacc ⟨hi, hik⟩ hlen⟩

/-- Dijkstra, every configuration: every slot other than "distance" and "time" reports its declared
initial value on every route element. -/
theorem dijkstra_route_other_slots (c : Config α) (hadj : c.AdjConsistent) (hwf : c.wf = some 0)
    {source t : Nat} {sched : List Nat} {res : SearchResult α} (hts : t ≠ source)
    (hrun : runVertexOriented c.inst source (some t) sched = .ok res)
    {j : Nat} (hjd : featIndex c.feats "distance" ≠ some j) (hjt : featIndex c.feats "time" ≠ some j) :
    ∃ route, res.route = some route ∧ route ≠ [] ∧
      ∀ k (hk : k < route.length), route[k].state[j]? = (c.feats[j]?).map (·.init) := by
  obtain ⟨route, h1, h2, hacc⟩ := dijkstra_route_links c hadj hwf hts hrun
  exact ⟨route, h1, h2, RouteSums.other_slots_unchanged hacc hjd hjt⟩

/-- Dijkstra, every configuration: the route summary (state of the last element) is the closed form
over the whole route. -/
theorem dijkstra_route_summary (c : Config α) (hadj : c.AdjConsistent) (hwf : c.wf = some 0)
    {source t : Nat} {sched : List Nat} {res : SearchResult α} (hts : t ≠ source)
    (hrun : runVertexOriented c.inst source (some t) sched = .ok res)
    {i : Nat} {fu : DistanceUnit} (hi : featIndex c.feats "distance" = some i)
    (hik : (c.feats[i]?).map (·.kind) = some (FeatKind.dist fu))
    {j : Nat} {ftu : TimeUnit} (hj : featIndex c.feats "time" = some j)
    (hjk : (c.feats[j]?).map (·.kind) = some (FeatKind.time ftu)) :
    ∃ route s fd ft, res.route = some route ∧ RouteSums.routeSummary route = some s ∧
      c.feats[i]? = some fd ∧ c.feats[j]? = some ft ∧
      s[i]? = some (fd.init + ((route.map (·.edge)).map (RouteSums.distTerm c.trav c.edges fu)).sum) ∧
      s[j]? = some (ft.init + ((route.map (·.edge)).map (RouteSums.timeTerm c.trav c.edges ftu)).sum
            + ((RouteSums.pairs (route.map (·.edge))).map
                (fun p => RouteSums.turnDelayTerm c ftu p.1 p.2)).sum) ∧
      ∀ l, featIndex c.feats "distance" ≠ some l → featIndex c.feats "time" ≠ some l →
        s[l]? = (c.feats[l]?).map (·.init) := by
  obtain ⟨route, h1, h2, hacc⟩ := dijkstra_route_links c hadj hwf hts hrun
  obtain ⟨s, fd, ft, hs, hfd, hft, hd, ht, ho⟩ :=
    RouteSums.summary_closed_form hacc h2 ⟨hi, hik⟩ ⟨hj, hjk⟩
  exact ⟨route, s, fd, ft, h1, hs, hfd, hft, hd, ht, ho⟩

/-- the distance statement with the values written out: `lens` are the stored lengths of the
route's edges; distance at element `k` = initial value + Σ of the first `k + 1` lengths, each
converted base unit → the traversal model's unit `du` → the feature's unit `fu` — equivalently the
total length converted once. -/
theorem dijkstra_route_distance_is_sum_explicit (c : Config α) (hadj : c.AdjConsistent)
    (hwf : c.wf = some 0) {source t : Nat} {sched : List Nat} {res : SearchResult α} (hts : t ≠ source)
    (hrun : runVertexOriented c.inst source (some t) sched = .ok res)
    {i : Nat} {fu : DistanceUnit} (hi : featIndex c.feats "distance" = some i)
    (hk : (c.feats[i]?).map (·.kind) = some (FeatKind.dist fu)) :
    ∃ (route : List (Branch α)) (f : Feat α) (lens : List α), res.route = some route ∧ route ≠ [] ∧
      c.feats[i]? = some f ∧ lens.length = route.length ∧
      (∀ k (hk : k < route.length), ∃ er, c.edges[route[k].edge]? = some er ∧
        lens[k]? = some er.dist) ∧
      ∀ k (hk : k < route.length),
        route[k].state[i]? = some (f.init + ((lens.take (k + 1)).map (fun len =>
          (RouteSums.travDu c.trav).convert fu
            (baseDistanceUnit.convert (RouteSums.travDu c.trav) len))).sum) ∧
        route[k].state[i]? = some (f.init + (RouteSums.travDu c.trav).convert fu
          (baseDistanceUnit.convert (RouteSums.travDu c.trav) (lens.take (k + 1)).sum)) := by
  obtain ⟨route, h1, h2, hacc⟩ := dijkstra_route_links c hadj hwf hts hrun
  obtain ⟨f, lens, hf, hl, hdef, hsum⟩ :=
    RouteSums.route_distance_is_sum_explicit hacc ⟨hi, hk⟩
  exact ⟨route, f, lens, h1, h2, hf, hl, hdef, hsum⟩

/-- the time statement with the values written out, speed-table model with turn delays:
`times[k]` is what `create_time` returned for edge `k` (its table speed in `su`, its length in `du`,
result in `tu`), `dls[k]` what the delay table returned for the turn from edge `k` to edge `k + 1`
(the pair is swapped in a reverse search: `prevEdge` / `nextEdge`); time at element `k` = initial
value + the first `k + 1` times + the first `k` delays, each converted to the feature's unit. -/
theorem dijkstra_route_time_is_sum_explicit (c : Config α) (hadj : c.AdjConsistent)
    (hwf : c.wf = some 0) {source t : Nat} {sched : List Nat} {res : SearchResult α} (hts : t ≠ source)
    (hrun : runVertexOriented c.inst source (some t) sched = .ok res)
    {j : Nat} {ftu : TimeUnit} (hj : featIndex c.feats "time" = some j)
    (hk : (c.feats[j]?).map (·.kind) = some (FeatKind.time ftu))
    {su : SpeedUnit} {du : DistanceUnit} {tu : TimeUnit} {ms : α} {table : List α}
    (htrav : c.trav = .speed su du tu ms table)
    {dtu : TimeUnit} {headings : List (Int × Option Int)} {delays : List (Option α)}
    (hac : c.access = .turnDelay dtu headings delays) :
    ∃ (route : List (Branch α)) (f : Feat α) (times dls : List α), res.route = some route ∧
      route ≠ [] ∧ c.feats[j]? = some f ∧
      times.length = route.length ∧ dls.length = route.length - 1 ∧
      (∀ k (hk : k < route.length), ∃ er sp tv, c.edges[route[k].edge]? = some er ∧
        table[route[k].edge]? = some sp ∧
        createTime sp su (baseDistanceUnit.convert du er.dist) du tu = some tv ∧
        times[k]? = some tv) ∧
      (∀ k (hk : k + 1 < route.length), ∃ d,
        turnDelayOf headings delays (RouteSums.prevEdge c route[k].edge route[k + 1].edge)
          (RouteSums.nextEdge c route[k].edge route[k + 1].edge) = some d ∧ dls[k]? = some d) ∧
      ∀ k (hk : k < route.length),
        route[k].state[j]? = some (f.init + ((times.take (k + 1)).map (tu.convert ftu)).sum
          + ((dls.take k).map (dtu.convert ftu)).sum) := by
  obtain ⟨route, h1, h2, hacc⟩ := dijkstra_route_links c hadj hwf hts hrun
  obtain ⟨f, times, dls, hf, ht, hd, htd, hdd, hsum⟩ :=
    RouteSums.route_time_is_sum_speed_turnDelay hacc ⟨hj, hk⟩ htrav hac
  -- `htd : TimesOf …` and `hdd : DelaysOf …` are the two written-out clauses by unfolding
  exact ⟨route, f, times, dls, h1, h2, hf, ht, hd, htd, hdd, hsum⟩

/-! #### Edge-oriented queries (`search_algorithm::run_edge_oriented`)

By design the origin and the destination edge are reported with zero cost and unchanged state — the
origin element carries the initial state, the destination element the state of the last inner
element — and the accumulation runs over the edges between them: the inner route is the route of the
vertex-oriented search from the origin edge's head to the destination edge's tail, so everything above
applies to it.  The first inner element is traversed with *no* previous edge and the destination
element is not traversed at all: neither the turn from the origin edge onto the route nor the turn
from the route onto the destination edge is charged a delay (nor checked against a restriction — the
recorded C04 finding).  When the destination edge starts where the origin edge ends no search is run
and both edges are really traversed (`forward_traversal`, whatever the direction), the second after
the first: the accumulation then runs over both, turn delay included. -/

/-- the fact the three edge-oriented theorems below share: the route is the origin element, an inner route that
satisfies the link relation, and the destination element carrying the last inner state -/
theorem edge_oriented_inner_links (c : Config α) (hadj : c.AdjConsistent)
    (hwf : c.wf = some 0) (source tgt : Nat) (sched : List Nat) (r : AlgResult α)
    (e1 e2 : EdgeRec α) (h1 : c.edges[source]? = some e1) (h2 : c.edges[tgt]? = some e2)
    (hne : source ≠ tgt) (hnadj : e1.dst ≠ e2.src)
    (hrun : c.runEdge source (some tgt) sched = .ok r) :
    ∃ (inner : List (Branch α)) (last : Branch α), inner ≠ [] ∧ inner.getLast? = some last ∧
      r.routes = [SearchRoute.originBranch c source e1 :: inner ++
        [SearchRoute.destBranch tgt e2 last.state]] ∧
      RouteSums.Accumulates c inner := by
  obtain ⟨res, inner, last, hres, hinner, hlast, _, _, hroutes⟩ :=
    SearchRoute.runEdge_nonadjacent c source tgt sched r e1 e2 h1 h2 hne hnadj hrun
  obtain ⟨route, hr, hnil, hacc⟩ := dijkstra_route_links c hadj hwf (fun h => hnadj h.symm) hres
  cases hinner.symm.trans hr
  exact ⟨inner, last, hnil, hlast, hroutes, hacc⟩

/-- **edge-oriented, origin and destination edges not adjacent** (Dijkstra; any traversal, access,
cost and frontier model, units, forward or reverse): the returned route is `origin :: inner ++ [dest]`;
`origin` carries the origin edge, zero access and traversal cost and the declared initial state; `dest`
carries the destination edge, zero costs and the state of the last inner element; the inner elements
satisfy the link relation (each is the traversal of its edge from its predecessor's reported state
and edge, the first from the initial state with no previous edge); the route summary is the inner
route's summary. -/
theorem dijkstra_edge_oriented_route_accumulates (c : Config α) (hadj : c.AdjConsistent)
    (hwf : c.wf = some 0) (source tgt : Nat) (sched : List Nat) (r : AlgResult α)
    (e1 e2 : EdgeRec α) (h1 : c.edges[source]? = some e1) (h2 : c.edges[tgt]? = some e2)
    (hne : source ≠ tgt) (hnadj : e1.dst ≠ e2.src)
    (hrun : c.runEdge source (some tgt) sched = .ok r) :
    ∃ (inner : List (Branch α)) (last origin dest : Branch α),
      r.routes = [origin :: inner ++ [dest]] ∧ inner ≠ [] ∧ inner.getLast? = some last ∧
      origin.edge = source ∧ origin.access = 0 ∧ origin.traversal = 0 ∧
      origin.state = initialState c.feats ∧
      dest.edge = tgt ∧ dest.access = 0 ∧ dest.traversal = 0 ∧ dest.state = last.state ∧
      RouteSums.Accumulates c inner ∧
      RouteSums.routeSummary (origin :: inner ++ [dest]) = RouteSums.routeSummary inner := by
  obtain ⟨inner, last, hnil, hlast, hroutes, hacc⟩ :=
    edge_oriented_inner_links c hadj hwf source tgt sched r e1 e2 h1 h2 hne hnadj hrun
  -- the eight terms after `hlast`: edge, access, traversal, state of `origin`, then of `dest` (their costs are
  -- the model's `zero`, `zero_eq : zero = 0`)
  refine ⟨inner, last, SearchRoute.originBranch c source e1, SearchRoute.destBranch tgt e2 last.state,
    hroutes, hnil, hlast, rfl, zero_eq, zero_eq, rfl, rfl, zero_eq, zero_eq, rfl, hacc, ?_⟩
  -- `origin :: inner ++ [dest]` is `(origin :: inner) ++ [dest]` by computation
  have hl : (SearchRoute.originBranch c source e1 :: inner
      ++ [SearchRoute.destBranch tgt e2 last.state]).getLast?
      = some (SearchRoute.destBranch tgt e2 last.state) :=
    List.getLast?_concat (l := SearchRoute.originBranch c source e1 :: inner)
  simp only [RouteSums.routeSummary, hl, hlast, Option.map_some]
  rfl

/-- the closed forms of `dijkstra_edge_oriented_route_accumulates`: the summary of an edge-oriented route is
the declared initial value plus the sums over the *inner* edges — lengths, traversal times, and the delays
of the turns between consecutive inner edges; the origin and destination edges and the two seam turns
contribute nothing -/
theorem dijkstra_edge_oriented_route_summary (c : Config α) (hadj : c.AdjConsistent)
    (hwf : c.wf = some 0) (source tgt : Nat) (sched : List Nat) (r : AlgResult α)
    (e1 e2 : EdgeRec α) (h1 : c.edges[source]? = some e1) (h2 : c.edges[tgt]? = some e2)
    (hne : source ≠ tgt) (hnadj : e1.dst ≠ e2.src)
    (hrun : c.runEdge source (some tgt) sched = .ok r)
    {i : Nat} {fu : DistanceUnit} (hi : featIndex c.feats "distance" = some i)
    (hik : (c.feats[i]?).map (·.kind) = some (FeatKind.dist fu))
    {j : Nat} {ftu : TimeUnit} (hj : featIndex c.feats "time" = some j)
    (hjk : (c.feats[j]?).map (·.kind) = some (FeatKind.time ftu)) :
    ∃ (route inner : List (Branch α)) (s : List α) (fd ft : Feat α), r.routes = [route] ∧
      route.map (·.edge) = source :: inner.map (·.edge) ++ [tgt] ∧
      RouteSums.routeSummary route = some s ∧ c.feats[i]? = some fd ∧ c.feats[j]? = some ft ∧
      s[i]? = some (fd.init + ((inner.map (·.edge)).map (RouteSums.distTerm c.trav c.edges fu)).sum) ∧
      s[j]? = some (ft.init + ((inner.map (·.edge)).map (RouteSums.timeTerm c.trav c.edges ftu)).sum
            + ((RouteSums.pairs (inner.map (·.edge))).map
                (fun p => RouteSums.turnDelayTerm c ftu p.1 p.2)).sum) ∧
      ∀ l, featIndex c.feats "distance" ≠ some l → featIndex c.feats "time" ≠ some l →
        s[l]? = (c.feats[l]?).map (·.init) := by
  obtain ⟨inner, last, origin, dest, hroutes, hnil, _, ho, _, _, _, hd, _, _, _, hacc, hsum⟩ :=
    dijkstra_edge_oriented_route_accumulates c hadj hwf source tgt sched r e1 e2 h1 h2 hne hnadj hrun
  obtain ⟨s, fd, ft, hs, hfd, hft, hdist, htime, hother⟩ :=
    RouteSums.summary_closed_form hacc hnil ⟨hi, hik⟩ ⟨hj, hjk⟩
  refine ⟨_, inner, s, fd, ft, hroutes, ?_, by rw [hsum]; exact hs, hfd, hft, hdist, htime, hother⟩
  simp [ho, hd]

/-- **edge-oriented monotonicity** (origin and destination edges not adjacent; Dijkstra; premises
`hlen`, `hdel` as in `dijkstra_route_monotone`): along the inner elements of the route
`origin :: inner ++ [dest]` distance and time never decrease — from the declared initial state (which
`origin` carries) to the first inner element, and from one inner element to the next; `dest` repeats
the state of the last inner element (`dijkstra_edge_oriented_route_accumulates`), so the whole reported
route is monotone.  (Adjacent edges: the two-element route of `edge_oriented_adjacent_route_accumulates`
satisfies the link relation, so `RouteSums.route_distance_monotone` and `route_time_monotone` apply
to it in the same way.) -/
theorem dijkstra_edge_oriented_route_monotone (c : Config α) (hadj : c.AdjConsistent)
    (hwf : c.wf = some 0) (source tgt : Nat) (sched : List Nat) (r : AlgResult α)
    (e1 e2 : EdgeRec α) (h1 : c.edges[source]? = some e1) (h2 : c.edges[tgt]? = some e2)
    (hne : source ≠ tgt) (hnadj : e1.dst ≠ e2.src)
    (hrun : c.runEdge source (some tgt) sched = .ok r)
    {i : Nat} {fu : DistanceUnit} (hi : featIndex c.feats "distance" = some i)
    (hik : (c.feats[i]?).map (·.kind) = some (FeatKind.dist fu))
    {j : Nat} {ftu : TimeUnit} (hj : featIndex c.feats "time" = some j)
    (hjk : (c.feats[j]?).map (·.kind) = some (FeatKind.time ftu))
    (hlen : ∀ er ∈ c.edges, 0 ≤ er.dist) (hdel : RouteSums.DelaysNonneg c.access) :
    ∃ (inner : List (Branch α)) (origin dest : Branch α), r.routes = [origin :: inner ++ [dest]] ∧
      (∀ (hr : 0 < inner.length),
        (∀ x y, (initialState c.feats)[i]? = some x → inner[0].state[i]? = some y → x ≤ y) ∧
        (∀ x y, (initialState c.feats)[j]? = some x → inner[0].state[j]? = some y → x ≤ y)) ∧
      ∀ k (hk : k + 1 < inner.length),
        (∀ x y, inner[k].state[i]? = some x → inner[k + 1].state[i]? = some y → x ≤ y) ∧
        (∀ x y, inner[k].state[j]? = some x → inner[k + 1].state[j]? = some y → x ≤ y) := by
  obtain ⟨inner, last, _, _, hroutes, hacc⟩ :=
    edge_oriented_inner_links c hadj hwf source tgt sched r e1 e2 h1 h2 hne hnadj hrun
  have hd := RouteSums.route_distance_monotone hacc ⟨hi, hik⟩ hlen
  have ht := RouteSums.route_time_monotone hacc ⟨hj, hjk⟩ hdel
  exact ⟨inner, _, _, hroutes, fun hr => ⟨hd.1 hr, ht.1 hr⟩, fun k hk => ⟨hd.2 k hk, ht.2 k hk⟩⟩

/-- **edge-oriented, adjacent edges** (`e1.dst = e2.src`; any algorithm and direction): the route is
the two edges, both really traversed in travel order — the origin edge from the declared initial state
with no previous edge, the destination edge from the origin edge's state with the origin edge as
previous edge — so the link relation holds of the whole route for the forward configuration, and the
summary is the closed form over both edges, the delay of the turn between them included -/
theorem edge_oriented_adjacent_route_accumulates (c : Config α)
    (source tgt : Nat) (sched : List Nat) (r : AlgResult α)
    (e1 e2 : EdgeRec α) (h1 : c.edges[source]? = some e1) (h2 : c.edges[tgt]? = some e2)
    (hne : source ≠ tgt) (hadj : e1.dst = e2.src)
    (hrun : c.runEdge source (some tgt) sched = .ok r) :
    ∃ b1 b2 : Branch α, r.routes = [[b1, b2]] ∧ b1.edge = source ∧ b2.edge = tgt ∧
      RouteSums.Accumulates ({ c with reverse := false } : Config α) [b1, b2] ∧
      RouteSums.routeSummary [b1, b2] = some b2.state := by
  obtain ⟨ac1, tc1, st1, ac2, tc2, st2, ht1, ht2, hroutes, _, _⟩ :=
    SearchRoute.runEdge_adjacent c source tgt sched r e1 e2 h1 h2 hne hadj hrun
  exact ⟨_, _, hroutes, rfl, rfl, ⟨ht1, ht2, trivial⟩, rfl⟩

/-- the summary of the adjacent-edges route, sums written out: both edges' lengths and times and the one
turn delay between them, in the forward configuration -/
theorem edge_oriented_adjacent_route_summary (c : Config α)
    (source tgt : Nat) (sched : List Nat) (r : AlgResult α)
    (e1 e2 : EdgeRec α) (h1 : c.edges[source]? = some e1) (h2 : c.edges[tgt]? = some e2)
    (hne : source ≠ tgt) (hadj : e1.dst = e2.src)
    (hrun : c.runEdge source (some tgt) sched = .ok r)
    {i : Nat} {fu : DistanceUnit} (hi : featIndex c.feats "distance" = some i)
    (hik : (c.feats[i]?).map (·.kind) = some (FeatKind.dist fu))
    {j : Nat} {ftu : TimeUnit} (hj : featIndex c.feats "time" = some j)
    (hjk : (c.feats[j]?).map (·.kind) = some (FeatKind.time ftu)) :
    ∃ (route : List (Branch α)) (s : List α) (fd ft : Feat α), r.routes = [route] ∧
      route.map (·.edge) = [source, tgt] ∧
      RouteSums.routeSummary route = some s ∧ c.feats[i]? = some fd ∧ c.feats[j]? = some ft ∧
      s[i]? = some (fd.init + (RouteSums.distTerm c.trav c.edges fu source
                + (RouteSums.distTerm c.trav c.edges fu tgt + 0))) ∧
      s[j]? = some (ft.init + (RouteSums.timeTerm c.trav c.edges ftu source
                + (RouteSums.timeTerm c.trav c.edges ftu tgt + 0))
            + (RouteSums.turnDelayTerm ({ c with reverse := false } : Config α) ftu source tgt + 0)) := by
  obtain ⟨b1, b2, hroutes, hb1, hb2, hacc, _⟩ :=
    edge_oriented_adjacent_route_accumulates c source tgt sched r e1 e2 h1 h2 hne hadj hrun
  obtain ⟨s, fd, ft, hs, hfd, hft, hdist, htime, _⟩ :=
    RouteSums.summary_closed_form (c := ({ c with reverse := false } : Config α)) hacc (by simp)
      ⟨hi, hik⟩ ⟨hj, hjk⟩
  subst hb1 hb2
  exact ⟨_, s, fd, ft, hroutes, rfl, hs, hfd, hft, hdist, htime⟩

/-! ### The stale-link counterexample (recorded finding `route/stale-link-after-reopening`)

The 5-vertex witness of harness/src/searchprops.rs `stale_link_witness(false)`, over ℚ: vertices
s=0, w=1, u=2, v=3, t=4; great-circle distances to t (data) 7000, 6000, 5000, 5200, 0; edge lengths
far below them, so the A* estimate (weight factor 1) is inconsistent for this network; a 2000 s delay
on the right turn (w→u, u→v).  Schedule: s, u, w, u again (re-opened), v, t. -/

def staleConfig : Config ℚ where
  nV := 5
  edges := [⟨0, 2, 1000⟩, ⟨0, 1, 100⟩, ⟨1, 2, 100⟩, ⟨2, 3, 100⟩, ⟨3, 4, 100⟩]
  outAdj := [[0, 1], [2], [3], [4], []]
  inAdj := [[], [1], [0, 2], [3], [4]]
  feats := [{ name := "distance", kind := .dist .meters, init := 0 },
            { name := "time", kind := .time .seconds, init := 0 }]
  trav := .distance .meters
  access := .turnDelay .seconds [(90, some 90), (0, some 0), (0, some 0), (90, some 90), (90, some 90)]
    [some 0, some 0, some 0, some 2000, some 0, some 0, some 0, some 0]
  cost := { indices := [0, 1], weights := [1, 1], vehicleRates := [.raw, .raw],
            networkRates := [.zero, .zero], agg := .sum }
  frontier := []
  term := .combined []
  reverse := false
  gc := [7000, 6000, 5000, 5200, 0]
  wf := some 1

/-- (edge, reported state) along the route of a result -/
def routeStatesOf (r : Except ErrKind (AlgResult ℚ)) : Option (List (List (Nat × List ℚ))) :=
  match r with
  | .ok res => some (res.routes.map (·.map (fun b => (b.edge, b.state))))
  | .error _ => none

/-- on `staleConfig` A* returns the route s→w→u→v→t whose third element reports distance 1100 and time 0 -/
theorem stale_link_counterexample :
    routeStatesOf (staleConfig.runVertex 0 (some 4) [0, 2, 1, 2, 3, 4]) =
      some [[(1, [100, 0]), (2, [200, 0]), (3, [1100, 0]), (4, [1200, 0])]] := by
  decide +kernel

/-- on `staleConfig`, traversing edge 3 (u→v) after edge 2 (w→u) from the state that route reports there
accumulates to distance 300 and time 2000: the reported state is not the route's accumulation. -/
theorem stale_link_true_accumulation :
    (edgeTraversal staleConfig 3 (some 2) [200, 0]).toOption.map (·.2.2) = some [300, 2000] := by
  decide +kernel

/-- The same configuration under Dijkstra (weight factor 0) returns a route whose states accumulate
(an instance of `route_accumulates_partial`): s→w→u→v→t, the turn delay charged on u→v. -/
theorem stale_link_absent_under_dijkstra :
    routeStatesOf (({ staleConfig with wf := some 0 } : Config ℚ).runVertex 0 (some 4) [0, 1, 2, 3, 4]) =
      some [[(1, [100, 0]), (2, [200, 0]), (3, [300, 2000]), (4, [400, 2000])]] := by
  decide +kernel

/-! ### The Dijkstra configuration of the examples below, and the premises it meets -/

/-- `staleConfig` run as Dijkstra (`weight_factor = 0`): the configuration of
`stale_link_absent_under_dijkstra`, which spells it out -/
def dijkstraConfig : Config ℚ := { staleConfig with wf := some 0 }

theorem dijkstraConfig_adj : dijkstraConfig.AdjConsistent :=
  adjConsistent_of_lists _ (by decide)

/-- the premise `hlen` of the monotonicity theorems holds of `dijkstraConfig` -/
theorem dijkstraConfig_lengths_nonneg : ∀ er ∈ dijkstraConfig.edges, (0 : ℚ) ≤ er.dist := by
  intro er her
  simp only [dijkstraConfig, staleConfig, List.mem_cons, List.not_mem_nil, or_false] at her
  rcases her with rfl | rfl | rfl | rfl | rfl <;> norm_num

/-- the premise `hdel` of the monotonicity theorems holds of `dijkstraConfig` -/
theorem dijkstraConfig_delays_nonneg : RouteSums.DelaysNonneg dijkstraConfig.access := by
  intro d hd
  simp only [List.mem_cons, Option.some.injEq, List.not_mem_nil, or_false] at hd
  rcases hd with rfl | rfl | rfl | rfl | rfl | rfl | rfl | rfl <;> norm_num

/-! ### Without their premises the monotonicity theorems fail -/

/-- `staleConfig` run as Dijkstra, with a delay of −50 s on the right turn, assembled in code (the application's
builder refuses this table) -/
def negativeDelayConfig : Config ℚ := { staleConfig with
  wf := some 0
  access := .turnDelay .seconds [(90, some 90), (0, some 0), (0, some 0), (90, some 90), (90, some 90)]
    [some 0, some 0, some 0, some (-50), some 0, some 0, some 0, some 0] }

/-- why `dijkstra_route_monotone` assumes non-negative delays: with a negative delay in the table the
Dijkstra route s→w→u→v→t reports time 0, 0, −50, −50 — the time decreases at the turn onto u→v
(the states still accumulate: `route_accumulates_partial` needs no such premise) -/
theorem route_monotone_negative_delay_counterexample :
    routeStatesOf (negativeDelayConfig.runVertex 0 (some 4) [0, 1, 2, 3, 4]) =
      some [[(1, [100, 0]), (2, [200, 0]), (3, [300, -50]), (4, [400, -50])]] ∧
    ¬ RouteSums.DelaysNonneg negativeDelayConfig.access := by
  refine ⟨by decide +kernel, ?_⟩
  intro h
  have := h (-50) (by simp)
  norm_num at this

/-- `dijkstraConfig` with the edge w→u of length −50 m (the edge loader reads lengths as they stand) -/
def negLenConfig : Config ℚ := { dijkstraConfig with
  edges := [⟨0, 2, 1000⟩, ⟨0, 1, 100⟩, ⟨1, 2, -50⟩, ⟨2, 3, 100⟩, ⟨3, 4, 100⟩] }

/-- why the monotonicity theorems assume non-negative edge lengths (`hlen`): with one edge of length
−50 m the Dijkstra route s→w→u→v→t reports distance 100, 50, 150, 250 — the distance decreases on the
second edge -/
theorem route_monotone_negative_length_counterexample :
    routeStatesOf (negLenConfig.runVertex 0 (some 4) [0, 1, 2, 3, 4]) =
      some [[(1, [100, 0]), (2, [50, 0]), (3, [150, 2000]), (4, [250, 2000])]] ∧
    ¬ (∀ er ∈ negLenConfig.edges, (0 : ℚ) ≤ er.dist) := by
  refine ⟨by decide +kernel, ?_⟩
  intro h
  have := h ⟨1, 2, -50⟩ (by simp [negLenConfig, dijkstraConfig, staleConfig])
  norm_num at this

/-! ### Non-vacuity of the route-level theorems, on `dijkstraConfig` -/

/-- a vertex-oriented run observed through `routeStatesOf` succeeded, with that route -/
theorem run_of_routeStates {c : Config ℚ} {s : Nat} {t : Option Nat} {sched : List Nat}
    {l : List (Nat × List ℚ)} (h : routeStatesOf (c.runVertex s t sched) = some [l]) :
    ∃ res route, runVertexOriented c.inst s t sched = .ok res ∧ res.route = some route ∧
      route.map (fun b => (b.edge, b.state)) = l := by
  unfold Config.runVertex at h
  cases hrun : runVertexOriented c.inst s t sched with
  | error k => rw [hrun] at h; cases h
  | ok res =>
    simp only [hrun, routeStatesOf, Option.some.injEq] at h
    cases hr : res.route with
    | none => simp only [hr, List.map_nil] at h; cases h
    | some route =>
      simp only [hr, List.map_cons, List.map_nil, List.cons.injEq, and_true] at h
      exact ⟨res, route, rfl, hr, h⟩

/-- the closed forms on the Dijkstra route s→w→u→v→t of `dijkstraConfig` (edges 1, 2, 3, 4; a 2000 s
delay for the right turn onto the third edge): the hypotheses of the route-level theorems are met,
the link relation holds, the summary is distance 400 and time 2000, and that is what the closed
forms evaluate to — four lengths of 100 m, no traversal time under the distance model, and the one
non-zero delay counted once. -/
example : ∃ res route, runVertexOriented dijkstraConfig.inst 0 (some 4) [0, 1, 2, 3, 4] = .ok res ∧
    res.route = some route ∧ route.map (·.edge) = [1, 2, 3, 4] ∧
    RouteSums.Accumulates dijkstraConfig route ∧
    RouteSums.routeSummary route = some [400, 2000] ∧
    (0 : ℚ) + (([1, 2, 3, 4] : List Nat).map
      (RouteSums.distTerm dijkstraConfig.trav dijkstraConfig.edges .meters)).sum = 400 ∧
    (0 : ℚ) + (([1, 2, 3, 4] : List Nat).map
      (RouteSums.timeTerm dijkstraConfig.trav dijkstraConfig.edges .seconds)).sum +
      ((RouteSums.pairs [1, 2, 3, 4]).map
        (fun p => RouteSums.turnDelayTerm dijkstraConfig .seconds p.1 p.2)).sum = 2000 := by
  -- `dijkstraConfig` unfolds to the configuration that theorem spells out
  obtain ⟨res, route, hrun, hr, hl⟩ :=
    run_of_routeStates (c := dijkstraConfig) stale_link_absent_under_dijkstra
  obtain ⟨route', hr', _, hacc⟩ := dijkstra_route_links dijkstraConfig dijkstraConfig_adj rfl (by decide) hrun
  cases hr.symm.trans hr'
  refine ⟨res, route, hrun, hr, ?_, hacc, ?_, by decide +kernel, by decide +kernel⟩
  · have := congrArg (List.map Prod.fst) hl
    rw [List.map_map] at this
    exact this
  · have := congrArg (fun l => l.getLast?.map Prod.snd) hl
    rw [List.getLast?_map, Option.map_map] at this
    exact this

/-- a theorem beside the example of the same statement, so that the example of
`dijkstra_edge_oriented_route_monotone` below can read the run without evaluating it again -/
theorem dijkstraConfig_edge_run : routeStatesOf (dijkstraConfig.runEdge 1 (some 4) [1, 2, 3]) =
    some [[(1, [0, 0]), (2, [100, 0]), (3, [200, 2000]), (4, [200, 2000])]] := by decide +kernel

/-- edge-oriented on `dijkstraConfig`: origin edge 1 (s→w), destination edge 4 (v→t); the inner route
is w→u→v (edges 2, 3) with the 2000 s right turn between them; the origin and destination elements
repeat the initial state and the last inner state, and the summary is the inner route's: distance 200,
time 2000 — the lengths of edges 1 and 4 and the two seam turns are not in it -/
example : routeStatesOf (dijkstraConfig.runEdge 1 (some 4) [1, 2, 3]) =
    some [[(1, [0, 0]), (2, [100, 0]), (3, [200, 2000]), (4, [200, 2000])]] := dijkstraConfig_edge_run

/-- adjacent edges on `dijkstraConfig`: origin edge 2 (w→u), destination edge 3 (u→v): both traversed,
the turn delay between them charged -/
example : routeStatesOf (dijkstraConfig.runEdge 2 (some 3) []) =
    some [[(2, [100, 0]), (3, [200, 2000])]] := by decide +kernel

/-- `dijkstra_edge_oriented_route_monotone` on that query: its premises are met by `dijkstraConfig`
(non-negative lengths and delays), and the inner route w→u→v is monotone in both slots -/
example : ∃ r inner origin dest, dijkstraConfig.runEdge 1 (some 4) [1, 2, 3] = .ok r ∧
    r.routes = [origin :: inner ++ [dest]] ∧
    ∀ k (hk : k + 1 < inner.length),
      (∀ x y, inner[k].state[0]? = some x → inner[k + 1].state[0]? = some y → x ≤ y) ∧
      (∀ x y, inner[k].state[1]? = some x → inner[k + 1].state[1]? = some y → x ≤ y) := by
  have hstates := dijkstraConfig_edge_run
  cases hrun : dijkstraConfig.runEdge 1 (some 4) [1, 2, 3] with
  | error k => rw [hrun] at hstates; cases hstates
  | ok r =>
    obtain ⟨inner, origin, dest, hroutes, _, hmono⟩ :=
      dijkstra_edge_oriented_route_monotone dijkstraConfig dijkstraConfig_adj rfl 1 4 [1, 2, 3] r
        ⟨0, 1, 100⟩ ⟨3, 4, 100⟩ rfl rfl (by decide) (by decide) hrun
        (i := 0) (fu := .meters) (by decide) rfl (j := 1) (ftu := .seconds) (by decide) rfl
        dijkstraConfig_lengths_nonneg dijkstraConfig_delays_nonneg
    exact ⟨r, inner, origin, dest, rfl, hroutes, hmono⟩

/-- a state model with a distance feature only (no "time" feature, no access model): outside
`dijkstra_route_monotone`, inside `dijkstra_route_distance_monotone` -/
def distanceOnlyConfig : Config ℚ := { dijkstraConfig with
  feats := [{ name := "distance", kind := .dist .meters, init := 0 }]
  access := .noAccess
  cost := { indices := [0], weights := [1], vehicleRates := [.raw], networkRates := [.zero],
            agg := .sum } }

example : ∃ res route, runVertexOriented distanceOnlyConfig.inst 0 (some 4) [0, 1, 2, 3, 4] = .ok res ∧
    res.route = some route ∧ route ≠ [] ∧
    featIndex distanceOnlyConfig.feats "time" = none ∧
    ∀ k (hk : k + 1 < route.length) x y, route[k].state[0]? = some x →
      route[k + 1].state[0]? = some y → x ≤ y := by
  have hstates : routeStatesOf (distanceOnlyConfig.runVertex 0 (some 4) [0, 1, 2, 3, 4]) =
      some [[(1, [100]), (2, [200]), (3, [300]), (4, [400])]] := by decide +kernel
  obtain ⟨res, _, hrun, _, _⟩ := run_of_routeStates hstates
  obtain ⟨route, h1, h2, _, hmono⟩ :=
    dijkstra_route_distance_monotone distanceOnlyConfig dijkstraConfig_adj rfl (by decide) hrun
      (i := 0) (fu := .meters) (by decide) rfl dijkstraConfig_lengths_nonneg
  exact ⟨res, route, hrun, h1, h2, by decide, hmono⟩

/-! ### The route summary of the response (`construct_route_output`)

`construct_route_output` (`plugin/output/default/traversal/plugin.rs`) writes
`traversal_summary = state_model.serialize_state(&route.last().result_state)`: the state of the last
route element, named feature by feature.  C20's output model (`Model/Output.lean`) models the `path`
member and treats states as opaque payloads (its `constructRouteOutput` takes the same
`route.getLast?`); the `traversal_summary` member is modelled here, over C11's `serializeState`.
`RouteSums.routeSummary route = route.getLast?.map state` is therefore not only a definition: it is
the vector this member serialises (tie to the code: by reading, three lines; `serialize_state` itself
is tied by C11's correspondence run). -/

/-- the `traversal_summary` member of `construct_route_output`; `none`: the route is empty (an error
response, "cannot find result route state when route is empty") -/
def traversalSummary (m : StateModel α) (route : List (Branch α)) : Option (List (String × α)) :=
  route.getLast?.map (fun last => m.serializeState last.state)

/-- the reported summary is the serialisation of `routeSummary` — the state after the last edge
(this first conjunct holds **by construction of the model**: `traversalSummary` and `routeSummary` are
both defined through `route.getLast?`; its content is the reading of `construct_route_output` above) —
and, for a state model represented by the configuration's features, it pairs every feature's name with
that state's value in the feature's slot (hence with the closed forms of `dijkstra_route_summary` /
`dijkstra_edge_oriented_route_summary`) -/
theorem traversal_summary_is_state_after_last_edge (c : Config α) (m : StateModel α)
    (hm : StateRefine.Represents m c.feats) (route : List (Branch α)) :
    traversalSummary m route = (RouteSums.routeSummary route).map m.serializeState ∧
    ∀ s, RouteSums.routeSummary route = some s →
      traversalSummary m route = some ((c.feats.map (·.name)).zip s) ∧
      ∀ (i : Nat) (f : Feat α) (x : α), c.feats[i]? = some f → s[i]? = some x →
        (f.name, x) ∈ (c.feats.map (·.name)).zip s := by
  have hser : ∀ s : List α, m.serializeState s = (c.feats.map (·.name)).zip s := by
    intro s
    unfold StateModel.serializeState
    rw [StateModel.iter_eq hm.1, hm.2, ← StateRefine.toEntries_keys, List.zip_map_left]
    apply List.map_congr_left
    intro p _
    rfl
  have hsum : traversalSummary m route = (RouteSums.routeSummary route).map m.serializeState := by
    simp [traversalSummary, RouteSums.routeSummary, Option.map_map, Function.comp_def]
  refine ⟨hsum, fun s hs => ⟨?_, ?_⟩⟩
  · rw [hsum, hs, Option.map_some, hser]
  · intro i f x hf hx
    rw [List.mem_iff_getElem?]
    refine ⟨i, ?_⟩
    rw [List.getElem?_zip_eq_some]
    exact ⟨by simp [hf], hx⟩

/-! ### The same statements over the full state model (`Model/StateModel.lean`, property C11)

`Proofs/StateRefine.lean`: the state layer these theorems run over (`featIndex`, `initialState`,
`addDistance`, `addTime` on the feature list) is `StateModel` of `Model/StateModel.lean` whenever the
feature names are pairwise distinct (`StateRefine.Represents m c.feats`, which holds for
`StateModel::new` and `StateModel::empty().extend(..)` of the features).  So the hypotheses about the
distance / time slot are `get_index` / `get_feature` facts of that state model, and the conclusion is
about `get_distance` / `get_time` of the reported state vectors. -/

/-- `RouteSums.route_distance_is_sum` through the state model: `get_distance` of the state reported at
route element `k`, in the feature's unit, is the feature's declared initial value plus the lengths of
the first `k + 1` edges -/
theorem dijkstra_route_distance_is_sum_state_model (c : Config α) (hadj : c.AdjConsistent)
    (hwf : c.wf = some 0) {source t : Nat} {sched : List Nat} {res : SearchResult α} (hts : t ≠ source)
    (hrun : runVertexOriented c.inst source (some t) sched = .ok res)
    (m : StateModel α) (hm : StateRefine.Represents m c.feats)
    {i : Nat} {fu : DistanceUnit} {init : α} (hi : m.getIndex "distance" = some i)
    (hf : m.getFeature "distance" = .ok (.distance fu init)) :
    ∃ route, res.route = some route ∧ route ≠ [] ∧
      ∀ k (hk : k < route.length),
        m.getDistance route[k].state "distance" fu = .ok (init +
          ((RouteSums.prefixEdges route k).map (RouteSums.distTerm c.trav c.edges fu)).sum) := by
  obtain ⟨f, hi', hf', (hk' : f.kind = .dist fu), hinit⟩ :=
    StateRefine.kindSlot_of_feature StateRefine.distKind hm hi hf
  have hkind : (c.feats[i]?).map (·.kind) = some (FeatKind.dist fu) := by simp [hf', hk']
  obtain ⟨route, h1, h2, hacc⟩ := dijkstra_route_links c hadj hwf hts hrun
  refine ⟨route, h1, h2, fun k hk => ?_⟩
  rw [StateRefine.getDistance_slot hm hi' hkind, RouteSums.route_slot hacc, hf']
  simp only [RouteSums.stepDelta_dist ⟨hi', hkind⟩, RouteSums.stepSum_edges, Option.map_some, hinit,
    C09.distance_convert_id]

/-- likewise `get_time` of the state reported at route element `k`, in the feature's unit: the declared initial
value plus the traversal times of the first `k + 1` edges plus the delays of the `k` turns between them -/
theorem dijkstra_route_time_is_sum_state_model (c : Config α) (hadj : c.AdjConsistent)
    (hwf : c.wf = some 0) {source t : Nat} {sched : List Nat} {res : SearchResult α} (hts : t ≠ source)
    (hrun : runVertexOriented c.inst source (some t) sched = .ok res)
    (m : StateModel α) (hm : StateRefine.Represents m c.feats)
    {j : Nat} {ftu : TimeUnit} {init : α} (hj : m.getIndex "time" = some j)
    (hf : m.getFeature "time" = .ok (.time ftu init)) :
    ∃ route, res.route = some route ∧ route ≠ [] ∧
      ∀ k (hk : k < route.length),
        m.getTime route[k].state "time" ftu = .ok (init +
          ((RouteSums.prefixEdges route k).map (RouteSums.timeTerm c.trav c.edges ftu)).sum +
          ((RouteSums.pairs (RouteSums.prefixEdges route k)).map
            (fun p => RouteSums.turnDelayTerm c ftu p.1 p.2)).sum) := by
  obtain ⟨f, hj', hf', (hk' : f.kind = .time ftu), hinit⟩ :=
    StateRefine.kindSlot_of_feature StateRefine.timeKind hm hj hf
  have hkind : (c.feats[j]?).map (·.kind) = some (FeatKind.time ftu) := by simp [hf', hk']
  obtain ⟨route, h1, h2, hacc⟩ := dijkstra_route_links c hadj hwf hts hrun
  refine ⟨route, h1, h2, fun k hk => ?_⟩
  rw [StateRefine.getTime_slot hm hj' hkind, RouteSums.route_slot hacc, hf']
  simp only [RouteSums.stepDelta_time ⟨hj', hkind⟩, Option.map_some, hinit, C09.time_convert_id]
  rw [RouteSums.stepSum_add, RouteSums.stepSum_edges, RouteSums.stepSum_pairs, add_assoc,
    Option.toList_none, List.nil_append]

/-- the link relation itself through the state model: every element of the Dijkstra route is one
`EdgeTraversal` step written against the `StateModel` API (`StateRefine.edgeTraversalSM`:
`state_model.add_distance / add_time`) from its predecessor, the first from
`state_model.initial_state()` -/
theorem dijkstra_route_accumulates_state_model [IntCodec α] (c : Config α)
    (hadj : c.AdjConsistent) (hwf : c.wf = some 0)
    {source t : Nat} {sched : List Nat} {res : SearchResult α} (hts : t ≠ source)
    (hrun : runVertexOriented c.inst source (some t) sched = .ok res)
    (m : StateModel α) (hm : StateRefine.Represents m c.feats) :
    ∃ route s0, res.route = some route ∧ route ≠ [] ∧ m.initialState = .ok s0 ∧
      (∀ b, route.head? = some b →
        StateRefine.edgeTraversalSM c m b.edge none s0 = .ok (b.access, b.traversal, b.state)) ∧
      ∀ i (hi : i + 1 < route.length),
        StateRefine.edgeTraversalSM c m route[i + 1].edge (some route[i].edge) route[i].state =
          .ok (route[i + 1].access, route[i + 1].traversal, route[i + 1].state) := by
  obtain ⟨route, h1, h2, h3, h4⟩ := route_accumulates_partial c hadj hwf hts hrun
  refine ⟨route, initialState c.feats, h1, h2, StateRefine.initialState_eq hm, ?_, ?_⟩
  · intro b hb
    rw [← StateRefine.edgeTraversal_eq hm]
    exact h3 b hb
  · intro i hi
    rw [← StateRefine.edgeTraversal_eq hm]
    exact h4 i hi

/-- non-vacuity: the hypotheses of the three theorems are met by `dijkstraConfig` with
`StateModel::new` of its features — distinct names, the distance feature in slot 0 (metres), the time
feature in slot 1 (seconds) — and `get_distance` / `get_time` of the reported summary `[400, 2000]`
return the closed forms evaluated in the example above -/
example : StateRefine.Represents (StateRefine.toStateModel dijkstraConfig.feats) dijkstraConfig.feats ∧
    (StateRefine.toStateModel dijkstraConfig.feats).getIndex "distance" = some 0 ∧
    (StateRefine.toStateModel dijkstraConfig.feats).getFeature "distance" = .ok (.distance .meters 0) ∧
    (StateRefine.toStateModel dijkstraConfig.feats).getIndex "time" = some 1 ∧
    (StateRefine.toStateModel dijkstraConfig.feats).getFeature "time" = .ok (.time .seconds 0) ∧
    (StateRefine.toStateModel dijkstraConfig.feats).getDistance [400, 2000] "distance" .meters = .ok 400 ∧
    (StateRefine.toStateModel dijkstraConfig.feats).getTime [400, 2000] "time" .seconds = .ok 2000 :=
  ⟨StateRefine.represents_new _ (by decide), by decide +kernel, rfl, by decide +kernel,
    rfl, by decide +kernel, by decide +kernel⟩

/-! ### The tables the sums run over are the files' rows

The time of an edge is its length over *its* table speed, the delay of a turn is looked up from
*these* two edges' headings and *this* class's delay (`turnDelayOf_eq_some_iff`, `Proofs/Instance.lean`):
the loaders (`SpeedTraversalEngine::new`, `TurnDelayAccessModelBuilder::build`) must hand the search
exactly what the files and the configuration say, entry `e` = row `e`, in the units given (or the
defaults), or refuse. -/

open Build

/-- the loaded speed table is the file, line for line: as many entries as lines, entry `e` is the
number on line `e`, and the units are the ones given, metres / seconds when left out -/
theorem speed_table_is_the_file (rows : List (NumRow α)) (su : SpeedUnit) (duOpt : Option DistanceUnit)
    (tuOpt : Option TimeUnit) (e : SpeedEngine α) (h : speedEngineNew (some rows) su duOpt tuOpt = .ok e) :
    e.table.length = rows.length ∧ (∀ (i : Nat) (x : α), e.table[i]? = some x ↔ rows[i]? = some (NumRow.val x)) ∧
      e.speedUnit = su ∧ e.timeUnit = tuOpt.getD baseTimeUnit ∧ e.distanceUnit = duOpt.getD baseDistanceUnit ∧
      baseTimeUnit = .seconds ∧ baseDistanceUnit = .meters := by
  obtain ⟨rows', hr, hrows, _, h1, h2, h3⟩ := (speedEngineNew_ok_iff _ su duOpt tuOpt e).1 h
  injection hr with hr; subst hr
  refine ⟨allSome_length hrows, fun i x => ⟨?_, ?_⟩, h1, h2, h3, rfl, rfl⟩
  · intro hx
    obtain ⟨r, hr, hp⟩ := (allSome_getElem? hrows i).2 x hx
    rw [hr, ((parseSpeed_iff r x).1 hp).1]
  · intro hx
    obtain ⟨y, hp, hy⟩ := (allSome_getElem? hrows i).1 _ hx
    have := ((parseSpeed_iff _ y).1 hp).1
    injection this with this
    rw [hy, this]

/-- the traversal model over an engine is `TravModel.speed` over the loaded table and the loaded maximum, by
definition (so `TravModel.traverse` reads the speed of edge `e` from line `e`, `TravModel.estimate` the maximum) -/
theorem speed_engine_model (e : SpeedEngine α) :
    e.model = .speed e.speedUnit e.distanceUnit e.timeUnit e.maxSpeed e.table := rfl

/-- the loaded headings are the file, record for record; a record is `arrival_heading` (an `i16`)
and `departure_heading` (an `i16` or empty = same as the arrival heading) -/
theorem headings_are_the_file (lines : List HeadLine) (hs : List (Int × Option Int))
    (h : loadHeadings true lines = some hs) :
    hs.length = lines.length ∧
      ∀ (i : Nat) (a : Int) (d : Option Int), hs[i]? = some (a, d) ↔
        ∃ dc : IntCell, lines[i]? = some (HeadLine.row (IntCell.int a) dc) ∧ (-32768 ≤ a ∧ a ≤ 32767) ∧
          ((dc = IntCell.empty ∧ d = none) ∨
            ∃ dv : Int, dc = IntCell.int dv ∧ (-32768 ≤ dv ∧ dv ≤ 32767) ∧ d = some dv) := by
  rw [loadHeadings_true] at h
  refine ⟨allSome_length h, fun i a d => ⟨?_, ?_⟩⟩
  · intro hx
    obtain ⟨l, hl, hp⟩ := (allSome_getElem? h i).2 _ hx
    obtain ⟨dc, rfl, h2⟩ := (parseHeading_iff l a d).1 hp
    exact ⟨dc, hl, h2⟩
  · rintro ⟨dc, hl, h2⟩
    obtain ⟨y, hp, hy⟩ := (allSome_getElem? h i).1 _ hl
    rw [hy, ← hp, (parseHeading_iff _ a d).2 ⟨dc, rfl, h2⟩]

/-- a headings file with a record that is short, has a cell that is no `i16` or an empty arrival
heading is refused, and so is any file with records whose header does not name the two columns -/
theorem headings_refused (lines : List HeadLine) :
    ((∃ l ∈ lines, parseHeading l = none) → loadHeadings true lines = none) ∧
    (lines ≠ [] → loadHeadings false lines = none) := by
  constructor
  · rintro ⟨l, hl, hp⟩
    rw [loadHeadings_true]
    exact (allSome_none_iff _ _).2 ⟨l, hl, hp⟩
  · exact loadHeadings_false

/-- the delay table handed to the access model has one slot per turn class; the slot of a class
holds the number the configuration gives under that class's name, and is empty exactly when the
configuration has no entry of that name (`turnDelayOf` answers `none` on an empty slot, by its definition
in `Model/Instance.lean`: such a turn fails the access step, it is not a free turn; no theorem here says so) -/
theorem delay_table_is_the_configuration (dec : Nat → α) (kvs : List (String × Json)) (ds : List (Option α))
    (h : delayTableOfJson dec kvs = some ds) :
    ds.length = Turn.all.length ∧
    ∀ t : Turn,
      (∀ x, ds[t.toNat]? = some (some x) →
        ∃ kv ∈ kvs, kv.1 = t.name ∧ ∃ b, kv.2.asF64Bits? = some b ∧ x = dec b) ∧
      (ds[t.toNat]? = some none → ∀ kv ∈ kvs, kv.1 ≠ t.name) := by
  unfold delayTableOfJson at h
  simp only at h
  split at h
  · cases h
  · rename_i es hes
    injection h with h
    subst h
    obtain ⟨hfwd, hbwd⟩ := allSome_mem hes
    -- an entry of `es` carries the turn its key names and the decoded value
    have hentry : ∀ (kv : String × Json) (p : Turn × α),
        (match Turn.ofName? kv.1, kv.2.asF64Bits? with
          | some t, some b => some (t, dec b)
          | _, _ => none) = some p →
        kv.1 = p.1.name ∧ ∃ b, kv.2.asF64Bits? = some b ∧ p.2 = dec b := by
      intro kv p hp
      split at hp
      · rename_i t b ht hb
        cases hp
        exact ⟨(turn_ofName_iff _ _).1 ht, b, hb, rfl⟩
      · cases hp
    refine ⟨List.length_map _, fun t => ?_⟩
    simp only [List.getElem?_map, turn_all_getElem, Option.map_some, Option.some.injEq]
    cases hfind : es.find? (fun p => p.1.toNat == t.toNat) with
    | some p =>
      refine ⟨fun x hx => ?_, fun hx => nomatch hx⟩
      cases hx
      obtain ⟨kv, hkv, hp⟩ := hbwd p (List.mem_of_find?_eq_some hfind)
      have hpt := List.find?_some hfind
      rw [← turn_toNat_inj _ _ (beq_iff_eq.mp hpt)]
      exact ⟨kv, hkv, hentry kv p hp⟩
    | none =>
      refine ⟨(fun x hx => nomatch hx), fun _ kv hkv hname => ?_⟩
      obtain ⟨p, hp, hkvp⟩ := hfwd kv hkv
      -- the key of `kv` names both `p.1` and `t`
      have hpt : p.1 = t := turn_name_inj ((hentry kv p hkvp).1.symm.trans hname)
      exact List.find?_eq_none.1 hfind p hp (beq_iff_eq.mpr (congrArg Turn.toNat hpt))

/-- **every access model the builder returns has non-negative delays**: the premise
`RouteSums.DelaysNonneg` of `dijkstra_route_monotone` holds of it, so along every Dijkstra route of a
configuration built by the application time never decreases at a turn -/
theorem turn_delay_builder_delays_nonneg (dec : Nat → α) (cfg : Json) (headerOk : Bool)
    (file : Option (List HeadLine)) (b : TurnDelayBuilt α)
    (h : turnDelayBuild dec cfg headerOk file = .ok b) : RouteSums.DelaysNonneg b.model := by
  obtain ⟨_, hs, _, tu, ds, _, _, _, _, hb, hnn, _⟩ := turnDelayBuild_ok dec cfg headerOk file b h
  rw [hb]
  exact hnn

/-- a delay table with a negative delay is refused, whatever else the configuration says -/
theorem turn_delay_builder_refuses_negative (dec : Nat → α) (cfg : Json) (headerOk : Bool)
    (file : Option (List HeadLine)) (m : Json) (tu : TimeUnit) (ds : List (Option α)) (x : α)
    (hm : cfg.get? "turn_delay_model" = some m) (htd : turnDelayModelOfJson dec m = some (tu, ds))
    (hx : some x ∈ ds) (hneg : x < 0) (b : TurnDelayBuilt α) :
    turnDelayBuild dec cfg headerOk file ≠ .ok b := by
  intro h
  obtain ⟨_, _, m', tu', ds', _, _, hm', htd', _, hnn, _⟩ :=
    turnDelayBuild_ok dec cfg headerOk file b h
  rw [hm] at hm'
  cases hm'
  rw [htd] at htd'
  cases htd'
  exact absurd (hnn x hx) (not_le.2 hneg)

/-! Non-vacuity: a two-line speed file in km/h with default units; a three-record headings file;
a configuration with two delays. -/
example : (speedEngineNew (some [.val (50 : ℚ), .val 30]) .kilometersPerHour none (some .minutes)).toOption.map
    (fun e => (e.table, e.timeUnit, e.distanceUnit)) = some ([50, 30], .minutes, .meters) := by decide +kernel
example : loadHeadings true [.row (.int 90) .empty, .row (.int 0) (.int 359), .row (.int (-10)) (.int 400)] =
    some [(90, none), (0, some 359), (-10, some 400)] := by decide
example : loadHeadings true [.row (.int 90) .empty, .row (.int 40000) .empty] = none := by decide
example : loadHeadings true [.row (.int 90) .empty, .short] = none := by decide
example : delayTableOfJson (fun b => (b : ℚ)) [("left", .num "3" 3), ("u_turn", .num "9.5" 19)] =
    some [none, none, none, none, some 3, none, none, some 19] := by decide +kernel
example : delayTableOfJson (fun b => (b : ℚ)) [("straight", .num "3" 3)] = none := by decide +kernel

/-! ### Non-vacuity: the delay-table configuration in serde's positional form -/

example :
    Build.turnDelayModelOfJson (fun b => (b : ℚ))
        (.arr [.str "tabular_discrete", .obj [("left", .num "2.0" 2)], .str "seconds"]) =
      Build.turnDelayModelOfJson (fun b => (b : ℚ))
        (.obj [("type", .str "tabular_discrete"), ("table", .obj [("left", .num "2.0" 2)]),
               ("time_unit", .obj [("seconds", .obj [])])]) ∧
    (Build.turnDelayModelOfJson (fun b => (b : ℚ))
        (.arr [.str "tabular_discrete", .obj [("left", .num "2.0" 2)], .str "seconds"])).isSome ∧
    Build.turnDelayModelOfJson (fun b => (b : ℚ))
        (.arr [.str "tabular_discrete", .obj [("left", .num "2.0" 2)]]) = none := by
  decide +kernel

end C03
end Compass

namespace Compass
namespace C03
open Src

/-! ### Source decision ties

Each `src_*` theorem ties a `Src.*` definition, regenerated from the Rust source on every run, to the model
function it transcribes: a changed source body makes it fail. -/

theorem src_heading_wrap (src dst : Int × Option Int) :
    bearing src dst =
      (let endH := match src.2 with | some d => d | none => src.1
       let angle := dst.1 - endH
       if heading_wrap_high.int angle 180 = some true then angle - 360
       else if heading_wrap_low.int angle (-180) = some true then angle + 360 else angle) := by
  -- for either form of `src` both sides unfold to the same chain of tests
  rcases src with ⟨a, _ | d⟩ <;>
    (simp only [bearing, headingWrap, heading_wrap_high, heading_wrap_low, Rel.int, Option.some.injEq,
      decide_eq_true_eq, gt_iff_lt]; rfl)

/-- the same tie stands in each search property file (C01–C05, C10, C13): the label test of `run_a_star`'s
relaxation (`improves`) is the source's `tentative_gscore < existing_gscore`; with `<=` an equal-cost
arrival re-labels an expanded vertex -/
theorem src_relax_improves {α : Type} [Field α] [LinearOrder α] [IsStrictOrderedRing α] [Lit α] [LawfulLit α] (tent ex : α) :
    some (improves tent (some ex)) = relax_improves.num tent ex := by
  simp [improves, relax_improves, Rel.num]

/-! ### Generated function bodies

`tools/gen_fns.py` re-translates the body of the Rust function on every run into `Compass/Gen/FnsC03.lean`
(conventions in the header of the tool).  Each `gen_*_eq` theorem below says that the generated definition
*is* the hand-written model function the property theorems are about.  A source change to the function
changes the generated definition and the proof stops checking (a body the translator no longer recognises is
not emitted: the theorem no longer elaborates). -/

/-- the source's `bearing_to_destination` (with `start_heading`, `end_heading`, the `i32` clamp and the narrowing
`as i16`, a two's-complement wrap that the clamp makes the identity) is the model's `bearing` followed by the
clamp the model leaves out (`clampI16`, harmless for its only consumer: `turnOfAngle_clamp`) -/
theorem gen_bearing_to_destination_eq (src dst : Int × Option Int) :
    Gen.EdgeHeading_bearing_to_destination src dst = clampI16 (bearing src dst) := by
  have hc : ∀ x : Int, (if x < -32768 then -32768 else if x > 32767 then 32767 else x) = clampI16 x := by
    intro x
    unfold clampI16
    split_ifs <;> omega
  have hr : -32768 ≤ clampI16 (bearing src dst) ∧ clampI16 (bearing src dst) ≤ 32767 := by
    unfold clampI16; omega
  have key : Gen.EdgeHeading_bearing_to_destination src dst =
      Int.bmod (if bearing src dst < -32768 then -32768 else if bearing src dst > 32767 then 32767
        else bearing src dst) 65536 := rfl
  rw [key, hc]
  exact Int.bmod_eq_of_le_mul_two (by omega) (by omega)

end C03
end Compass
