/-
C09 — unit conversions are linear, invertible and physically correct; derived quantities agree with
their definitions; non-positive speed or distance is rejected.

The tables are `Gen/Units.lean`, regenerated from the Rust source on every run, so every
`decide +kernel` below and in `Proofs/Units.lean` is re-checked against what the code says now.  `Proofs/Units.lean`
holds what these theorems rest on (its header says which property theorems sit there too).

Modelled rather than verified / outside the quantifier:
* non-finite arguments: `create_time` answers `Ok(NaN)` for a NaN speed or distance (`NaN <= 0` is
  false in the code's total order), `Ok(0)` for an infinite speed: the property quantifies over every
  magnitude and sign, the theorems over an ordered field; the harness runs NaN, ±inf and −0.0 through
  the constructors for the correspondence only (model and code agree bit for bit).
* `from_str` of the unit families wraps the text in quotes and reads it as a JSON string, so JSON escape
  sequences are decoded by the code (`"mile\u0073"` parses as miles): `jsonUnescape` models that
  reader (a `\u` escape in the surrogate range is answered `none` whether serde_json refuses it or pairs
  it — no serde name holds a character beyond the basic plane, so `from_str` answers the same); the harness
  sends escaped spellings of names and near-names.
-/
import Compass.Gen.FnsC09
import Compass.Proofs.Units
import Compass.Proofs.AssocList

namespace Compass
namespace C09

set_option linter.unusedSectionVars false

/-! ### Table facts (finite, decided by the kernel over all ordered pairs) -/

theorem grade_wf : ∀ u v : GradeUnit, (GradeUnit.factor u v).wf = true := by decide +kernel
theorem weight_wf : ∀ u v : WeightUnit, (WeightUnit.factor u v).wf = true := by decide +kernel

/-- the speed unit's associated units are consistent with its SI value -/
theorem speed_assoc_consistent : ∀ u : SpeedUnit,
    siSpeed u = siDistance u.associatedDistanceUnit / siTime u.associatedTimeUnit := by decide +kernel

/-- hand-written, independent of the source's associated-unit maps: metres in the distance unit an energy-rate
unit is "per" … -/
def siRateDistance : EnergyRateUnit → ℚ
  | .gallonsGasolinePerMile => 1609344 / 1000
  | .gallonsDieselPerMile => 1609344 / 1000
  | .kilowattHoursPerMile => 1609344 / 1000
  | .kilowattHoursPerKilometer => 1000
  | .kilowattHoursPerMeter => 1

/-- … and the unit its energy comes in: gallons of the named fuel, or kilowatt-hours -/
def rateEnergyUnit : EnergyRateUnit → EnergyUnit
  | .gallonsGasolinePerMile => .gallonsGasoline
  | .gallonsDieselPerMile => .gallonsDiesel
  | .kilowattHoursPerMile => .kilowattHours
  | .kilowattHoursPerKilometer => .kilowattHours
  | .kilowattHoursPerMeter => .kilowattHours

/-- the associated-unit maps of the source say what the unit names say: a rate "per mile" is
multiplied by a distance in miles, "per kilometre" by kilometres, "per metre" by metres, and yields
gallons of the named fuel or kilowatt-hours -/
theorem rate_associated_units_correct : ∀ ru : EnergyRateUnit,
    siDistance ru.associatedDistanceUnit = siRateDistance ru ∧
    ru.associatedEnergyUnit = rateEnergyUnit ru := by decide +kernel

/-! ### Lifting to every magnitude and sign, in any linearly ordered field -/

section
variable {α : Type} [Field α] [LinearOrder α] [IsStrictOrderedRing α] [Lit α] [LawfulLit α]

/-! C09 (linearity), all six families. -/

theorem distance_linear (u v : DistanceUnit) (a b x y : α) :
    u.convert v (a * x + b * y) = a * u.convert v x + b * u.convert v y := Factor.apply_linear _ _ _ _ _
theorem time_linear (u v : TimeUnit) (a b x y : α) :
    u.convert v (a * x + b * y) = a * u.convert v x + b * u.convert v y := Factor.apply_linear _ _ _ _ _
theorem speed_linear (u v : SpeedUnit) (a b x y : α) :
    u.convert v (a * x + b * y) = a * u.convert v x + b * u.convert v y := Factor.apply_linear _ _ _ _ _
theorem energy_linear (u v : EnergyUnit) (a b x y : α) :
    u.convert v (a * x + b * y) = a * u.convert v x + b * u.convert v y := Factor.apply_linear _ _ _ _ _
theorem grade_linear (u v : GradeUnit) (a b x y : α) :
    u.convert v (a * x + b * y) = a * u.convert v x + b * u.convert v y := Factor.apply_linear _ _ _ _ _
theorem weight_linear (u v : WeightUnit) (a b x y : α) :
    u.convert v (a * x + b * y) = a * u.convert v x + b * u.convert v y := Factor.apply_linear _ _ _ _ _

/-! C09 (identity for equal units); `distance_`, `time_`, `energy_convert_id`: `Proofs/Units.lean`. -/

theorem speed_convert_id (u : SpeedUnit) (x : α) : u.convert u x = x := by
  simp [SpeedUnit.convert, speed_id, Factor.apply]
theorem grade_convert_id (u : GradeUnit) (x : α) : u.convert u x = x := by
  simp [GradeUnit.convert, grade_id, Factor.apply]
theorem weight_convert_id (u : WeightUnit) (x : α) : u.convert u x = x := by
  simp [WeightUnit.convert, weight_id, Factor.apply]

/-! C09 (there and back within 0.1 percent), every magnitude and sign, all six families. -/

theorem distance_roundtrip (u v : DistanceUnit) (x : α) :
    |v.convert u (u.convert v x) - x| ≤ |x| * (tol : α) :=
  roundtrip_of_table _ _ ((distance_cal u v).roundtrip (distance_cal v u) (by norm_num [tol])) x
theorem time_roundtrip (u v : TimeUnit) (x : α) :
    |v.convert u (u.convert v x) - x| ≤ |x| * (tol : α) :=
  roundtrip_of_table _ _ ((time_cal u v).roundtrip (time_cal v u) (by norm_num [tol])) x
theorem speed_roundtrip (u v : SpeedUnit) (x : α) :
    |v.convert u (u.convert v x) - x| ≤ |x| * (tol : α) :=
  roundtrip_of_table _ _ ((speed_cal u v).roundtrip (speed_cal v u) (by norm_num [tol])) x
theorem energy_roundtrip (u v : EnergyUnit) (x : α) :
    |v.convert u (u.convert v x) - x| ≤ |x| * (tol : α) :=
  roundtrip_of_table _ _ (energy_roundtrip_table u v) x
theorem grade_roundtrip (u v : GradeUnit) (x : α) :
    |v.convert u (u.convert v x) - x| ≤ |x| * (tol : α) :=
  roundtrip_of_table _ _ ((grade_cal u v).roundtrip (grade_cal v u) (by norm_num [tol])) x
theorem weight_roundtrip (u v : WeightUnit) (x : α) :
    |v.convert u (u.convert v x) - x| ≤ |x| * (tol : α) :=
  roundtrip_of_table _ _ ((weight_cal u v).roundtrip (weight_cal v u) (by norm_num [tol])) x

/-! C09 (physically correct within 0.1 percent): distance, time, speed, grade, weight.  Energy is left
out: what a gallon of fuel is in kilowatt-hours is the source's own energy-content constant, there is
no SI value independent of it to compare with. -/

theorem distance_physical (u v : DistanceUnit) (x : α) :
    |u.convert v x - x * ((siDistance u / siDistance v : ℚ) : α)|
      ≤ |x * ((siDistance u / siDistance v : ℚ) : α)| * (tol : α) :=
  physical_of_cal (distance_cal u v) (by norm_num [tol]) x
theorem time_physical (u v : TimeUnit) (x : α) :
    |u.convert v x - x * ((siTime u / siTime v : ℚ) : α)|
      ≤ |x * ((siTime u / siTime v : ℚ) : α)| * (tol : α) :=
  physical_of_cal (time_cal u v) (by norm_num [tol]) x
theorem speed_physical (u v : SpeedUnit) (x : α) :
    |u.convert v x - x * ((siSpeed u / siSpeed v : ℚ) : α)|
      ≤ |x * ((siSpeed u / siSpeed v : ℚ) : α)| * (tol : α) :=
  physical_of_cal (speed_cal u v) (by norm_num [tol]) x
theorem grade_physical (u v : GradeUnit) (x : α) :
    |u.convert v x - x * ((siGrade u / siGrade v : ℚ) : α)|
      ≤ |x * ((siGrade u / siGrade v : ℚ) : α)| * (tol : α) :=
  physical_of_cal (grade_cal u v) (by norm_num [tol]) x
theorem weight_physical (u v : WeightUnit) (x : α) :
    |u.convert v x - x * ((siWeight u / siWeight v : ℚ) : α)|
      ≤ |x * ((siWeight u / siWeight v : ℚ) : α)| * (tol : α) :=
  physical_of_cal (weight_cal u v) (by norm_num [tol]) x

/-! ### Derived quantities (`createTime_none_iff`, `createTime_def`: `Proofs/Units.lean`) -/

/-- C09: the value of `create_time` is the physical value (`d·si du / (s·si su)` seconds, expressed in `tu`) within 0.1 percent
for every unit triple. -/
theorem createTime_physical (s : α) (su : SpeedUnit) (d : α) (du : DistanceUnit) (tu : TimeUnit)
    (hs : 0 < s) (hd : 0 < d) :
    ∃ t, createTime s su d du tu = some t ∧
      |t * (siTime tu : α) - d * (siDistance du : α) / (s * (siSpeed su : α))|
        ≤ d * (siDistance du : α) / (s * (siSpeed su : α)) * (tol : α) :=
  ⟨_, createTime_def s su d du tu hs hd, quotient_physical hd.le hs _ _ _ _ (siDistance_pos du)
    (siSpeed_pos su) (timeK_physical_table su du tu)⟩

/-- C09: `create_speed` rejects exactly a non-positive time (a distance of any sign is taken) … -/
theorem createSpeed_none_iff (t : α) (tu : TimeUnit) (d : α) (du : DistanceUnit) (su : SpeedUnit) :
    createSpeed t tu d du su = none ↔ t ≤ 0 := by
  rw [createSpeed_eq, ite_none_some_eq_none_iff]

/-- … and otherwise is distance over time: exactly `speedK · d / t` … -/
theorem createSpeed_def (t : α) (tu : TimeUnit) (d : α) (du : DistanceUnit) (su : SpeedUnit)
    (ht : 0 < t) :
    createSpeed t tu d du su = some (d / t * (speedK tu du su : α)) := by
  rw [createSpeed_eq, if_neg (not_le.mpr ht), speedK, Rat.cast_mul, Rat.cast_div, ← mul_assoc,
    div_mul_div_comm]

/-- … which for a non-negative distance is the physical value within 0.1 percent for every unit triple. -/
theorem createSpeed_physical (t : α) (tu : TimeUnit) (d : α) (du : DistanceUnit) (su : SpeedUnit)
    (ht : 0 < t) (hd : 0 ≤ d) :
    ∃ v, createSpeed t tu d du su = some v ∧
      |v * (siSpeed su : α) - d * (siDistance du : α) / (t * (siTime tu : α))|
        ≤ d * (siDistance du : α) / (t * (siTime tu : α)) * (tol : α) :=
  ⟨_, createSpeed_def t tu d du su ht, quotient_physical hd ht _ _ _ _ (siDistance_pos du)
    (siTime_pos tu) (speedK_physical_table tu du su)⟩

/-- C09: energy is rate times distance, distance expressed in the rate's own distance unit, and the
result is tagged with the rate's own energy unit (this is `createEnergy`'s definition) -/
theorem createEnergy_def (r : α) (ru : EnergyRateUnit) (d : α) (du : DistanceUnit) :
    createEnergy r ru d du = (r * du.convert ru.associatedDistanceUnit d, ru.associatedEnergyUnit) := rfl

end

/-! ### The rest of `speed_unit.rs`: unit from a (distance, time) pair, from a name, the highway speed

`SpeedUnit::from((DistanceUnit, TimeUnit))` is `todo!()` for 17 of its 20 pairs; nothing in the
workspace calls it.  The table is regenerated from the source, so the statements below are re-decided
on every run: an arm that is filled in must name the unit of that pair. -/

/-- a pair answers with a unit exactly when a speed unit with these associated units exists, and then
it is that unit; every other pair is the `todo!()` panic -/
theorem speed_unit_from_pair_iff : ∀ (d : DistanceUnit) (t : TimeUnit) (u : SpeedUnit),
    SpeedUnit.fromPair d t = .unit u ↔ (u.associatedDistanceUnit = d ∧ u.associatedTimeUnit = t) := by
  decide +kernel

theorem speed_unit_from_pair_panics_iff : ∀ (d : DistanceUnit) (t : TimeUnit),
    SpeedUnit.fromPair d t = .panic ↔
      ∀ u : SpeedUnit, ¬ (u.associatedDistanceUnit = d ∧ u.associatedTimeUnit = t) := by
  decide +kernel

/-- the unit made from a pair turns distance over time in those units into a speed without any
factor: physically `1 d / 1 t` -/
theorem speed_unit_from_pair_physical : ∀ (d : DistanceUnit) (t : TimeUnit) (u : SpeedUnit),
    SpeedUnit.fromPair d t = .unit u → siSpeed u = siDistance d / siTime t := by
  decide +kernel

/-! ### `from_str`: the text, read as the body of a JSON string (header; `jsonUnescape`), must be a serde name

A text is accepted, as `u`, exactly when it stands for `u`'s serde name — and for a text without backslash that
means: when it IS the name (`Display` prints it).  Each generated name table finds every unit under its own name
and the names are plain texts (`*_unit_of_name_name`, `*_unit_name_plain`), which gives the same two theorems for
each of the seven families; the docstrings are on the `SpeedUnit` pair (`SpeedUnit.fromStr`, the one `from_str` the model names, is
`unitFromStr SpeedUnit.ofName?`, the form the others are stated in). -/

/-- `SpeedUnit::from_str` accepts a text, as `u`, exactly when the text — read as the body of a JSON string, escape
sequences decoded — is `u`'s serde name -/
theorem speed_unit_from_str_iff (s : String) (u : SpeedUnit) :
    SpeedUnit.fromStr s = some u ↔ jsonUnescape s.toList = some u.name.toList :=
  unitFromStr_iff _ _ (fun t u => find?_name_iff (speed_unit_of_name_name u) t) s u

/-- … and for a text without a backslash: exactly when it is the name `Display` prints -/
theorem speed_unit_from_str_plain_iff (s : String) (hs : '\\' ∉ s.toList) (u : SpeedUnit) :
    SpeedUnit.fromStr s = some u ↔ s = u.name :=
  unitFromStr_plain_iff _ _ (fun t u => find?_name_iff (speed_unit_of_name_name u) t)
    speed_unit_name_plain s hs u

theorem distance_unit_from_str_iff (s : String) (u : DistanceUnit) :
    unitFromStr DistanceUnit.ofName? s = some u ↔ jsonUnescape s.toList = some u.name.toList :=
  unitFromStr_iff _ _ (fun t u => find?_name_iff (distance_unit_of_name_name u) t) s u

theorem distance_unit_from_str_plain_iff (s : String) (hs : '\\' ∉ s.toList) (u : DistanceUnit) :
    unitFromStr DistanceUnit.ofName? s = some u ↔ s = u.name :=
  unitFromStr_plain_iff _ _ (fun t u => find?_name_iff (distance_unit_of_name_name u) t)
    distance_unit_name_plain s hs u

theorem time_unit_from_str_iff (s : String) (u : TimeUnit) :
    unitFromStr TimeUnit.ofName? s = some u ↔ jsonUnescape s.toList = some u.name.toList :=
  unitFromStr_iff _ _ (fun t u => find?_name_iff (time_unit_of_name_name u) t) s u

theorem time_unit_from_str_plain_iff (s : String) (hs : '\\' ∉ s.toList) (u : TimeUnit) :
    unitFromStr TimeUnit.ofName? s = some u ↔ s = u.name :=
  unitFromStr_plain_iff _ _ (fun t u => find?_name_iff (time_unit_of_name_name u) t)
    time_unit_name_plain s hs u

theorem energy_unit_from_str_iff (s : String) (u : EnergyUnit) :
    unitFromStr EnergyUnit.ofName? s = some u ↔ jsonUnescape s.toList = some u.name.toList :=
  unitFromStr_iff _ _ (fun t u => find?_name_iff (energy_unit_of_name_name u) t) s u

theorem energy_unit_from_str_plain_iff (s : String) (hs : '\\' ∉ s.toList) (u : EnergyUnit) :
    unitFromStr EnergyUnit.ofName? s = some u ↔ s = u.name :=
  unitFromStr_plain_iff _ _ (fun t u => find?_name_iff (energy_unit_of_name_name u) t)
    energy_unit_name_plain s hs u

theorem energy_rate_unit_from_str_iff (s : String) (u : EnergyRateUnit) :
    unitFromStr EnergyRateUnit.ofName? s = some u ↔ jsonUnescape s.toList = some u.name.toList :=
  unitFromStr_iff _ _ (fun t u => find?_name_iff (energy_rate_unit_of_name_name u) t) s u

theorem energy_rate_unit_from_str_plain_iff (s : String) (hs : '\\' ∉ s.toList) (u : EnergyRateUnit) :
    unitFromStr EnergyRateUnit.ofName? s = some u ↔ s = u.name :=
  unitFromStr_plain_iff _ _ (fun t u => find?_name_iff (energy_rate_unit_of_name_name u) t)
    energy_rate_unit_name_plain s hs u

theorem grade_unit_from_str_iff (s : String) (u : GradeUnit) :
    unitFromStr GradeUnit.ofName? s = some u ↔ jsonUnescape s.toList = some u.name.toList :=
  unitFromStr_iff _ _ (fun t u => find?_name_iff (grade_unit_of_name_name u) t) s u

theorem grade_unit_from_str_plain_iff (s : String) (hs : '\\' ∉ s.toList) (u : GradeUnit) :
    unitFromStr GradeUnit.ofName? s = some u ↔ s = u.name :=
  unitFromStr_plain_iff _ _ (fun t u => find?_name_iff (grade_unit_of_name_name u) t)
    grade_unit_name_plain s hs u

theorem weight_unit_from_str_iff (s : String) (u : WeightUnit) :
    unitFromStr WeightUnit.ofName? s = some u ↔ jsonUnescape s.toList = some u.name.toList :=
  unitFromStr_iff _ _ (fun t u => find?_name_iff (weight_unit_of_name_name u) t) s u

theorem weight_unit_from_str_plain_iff (s : String) (hs : '\\' ∉ s.toList) (u : WeightUnit) :
    unitFromStr WeightUnit.ofName? s = some u ↔ s = u.name :=
  unitFromStr_plain_iff _ _ (fun t u => find?_name_iff (weight_unit_of_name_name u) t)
    weight_unit_name_plain s hs u

-- an escaped spelling stands for the name (the code: `"mile\\u0073".parse::<DistanceUnit>() == Ok(Miles)`), a raw
-- tab, a trailing backslash or an unknown escape make the text no JSON string body
example : jsonUnescape ['m', 'i', 'l', 'e', '\\', 'u', '0', '0', '7', '3'] = some ['m', 'i', 'l', 'e', 's'] := by decide +kernel
example : jsonUnescape ['\\', 'u', '0', '0', '6', 'D', 'i', 'l', 'e', 's'] = some ['m', 'i', 'l', 'e', 's'] := by decide +kernel
example : jsonUnescape ['m', 'i', 'l', 'e', 's', '\\'] = none := by decide +kernel
example : jsonUnescape ['m', 'i', 'l', '\t', 'e', 's'] = none := by decide +kernel
example : jsonUnescape ['m', 'i', 'l', '\\', 'x', 'e', 's'] = none := by decide +kernel
example : jsonUnescape ['m', 'i', 'l', '\\', '/', 'e', 's'] = some ['m', 'i', 'l', '/', 'e', 's'] := by decide +kernel
example : jsonUnescape ['\\', 'u', 'D', '8', '3', 'D', '\\', 'u', 'D', 'E', '0', '0'] = none := by decide +kernel

/-- the "soft maximum" is one and the same physical speed in every unit (75 miles per hour), within
the property's 0.1 percent, and converting it between units lands on the other unit's own value -/
theorem max_highway_speed_physical : ∀ u : SpeedUnit,
    |(SpeedUnit.maxHighwaySpeed u : ℚ) * siSpeed u / (75 * siSpeed .milesPerHour) - 1| ≤ tol := by
  decide +kernel

theorem max_highway_speed_consistent : ∀ u v : SpeedUnit,
    |u.convert v (SpeedUnit.maxHighwaySpeed u : ℚ) / (SpeedUnit.maxHighwaySpeed v : ℚ) - 1| ≤ tol := by
  decide +kernel

/-! ### Non-vacuity: the hypotheses are met by concrete values and the constructors compute -/

example : ∃ d t u, SpeedUnit.fromPair d t = .unit u := ⟨.miles, .hours, _, rfl⟩
example : ∃ d t, SpeedUnit.fromPair d t = .panic := ⟨.feet, .minutes, rfl⟩
example : SpeedUnit.fromStr "kph" = none := by decide +kernel
example : (SpeedUnit.fromStr "meters_per_second").isSome = true := by decide +kernel

example : (createTime (60 : ℚ) .milesPerHour (30 : ℚ) .miles .minutes).isSome = true := by decide +kernel
example : createTime (0 : ℚ) .milesPerHour (30 : ℚ) .miles .minutes = none := by decide +kernel
example : createSpeed (0 : ℚ) .hours (1 : ℚ) .miles .milesPerHour = none := by decide +kernel
example : (createSpeed (2 : ℚ) .hours (1 : ℚ) .miles .milesPerHour).isSome = true := by decide +kernel
example : (DistanceUnit.miles.convert .meters (2 : ℚ)) ≠ 2 := by decide +kernel

/-! ### Generated function bodies

`tools/gen_fns.py` re-translates the body of the Rust function on every run into `Compass/Gen/FnsC09.lean`
(conventions in the header of the tool).  Each `gen_*_eq` theorem below says that the generated definition
*is* the hand-written model function the property theorems are about.  A source change to the function
changes the generated definition and the proof stops checking (a body the translator no longer recognises is
not emitted: the theorem no longer elaborates). -/

/-- `(d, s).into()` is resolved through the translated `From<(Distance, Speed)> for Time` -/
theorem gen_create_time_eq {α : Type} [Field α] [LinearOrder α] [IsStrictOrderedRing α] [Lit α] [LawfulLit α] (speed : α) (su : SpeedUnit) (distance : α) (du : DistanceUnit) (tu : TimeUnit) :
    Gen.create_time speed su distance du tu = createTime speed su distance du tu := rfl

theorem gen_create_speed_eq {α : Type} [Field α] [LinearOrder α] [IsStrictOrderedRing α] [Lit α] [LawfulLit α] (time : α) (tu : TimeUnit) (distance : α) (du : DistanceUnit) (su : SpeedUnit) :
    Gen.create_speed time tu distance du su = createSpeed time tu distance du su := rfl

end C09
end Compass
