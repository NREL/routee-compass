/-
C13 — k-shortest-paths returns up to k valid, distinct routes, best first, and ends.

Model: `Model/Ksp.lean` (`single_via_paths_algorithm::run`, `yens_algorithm::run`,
`KspTerminationCriteria`, `KspQuery`, `RouteSimilarityFunction`, `reorient_reverse_route`,
`route_contains_loop`) over the search model of `Model/Search.lean` and the concrete instances of
`Model/Instance.lean`; it follows the code of /repo at 08a69e9.

PART A, single-via: all statements are for every configuration whose adjacency lists agree with the
edge list in both directions (what the loader guarantees, C15), every origin / destination, every
`k`, every termination criterion, an ARBITRARY similarity test
`sim : List Nat → List Nat → Except ErrKind Bool` (edge-id lists of candidate and accepted route; it
may even fail), every schedule of the two underlying searches (Dijkstra and A* alike: the heuristic
is a field of the instance) and every replayed pop sequence of the intersection queue.
Routes are read in graph orientation (`Ksp.GWalk`).

Naming: a theorem whose name ends in `_partial` proves a clause of the property on a stated
sub-case only; its docstring gives the full clause, what is excluded and why, and the
`…_counterexample` next to it (or the one named there) shows the clause false of the faithful model
outside the sub-case.  Theorems whose docstring says "by definition of the model" unfold a
definition: what they state about the code rests on the correspondence run, not on the proof.

MODELLED RATHER THAN VERIFIED (what the statements below do not cover):
* numbers are an ordered field with exact arithmetic (`Field α`, ℚ in the examples); the code
  computes in `f64`.  The driver runs the same model at `Float` and is compared with the code
  case by case, but no theorem speaks about rounding.  In particular the cosine of an EMPTY route
  (origin = destination) is `0/0 = 0` in a field and NaN in the code (`NaN >= threshold` is false:
  the same decision for every positive threshold, a different one for a threshold ≤ 0), and a
  distance-weighted threshold within 1e-9 of a rank is skipped by the harness.
* the cosine similarity functions (`cosSimilarity`) are part of the model, their decision rule
  and totality are stated (`similarity_decision`, `similarity_never_fails_on_graph_edges`), but no
  theorem says what the cosine VALUE is; every route-level theorem is for an arbitrary `sim`.
* `HashMap` / `InternalPriorityQueue` iteration and tie-breaking order are not modelled: the order
  of equal-priority pops is a replayed input (`fs rs pops`, `scheds`), each pop checked by `popOk`.
  The theorems hold for every accepted replay; that the code's order IS an accepted replay is
  evidenced by the correspondence run only.  `.scheduleExhausted` / `.badSchedule` are outcomes of
  the model alone.
* trees, labels and adjacency are total functions / `getD` lookups in the model where the code has
  `HashMap::get` and `Result`s: the model's `Config.inst.valid` ignores the state (true of the four
  frontier models the model knows, not of the `FrontierModel` trait), `initialState` is total, a
  missing edge id reads as vertex 0 in `keyV` / `termV` (every use is guarded by the edge lookup).
* `run_edge_oriented` around the two algorithms (`runEdgeWith`, `runEdgeWithOutcome`: a
  zero-cost element for the origin and destination edge around every route) is modelled and
  compared case by case; no theorem here is about it (C01 owns the wrapper).
* origin = destination: the single-via theorems about walks, alternatives and failures
  (`single_via_routes_valid`, `_alternatives`, `_alternative_state`, `_routes_permitted`,
  `_routes_state_partial`, `single_via_failures` and what is derived from them) and `yens_routes_valid`
  assume `target ≠ source` (the property quantifies over routes of at least one edge); the other Yen
  theorems and the witnesses cover the empty route.
* termination of the underlying `run_a_star` and of `backtrack` is C01's subject; here only the
  loops of the two k-shortest-paths algorithms are shown to end.
-/
import Compass.Gen.Decisions
import Compass.Gen.FnsC13
import Compass.Proofs.Ksp

namespace Compass
namespace C13

open Ksp SearchTree

set_option linter.unusedSectionVars false

variable {α : Type} [Field α] [LinearOrder α] [IsStrictOrderedRing α] [Lit α] [LawfulLit α]

/-! ## `KspTerminationCriteria::terminate_search`, as coded -/

/-- (by definition of the model — `KspTerm.terminate` is the transcription of `terminate_search`,
compared with the code on every `u64` edge case by the `kterm` stream)
every criterion stops only at exactly `k` routes; `Exact` stops exactly then; `MaxIteration`
additionally needs `k ≤ max` and `Factor` `k ≤ factor * k` — so `MaxIteration {max < k}` and
`Factor {0}` never stop the loop (it then runs until the queue is empty and `take(k)` truncates) -/
theorem terminate_search_spec (t : KspTerm) (k n : Nat) :
    (t.terminate k n = true → n = k) ∧
    (KspTerm.exact.terminate k n = true ↔ n = k) ∧
    (∀ max, (KspTerm.maxIteration max).terminate k n = true ↔ n = k ∧ k ≤ max) ∧
    (∀ f, (KspTerm.factor f).terminate k n = true ↔ n = k ∧ k ≤ f * n) := by
  refine ⟨eq_of_terminate, ?_, ?_, ?_⟩ <;> simp [KspTerm.terminate]

/-- `k = 0`: the solution starts with one route, so no criterion ever fires; the loop drains the
whole intersection queue and `take(0)` returns no route -/
theorem terminate_search_k_zero (t : KspTerm) (n : Nat) : t.terminate 0 (n + 1) = false := by
  cases t <;> simp [KspTerm.terminate]

/-- `Factor`: stop at exactly `k` routes, provided `k ≤ factor * k` — i.e. `k = 0` or `factor ≥ 1` —
for EVERY `factor`, `k`, `size` (no wrap-around: the code multiplies saturating) -/
theorem factor_terminate_iff (f k n : Nat) :
    (KspTerm.factor f).terminate k n = true ↔ n = k ∧ (k = 0 ∨ 1 ≤ f) := by
  simp only [KspTerm.terminate, Bool.and_eq_true, beq_iff_eq, decide_eq_true_eq]
  constructor
  · rintro ⟨rfl, h⟩
    refine ⟨rfl, ?_⟩
    by_contra hc
    have hf : f = 0 := by omega
    subst hf
    omega
  · rintro ⟨rfl, h | h⟩
    · subst h; simp
    · exact ⟨rfl, Nat.le_mul_of_pos_left _ (by omega)⟩

/-- the saturating product decides `factor * size ≥ k` exactly for every `k` a `usize` can hold -/
theorem saturating_mul_decides (f n k : Nat) (hk : k < 2 ^ 64) :
    k ≤ min (f * n) (2 ^ 64 - 1) ↔ k ≤ f * n := by
  constructor
  · intro h; exact le_trans h (min_le_left _ _)
  · intro h; exact le_min h (by omega)

/-- (ARITHMETIC ONLY: a statement about natural numbers, not about a function of the model, which
has the saturating form alone.)  A wrapping product `factor * size mod 2^64` would take the wrong
decision — factor 2^63, k = size = 2 wraps to 0, so the criterion would never stop the search although
`k ≤ factor * size` —, which is what the saturating product is there for -/
theorem factor_wrapping_counterexample :
    ∃ f n k : Nat, f < 2 ^ 64 ∧ k < 2 ^ 64 ∧ n = k ∧ k ≤ f * n ∧ ¬ k ≤ (f * n) % 2 ^ 64 :=
  ⟨2 ^ 63, 2, 2, by decide, by decide, rfl, by decide, by decide⟩

/-- (by definition of the model, `kspK`)
`KspQuery::new`: `k` is the query's `"k"` when that field is present and an unsigned integer, a
build error when it is present and anything else (`as_u64` is `None`: a float, a string, a
negative number, `null` — exercised on the real code by the harness),
and the configured value when it is absent -/
theorem ksp_query_k_spec (kDefault : Nat) :
    kspK none kDefault = .ok kDefault ∧
    (∀ j n, j.asU64? = some n → kspK (some j) kDefault = .ok n) ∧
    (∀ j, j.asU64? = none → kspK (some j) kDefault = .error .build) ∧
    (∀ s, kspK (some (.str s)) kDefault = .error .build) ∧
    kspK (some .null) kDefault = .error .build := by
  refine ⟨rfl, ?_, ?_, fun s => rfl, rfl⟩
  · intro j n h; simp [kspK, h]
  · intro j h; simp [kspK, h]

/-! ## PART A — single-via (`single_via_paths_algorithm::run`)

### count, order, turn counter -/

/-- **between one and k routes**: never more than `k`; at least one as soon as `k ≥ 1` (the
underlying search answered the query, otherwise the result is that search's error) -/
theorem single_via_count {c : Config α} {g : List α}
    {sim : List Nat → List Nat → Except ErrKind Bool} {term : KspTerm} {source target k : Nat}
    {fs rs pops : List Nat} {r : AlgResult α}
    (h : singleVia c g sim term source target k fs rs pops = .ok r) :
    r.routes.length ≤ k ∧ (1 ≤ k → 1 ≤ r.routes.length) := by
  obtain ⟨_, _, _, _, hA⟩ := singleVia_answer h
  exact hA.count

/-- **the iteration count of a result** (the loop itself is structurally recursive on the replayed
pops: what the statement bounds is the counter a successful call reports): when the reverse search
fails (other than by a limit, which fails the query) there is no loop at all and `iterations` is the
forward search's count; otherwise every turn — a dropped candidate included — removes one entry of the
intersection queue, so `iterations` is the two searches' count plus at most one turn per intersection
entry, of which there are at most `nV` -/
theorem single_via_terminates {c : Config α} {g : List α}
    {sim : List Nat → List Nat → Except ErrKind Bool} {term : KspTerm} {source target k : Nat}
    {fs rs pops : List Nat} {r : AlgResult α}
    (h : singleVia c g sim term source target k fs rs pops = .ok r) :
    ∃ fres, runVertexOriented c.fwd.inst source (some target) fs = .ok fres ∧
      (((∃ e, runVertexOriented (c.rev g).inst target (some source) rs = .error e ∧
            e.stopsQuery = false) ∧
          r.iterations = fres.final.iters) ∨
       ∃ rres turns,
        runVertexOriented (c.rev g).inst target (some source) rs = .ok rres ∧
        r.iterations = fres.final.iters + rres.final.iters + turns ∧
        turns ≤ (interQueue c.nV fres.final.sol rres.final.sol).length ∧
        (interQueue c.nV fres.final.sol rres.final.sol).length ≤ c.nV) := by
  obtain ⟨fres, tsp, h1, _, ⟨he, rfl⟩ | ⟨rres, sol, it, h2, hloop, rfl⟩⟩ := singleVia_ok h
  · exact ⟨fres, h1, Or.inl ⟨he, rfl⟩⟩
  · have := (svLoop_turns hloop).2
    exact ⟨fres, h1, Or.inr ⟨rres, it, h2, rfl, by simpa using this, interQueue_length_le _ _ _⟩⟩

/-- **best first**: the first returned route is the route of the underlying forward search -/
theorem single_via_first_is_underlying_route {c : Config α} {g : List α}
    {sim : List Nat → List Nat → Except ErrKind Bool} {term : KspTerm} {source target k : Nat}
    {fs rs pops : List Nat} {r : AlgResult α} (hk : 1 ≤ k)
    (h : singleVia c g sim term source target k fs rs pops = .ok r) :
    ∃ fres, runVertexOriented c.fwd.inst source (some target) fs = .ok fres ∧
      r.routes.head? = fres.route := by
  obtain ⟨fres, first, h1, hfirst, hA⟩ := singleVia_answer h
  exact ⟨fres, h1, hfirst ▸ hA.head hk⟩

/-- **the first route is a least-cost route** — PARTIAL: proved for EDGE-LOCAL configurations
(`Config.EdgeLocal`: consistent adjacency, no access model, no turn restriction — the cost of an edge
does not depend on how it was reached), a non-negative weight factor and an estimate that is
admissible for the destination (`SearchOpt.Admissible` of the configuration's own `Config.hOf`;
C02 proves it for the distance and speed-table estimates on metrically consistent networks).  Then
the first returned route is a valid walk origin ⇝ destination, its summed cost is `Σ costOf` over
its edges, and no valid walk origin ⇝ destination costs less.

Full clause: "the first route is a least-cost route", for every configuration and both underlying
searches.  Excluded, because C02 itself does not prove it there: configurations with an access model
(turn delays) or turn restrictions — the cost of an edge then depends on the previous edge and a
vertex-labelling search is not optimal over walks in general — and estimates that are not admissible
(A* with weight factor > 1 returns dearer routes by design).  What holds without any premise is
`single_via_first_is_underlying_route`: the first route IS the underlying search's route, so
whatever C02 establishes about that search carries over.  (`SearchOpt.Uniform` is no substitute
for these premises: no `Config.inst` satisfies it.) -/
theorem single_via_first_least_cost_partial {c : Config α} {g : List α}
    {sim : List Nat → List Nat → Except ErrKind Bool} {term : KspTerm} {source target k : Nat}
    {fs rs pops : List Nat} {r : AlgResult α} (hk : 1 ≤ k) (hts : target ≠ source)
    (hEL : c.fwd.EdgeLocal) (hwf : 0 ≤ c.fwd.wfOf)
    (hadm : SearchOpt.Admissible c.fwd.inst c.fwd.okOf c.fwd.costOf c.fwd.hOf target)
    (h : singleVia c g sim term source target k fs rs pops = .ok r) :
    ∃ first, r.routes.head? = some first ∧ first ≠ [] ∧
      SearchOpt.Walk c.fwd.inst c.fwd.okOf source (first.map (·.edge)) target ∧
      (first.map (fun b => b.access + b.traversal)).sum =
        SearchOpt.cost c.fwd.costOf (first.map (·.edge)) ∧
      ∀ es, SearchOpt.Walk c.fwd.inst c.fwd.okOf source es target →
        (first.map (fun b => b.access + b.traversal)).sum ≤ SearchOpt.cost c.fwd.costOf es := by
  obtain ⟨fres, h1, h2⟩ := single_via_first_is_underlying_route hk h
  obtain ⟨first, hr, rest⟩ := config_route_least_cost c.fwd hEL hwf hts hadm h1
  exact ⟨first, by rw [h2, hr], rest⟩

/-- the same for **Dijkstra** as the underlying search (weight factor 0): no admissibility premise —
every edge-local configuration, whatever its weights, rates, lengths, features and tables -/
theorem single_via_first_least_cost_dijkstra_partial {c : Config α} {g : List α}
    {sim : List Nat → List Nat → Except ErrKind Bool} {term : KspTerm} {source target k : Nat}
    {fs rs pops : List Nat} {r : AlgResult α} (hk : 1 ≤ k) (hts : target ≠ source)
    (hEL : c.fwd.EdgeLocal) (hwf : c.fwd.wf = some 0)
    (h : singleVia c g sim term source target k fs rs pops = .ok r) :
    ∃ first, r.routes.head? = some first ∧ first ≠ [] ∧
      SearchOpt.Walk c.fwd.inst c.fwd.okOf source (first.map (·.edge)) target ∧
      (first.map (fun b => b.access + b.traversal)).sum =
        SearchOpt.cost c.fwd.costOf (first.map (·.edge)) ∧
      ∀ es, SearchOpt.Walk c.fwd.inst c.fwd.okOf source es target →
        (first.map (fun b => b.access + b.traversal)).sum ≤ SearchOpt.cost c.fwd.costOf es :=
  single_via_first_least_cost_partial hk hts hEL (by simp [Config.wfOf, hwf])
    (c.fwd.admissible_dijkstra hwf target) h

/-! ### every route is a valid loop-free origin → destination walk -/

/-- **every returned route** (the first and every alternative) is a contiguous walk from the origin
to the destination in graph orientation, passes `route_contains_loop` (the source vertices of its
edges are pairwise distinct: no vertex is left twice) and therefore repeats no edge -/
theorem single_via_routes_valid {c : Config α} {g : List α} (hf : c.fwd.AdjConsistent)
    (hr : (c.rev g).AdjConsistent) {sim : List Nat → List Nat → Except ErrKind Bool}
    {term : KspTerm} {source target k : Nat} (hts : target ≠ source) {fs rs pops : List Nat}
    {r : AlgResult α} (h : singleVia c g sim term source target k fs rs pops = .ok r) :
    ∀ route ∈ r.routes,
      GWalk c.edges source (route.map (·.edge)) target ∧
      (∃ vs, srcVertices c.fwd route = .ok vs ∧ vs.Nodup) ∧
      (route.map (·.edge)).Nodup := by
  obtain ⟨fres, first, h1, hfirst, hA⟩ := singleVia_alts hf hr hts h
  intro route hroute
  obtain ⟨hw, hl⟩ := hA.all (P := fun route => GWalk c.edges source (route.map (·.edge)) target ∧
    routeContainsLoop c.fwd route = .ok false) (let ⟨hg, hl⟩ := first_route_good hf h1 hfirst; ⟨hg.walk, hl⟩)
    (fun _ _ hx _ => ⟨hx.shape.walk, hx.loopfree⟩) route hroute
  exact ⟨hw, routeContainsLoop_false hl⟩

/-- every route after the first is an alternative (`Ksp.SvAlt`) of the forward tree, relative to the
routes returned before it -/
theorem single_via_alternatives {c : Config α} {g : List α} (hf : c.fwd.AdjConsistent)
    (hr : (c.rev g).AdjConsistent) {sim : List Nat → List Nat → Except ErrKind Bool}
    {term : KspTerm} {source target k : Nat} (hts : target ≠ source) {fs rs pops : List Nat}
    {r : AlgResult α} (h : singleVia c g sim term source target k fs rs pops = .ok r) :
    ∃ fres, runVertexOriented c.fwd.inst source (some target) fs = .ok fres ∧
    ∀ route ∈ r.routes.tail, ∃ before, before <+: r.routes ∧
      SvAlt c sim source target fres.final before route := by
  obtain ⟨fres, _, h1, _, hA⟩ := singleVia_alts hf hr hts h
  exact ⟨fres, h1, hA.tail_alt⟩

/-- **the re-created half of an alternative carries correctly accumulated state** (every
configuration, Dijkstra and A*): every route after the first is
`fwdRoute ++ revRoute` for some intersection vertex `v`, where `fwdRoute` is the backtrack of the
forward tree to `v` (its elements are that tree's entries, a walk origin ⇝ `v`) and `revRoute` is a
walk `v` ⇝ destination each of whose elements is `EdgeTraversal::forward_traversal` of its edge from
the previous element's edge and state, starting from the last edge and state of `fwdRoute`.
This says nothing about the state INSIDE `fwdRoute` (nor about the first route): that is
`single_via_routes_state_partial`. -/
theorem single_via_alternative_state {c : Config α} {g : List α} (hf : c.fwd.AdjConsistent)
    (hr : (c.rev g).AdjConsistent) {sim : List Nat → List Nat → Except ErrKind Bool}
    {term : KspTerm} {source target k : Nat} (hts : target ≠ source) {fs rs pops : List Nat}
    {r : AlgResult α} (h : singleVia c g sim term source target k fs rs pops = .ok r) :
    ∃ fres, runVertexOriented c.fwd.inst source (some target) fs = .ok fres ∧
    ∀ route ∈ r.routes.tail, ∃ v fwdRoute revRoute,
      route = fwdRoute ++ revRoute ∧
      backtrack source v fres.final.sol (fres.final.solSize + 1) = .ok fwdRoute ∧
      GWalk c.edges source (fwdRoute.map (·.edge)) v ∧
      GWalk c.edges v (revRoute.map (·.edge)) target ∧
      (∀ b ∈ fwdRoute, ∃ u, fres.final.sol u = some b) ∧
      Reaccumulated c.fwd (lastEdge fwdRoute) (lastState c.fwd fwdRoute) revRoute := by
  obtain ⟨fres, h1, hall⟩ := single_via_alternatives hf hr hts h
  exact ⟨fres, h1, fun route hroute => let ⟨_, _, halt⟩ := hall route hroute; halt.shape⟩

/-- **every returned route carries correctly accumulated state** — PARTIAL: proved when the
underlying search runs under the label-setting discipline, i.e. its estimate is a consistent function
`H` of the vertex (`SearchDiscipline.Heur`: Dijkstra is `H = 0`, `SearchDiscipline.ZeroH.heur`; A*
with an estimate that is consistent for the network).  Then EVERY returned route — the first one and
every alternative, forward half, junction and re-created half alike — is the forward accumulation
from the initial state: its first element is `EdgeTraversal::forward_traversal` of its edge from the
initial state and no previous edge, every later element that of its edge from the edge and state of
the element before it (`Ksp.Reaccumulated … none (initialState …)`).

Full clause: "every route … with correctly accumulated state", for both underlying searches.
Excluded: A* with an estimate that is inconsistent for the network, where the clause is FALSE — a
re-opened vertex leaves a child tree entry computed from its parent's earlier label, and the first
route as well as the forward half of every alternative are read off that tree
(`routes_state_stale_link_counterexample` below; C03 finding `route/stale-link-after-reopening`, here
under the oracle keys `ksp/stale-link-after-reopening` and `yens/stale-link-after-reopening`). -/
theorem single_via_routes_state_partial {c : Config α} {g : List α} (hf : c.fwd.AdjConsistent)
    (hr : (c.rev g).AdjConsistent) {H : Nat → α} (hH : SearchDiscipline.Heur c.fwd.inst true H)
    {sim : List Nat → List Nat → Except ErrKind Bool}
    {term : KspTerm} {source target k : Nat} (hts : target ≠ source) {fs rs pops : List Nat}
    {r : AlgResult α} (h : singleVia c g sim term source target k fs rs pops = .ok r) :
    ∀ route ∈ r.routes, Reaccumulated c.fwd none (initialState c.fwd.feats) route := by
  obtain ⟨fres, first, h1, hfirst, hA⟩ := singleVia_alts hf hr hts h
  refine hA.all ((first_route_links (c.fwd.inst_wf hf) hH h1 hfirst).2) fun _ _ hx _ => ?_
  obtain ⟨v, fr, rr, e1, e2, _, _, _, e6⟩ := hx.shape
  rw [e1]
  exact reaccumulated_append_init (tree_path_links (c.fwd.inst_wf hf) hH hts h1 e2).2 e6

/-- **every returned alternative is permitted by the frontier model, pairwise, in travel order**
(`route_is_permitted`; oracle key `ksp/single-via-restricted-turn`): the first edge is accepted from the initial state
with no previous edge, every later edge from the state and edge the route reports for its
predecessor — the junction of the two halves and the re-traversed reverse half included; in
particular no alternative takes a turn listed by a turn-restriction model of the configuration -/
theorem single_via_routes_permitted {c : Config α} {g : List α} (hf : c.fwd.AdjConsistent)
    (hr : (c.rev g).AdjConsistent) {sim : List Nat → List Nat → Except ErrKind Bool}
    {term : KspTerm} {source target k : Nat} (hts : target ≠ source) {fs rs pops : List Nat}
    {r : AlgResult α} (h : singleVia c g sim term source target k fs rs pops = .ok r) :
    ∀ route ∈ r.routes.tail,
      (∀ b, route.head? = some b →
        c.fwd.inst.valid b.edge (initialState c.fwd.feats) none = .ok true) ∧
      (∀ i (hi : i + 1 < route.length),
        c.fwd.inst.valid route[i + 1].edge route[i].state (some route[i].edge) = .ok true) ∧
      ∀ pairs, FrontierM.turnRestriction pairs ∈ c.frontier →
        ∀ i (hi : i + 1 < route.length), (route[i].edge, route[i + 1].edge) ∉ pairs := by
  obtain ⟨fres, _, hall⟩ := single_via_alternatives hf hr hts h
  intro route hroute
  obtain ⟨_, _, halt⟩ := hall route hroute
  exact ⟨fun _ hb => halt.permitted.head hb, halt.permitted.isChain.getElem,
    fun pairs hm => (halt.permitted.no_restricted_turn hm).getElem⟩

/-- **the first route is permitted too under the Dijkstra discipline** (weight factor 0), stated in the
`PermittedFrom` form of which the index clauses of `single_via_routes_permitted` are the readings
(`PermittedFrom.head`, `.isChain`): by `SearchDiscipline.backtrack_linksFresh` every link of the
underlying search's route was validated from the state and edge the route itself reports for the
previous link -/
theorem single_via_first_route_permitted {c : Config α} {g : List α} (hf : c.fwd.AdjConsistent)
    (hwf : c.wf = some 0) {sim : List Nat → List Nat → Except ErrKind Bool}
    {term : KspTerm} {source target k : Nat} (hk : 1 ≤ k) (hts : target ≠ source)
    {fs rs pops : List Nat} {r : AlgResult α}
    (h : singleVia c g sim term source target k fs rs pops = .ok r) :
    ∃ first, r.routes.head? = some first ∧
      PermittedFrom c.fwd (initialState c.fwd.feats) none first ∧
      ∀ pairs, FrontierM.turnRestriction pairs ∈ c.frontier →
        ∀ i (hi : i + 1 < first.length), (first[i].edge, first[i + 1].edge) ∉ pairs := by
  obtain ⟨fres, first, h1, hfirst, hA⟩ := singleVia_answer h
  have hperm := (first_route_links (c.fwd.inst_wf hf)
    ((SearchDiscipline.config_zeroH c.fwd hwf).heur (c.fwd.inst_wf hf) true) h1 hfirst).1
  exact ⟨first, hA.head hk, hperm,
    fun pairs hm => (hperm.no_restricted_turn hm).getElem⟩

/-! ### distinct and dissimilar -/

/-- **no two returned routes have the same edge sequence, and no two are similar**: every route was
tested against every route accepted before it (`test_id_similarity` and
`similarity.test_similarity(this, earlier)`, in that argument order) and passed both -/
theorem single_via_distinct_dissimilar {c : Config α} {g : List α}
    {sim : List Nat → List Nat → Except ErrKind Bool} {term : KspTerm} {source target k : Nat}
    {fs rs pops : List Nat} {r : AlgResult α}
    (h : singleVia c g sim term source target k fs rs pops = .ok r) :
    r.routes.Pairwise (fun earlier later =>
      later.map (·.edge) ≠ earlier.map (·.edge) ∧
      sim (later.map (·.edge)) (earlier.map (·.edge)) = .ok false) := by
  obtain ⟨_, _, _, _, hA⟩ := singleVia_answer h
  exact hA.pairwise fun _ _ ⟨_, _, hx⟩ => hx.passed

/-! ### `AcceptAll` -/

/-- (by definition of the model: `SimFn.test` of `.acceptAll` is the constant `false`, as
`is_similar` of `AcceptAll` is; the `ksim` stream compares it with the code)
**`AcceptAll` rejects no alternative for similarity**: its test is
`false` for every pair of routes, on every network — the only rejections left are the loop test, the
frontier validation and an identical edge sequence -/
theorem accept_all_rejects_none [HasSqrt α] (edges : List (EdgeRec α)) (a b : List Nat) :
    (SimFn.acceptAll : SimFn α).test edges a b = .ok false ∧
    (SimFn.acceptAll : SimFn α).test edges = simAcceptAll := by
  constructor <;> rfl

/-- under `AcceptAll` a candidate is turned down by the scan exactly when an accepted route has the
same edge sequence -/
theorem accept_all_scan (this : List (Branch α)) (sol : List (List (Branch α))) :
    rejectedBy simAcceptAll this sol = .ok (sol.any (fun s => sameIds this s)) :=
  rejectedBy_acceptAll this sol

/-- **`AcceptAll` returns at least as many routes as any similarity threshold** — PARTIAL: proved for
the SINGLE-VIA algorithm.  For the same query — same
configuration, `k`, termination criterion, same schedules of the two underlying searches and the
same replayed pop order of the intersection queue (the order depends on the queue's priorities,
never on the similarity setting) — the result under `AcceptAll` has at least as many routes as the
result under any similarity test whatsoever.

Full clause: the same for both algorithms.  Excluded: Yen's algorithm, where the clause is FALSE
(`yens_accept_all_fewer_counterexample` in PART B; oracle key `yens/accept-all-returns-fewer`): it
keeps no candidate from one turn to the next and spurs only off the route accepted last, so a short
route that `AcceptAll` accepts can end the enumeration which a threshold, turning that route down,
continues. -/
theorem accept_all_at_least_as_many_partial {c : Config α} {g : List α}
    {sim : List Nat → List Nat → Except ErrKind Bool} {term : KspTerm} {source target k : Nat}
    {fs rs pops : List Nat} {rA rT : AlgResult α}
    (hA : singleVia c g simAcceptAll term source target k fs rs pops = .ok rA)
    (hT : singleVia c g sim term source target k fs rs pops = .ok rT) :
    rT.routes.length ≤ rA.routes.length :=
  singleVia_acceptAll_ge hA hT

/-- **the same, whatever the two pop orders** — PARTIAL in the same sense (single-via only; Yen:
`yens_accept_all_fewer_counterexample`), and for the SAME replay `fs rs` of the two underlying
searches (two real runs may also break ties inside those searches differently and then work on
different trees: that case is not covered by any theorem).  The order in which equal-priority
intersection vertices are popped is not defined (it depends on `HashMap` iteration and on the
third-party queue),
so two real runs of the same query may replay different pop sequences; `AcceptAll` still returns at
least as many routes — when it does not stop at `k` routes it has drained the queue and holds, up to
edge ids, every loop-free permitted candidate there is, while the other run's routes are pairwise
distinct candidates of the same queue -/
theorem accept_all_at_least_as_many_any_order_partial {c : Config α} {g : List α}
    {sim : List Nat → List Nat → Except ErrKind Bool} {term : KspTerm} {source target k : Nat}
    {fs rs popsA popsT : List Nat} {rA rT : AlgResult α}
    (hA : singleVia c g simAcceptAll term source target k fs rs popsA = .ok rA)
    (hT : singleVia c g sim term source target k fs rs popsT = .ok rT) :
    rT.routes.length ≤ rA.routes.length :=
  singleVia_acceptAll_ge hA hT

/-! ### which failures propagate -/

/-- with consistent adjacency and distinct origin and destination single-via fails only with **the
forward search's error** — the query is then not answerable by the underlying search either —, with
**the reverse search stopped by a limit of the termination model** (C10: a limit hit by any sub-search
is the explicit `terminated` error, never a shortened answer; the other members of `stopsQuery` are a
Rust panic and, in the model, a reverse replay that is exhausted or not one the queue could produce),
with an error of the similarity function on two id lists that consist of edges of the
graph (`Ksp.GraphIds`: the candidate and an accepted route — the function is never applied to anything
else), or, in the model, with one of the two verdicts on a replay the queue could not have produced.
So backtracking, the tree-count checks, the loop test and the frontier validation never fail.  (What
becomes of the other failures — any other failure of the reverse search yields the shortest route
alone, a failed re-traversal drops that candidate — is the result clause `Ksp.SvResult`; oracle keys
`ksp/single-via-reverse-search-failed`, `ksp/single-via-alternative-failed`.) -/
theorem single_via_failures {c : Config α} {g : List α} (hf : c.fwd.AdjConsistent)
    (hr : (c.rev g).AdjConsistent) {sim : List Nat → List Nat → Except ErrKind Bool}
    {term : KspTerm} {source target k : Nat} (hts : target ≠ source) {fs rs pops : List Nat}
    {e : ErrKind} (h : singleVia c g sim term source target k fs rs pops = .error e) :
    runVertexOriented c.fwd.inst source (some target) fs = .error e ∨
    (runVertexOriented (c.rev g).inst target (some source) rs = .error e ∧ e.stopsQuery = true) ∨
    e = .scheduleExhausted ∨ e = .badSchedule ∨
      (∃ a b, GraphIds c.edges a ∧ GraphIds c.edges b ∧ sim a b = .error e) := by
  have := singleVia_spec c g sim term source target k fs rs pops
  rw [h] at this
  exact this hf hr hts

/-- conversely **a reverse search stopped by a limit always fails the query with that error**
(the strict reading of C10 for the sub-searches of single-via) -/
theorem single_via_reverse_limit_propagates {c : Config α} {g : List α}
    {sim : List Nat → List Nat → Except ErrKind Bool} {term : KspTerm} {source target k : Nat}
    {fs rs pops : List Nat} {fres : SearchResult α} {ks : List TermKind}
    (hfwd : runVertexOriented c.fwd.inst source (some target) fs = .ok fres)
    (hrev : runVertexOriented (c.rev g).inst target (some source) rs = .error (.terminated ks)) :
    singleVia c g sim term source target k fs rs pops = .error (.terminated ks) := by
  unfold singleVia
  simp only [hfwd, hrev, ErrKind.stopsQuery, if_true]

/-- hence **an answerable query is never turned into another error**: a "no other error" theorem —
the conclusion is a result OR one of the model's two verdicts on the replay (no theorem shows that
an accepted complete replay exists; the correspondence run replays the code's own).  Premises: the
similarity function does not fail on id lists made of edges of the graph (`hsim`; met by all three
configured functions with NO further premise: `single_via_answers_answerable_configured`; asked of
ALL id lists it would be false of the distance-weighted cosine, which fails on an id outside the
edge list), the underlying search answers the query, and the reverse search — if it fails at all —
fails with an error outside `ErrKind.stopsQuery` (`hrev`).  `hrev` excludes: a limit of the
termination model (then the query IS that error: `single_via_reverse_limit_propagates`, C10), the
frequency-0 panic of the termination model, and, in the model, a reverse replay that is exhausted or
not one the queue could produce. -/
theorem single_via_answers_answerable {c : Config α} {g : List α} (hf : c.fwd.AdjConsistent)
    (hr : (c.rev g).AdjConsistent) {sim : List Nat → List Nat → Except ErrKind Bool}
    (hsim : ∀ a b, GraphIds c.edges a → GraphIds c.edges b → ∃ x, sim a b = .ok x)
    {term : KspTerm} {source target k : Nat} (hts : target ≠ source) {fs rs pops : List Nat}
    {fres : SearchResult α}
    (hfwd : runVertexOriented c.fwd.inst source (some target) fs = .ok fres)
    (hrev : ∀ e, runVertexOriented (c.rev g).inst target (some source) rs = .error e →
      e.stopsQuery = false) :
    (∃ r, singleVia c g sim term source target k fs rs pops = .ok r) ∨
    singleVia c g sim term source target k fs rs pops = .error .scheduleExhausted ∨
    singleVia c g sim term source target k fs rs pops = .error .badSchedule := by
  cases hres : singleVia c g sim term source target k fs rs pops with
  | ok r => exact Or.inl ⟨r, rfl⟩
  | error e =>
    rcases single_via_failures hf hr hts hres with h | ⟨h, hs⟩ | h | h | ⟨a, b, ha, hb, h⟩
    · rw [hfwd] at h; cases h
    · rw [hrev e h] at hs; cases hs
    · exact Or.inr (Or.inl (by rw [h]))
    · exact Or.inr (Or.inr (by rw [h]))
    · obtain ⟨x, hx⟩ := hsim a b ha hb
      rw [hx] at h; cases h

/-! ### Non-vacuity (single-via): the diamond `0 → {1, 2} → 3`, Dijkstra, k = 2.  The hypotheses hold,
the run succeeds with two routes, and the theorems above apply to it.  (The second run below is the
same query under a similarity test that is constantly `true`: one route.) -/

example : Example.diamond.fwd.AdjConsistent ∧ (Example.diamond.rev []).AdjConsistent :=
  Example.diamond_adj

example : Example.idsOf (singleVia Example.diamond (List.replicate 4 0) simAcceptAll .exact 0 3 2
    [0, 1, 3] [3, 1, 0] [1, 2]) = .ok [[0, 1], [2, 3]] := Example.diamond_accept_all

example : Example.idsOf (singleVia Example.diamond (List.replicate 4 0) (fun _ _ => .ok true) .exact
    0 3 2 [0, 1, 3] [3, 1, 0] [1, 2]) = .ok [[0, 1]] := Example.diamond_reject_all

example : ∃ rA rT, singleVia Example.diamond (List.replicate 4 0) simAcceptAll .exact 0 3 2
      [0, 1, 3] [3, 1, 0] [1, 2] = .ok rA ∧
    singleVia Example.diamond (List.replicate 4 0) (fun _ _ => .ok true) .exact 0 3 2
      [0, 1, 3] [3, 1, 0] [1, 2] = .ok rT ∧ rT.routes.length ≤ rA.routes.length ∧
    rA.routes.length ≤ 2 ∧ 1 ≤ rT.routes.length := by
  obtain ⟨rA, hA, _⟩ := Example.ok_of_idsOf Example.diamond_accept_all
  obtain ⟨rT, hT, _⟩ := Example.ok_of_idsOf Example.diamond_reject_all
  exact ⟨rA, rT, hA, hT, accept_all_at_least_as_many_partial hA hT, (single_via_count hA).1,
    (single_via_count hT).2 (by decide)⟩

/-- the alternative of that run is permitted link by link (`single_via_routes_permitted` applies) -/
example : ∃ r, singleVia Example.diamond (List.replicate 4 0) simAcceptAll .exact 0 3 2
      [0, 1, 3] [3, 1, 0] [1, 2] = .ok r ∧ r.routes.tail ≠ [] ∧
    ∀ route ∈ r.routes.tail, ∀ i (hi : i + 1 < route.length),
      Example.diamond.fwd.inst.valid route[i + 1].edge route[i].state (some route[i].edge) =
        .ok true := by
  obtain ⟨r, hr, hids⟩ := Example.ok_of_idsOf Example.diamond_accept_all
  refine ⟨r, hr, ?_, ?_⟩
  · intro h
    have := congrArg List.length hids
    cases hrr : r.routes with
    | nil => rw [hrr] at this; simp at this
    | cons a rest => rw [hrr] at h this; simp at h; subst h; simp at this
  · intro route hroute
    exact (single_via_routes_permitted Example.diamond_adj.1
      (rev_adj_irrel _ _ _ Example.diamond_adj.2) (by decide) hr route hroute).2.1

/-- the least-cost and state theorems apply to that run: the diamond is an edge-local Dijkstra
configuration (every hypothesis of `single_via_first_least_cost_dijkstra_partial` and
`single_via_routes_state_partial` instantiated), the first route is `[e0, e1]`, no walk 0 ⇝ 3 costs
less, and both routes are forward accumulations from the initial state -/
example : ∃ r first, singleVia Example.diamond (List.replicate 4 0) simAcceptAll .exact 0 3 2
      [0, 1, 3] [3, 1, 0] [1, 2] = .ok r ∧ r.routes.length = 2 ∧
    r.routes.head? = some first ∧ first.map (·.edge) = [0, 1] ∧
    (∀ es, SearchOpt.Walk Example.diamond.fwd.inst Example.diamond.fwd.okOf 0 es 3 →
      (first.map (fun b => b.access + b.traversal)).sum ≤
        SearchOpt.cost Example.diamond.fwd.costOf es) ∧
    ∀ route ∈ r.routes,
      Reaccumulated Example.diamond.fwd none (initialState Example.diamond.fwd.feats) route := by
  obtain ⟨r, hr, hids⟩ := Example.ok_of_idsOf Example.diamond_accept_all
  have hEL : Example.diamond.fwd.EdgeLocal := ⟨Example.diamond_adj.1, rfl, rfl⟩
  have hwf : Example.diamond.fwd.wf = some 0 := rfl
  obtain ⟨first, h1, _, _, _, hmin⟩ :=
    single_via_first_least_cost_dijkstra_partial (by decide) (by decide) hEL hwf hr
  refine ⟨r, first, hr, by simpa using congrArg List.length hids, h1, ?_, hmin, ?_⟩
  · cases hrr : r.routes with
    | nil => rw [hrr] at h1; simp at h1
    | cons a rest =>
      rw [hrr] at h1 hids
      simp only [List.head?_cons, Option.some.injEq] at h1
      simp only [List.map_cons, List.cons.injEq] at hids
      rw [← h1]; exact hids.1
  · exact single_via_routes_state_partial Example.diamond_adj.1
      (rev_adj_irrel _ _ _ Example.diamond_adj.2)
      ((SearchDiscipline.config_zeroH _ hwf).heur (Config.inst_wf _ Example.diamond_adj.1) true)
      (by decide) hr

/-! ### Three single-via witnesses
Each is a corpus case of the harness under the oracle key given; on each the property holds. -/

/-- `ksp/single-via-restricted-turn`: `0 -e0→ 1 -e1→ 4`, `0 -e2→ 2 -e3→ 3 -e4→ 4` with
the turn (e3, e4) restricted, Dijkstra, AcceptAll, k = 2.  The alternative `[e2, e3, e4]` — offered
by both via vertices 2 and 3 — is turned down by the frontier validation in travel order; the
shortest route is returned alone, and no returned route contains the restricted turn.  (The plain
search refuses that turn too: on the network without the short branch it reports "no path".) -/
theorem single_via_restricted_turn_witness :
    ∃ (c : Config ℚ) (r : AlgResult ℚ),
      c.fwd.AdjConsistent ∧ (c.rev []).AdjConsistent ∧
      c.frontier = [.turnRestriction [(3, 4)]] ∧
      singleVia c (List.replicate 5 0) simAcceptAll .exact 0 4 2 [0, 1, 2, 4] [4, 1, 3, 0] [1, 2, 3] = .ok r ∧
      r.routes.map (·.map (·.edge)) = [[0, 1]] ∧
      (∀ route ∈ r.routes, ¬ [3, 4] <:+: route.map (·.edge)) ∧
      Example.idsOf (Example.restrictedTurnOnly.runVertex 0 (some 4) [0, 2, 3]) = .error .noPath := by
  obtain ⟨r, hr, hids⟩ := Example.ok_of_idsOf (show Example.idsOf (singleVia Example.restrictedTurn
    (List.replicate 5 0) simAcceptAll .exact 0 4 2 [0, 1, 2, 4] [4, 1, 3, 0] [1, 2, 3]) = .ok [[0, 1]] by
    decide +kernel)
  refine ⟨Example.restrictedTurn, r, adjConsistent_of_lists _ (by decide +kernel),
    adjConsistent_of_lists _ (by decide +kernel), rfl, hr, hids, ?_, by decide +kernel⟩
  intro route hroute
  have hmem : route.map (·.edge) ∈ r.routes.map (·.map (·.edge)) := List.mem_map.2 ⟨route, hroute, rfl⟩
  rw [hids] at hmem
  simp only [List.mem_singleton] at hmem
  rw [hmem]
  decide

/-- `ksp/single-via-reverse-search-failed`: on `0 -e0→ 1 -e1→ 2` with the (untakeable)
pair (e1, e0) listed as a restricted turn the reverse search fails with "no path" — searching
backwards it meets e0 with "previous" edge e1 — and single-via answers with the shortest route
alone, like the underlying search -/
theorem single_via_reverse_failure_witness :
    ∃ (c : Config ℚ), c.fwd.AdjConsistent ∧ (c.rev []).AdjConsistent ∧
      Example.idsOf (c.fwd.runVertex 0 (some 2) [0, 1, 2]) = .ok [[0, 1]] ∧
      Example.idsOf (singleVia c (List.replicate 3 0) simAcceptAll .exact 0 2 2 [0, 1, 2] [2, 1] []) =
        .ok [[0, 1]] := by
  exact ⟨Example.reversedPair, adjConsistent_of_lists _ (by decide +kernel),
    adjConsistent_of_lists _ (by decide +kernel), by decide +kernel, by decide +kernel⟩

/-- `ksp/single-via-alternative-failed`: the alternative whose junction turn has no entry
in the turn-delay table (no search ever evaluated that turn: the via vertex was labelled but not
expanded) is dropped; the query is answered with the shortest route -/
theorem single_via_retraversal_failure_witness :
    Example.idsOf (Example.missingDelay.fwd.runVertex 0 (some 3) [0, 1, 3]) = .ok [[0, 1]] ∧
    Example.idsOf (singleVia Example.missingDelay (List.replicate 4 0) simAcceptAll .exact 0 3 2
      [0, 1, 3] [3, 1, 0] [1, 2]) = .ok [[0, 1]] := by
  decide +kernel

/-! ## Around both algorithms: criteria, similarity functions and the `[algorithm]` section as read
from the configuration, the refused reverse query, the nested algorithm -/

/-- (by definition of the model, `KspTerm.ofJson`: what it says about serde's derive rests on the
`kterm` / `cfg` correspondence streams)
`KspTerminationCriteria` from an object of the configuration: decided by the string under
`"type"`; `max` / `factor` must be unsigned integers; unknown keys are ignored -/
theorem term_config_object (kvs : List (String × Json)) :
    (Json.lookup kvs "type" = some (.str "exact") → KspTerm.ofJson (.obj kvs) = some .exact) ∧
    (Json.lookup kvs "type" = some (.str "max_iteration") →
      KspTerm.ofJson (.obj kvs) = ((Json.lookup kvs "max").bind Json.asU64?).map .maxIteration) ∧
    (Json.lookup kvs "type" = some (.str "factor") →
      KspTerm.ofJson (.obj kvs) = ((Json.lookup kvs "factor").bind Json.asU64?).map .factor) ∧
    (Json.lookup kvs "type" = none → KspTerm.ofJson (.obj kvs) = none) ∧
    (∀ t, Json.lookup kvs "type" = some (.str t) → t ≠ "exact" → t ≠ "max_iteration" →
      t ≠ "factor" → KspTerm.ofJson (.obj kvs) = none) := by
  refine ⟨?_, ?_, ?_, ?_, ?_⟩
  · intro h
    simp only [KspTerm.ofJson, tagged_obj h]
    rfl
  · intro h
    simp only [KspTerm.ofJson, tagged_obj h]
    rw [if_neg (by decide), if_pos (by decide)]
    simp only [Content.arity, Content.req]
    cases Json.lookup kvs "max" <;> rfl
  · intro h
    simp only [KspTerm.ofJson, tagged_obj h]
    rw [if_neg (by decide), if_neg (by decide), if_pos (by decide)]
    simp only [Content.arity, Content.req]
    cases Json.lookup kvs "factor" <;> rfl
  · intro h; simp only [KspTerm.ofJson, tagged, h]
  · intro t h h1 h2 h3
    simp only [KspTerm.ofJson, tagged_obj h]
    rw [if_neg (by simpa using h1), if_neg (by simpa using h2), if_neg (by simpa using h3)]

/-- (by definition of the model, `KspTerm.ofJson`)
the sequence form serde also accepts: the tag followed by exactly the variant's fields -/
theorem term_config_sequence (xs : List Json) :
    KspTerm.ofJson (.arr (.str "exact" :: xs)) = (if xs.length = 0 then some .exact else none) ∧
    KspTerm.ofJson (.arr (.str "max_iteration" :: xs)) =
      (if xs.length = 1 then (xs[0]?.bind Json.asU64?).map .maxIteration else none) ∧
    KspTerm.ofJson (.arr (.str "factor" :: xs)) =
      (if xs.length = 1 then (xs[0]?.bind Json.asU64?).map .factor else none) := by
  refine ⟨?_, ?_, ?_⟩
  · simp [KspTerm.ofJson, tagged, Content.arity]
  · simp only [KspTerm.ofJson, tagged, Content.arity, Content.req]
    by_cases h : xs.length = 1
    · simp only [h, beq_self_eq_true, Bool.not_true, if_true]
      cases xs[0]? <;> simp
    · simp [h]
  · simp only [KspTerm.ofJson, tagged, Content.arity, Content.req]
    by_cases h : xs.length = 1
    · simp only [h, beq_self_eq_true, Bool.not_true, if_true]
      cases xs[0]? <;> simp
    · simp [h]

/-- (by definition of the model, `KspTerm.ofJson`)
anything that is neither an object nor a sequence starting with a string is refused -/
theorem term_config_untagged :
    KspTerm.ofJson .null = none ∧ (∀ s, KspTerm.ofJson (.str s) = none) ∧
    (∀ l b, KspTerm.ofJson (.num l b) = none) ∧ KspTerm.ofJson (.arr []) = none := by
  refine ⟨rfl, fun _ => rfl, fun _ _ => rfl, rfl⟩

example : (KspTerm.maxIteration 3).display = "terminate with 3 routes found" ∧
    (KspTerm.factor 2).display = "terminate with k*2 routes found" ∧
    KspTerm.exact.display = "terminate with up to k routes found" := by decide +kernel

/-- **`test_similarity` = `is_similar ∘ rank_similarity`**, for every variant -/
theorem similarity_test_is_decision_of_rank [HasSqrt α] (f : SimFn α) (edges : List (EdgeRec α))
    (a b : List Nat) :
    f.test edges a b = (match f.rank edges a b with
                        | .error k => .error k
                        | .ok r => .ok (f.isSimilar r)) :=
  Ksp.SimFn.test_eq f edges a b

/-- (by definition of the model, `SimFn.rank` / `SimFn.isSimilar`; compared with the code by the `ksim`
stream)
`AcceptAll` ranks every pair 0 and is never similar; the cosine variants are similar exactly when
`threshold ≤ rank` -/
theorem similarity_decision (thr r : α) (edges : List (EdgeRec α)) (a b : List Nat) [HasSqrt α] :
    (SimFn.acceptAll : SimFn α).rank edges a b = .ok zero ∧
    (SimFn.acceptAll : SimFn α).isSimilar r = false ∧
    ((SimFn.edgeIdCosine thr).isSimilar r = true ↔ thr ≤ r) ∧
    ((SimFn.distanceWeightedCosine thr).isSimilar r = true ↔ thr ≤ r) := by
  refine ⟨rfl, rfl, ?_, ?_⟩ <;> simp [SimFn.isSimilar]

/-- **the similarity functions answer on id lists made of edges of the graph** (`Ksp.GraphIds`), rank
and test alike.  (That the two loops apply them to such lists only is in `single_via_failures` /
`yens_failures`: the similarity failures named there are failures on such lists.) -/
theorem similarity_never_fails_on_graph_edges [HasSqrt α] (f : SimFn α) (edges : List (EdgeRec α))
    {a b : List Nat} (ha : GraphIds edges a) (hb : GraphIds edges b) :
    (∃ r, f.rank edges a b = .ok r) ∧ ∃ x, f.test edges a b = .ok x :=
  ⟨Ksp.SimFn.rank_ok f edges ha hb, Ksp.SimFn.test_ok f edges ha hb⟩

/-- they fail only with the network error, only in the distance-weighted variant, only on an edge id
outside the graph -/
theorem similarity_fails_only_on_unknown_edge [HasSqrt α] (f : SimFn α) (edges : List (EdgeRec α))
    {a b : List Nat} {k : ErrKind} (h : f.rank edges a b = .error k) :
    k = .network ∧ (∃ thr, f = .distanceWeightedCosine thr) ∧ ∃ e ∈ a ++ b, edges[e]? = none :=
  Ksp.SimFn.rank_error f edges h

/-- (by definition of the model: `singleViaVertex` / `yensVertex` begin with the test of the direction
and of the destination, as the code does; compared with the code by the nested
cases of the `cfg` stream)
**a reverse query is refused** by both k-shortest-paths algorithms, with or without a destination
(a forward query without destination is refused too: by definition, not stated here) -/
theorem ksp_reverse_query_refused (c : Config α) (hrev : c.reverse = true) (gcRev : List α)
    (sim : List Nat → List Nat → Except ErrKind Bool) (term : Option KspTerm) (kDefault : Nat)
    (queryK : Option Json) (source : Nat) (target : Option Nat) (fs rs pops : List Nat)
    (scheds : List (List Nat)) :
    singleViaVertex c gcRev sim term kDefault queryK source target fs rs pops = .error .build ∧
    (∃ e, yensVertex c sim term kDefault queryK source target scheds = .err e ∧ e = .build) := by
  cases target with
  | none => exact ⟨rfl, _, rfl, rfl⟩
  | some t => simp [singleViaVertex, yensVertex, hrev]

/-- (by definition of the model, `AlgCfg.ofJson`)
**`SearchAlgorithm` from an object of the configuration**, for the tag `ksp_single_via` ONLY and
four situations: `k` missing — refused; `underlying` missing — refused; `k` present but not an
unsigned integer — refused; `k` an unsigned integer, `underlying` a well-formed section and
`similarity` and `termination` both ABSENT — the algorithm with no similarity and no criterion
(defaults `AcceptAll` / `Exact` at run time).  Nothing is stated here about the `yens` tag, about a
`null`, present or malformed `similarity` / `termination` sub-section or a malformed `underlying`:
those are exercised by the `cfg` correspondence stream only. -/
theorem alg_config_object (num : Json → Option α) (d : Nat) (kvs : List (String × Json))
    (htype : Json.lookup kvs "type" = some (.str "ksp_single_via")) :
    (Json.lookup kvs "k" = none → AlgCfg.ofJson num (d + 1) (.obj kvs) = none) ∧
    (Json.lookup kvs "underlying" = none → AlgCfg.ofJson num (d + 1) (.obj kvs) = none) ∧
    (∀ kj, Json.lookup kvs "k" = some kj → kj.asU64? = none →
      AlgCfg.ofJson num (d + 1) (.obj kvs) = none) ∧
    (∀ kj k uj u, Json.lookup kvs "k" = some kj → kj.asU64? = some k →
      Json.lookup kvs "underlying" = some uj → AlgCfg.ofJson num d uj = some u →
      Json.lookup kvs "similarity" = none → Json.lookup kvs "termination" = none →
      AlgCfg.ofJson num (d + 1) (.obj kvs) = some (.singleVia k u none none)) := by
  have htag := tagged_obj htype
  refine ⟨?_, ?_, ?_, ?_⟩
  · intro h; simp [AlgCfg.ofJson, htag, Content.arity, Content.req, h]
  · intro h
    simp only [AlgCfg.ofJson, htag, Content.arity, Content.req, h]
    cases Json.lookup kvs "k" <;> simp
  · intro kj h1 h2
    simp only [AlgCfg.ofJson, htag, Content.arity, Content.req, h1]
    cases Json.lookup kvs "underlying" with
    | none => simp
    | some uj => simp only [h2]; simp
  · intro kj k uj u h1 h2 h3 h4 h5 h6
    simp [AlgCfg.ofJson, htag, Content.arity, Content.req, Content.opt, optOfJson, h1, h2, h3, h4,
      h5, h6]

/-- **a k-shortest-paths algorithm as `underlying` of single-via**: the nested algorithm's reverse run
is refused, so the result is at most ONE route — the backtrack of the nested forward run's first tree,
which is the forward tree of the innermost search: a contiguous loop-free walk origin ⇝ destination -/
theorem nested_single_via_shortest_alone {c : Config α} (hf : c.fwd.AdjConsistent)
    {source t k : Nat} (hts : t ≠ source) {fs : List Nat} {fres : SearchResult α}
    (hrun : runVertexOriented c.fwd.inst source (some t) fs = .ok fres)
    {fr r : AlgResult α} (htree : fr.trees.head? = some fres.final.sol)
    (h : shortestAlone c k source t fr = .ok r) :
    r.routes.length ≤ 1 ∧ r.routes.length ≤ k ∧ r.trees = fr.trees ∧
    ∀ route ∈ r.routes,
      GWalk c.edges source (route.map (·.edge)) t ∧
      (∃ vs, srcVertices c.fwd route = .ok vs ∧ vs.Nodup) ∧ (route.map (·.edge)).Nodup := by
  unfold shortestAlone at h
  rw [htree] at h
  simp only at h
  split at h
  · cases h
  · rename_i tsp hbt
    cases h
    obtain ⟨hw, hl, _⟩ := fwd_backtrack_walk (tree_of_run c.fwd hf hts hrun) hbt
    refine ⟨List.length_take_le' k [tsp], List.length_take_le k [tsp], rfl, ?_⟩
    intro route hroute
    rw [List.mem_singleton.1 (List.mem_of_mem_take hroute)]
    exact ⟨hw, routeContainsLoop_false hl⟩

/-- the first tree of a single-via or Yen result over Dijkstra / A* is the forward tree of the
underlying search — the premise of `nested_single_via_shortest_alone` -/
theorem ksp_first_tree_is_forward_tree {c : Config α} (hf : c.fwd.AdjConsistent) {g : List α}
    {sim : List Nat → List Nat → Except ErrKind Bool} {term : KspTerm} {source target k : Nat}
    {fs rs pops : List Nat} {scheds : List (List Nat)} :
    (∀ fr, singleVia c g sim term source target k fs rs pops = .ok fr →
      ∃ fres, runVertexOriented c.fwd.inst source (some target) fs = .ok fres ∧
        fr.trees.head? = some fres.final.sol) ∧
    (∀ fr, yens c sim term source target k scheds = .ok fr →
      ∃ fres, runVertexOriented c.fwd.inst source (some target) (scheds.headD []) = .ok fres ∧
        fr.trees.head? = some fres.final.sol) := by
  constructor
  · intro fr h
    obtain ⟨fres, tsp, h1, _, ⟨_, rfl⟩ | ⟨rres, sol, it, _, _, rfl⟩⟩ := singleVia_ok h
    · exact ⟨fres, h1, rfl⟩
    · exact ⟨fres, h1, rfl⟩
  · intro fr h
    obtain ⟨fres, _, h1, _, _, ht⟩ := yens_ok hf h
    exact ⟨fres, h1, by rw [ht]; rfl⟩

/-! ## PART B — Yen's algorithm (`yens_algorithm::run`)

The model is `yens` with `yenWhile`, `yenFor`, `yenSpur`, `yenDissimilar` (`Model/Ksp.lean`, which says
line by line what it has of the code).  The theorems below are at full strength: for every configuration whose adjacency lists agree with the edge list, every origin and
destination, every `k`, an ARBITRARY similarity test, every criterion and every replayed schedule of
the underlying searches (Dijkstra and A* alike).  The `…_witness` theorems at the end are the corpus
cases of the harness, each under its oracle key.

Three clauses are NOT at full strength: "least cost" and "correctly accumulated state of the whole
route" are `_partial` exactly as for single-via (`yens_first_least_cost_partial`,
`yens_routes_state_partial` with `routes_state_stale_link_counterexample`), and "`AcceptAll` returns
at least as many routes as any threshold" is FALSE of the algorithm
(`yens_accept_all_fewer_counterexample`, known finding `yens/accept-all-returns-fewer`): there is no
Yen counterpart of `accept_all_at_least_as_many_partial`. -/

/-- in Yen's `while accepted.len() < k` no criterion can fire: `terminate_search` needs
`accepted.len() = k` (the `break` of `yens_algorithm.rs` is dead code) -/
theorem yens_criterion_never_fires (t : KspTerm) {k n : Nat} (h : n < k) : t.terminate k n = false := by
  cases ht : t.terminate k n with
  | false => rfl
  | true => have := eq_of_terminate ht; omega

/-- **Yen's algorithm ends**, for every `k`, every route length (one edge, two edges, origin =
destination included), every similarity function and criterion: the model's `while` loop — a turn
either accepts one more route or stops — never runs out of the `k + 1` turns of fuel.  (Each turn's
`for` loop is over the finitely many spur indices of one route, each search is the terminating
`run_a_star`.) -/
theorem yens_terminates (c : Config α) (sim : List Nat → List Nat → Except ErrKind Bool)
    (term : KspTerm) (source target k : Nat) (scheds : List (List Nat)) (why : String) :
    yens c sim term source target k scheds ≠ .diverges why := by
  unfold yens
  split
  · exact fun h => by cases h
  · split
    · exact fun h => by cases h
    · exact yenWhile_terminates _ _ _ _ (by simp only [List.length_singleton]; omega) why

/-- **between one and k routes** -/
theorem yens_count {c : Config α} (hf : c.fwd.AdjConsistent)
    {sim : List Nat → List Nat → Except ErrKind Bool} {term : KspTerm} {source target k : Nat}
    {scheds : List (List Nat)} {r : AlgResult α}
    (h : yens c sim term source target k scheds = .ok r) :
    r.routes.length ≤ k ∧ (1 ≤ k → 1 ≤ r.routes.length) := by
  obtain ⟨_, _, _, _, hA, _⟩ := yens_ok hf h
  exact hA.count

/-- **best first**: the first returned route is the route of the underlying search, and the tree
returned is that search's tree (every configuration, Dijkstra and A*) -/
theorem yens_first_route {c : Config α} (hf : c.fwd.AdjConsistent)
    {sim : List Nat → List Nat → Except ErrKind Bool} {term : KspTerm} {source target k : Nat}
    (hk : 1 ≤ k) {scheds : List (List Nat)} {r : AlgResult α}
    (h : yens c sim term source target k scheds = .ok r) :
    ∃ fres, runVertexOriented c.fwd.inst source (some target) (scheds.headD []) = .ok fres ∧
      r.routes.head? = fres.route ∧ r.trees = [fres.final.sol] := by
  obtain ⟨fres, first, h1, h2, hA, ht⟩ := yens_ok hf h
  exact ⟨fres, h1, h2 ▸ hA.head hk, ht⟩

/-- **the first route is a least-cost route** — PARTIAL, exactly as
`single_via_first_least_cost_partial`: for edge-local configurations (no access model, no turn
restriction), a non-negative weight factor and an estimate admissible for the destination.  Excluded
for the reasons given there (C02 proves nothing else); without any premise the first route is the
underlying search's route (`yens_first_route`). -/
theorem yens_first_least_cost_partial {c : Config α}
    {sim : List Nat → List Nat → Except ErrKind Bool} {term : KspTerm} {source target k : Nat}
    (hk : 1 ≤ k) (hts : target ≠ source) {scheds : List (List Nat)} {r : AlgResult α}
    (hEL : c.fwd.EdgeLocal) (hwf : 0 ≤ c.fwd.wfOf)
    (hadm : SearchOpt.Admissible c.fwd.inst c.fwd.okOf c.fwd.costOf c.fwd.hOf target)
    (h : yens c sim term source target k scheds = .ok r) :
    ∃ first, r.routes.head? = some first ∧ first ≠ [] ∧
      SearchOpt.Walk c.fwd.inst c.fwd.okOf source (first.map (·.edge)) target ∧
      (first.map (fun b => b.access + b.traversal)).sum =
        SearchOpt.cost c.fwd.costOf (first.map (·.edge)) ∧
      ∀ es, SearchOpt.Walk c.fwd.inst c.fwd.okOf source es target →
        (first.map (fun b => b.access + b.traversal)).sum ≤ SearchOpt.cost c.fwd.costOf es := by
  obtain ⟨fres, h1, h2, _⟩ := yens_first_route hEL.adj hk h
  obtain ⟨first, hr, rest⟩ := config_route_least_cost c.fwd hEL hwf hts hadm h1
  exact ⟨first, by rw [h2, hr], rest⟩

/-- the same for Dijkstra as the underlying search: no admissibility premise -/
theorem yens_first_least_cost_dijkstra_partial {c : Config α}
    {sim : List Nat → List Nat → Except ErrKind Bool} {term : KspTerm} {source target k : Nat}
    (hk : 1 ≤ k) (hts : target ≠ source) {scheds : List (List Nat)} {r : AlgResult α}
    (hEL : c.fwd.EdgeLocal) (hwf : c.fwd.wf = some 0)
    (h : yens c sim term source target k scheds = .ok r) :
    ∃ first, r.routes.head? = some first ∧ first ≠ [] ∧
      SearchOpt.Walk c.fwd.inst c.fwd.okOf source (first.map (·.edge)) target ∧
      (first.map (fun b => b.access + b.traversal)).sum =
        SearchOpt.cost c.fwd.costOf (first.map (·.edge)) ∧
      ∀ es, SearchOpt.Walk c.fwd.inst c.fwd.okOf source es target →
        (first.map (fun b => b.access + b.traversal)).sum ≤ SearchOpt.cost c.fwd.costOf es :=
  yens_first_least_cost_partial hk hts hEL (by simp [Config.wfOf, hwf])
    (c.fwd.admissible_dijkstra hwf target) h

/-- **k ≤ 1**: exactly the underlying search's route for k = 1, no route for k = 0, the search's
tree and one iteration -/
theorem yens_k_le_one {c : Config α} {sim : List Nat → List Nat → Except ErrKind Bool}
    {term : KspTerm} {source target k : Nat} (hk : k ≤ 1) {scheds : List (List Nat)}
    {fres : SearchResult α} {first : List (Branch α)}
    (hrun : runVertexOriented c.fwd.inst source (some target) (scheds.headD []) = .ok fres)
    (hfirst : fres.route = some first) :
    yens c sim term source target k scheds =
      .ok { trees := [fres.final.sol], routes := [first].take k, iterations := 1 } := by
  unfold yens
  simp only [hrun, hfirst]
  unfold yenWhile
  have : ¬ (1 < k) := by omega
  simp [this]

/-- **every returned route is a contiguous loop-free walk origin ⇝ destination** in graph
orientation: no vertex is left twice (`route_contains_loop` is false), hence no edge is repeated -/
theorem yens_routes_valid {c : Config α} (hf : c.fwd.AdjConsistent)
    {sim : List Nat → List Nat → Except ErrKind Bool} {term : KspTerm} {source target k : Nat}
    (hts : target ≠ source) {scheds : List (List Nat)} {r : AlgResult α}
    (h : yens c sim term source target k scheds = .ok r) :
    ∀ route ∈ r.routes,
      GWalk c.edges source (route.map (·.edge)) target ∧
      (∃ vs, srcVertices c.fwd route = .ok vs ∧ vs.Nodup) ∧
      (route.map (·.edge)).Nodup := by
  obtain ⟨fres, first, h1, h2, hA, _⟩ := yens_ok hf h
  intro route hroute
  obtain ⟨hw, hl⟩ := hA.all (P := fun route => GWalk c.edges source (route.map (·.edge)) target ∧
    routeContainsLoop c.fwd route = .ok false) (let ⟨hg, hl⟩ := first_route_good hf h1 h2; ⟨hg.walk, hl⟩)
    (fun _ _ hx _ => ⟨hx.good.walk, hx.loopfree⟩) route hroute
  exact ⟨hw, routeContainsLoop_false hl⟩

/-- what the alternatives of a Yen result are: each is a proper alternative (`Ksp.YenAlt`) of the
routes returned before it -/
theorem yens_alternatives {c : Config α} (hf : c.fwd.AdjConsistent)
    {sim : List Nat → List Nat → Except ErrKind Bool} {term : KspTerm} {source target k : Nat}
    {scheds : List (List Nat)} {r : AlgResult α}
    (h : yens c sim term source target k scheds = .ok r) :
    ∀ route ∈ r.routes.tail, ∃ before, before <+: r.routes ∧
      YenAlt c sim source target before route := by
  obtain ⟨_, _, _, _, hA, _⟩ := yens_ok hf h
  exact hA.tail_alt

/-- **the spur part of an alternative carries correctly accumulated state** (every configuration,
Dijkstra and A*; the state inside the root path and of the first route is
`yens_routes_state_partial`): every route after the first is the first `i + 1` elements of a
route returned before it followed by a part each of whose elements is
`EdgeTraversal::forward_traversal` of its edge from the previous element's edge and state, starting
from the last edge and state of that root path (the junction's access cost and turn delay included) -/
theorem yens_alternative_state {c : Config α} (hf : c.fwd.AdjConsistent)
    {sim : List Nat → List Nat → Except ErrKind Bool} {term : KspTerm} {source target k : Nat}
    {scheds : List (List Nat)} {r : AlgResult α}
    (h : yens c sim term source target k scheds = .ok r) :
    ∀ route ∈ r.routes.tail, ∃ prev ∈ r.routes, ∃ i spurRoute,
      route = prev.take (i + 1) ++ spurRoute ∧
      Reaccumulated c.fwd (lastEdge (prev.take (i + 1))) (lastState c.fwd (prev.take (i + 1)))
        spurRoute := by
  intro route hroute
  obtain ⟨before, hpre, halt⟩ := yens_alternatives hf h route hroute
  obtain ⟨prev, hprev, i, spurRoute, h1, h2⟩ := halt.shape
  exact ⟨prev, hpre.subset hprev, i, spurRoute, h1, h2⟩

/-- **every returned route carries correctly accumulated state** — PARTIAL, exactly as
`single_via_routes_state_partial`: when the underlying search's estimate is a consistent function of
the vertex (Dijkstra: `H = 0`), every returned route — the first, and every alternative: root path,
junction and spur part — is the forward accumulation from the initial state.  Origin = destination
included.  Excluded: A* with an estimate that is inconsistent for the network, where the clause is
false (`routes_state_stale_link_counterexample`). -/
theorem yens_routes_state_partial {c : Config α} (hf : c.fwd.AdjConsistent)
    {H : Nat → α} (hH : SearchDiscipline.Heur c.fwd.inst true H)
    {sim : List Nat → List Nat → Except ErrKind Bool} {term : KspTerm} {source target k : Nat}
    {scheds : List (List Nat)} {r : AlgResult α}
    (h : yens c sim term source target k scheds = .ok r) :
    ∀ route ∈ r.routes, Reaccumulated c.fwd none (initialState c.fwd.feats) route := by
  obtain ⟨fres, first, h1, h2, hA, _⟩ := yens_ok hf h
  exact hA.all ((first_route_links (c.fwd.inst_wf hf) hH h1 h2).2) fun _ _ hx hb =>
    hx.reaccumulated hb

/-- COUNTEREXAMPLE to "every route with correctly accumulated state" without the discipline (the C03
finding `route/stale-link-after-reopening` through both algorithms; oracle keys
`yens/stale-link-after-reopening`, `ksp/stale-link-after-reopening`): on the C03 witness — A* whose
estimate is inconsistent for the network — Yen's algorithm and single-via both return
`[e1, e2, e3, e4]` whose third element reports distance 1100 and time 0, whereas `e3` traversed
after `e2` from the state the route itself reports there gives distance 300 and time 2000 -/
theorem routes_state_stale_link_counterexample :
    Example.yenStatesOf (yens Example.stale simAcceptAll .exact 0 4 1 [[0, 2, 1, 2, 3, 4]]) =
      some [[(1, [100, 0]), (2, [200, 0]), (3, [1100, 0]), (4, [1200, 0])]] ∧
    Example.svStatesOf (singleVia Example.stale [0, 0, 0, 0, 0] simAcceptAll .exact 0 4 1
      [0, 2, 1, 2, 3, 4] [4, 3, 2, 0] []) =
      some [[(1, [100, 0]), (2, [200, 0]), (3, [1100, 0]), (4, [1200, 0])]] ∧
    (edgeTraversal Example.stale.fwd 3 (some 2) [200, 0]).toOption.map (·.2.2) = some [300, 2000] := by
  decide +kernel

/-- **every alternative is permitted by the frontier model, pairwise, in travel order** — the
junction of root path and spur path included; in particular it takes no turn listed by a
turn-restriction model of the configuration -/
theorem yens_routes_permitted {c : Config α} (hf : c.fwd.AdjConsistent)
    {sim : List Nat → List Nat → Except ErrKind Bool} {term : KspTerm} {source target k : Nat}
    {scheds : List (List Nat)} {r : AlgResult α}
    (h : yens c sim term source target k scheds = .ok r) :
    ∀ route ∈ r.routes.tail,
      PermittedFrom c.fwd (initialState c.fwd.feats) none route ∧
      ∀ pairs, FrontierM.turnRestriction pairs ∈ c.frontier →
        ∀ i (hi : i + 1 < route.length), (route[i].edge, route[i + 1].edge) ∉ pairs := by
  intro route hroute
  obtain ⟨_, _, halt⟩ := yens_alternatives hf h route hroute
  exact ⟨halt.permitted,
    fun pairs hm => (halt.permitted.no_restricted_turn hm).getElem⟩

/-- **the first route is permitted too under the Dijkstra discipline** (weight factor 0), in
`PermittedFrom` form, as `single_via_first_route_permitted` -/
theorem yens_first_route_permitted {c : Config α} (hf : c.fwd.AdjConsistent)
    (hwf : c.wf = some 0) {sim : List Nat → List Nat → Except ErrKind Bool}
    {term : KspTerm} {source target k : Nat} (hk : 1 ≤ k) (hts : target ≠ source)
    {scheds : List (List Nat)} {r : AlgResult α}
    (h : yens c sim term source target k scheds = .ok r) :
    ∃ first, r.routes.head? = some first ∧
      PermittedFrom c.fwd (initialState c.fwd.feats) none first ∧
      ∀ pairs, FrontierM.turnRestriction pairs ∈ c.frontier →
        ∀ i (hi : i + 1 < first.length), (first[i].edge, first[i + 1].edge) ∉ pairs := by
  obtain ⟨fres, first, h1, hfirst, hA, _⟩ := yens_ok hf h
  have hperm := (first_route_links (c.fwd.inst_wf hf)
    ((SearchDiscipline.config_zeroH c.fwd hwf).heur (c.fwd.inst_wf hf) true) h1 hfirst).1
  exact ⟨first, hA.head hk, hperm,
    fun pairs hm => (hperm.no_restricted_turn hm).getElem⟩

/-- COUNTEREXAMPLE to "`AcceptAll` returns at least as many routes as any threshold" for Yen's
algorithm (oracle key `yens/accept-all-returns-fewer`, corpus `yen-accept-all-fewer`; the real code
returns the same two results).  `Example.net7`: `0 -e0→ 1 -e1→ 2 -e2→ 3 -e3→ 4` (lengths 1, 1/10,
2/5, 2/5), the direct edge `e4 : 1 → 4` (1) and the detours `2 -e5→ 5 -e6→ 4` (2, 2),
`2 -e7→ 6 -e8→ 4` (3, 3); Dijkstra, `Exact`, k = 3, consistent adjacency, the SAME replayed schedules.
`AcceptAll` returns TWO routes: its second route is the cheapest candidate `[e0, e4]`, which has two
edges, so the next turn has no spur index (`0..len.saturating_sub(2)`) and accepts nothing.
The distance-weighted cosine threshold 1/2 returns THREE — here through `Example.simCos7`, a
hand-written root-free SURROGATE of `SimFn.distanceWeightedCosine (1/2)` (ℚ has no square root, so
no Lean statement ties the two; the tie is the corpus run, where the real
`DistanceWeightedCosineSimilarity { threshold: 0.5 }` and the Float model give the same three
routes): it turns `[e0, e4]`
down (rank 0.61), accepts `[e0, e1, e5, e6]` (0.29) and, spurring off that, `[e0, e1, e7, e8]`. -/
theorem yens_accept_all_fewer_counterexample :
    (Example.net7).fwd.AdjConsistent ∧
    Example.obsOf (yens Example.net7 simAcceptAll .exact 0 4 3
      [[0, 1, 2, 3, 4], [1, 4], [2, 5, 6, 4], [1, 4], [2, 6, 4]]) =
        .routes [[0, 1, 2, 3], [0, 4]] ∧
    Example.obsOf (yens Example.net7 Example.simCos7 .exact 0 4 3
      [[0, 1, 2, 3, 4], [1, 4], [2, 5, 6, 4], [1, 4], [2, 6, 4]]) =
        .routes [[0, 1, 2, 3], [0, 1, 5, 6], [0, 1, 7, 8]] :=
  ⟨adjConsistent_of_lists _ (by decide +kernel), by decide +kernel⟩

/-- **no two returned routes have the same edge sequence, and no two are similar**: every accepted
route was tested (`test_similarity(earlier, later)`, in that argument order) against EVERY route
accepted before it -/
theorem yens_distinct_dissimilar {c : Config α} (hf : c.fwd.AdjConsistent)
    {sim : List Nat → List Nat → Except ErrKind Bool} {term : KspTerm} {source target k : Nat}
    {scheds : List (List Nat)} {r : AlgResult α}
    (h : yens c sim term source target k scheds = .ok r) :
    r.routes.Pairwise (fun earlier later =>
      earlier.map (·.edge) ≠ later.map (·.edge) ∧
      sim (earlier.map (·.edge)) (later.map (·.edge)) = .ok false) := by
  obtain ⟨_, _, _, _, hA, _⟩ := yens_ok hf h
  exact hA.pairwise fun _ _ hx a ha => ⟨hx.fresh a ha, hx.dissimilar a ha⟩

/-- **which failures propagate**: the error of the first search (the query is then not answerable
by the underlying search either), an error `e` with `e.stopsQuery = true` — a limit of the
termination model (C10), a Rust panic or, in the model, an invalid replay — that IS the outcome of a
search on a cut configuration (the statement does not tie that search to the spur searches the run
performed: its content is the error KIND), or an
error of the similarity function on two id lists that consist of edges of the graph (an accepted
route and the candidate).  A spur search that finds no path — or fails in any other way —,
a failed re-traversal, a loop, a refusal of the frontier model only cost a candidate. -/
theorem yens_failures {c : Config α} (hf : c.fwd.AdjConsistent)
    {sim : List Nat → List Nat → Except ErrKind Bool} {term : KspTerm} {source target k : Nat}
    {scheds : List (List Nat)} {e : ErrKind}
    (h : yens c sim term source target k scheds = .err e) :
    runVertexOriented c.fwd.inst source (some target) (scheds.headD []) = .error e ∨
    (∃ cut v sched, runVertexOriented (cutCfg c cut).inst v (some target) sched = .error e ∧
      e.stopsQuery = true) ∨
    (∃ a b, GraphIds c.edges a ∧ GraphIds c.edges b ∧ sim a b = .error e) := by
  have := yens_spec hf sim term source target k scheds
  rw [h] at this
  exact this

/-- hence **an answerable query is never turned into another error because a spur search failed** —
a "NO OTHER ERROR" theorem, not "a result is returned": the conclusion is a result OR one of the
model's two verdicts on the replay, and no theorem shows that an accepted complete spur replay
exists (leaving the spur schedules out gives `scheduleExhausted` with every premise true; the
correspondence run replays the schedules the code itself took).  Premises: the underlying search
answers the query, the similarity function does not fail on id lists made of edges of the graph
(`hsim`; all three configured functions meet it with no further premise:
`yens_answers_answerable_configured`) and no search
on a cut configuration ends with a limit of the termination model or a panic (`hspur`).
The premise `hspur` is satisfiable: `yens_answers_answerable_without_limits` discharges it, but only
for the configurations named there.  (Requiring `e.stopsQuery = false` of every failing run on
every replay instead would be vacuous: the empty schedule refutes it.) -/
theorem yens_answers_answerable {c : Config α} (hf : c.fwd.AdjConsistent)
    {sim : List Nat → List Nat → Except ErrKind Bool}
    (hsim : ∀ a b, GraphIds c.edges a → GraphIds c.edges b → ∃ x, sim a b = .ok x)
    {term : KspTerm} {source target k : Nat} {scheds : List (List Nat)} {fres : SearchResult α}
    (hfwd : runVertexOriented c.fwd.inst source (some target) (scheds.headD []) = .ok fres)
    (hspur : ∀ cut v sched e, runVertexOriented (cutCfg c cut).inst v (some target) sched = .error e →
      (∀ ks, e ≠ .terminated ks) ∧ (∀ s, e ≠ .panic s)) :
    (∃ r, yens c sim term source target k scheds = .ok r) ∨
    yens c sim term source target k scheds = .err .scheduleExhausted ∨
    yens c sim term source target k scheds = .err .badSchedule := by
  cases hres : yens c sim term source target k scheds with
  | ok r => exact Or.inl ⟨r, rfl⟩
  | diverges why => exact absurd hres (yens_terminates c sim term source target k scheds why)
  | err e =>
    rcases yens_failures hf hres with h | ⟨cut, v, sched, h, hs⟩ | ⟨a, b, ha, hb, h⟩
    · rw [hfwd] at h; cases h
    · obtain ⟨h1, h2⟩ := hspur cut v sched e h
      rcases (stopsQuery_iff e).1 hs with hk | rfl | rfl
      · rcases (isStop_iff e).1 hk with ⟨ks, rfl⟩ | ⟨s, rfl⟩
        · exact absurd rfl (h1 ks)
        · exact absurd rfl (h2 s)
      · exact Or.inr (Or.inl rfl)
      · exact Or.inr (Or.inr rfl)
    · obtain ⟨x, hx⟩ := hsim a b ha hb
      rw [hx] at h; cases h

/-- **a configuration without limits**.  The premise `hterm` quantifies over ALL counters and is met
only by the EMPTY combined termination model `Combined []` (or a runtime limit whose clock stands
still): every iteration, size or advancing runtime limit fires at some counters.  The `[termination]`
section being mandatory in the application, this is the configuration `{type = "combined", models =
[]}` only; a form bounded by the counters a run can reach would need a bound on the iterations of
an A* search with an inconsistent estimate and is not proved here.  For it:
limits and panics can only come from the termination model (`Ksp.no_limit_never_stopped`: the
frontier, traversal, access, cost and estimate models report their own error kinds, the backtrack
of a valid tree never fails), so whenever the underlying search answers the query and the similarity
function does not fail, Yen's algorithm answers it — whatever happens to the spur searches -/
theorem yens_answers_answerable_without_limits {c : Config α} (hf : c.fwd.AdjConsistent)
    (hterm : ∀ sz it, c.term.test sz it = .ok ())
    {sim : List Nat → List Nat → Except ErrKind Bool}
    (hsim : ∀ a b, GraphIds c.edges a → GraphIds c.edges b → ∃ x, sim a b = .ok x)
    {term : KspTerm} {source target k : Nat} {scheds : List (List Nat)} {fres : SearchResult α}
    (hfwd : runVertexOriented c.fwd.inst source (some target) (scheds.headD []) = .ok fres) :
    (∃ r, yens c sim term source target k scheds = .ok r) ∨
    yens c sim term source target k scheds = .err .scheduleExhausted ∨
    yens c sim term source target k scheds = .err .badSchedule :=
  yens_answers_answerable hf hsim hfwd (no_limit_never_stopped c hf hterm target)

/-! ### the same for the three CONFIGURED similarity functions, with no similarity premise

`runAlgCfg` hands the algorithms `sim := f.test c.edges`; by `similarity_never_fails_on_graph_edges`
that function answers on id lists made of edges of the graph, for `AcceptAll`, the edge-id cosine
and the distance-weighted cosine alike, every threshold: the premise `hsim` of the answerable theorems. -/

/-- `single_via_answers_answerable` for `sim := f.test c.edges`, any `f` -/
theorem single_via_answers_answerable_configured [HasSqrt α] {c : Config α} {g : List α}
    (hf : c.fwd.AdjConsistent) (hr : (c.rev g).AdjConsistent) (f : SimFn α)
    {term : KspTerm} {source target k : Nat} (hts : target ≠ source) {fs rs pops : List Nat}
    {fres : SearchResult α}
    (hfwd : runVertexOriented c.fwd.inst source (some target) fs = .ok fres)
    (hrev : ∀ e, runVertexOriented (c.rev g).inst target (some source) rs = .error e →
      e.stopsQuery = false) :
    (∃ r, singleVia c g (f.test c.edges) term source target k fs rs pops = .ok r) ∨
    singleVia c g (f.test c.edges) term source target k fs rs pops = .error .scheduleExhausted ∨
    singleVia c g (f.test c.edges) term source target k fs rs pops = .error .badSchedule :=
  single_via_answers_answerable hf hr (fun _ _ ha hb => (similarity_never_fails_on_graph_edges f c.edges ha hb).2) hts hfwd hrev

/-- `yens_answers_answerable` for `sim := f.test c.edges`, any `f` -/
theorem yens_answers_answerable_configured [HasSqrt α] {c : Config α} (hf : c.fwd.AdjConsistent)
    (f : SimFn α) {term : KspTerm} {source target k : Nat} {scheds : List (List Nat)}
    {fres : SearchResult α}
    (hfwd : runVertexOriented c.fwd.inst source (some target) (scheds.headD []) = .ok fres)
    (hspur : ∀ cut v sched e, runVertexOriented (cutCfg c cut).inst v (some target) sched = .error e →
      (∀ ks, e ≠ .terminated ks) ∧ (∀ s, e ≠ .panic s)) :
    (∃ r, yens c (f.test c.edges) term source target k scheds = .ok r) ∨
    yens c (f.test c.edges) term source target k scheds = .err .scheduleExhausted ∨
    yens c (f.test c.edges) term source target k scheds = .err .badSchedule :=
  yens_answers_answerable hf (fun _ _ ha hb => (similarity_never_fails_on_graph_edges f c.edges ha hb).2) hfwd hspur

/-- `yens_answers_answerable_without_limits` for `sim := f.test c.edges`, any `f` (the premise
`hterm`: the empty combined termination model only, see there) -/
theorem yens_answers_answerable_without_limits_configured [HasSqrt α] {c : Config α}
    (hf : c.fwd.AdjConsistent) (hterm : ∀ sz it, c.term.test sz it = .ok ()) (f : SimFn α)
    {term : KspTerm} {source target k : Nat} {scheds : List (List Nat)} {fres : SearchResult α}
    (hfwd : runVertexOriented c.fwd.inst source (some target) (scheds.headD []) = .ok fres) :
    (∃ r, yens c (f.test c.edges) term source target k scheds = .ok r) ∨
    yens c (f.test c.edges) term source target k scheds = .err .scheduleExhausted ∨
    yens c (f.test c.edges) term source target k scheds = .err .badSchedule :=
  yens_answers_answerable_without_limits hf hterm (fun _ _ ha hb => (similarity_never_fails_on_graph_edges f c.edges ha hb).2) hfwd

/-! ### Non-vacuity (Yen): `0 -e0→ 1 -e1→ 2 -e2→ 3` with the alternative `1 -e3→ 4 -e4→ 3`, k = 2 -/

example : ∃ r, yens (Example.alt3 []) simAcceptAll .exact 0 3 2 [[0, 1, 2, 4, 3], [1, 4, 3]] = .ok r ∧
    r.routes.map (·.map (·.edge)) = [[0, 1, 2], [0, 3, 4]] ∧ r.routes.length ≤ 2 ∧
    (∀ route ∈ r.routes.tail, PermittedFrom (Example.alt3 []).fwd
      (initialState (Example.alt3 []).fwd.feats) none route) ∧
    r.routes.Pairwise (fun a b => a.map (·.edge) ≠ b.map (·.edge) ∧
      simAcceptAll (a.map (·.edge)) (b.map (·.edge)) = .ok false) := by
  obtain ⟨r, hr, hids⟩ := Example.ok_of_obsOf Example.yen_state_accumulated.1
  exact ⟨r, hr, hids, (yens_count Example.alt3_adj hr).1,
    fun route hroute => (yens_routes_permitted Example.alt3_adj hr route hroute).1,
    yens_distinct_dissimilar Example.alt3_adj hr⟩

/-- the least-cost, state and answerable theorems apply to that run: `alt3 []` is an edge-local
Dijkstra configuration without limits, `AcceptAll` never fails, the first search answers — every
hypothesis of `yens_first_least_cost_dijkstra_partial`, `yens_routes_state_partial`,
`yens_first_route_permitted` instantiated, and the premise `hspur` of `yens_answers_answerable` met
(last clause, by `no_limit_never_stopped`, as in `yens_answers_answerable_without_limits`) -/
example : ∃ r first, yens (Example.alt3 []) simAcceptAll .exact 0 3 2 [[0, 1, 2, 4, 3], [1, 4, 3]] =
      .ok r ∧ r.routes.length = 2 ∧ r.routes.head? = some first ∧
    (∀ es, SearchOpt.Walk (Example.alt3 []).fwd.inst (Example.alt3 []).fwd.okOf 0 es 3 →
      (first.map (fun b => b.access + b.traversal)).sum ≤
        SearchOpt.cost (Example.alt3 []).fwd.costOf es) ∧
    PermittedFrom (Example.alt3 []).fwd (initialState (Example.alt3 []).fwd.feats) none first ∧
    (∀ route ∈ r.routes, Reaccumulated (Example.alt3 []).fwd none
      (initialState (Example.alt3 []).fwd.feats) route) ∧
    (∀ cut v sched e,
      runVertexOriented (cutCfg (Example.alt3 []) cut).inst v (some 3) sched = .error e →
        (∀ ks, e ≠ .terminated ks) ∧ (∀ s, e ≠ .panic s)) := by
  obtain ⟨r, hr, hids⟩ := Example.ok_of_obsOf Example.yen_state_accumulated.1
  have hEL : (Example.alt3 []).fwd.EdgeLocal := ⟨Example.alt3_adj, rfl, rfl⟩
  have hwf : (Example.alt3 []).fwd.wf = some 0 := rfl
  have hterm : ∀ sz it, (Example.alt3 []).term.test sz it = .ok () :=
    SearchLimits.combined_nil_test
  obtain ⟨first, h1, _, _, _, hmin⟩ :=
    yens_first_least_cost_dijkstra_partial (by decide) (by decide) hEL hwf hr
  obtain ⟨first', h1', hperm, _⟩ :=
    yens_first_route_permitted Example.alt3_adj rfl (by decide) (by decide) hr
  rw [h1] at h1'; cases h1'
  refine ⟨r, first, hr, by simpa using congrArg List.length hids, h1, hmin, hperm, ?_,
    no_limit_never_stopped _ Example.alt3_adj hterm 3⟩
  exact yens_routes_state_partial Example.alt3_adj
    ((SearchDiscipline.config_zeroH _ hwf).heur (Config.inst_wf _ Example.alt3_adj) true) hr

/-- the configured corollaries apply with the DISTANCE-WEIGHTED COSINE (threshold 1/2, any square
root function): on `alt3 []` (Yen; no limits, the first search answers) and on the diamond
(single-via; both searches answer) every premise of `yens_answers_answerable_configured`,
`yens_answers_answerable_without_limits_configured` and `single_via_answers_answerable_configured`
is met, and no similarity premise is left -/
example [HasSqrt ℚ] :
    ((∃ r, yens (Example.alt3 []) ((SimFn.distanceWeightedCosine (1 / 2)).test (Example.alt3 []).edges)
        .exact 0 3 2 [[0, 1, 2, 4, 3], [1, 4, 3]] = .ok r) ∨
      yens (Example.alt3 []) ((SimFn.distanceWeightedCosine (1 / 2)).test (Example.alt3 []).edges)
        .exact 0 3 2 [[0, 1, 2, 4, 3], [1, 4, 3]] = .err .scheduleExhausted ∨
      yens (Example.alt3 []) ((SimFn.distanceWeightedCosine (1 / 2)).test (Example.alt3 []).edges)
        .exact 0 3 2 [[0, 1, 2, 4, 3], [1, 4, 3]] = .err .badSchedule) ∧
    ((∃ r, singleVia Example.diamond (List.replicate 4 0)
        ((SimFn.distanceWeightedCosine (1 / 2)).test Example.diamond.edges) .exact 0 3 2
        [0, 1, 3] [3, 1, 0] [1, 2] = .ok r) ∨
      singleVia Example.diamond (List.replicate 4 0)
        ((SimFn.distanceWeightedCosine (1 / 2)).test Example.diamond.edges) .exact 0 3 2
        [0, 1, 3] [3, 1, 0] [1, 2] = .error .scheduleExhausted ∨
      singleVia Example.diamond (List.replicate 4 0)
        ((SimFn.distanceWeightedCosine (1 / 2)).test Example.diamond.edges) .exact 0 3 2
        [0, 1, 3] [3, 1, 0] [1, 2] = .error .badSchedule) := by
  constructor
  · obtain ⟨r, hr, _⟩ := Example.ok_of_obsOf Example.yen_state_accumulated.1
    obtain ⟨fres, hfwd, _⟩ := yens_first_route Example.alt3_adj (by decide) hr
    have hterm : ∀ sz it, (Example.alt3 []).term.test sz it = .ok () :=
      SearchLimits.combined_nil_test
    exact yens_answers_answerable_without_limits_configured Example.alt3_adj hterm _ hfwd
  · obtain ⟨r, hr, _⟩ := Example.ok_of_idsOf Example.diamond_accept_all
    obtain ⟨fres, hfwd, hcase⟩ := single_via_terminates hr
    have hrA := rev_adj_irrel _ [] (List.replicate 4 (0 : ℚ)) Example.diamond_adj.2
    refine single_via_answers_answerable_configured Example.diamond_adj.1 hrA _ (by decide) hfwd ?_
    intro e he
    rcases hcase with ⟨⟨e0, he0, hs⟩, _⟩ | ⟨rres, _, hrres, _⟩
    · rw [he0] at he; cases he; exact hs
    · rw [hrres] at he; cases he

/-! ### Witnesses for Yen's algorithm (corpus keys of the harness in brackets) -/

/-- [`yens/diverges-one-edge-route`, `yens/diverges-two-edge-route`, `yens/error-without-spur-search`]
one-edge and two-edge shortest routes and origin = destination with k = 2: the call returns, with
the one route there is to offer from these spur ranges -/
theorem yens_short_route_witness :
    (Example.obsOf (yens Example.oneEdge simAcceptAll .exact 0 1 2 [[0, 1]]) = .routes [[0]] ∧
      Example.obsOf (yens Example.oneEdge (Example.shareAtLeast 1) .exact 0 1 2 [[0, 1]]) =
        .routes [[0]]) ∧
    Example.obsOf (yens Example.diamond simAcceptAll .exact 0 3 2 [[0, 1, 3]]) = .routes [[0, 1]] ∧
    Example.obsOf (yens Example.pair simAcceptAll .exact 0 0 2 [[]]) = .routes [[]] := by
  decide +kernel

/-- [`yens/diverges-later-short-route`, `yens/diverges-no-progress`] a later two-edge route, and a
turn whose only candidate is similar to an accepted route: the loop stops with what it has -/
theorem yens_no_progress_witness :
    Example.obsOf (yens Example.shortcut simAcceptAll .exact 0 3 3 [[0, 1, 2, 3], [1, 3]]) =
      .routes [[0, 1, 2], [0, 3]] ∧
    Example.obsOf (yens (Example.alt3 []) (Example.shareAtLeast 1) .exact 0 3 2
      [[0, 1, 2, 4, 3], [1, 4, 3]]) = .routes [[0, 1, 2]] := by
  decide +kernel

/-- [`yens/spur-failure-propagated`] `0 → 1 → 2 → 3` without any alternative, k = 2: the spur search
from 1 finds no path, and the query is answered with the shortest route -/
theorem yens_spur_failure_witness :
    Example.idsOf (Example.line3.runVertex 0 (some 3) [0, 1, 2, 3]) = .ok [[0, 1, 2]] ∧
    Example.obsOf (yens Example.line3 simAcceptAll .exact 0 3 2 [[0, 1, 2, 3], [1, 3]]) =
      .routes [[0, 1, 2]] := by
  decide +kernel

/-- [`yens/more-than-k`, `yens/duplicate-route`] the four-edge route with alternatives at both spur
vertices: k = 2 returns the shortest route and the cheaper alternative, k = 3 all three — once each;
k = 0 returns nothing -/
theorem yens_at_most_k_witness :
    (Example.obsOf (yens (Example.twoSpurs 3 (3 / 2)) simAcceptAll .exact 0 4 2
        [[0, 1, 2, 3, 6, 4], [1, 5, 4], [2, 6, 4]]) = .routes [[0, 1, 2, 3], [0, 1, 6, 7]] ∧
      Example.obsOf (yens (Example.twoSpurs 3 (3 / 2)) simAcceptAll .exact 0 4 3
        [[0, 1, 2, 3, 6, 4], [1, 5, 4], [2, 6, 4], [1, 5, 4], [2]]) =
        .routes [[0, 1, 2, 3], [0, 1, 6, 7], [0, 4, 5]]) ∧
    Example.obsOf (yens (Example.twoSpurs 2 3) simAcceptAll .exact 0 4 2
      [[0, 1, 2, 5, 3, 4], [1, 5, 4], [2, 6, 4]]) = .routes [[0, 1, 2, 3], [0, 4, 5]] ∧
    Example.obsOf (yens Example.diamond simAcceptAll .exact 0 3 0 [[0, 1, 3]]) = .routes [] := by
  decide +kernel

/-- [`yens/state-not-accumulated`] the alternative `[e0, e3, e4]` (lengths 1, 2, 2) reports the
distances 1, 3, 5 -/
theorem yens_state_accumulated_witness :
    Example.obsOf (yens (Example.alt3 []) simAcceptAll .exact 0 3 2 [[0, 1, 2, 4, 3], [1, 4, 3]]) =
      .routes [[0, 1, 2], [0, 3, 4]] ∧
    Example.statesOf (yens (Example.alt3 []) simAcceptAll .exact 0 3 2 [[0, 1, 2, 4, 3], [1, 4, 3]]) =
      [[[1], [2], [3]], [[1], [3], [5]]] :=
  Example.yen_state_accumulated

/-- [`yens/loop-in-route`, `yens/similar-routes`, `yens/restricted-turn`] the candidate through the
origin, the candidate similar to the second accepted route, the candidate with the restricted
junction turn are all turned down -/
theorem yens_candidate_tests_witness :
    Example.obsOf (yens Example.loopy simAcceptAll .exact 0 3 2 [[0, 1, 4, 2, 3], [1, 0, 4, 3]]) =
      .routes [[0, 1, 2]] ∧
    Example.obsOf (yens Example.fan (Example.shareAtLeast 2) .exact 0 9 3
      [[0, 1, 2, 3, 6, 5, 4, 9], [1, 3, 6, 5, 4, 9], [1, 5, 9], [3, 4, 9]]) =
      .routes [[0, 1, 2], [0, 3, 8, 9], [0, 6, 7]] ∧
    Example.obsOf (yens (Example.alt3 [.turnRestriction [(0, 3)]]) simAcceptAll .exact 0 3 2
      [[0, 1, 2, 3], [1, 4, 3]]) = .routes [[0, 1, 2]] := by
  decide +kernel

end C13
end Compass

-- reopened so that the `variable` line above is out of scope: the statements below have no `α`
namespace Compass
namespace C13
open Src

/-! ### Source decision ties

What these theorems are for is said in `Props/C01.lean` under the same heading. -/

theorem src_ksp_exact (k n : Nat) : some (KspTerm.exact.terminate k n) = ksp_exact.nat n k := by
  simp [KspTerm.terminate, ksp_exact, Rel.nat]

theorem src_ksp_max_iteration (max k n : Nat) :
    some ((KspTerm.maxIteration max).terminate k n) =
      (ksp_exact.nat n k).bind fun a => (ksp_max_iteration.nat max k).map fun b => a && b := by
  simp [KspTerm.terminate, ksp_exact, ksp_max_iteration, Rel.nat]

theorem src_ksp_factor (f k n : Nat) :
    some ((KspTerm.factor f).terminate k n) =
      (ksp_exact.nat n k).bind fun a => (ksp_factor.nat (f * n) k).map fun b => a && b := by
  simp [KspTerm.terminate, ksp_exact, ksp_factor, Rel.nat]

/-- shared by every search property: the label test of `run_a_star`'s relaxation (`improves`) is the
source's `tentative_gscore < existing_gscore`; with `<=` an equal-cost arrival re-labels an expanded vertex -/
theorem src_relax_improves {α : Type} [Field α] [LinearOrder α] [IsStrictOrderedRing α] [Lit α] [LawfulLit α] (tent ex : α) :
    some (improves tent (some ex)) = relax_improves.num tent ex := by
  simp [improves, relax_improves, Rel.num]

/-! ### Generated function bodies

`tools/gen_fns.py` re-translates the body of the Rust function on every run into `Compass/Gen/FnsC13.lean`
(`Gen.<Type>_<fn>`; conventions in the header of the tool).  Each `gen_*_eq` theorem below says that the
generated definition *is* the hand-written model function the property theorems are about.  A source
change to the function changes the generated definition and the proof stops checking (a body the
translator no longer recognises is not emitted: the theorem no longer elaborates). -/

/-- `k` is a `usize`: the hypothesis is the range of the type (`saturating_mul` is translated with its bound;
the model multiplies in `Nat` — the two agree on every `k` a `usize` can hold) -/
theorem gen_terminate_search_eq (t : KspTerm) (k n : Nat) (hk : k ≤ 18446744073709551615) :
    Gen.KspTerminationCriteria_terminate_search t k n = t.terminate k n := by
  cases t with
  | exact => simp [Gen.KspTerminationCriteria_terminate_search, KspTerm.terminate, beq_eq_decide]
  | maxIteration max => simp [Gen.KspTerminationCriteria_terminate_search, KspTerm.terminate, beq_eq_decide]
  | factor f =>
    simp only [Gen.KspTerminationCriteria_terminate_search, KspTerm.terminate, beq_eq_decide]
    congr 1
    simp only [ge_iff_le, decide_eq_decide, Nat.min_def]
    split <;> omega

end C13
end Compass
