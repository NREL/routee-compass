/-
C20 — every output format renders the same route, with geometry in edge order.

Model: `Compass/Model/Output.lean` (`TraversalOutputFormat::{generate_route_output, generate_tree_output}`,
`traversal_ops`, `concat_linestrings`, `geometry_to_wkb_string`, `TraversalPlugin::process`,
`UUIDOutputPlugin::process`, the summary counts, `apply_output_processing`, the table loaders and the builders),
tied to the Rust code by the correspondence run of `harness/src/c20.rs`.

WHAT THE THEOREMS ARE ABOUT.  The model's outputs are *structured values*: an edge-id list, a list of traversal
records, a list of features `{id, properties, geometry}`, a point list (WKT), a point list **plus the hex string**
(WKB).  Points, costs and state variables are opaque bit patterns.  Theorems therefore speak about the geometry
that is handed to the serialisers, and — for WKB only — about the first-party hex text.

Clauses of the property and the theorems that carry them (every route, tree, geometry table, format, id table):
 * the edge-id list, the JSON records and the GeoJSON features follow the returned edge sequence:
   `geojson_features_in_route_order`, `route_edge_sequence`, `formats_agree_on_edge_sequence`,
   `id_and_geometry_formats_agree` (`edge_id_list_is_route_edges`, `json_records_in_route_order` restate the
   one-line Rust arms);
 * the geometry handed to the WKT / WKB / GeoJSON serialisers is the concatenation of the stored geometries in
   edge order, joint points included: `route_geometry_is_concatenation`, `route_geometry`,
   `route_geometry_keeps_every_point`, `formats_agree_on_geometry` (between WKT and WKB this agreement holds by
   construction — both arms call `create_route_linestring`; its content is the agreement with the GeoJSON
   features); the WKB hex text decodes to exactly the bytes of that geometry: `wkb_text_is_hex_of_geometry`,
   `hex_text_decodes`, `wkb_text_length`;
 * a missing geometry is an error, never a shorter or shifted geometry: `missing_geometry_is_error`,
   `geometry_rendered_iff_all_stored`, `tree_missing_geometry_is_error`, `tree_geometry_rendered_iff_all_stored`,
   `response_error_on_missing_geometry`, `response_error_on_missing_tree_geometry`,
   `response_has_route_or_is_error`, `response_route_is_rendering`, `response_tree_is_rendering`;
 * tree outputs have exactly one entry per branch, independent of the hash map's iteration order:
   `tree_output_one_entry_per_branch`, `tree_output_edge_ids`, `tree_output_lines`,
   `tree_output_order_independent`;
 * the attached identifiers are the stored ones: `uuid_attached_are_stored`, `uuid_error_iff`,
   `uuid_never_panics`, `uuid_direct_matches_pipeline`, `response_uuids_are_stored`, `response_ids_and_counts`;
 * summary counts: `summary_counts_single`, `summary_process_on_object` (`summary_counts` restates the model).

MODELLED RATHER THAN VERIFIED (no theorem has content about these; the evidence is the differential run, which
compares what the real code printed with the model, textually):
 * WKT text: `wkt_string()` of the `wkt` crate and its `f32` printing.  The harness parses the real string back
   (the `wkt` crate and a second tiny parser must agree) and compares points bit for bit.
 * GeoJSON text: the `geojson` crate's `Feature` serialisation and `serde_json`'s `f64` printing; parsed back the
   same way.  JSON records: `serde` derive output, parsed back.
 * WKB bytes: the layout of `wkb::geom_to_wkb` v0.7.1 (`wkbLineString`, `wkbMultiLineString`) and the `f32 → f64`
   widening (`widenF32`) are written down in the model and compared **as exact hex text** with the real output;
   that `geom_to_wkb` never fails on a (Multi)LineString written into a `Vec` is read off its source
   (`geomToWkb` is total; the `map_err` arm of `geometry_to_wkb_string` is in the model and unreachable).
   `geometry_rendered_iff_all_stored` for `wkb` rests on that.
 * Lookup-table files (section 7): a file is modelled as `{readable, intact, rows}` with every row already
   classified by the third-party WKT parser as "denotes this linestring" or "rejected".  What the theorems of
   section 7 add is only the first-party part — `read_raw_file` keeps every row at its index and aborts on the
   first failure, the plugin's table is that list.  Line splitting (`BufRead::lines`, CRLF), gzip decoding, the
   WKT grammar and which texts it rejects are evidenced by the differential run (plain / CRLF / gzip files, 14
   kinds of rejected row, missing file, gzip cut off in the middle, non-UTF-8 line) and by nothing else.
 * `construct_route_output` also serialises the last state and the cost; of their failures only
   `StateIndexOutOfBounds` is modelled (`costSlots`).  `StateVariableNotFound` and the `serialize_cost_info`
   errors are internal inconsistencies of a `CostModel` that `CostModel::new` cannot produce; they would only add
   error responses (every response theorem has the form "if ok then …" or "… ⇒ error").
 * serde's deserialisation of the format parameter is modelled from its documented externally-tagged rule and
   checked differentially (`fmtParam`).
 * Payloads that are not finite: `serde_json` prints a NaN or infinite cost / state variable as `null`
   (`renderF64`, `rendered_record`); modelled from its rule and checked differentially.  Coordinates that are not
   finite cannot come from a table file (`parse_wkt_linestring` rejects them); for a table handed over in
   memory only the WKB text is modelled (`widenF32` quiets a signalling NaN as the conversion does), the WKT text
   (`NaN`, `inf`) and the GeoJSON `null` coordinate are not.
 * A lookup file that exists but does not open (no read permission) is distinguished from a missing one
   (`TableFile.isFile` vs `readable`, `build_traversal_file_errors`); exercised by calling the real builders as
   uid 65534 on a mode-000 file.

No defect of the code against the literal statement of C20 was found, so there is no `_counterexample` theorem.
Two behaviours turn a whole response into an error response although nothing is wrong with the route or tree;
they are outside the literal statement (nothing wrong is ever attached or rendered) and are recorded as theorems
and in the manifest text: `empty_route_is_error_response` (origin = destination with a route format configured)
and `destinationless_query_with_uuid_plugin_is_error_response` (a tree-only query through a pipeline that contains
the uuid plugin never delivers its tree).
-/
import Compass.Proofs.Output

namespace Compass
namespace C20
open Output

/-! ### 1. every format follows the returned edge sequence -/

/-- restates the model line (the Rust arm is `route.iter().map(|e| e.edge_id).collect()`); its assurance is the
correspondence run -/
theorem edge_id_list_is_route_edges (g : Geoms) (r : List EdgeTraversal) :
    generateRouteOutput g .edgeId r = .ok (.edgeIds (r.map (·.edge))) := rfl

/-- restates the model line (the Rust arm is `serde_json::to_value(route)`): the records are the traversals
themselves, in order -/
theorem json_records_in_route_order (g : Geoms) (r : List EdgeTraversal) :
    generateRouteOutput g .json r = .ok (.records r) := rfl

theorem geojson_features_in_route_order (g : Geoms) (r : List EdgeTraversal) (o : RouteOut)
    (h : generateRouteOutput g .geoJson r = .ok o) :
    ∃ fs, o = .features fs ∧ fs.length = r.length ∧
      ∀ (i : Nat) (hr : i < r.length) (hf : i < fs.length),
        fs[i].id = r[i].edge ∧ fs[i].props = r[i] ∧ g r[i].edge = some fs[i].geom := by
  obtain ⟨hall, rfl⟩ := generateRouteOutput_ok h
  refine ⟨_, rfl, List.length_map _, fun i hr hf => ?_⟩
  rw [List.getElem_map]
  exact ⟨rfl, rfl, stored_getElem (key := (·.edge)) (hall rfl) hr⟩

/-- whatever edge sequence an output shows, it is the route's, in order -/
theorem route_edge_sequence (g : Geoms) (f : Fmt) (r : List EdgeTraversal) (o : RouteOut) (s : List Nat)
    (h : generateRouteOutput g f r = .ok o) (hs : o.edgeSeq? = some s) : s = r.map (·.edge) := by
  obtain ⟨_, rfl⟩ := generateRouteOutput_ok h
  rw [renderRoute_edgeSeq] at hs
  split at hs
  · cases hs
  · exact (Option.some.inj hs).symm

/-- pairwise: any two formats that show an edge sequence show the same one -/
theorem formats_agree_on_edge_sequence (g g' : Geoms) (f1 f2 : Fmt) (r : List EdgeTraversal) (o1 o2 : RouteOut)
    (s1 s2 : List Nat) (h1 : generateRouteOutput g f1 r = .ok o1) (h2 : generateRouteOutput g' f2 r = .ok o2)
    (e1 : o1.edgeSeq? = some s1) (e2 : o2.edgeSeq? = some s2) : s1 = s2 := by
  rw [route_edge_sequence g f1 r o1 s1 h1 e1, route_edge_sequence g' f2 r o2 s2 h2 e2]

/-- the id formats do not consult the geometry table and never fail -/
theorem id_formats_ignore_geometry (g g' : Geoms) (f : Fmt) (r : List EdgeTraversal) (hf : usesGeometry f = false) :
    generateRouteOutput g f r = generateRouteOutput g' f r ∧ ∃ o, generateRouteOutput g f r = .ok o := by
  cases f <;> simp [usesGeometry] at hf <;> exact ⟨rfl, _, rfl⟩

/-- how a record appears (json records, GeoJSON properties): the edge id and the number of state variables always;
a cost or state variable bit for bit exactly when it is finite, otherwise as `null` — so a route with a NaN or
infinite cost still shows its edge sequence in every format, only that payload is blanked (modelled from
`serde_json`'s rule, checked differentially with ±inf, NaNs, −0.0, subnormals) -/
theorem rendered_record (t : EdgeTraversal) :
    t.rendered.edge = t.edge ∧ t.rendered.state.length = t.state.length ∧
    (∀ bits b, renderF64 bits = some b ↔ (b = bits ∧ f64IsFinite bits = true)) ∧
    (∀ bits, renderF64 bits = none ↔ f64IsFinite bits = false) := by
  refine ⟨rfl, by simp [EdgeTraversal.rendered], ?_, ?_⟩
  · intro bits b
    unfold renderF64
    cases h : f64IsFinite bits <;> simp [eq_comm]
  · intro bits
    unfold renderF64
    cases h : f64IsFinite bits <;> simp

-- +inf, a NaN and −0.0: the first two are blanked, the negative zero is kept
example : (EdgeTraversal.rendered ⟨7, 0x7FF0000000000000, 0x7FF8000000000000, [0x8000000000000000]⟩) =
    { edge := 7, access := none, traversal := none, state := [some 0x8000000000000000] } := by decide +kernel

example : ∃ g r s, generateRouteOutput g .geoJson r = .ok s ∧ s.edgeSeq? = some [1, 0, 1] :=
  ⟨tableOf [[⟨1, 2⟩, ⟨3, 4⟩], [⟨5, 6⟩, ⟨7, 8⟩, ⟨9, 10⟩]],
   [⟨1, 0, 0, []⟩, ⟨0, 0, 0, [7]⟩, ⟨1, 0, 0, []⟩], _, rfl, rfl⟩

/-! ### 2. the route geometry is the concatenation of the stored geometries, in edge order -/

/-- when every edge of the route has a stored geometry `geom e`, the three geometry formats hand exactly
`geom e₁ ++ geom e₂ ++ …` to the WKT / WKB serialiser, resp. one feature per edge carrying `geom eᵢ` to the
GeoJSON serialiser; the WKB string is the hex text of the WKB bytes of that concatenation.  (What the third-party
serialisers make of a point list is outside Lean, see the file header.) -/
theorem route_geometry_is_concatenation (g : Geoms) (geom : Nat → Line) (r : List EdgeTraversal)
    (hst : ∀ t ∈ r, g t.edge = some (geom t.edge)) :
    generateRouteOutput g .wkt r = .ok (.wkt (r.flatMap fun t => geom t.edge)) ∧
    generateRouteOutput g .wkb r =
      .ok (.wkb (r.flatMap fun t => geom t.edge) (hexText (wkbLineString (r.flatMap fun t => geom t.edge)))) ∧
    generateRouteOutput g .geoJson r =
      .ok (.features (r.map fun t => { id := t.edge, props := t, geom := geom t.edge })) := by
  have hall : allStored g (r.map (·.edge)) = true :=
    (allStored_map_iff g (·.edge) r).2 fun t ht => ⟨_, hst t ht⟩
  have hfm : (r.flatMap fun t => geomD g t.edge) = r.flatMap fun t => geom t.edge := by
    rw [List.flatMap_def, List.flatMap_def]
    exact congrArg List.flatten (List.map_congr_left fun t ht => geomD_of_stored (hst t ht))
  have hm : (r.map fun t => createGeojsonFeature t (geomD g t.edge)) =
      r.map fun t => ({ id := t.edge, props := t, geom := geom t.edge } : Feature) :=
    List.map_congr_left fun t ht => by rw [geomD_of_stored (hst t ht)]; rfl
  simp only [generateRouteOutput_eq, hall, Bool.true_eq_false, and_false, if_false, renderRoute, hfm, hm, and_self]

/-- converse direction, for any format: whatever geometry an output shows is the flattening of a list `ls` of
linestrings with `ls[i]` the stored geometry of the `i`-th route edge -/
theorem route_geometry (g : Geoms) (f : Fmt) (r : List EdgeTraversal) (o : RouteOut) (l : Line)
    (h : generateRouteOutput g f r = .ok o) (hl : o.geometry? = some l) :
    ∃ ls : List Line, ls.length = r.length ∧
      (∀ (i : Nat) (hr : i < r.length) (hs : i < ls.length), g r[i].edge = some ls[i]) ∧ l = ls.flatten := by
  obtain ⟨hall, rfl⟩ := generateRouteOutput_ok h
  rw [renderRoute_geometry] at hl
  split at hl
  · next hf =>
    refine ⟨r.map fun t => geomD g t.edge, List.length_map _, fun i hr _ => ?_, (Option.some.inj hl).symm⟩
    rw [List.getElem_map]
    exact stored_getElem (key := (·.edge)) (hall hf) hr
  · cases hl

/-- pairwise: WKT, WKB and the features of GeoJSON are given the same point sequence.  Between WKT and WKB this
holds by construction (both Rust arms call `create_route_linestring`, both model arms carry the same `Line`); the
content of the theorem is the agreement of either with the flattened GeoJSON features, which come from a different
function (`create_route_geojson`). -/
theorem formats_agree_on_geometry (g : Geoms) (f1 f2 : Fmt) (r : List EdgeTraversal) (o1 o2 : RouteOut)
    (l1 l2 : Line) (h1 : generateRouteOutput g f1 r = .ok o1) (h2 : generateRouteOutput g f2 r = .ok o2)
    (e1 : o1.geometry? = some l1) (e2 : o2.geometry? = some l2) : l1 = l2 := by
  rw [(generateRouteOutput_ok h1).2, renderRoute_geometry] at e1
  rw [(generateRouteOutput_ok h2).2, renderRoute_geometry] at e2
  split at e1
  · split at e2
    · exact Option.some.inj (e1.symm.trans e2)
    · cases e2
  · cases e1

/-- the cross-group corollary: the edge sequence shown by an id format (edge_id, json, geo_json — even over a
different table `g'`) and the geometry handed to a geometry format (wkt, wkb, geo_json) describe the same route:
the geometry is the flattening of one stored linestring per listed edge id, in the listed order -/
theorem id_and_geometry_formats_agree (g g' : Geoms) (f1 f2 : Fmt) (r : List EdgeTraversal) (o1 o2 : RouteOut)
    (s : List Nat) (l : Line)
    (h1 : generateRouteOutput g' f1 r = .ok o1) (h2 : generateRouteOutput g f2 r = .ok o2)
    (e1 : o1.edgeSeq? = some s) (e2 : o2.geometry? = some l) :
    ∃ ls : List Line, ls.length = s.length ∧
      (∀ (i : Nat) (hs : i < s.length) (hl : i < ls.length), g s[i] = some ls[i]) ∧ l = ls.flatten := by
  have hs := route_edge_sequence g' f1 r o1 s h1 e1
  obtain ⟨ls, hn, hg, hl⟩ := route_geometry g f2 r o2 l h2 e2
  subst hs
  refine ⟨ls, by simpa using hn, ?_, hl⟩
  intro i hi hli
  have hi' : i < r.length := by simpa using hi
  have := hg i hi' hli
  simpa using this

/-- nothing is dropped at the joints: the rendered linestring has as many points as the stored geometries
together (a vertex shared by two consecutive edges appears twice, exactly as stored) -/
theorem route_geometry_keeps_every_point (g : Geoms) (geom : Nat → Line) (r : List EdgeTraversal)
    (hst : ∀ t ∈ r, g t.edge = some (geom t.edge)) :
    ∃ l, generateRouteOutput g .wkt r = .ok (.wkt l) ∧ l.length = (r.map fun t => (geom t.edge).length).sum := by
  refine ⟨_, (route_geometry_is_concatenation g geom r hst).1, ?_⟩
  simp [List.length_flatMap]

/-- a missing geometry for any edge of the route is an error in every geometry format -/
theorem missing_geometry_is_error (g : Geoms) (f : Fmt) (r : List EdgeTraversal) (i : Nat) (hi : i < r.length)
    (hm : g r[i].edge = none) (hf : usesGeometry f = true) :
    generateRouteOutput g f r = .error .failed :=
  (generateRouteOutput_eq g f r).trans (if_pos ⟨hf,
    allStored_false_of_missing_getElem (key := (·.edge)) hi hm⟩)

/-- exact characterisation: a geometry format renders something iff every edge of the route has a row.  For
`wkb` the "if" direction uses that `wkb::geom_to_wkb` cannot fail on a linestring (`geomToWkb` is total in the
model; read off the crate's source, not proved) -/
theorem geometry_rendered_iff_all_stored (g : Geoms) (f : Fmt) (r : List EdgeTraversal) (hf : usesGeometry f = true) :
    (∃ o, generateRouteOutput g f r = .ok o) ↔ ∀ t ∈ r, ∃ l, g t.edge = some l := by
  rw [← allStored_map_iff g (·.edge) r, generateRouteOutput_eq]
  exact guard_isOk_iff hf

/-- unfolds `tableOf` (`geoms.get(edge_id.0)` on the boxed slice read from the file): the rows that are missing
are exactly the edge ids at or beyond the number of rows, and row `e` is the geometry of edge `e` -/
theorem file_table_rows (rows : List Line) (e : Nat) :
    (tableOf rows e = none ↔ rows.length ≤ e) ∧ ∀ (h : e < rows.length), tableOf rows e = some rows[e] := by
  constructor
  · simp [tableOf]
  · intro h; simp [tableOf, h]

/-! #### the WKB text (first-party hex encoder over the modelled third-party byte layout) -/

/-- the string stored for the `wkb` format is the hex text of the WKB bytes of the very linestring that
`create_route_linestring` produced (no other geometry, nothing re-ordered in between) -/
theorem wkb_text_is_hex_of_geometry (g : Geoms) (r : List EdgeTraversal) (o : RouteOut)
    (h : generateRouteOutput g .wkb r = .ok o) :
    ∃ l, createRouteLinestring g r = .ok l ∧ o = .wkb l (hexText (wkbLineString l)) := by
  obtain ⟨hall, rfl⟩ := generateRouteOutput_ok h
  refine ⟨_, ?_, rfl⟩
  rw [createRouteLinestring_eq, hall rfl]
  rfl

/-- the hex encoder loses nothing: reading the text two upper-case digits at a time gives the bytes back (so the
text determines the WKB bytes), for the route linestring and for the tree multilinestring -/
theorem hex_text_decodes (l : Line) (ls : List Line) :
    unhexChars (hexChars (wkbLineString l)) = some (wkbLineString l) ∧
    unhexChars (hexChars (wkbMultiLineString ls)) = some (wkbMultiLineString ls) :=
  ⟨unhexChars_hexChars _ (wkbLineString_lt l), unhexChars_hexChars _ (wkbMultiLineString_lt ls)⟩

/-- length of the text only: 9 header bytes and 16 bytes per point, two characters each (that the bytes are
the points of the concatenation, joint points included, is `wkb_text_is_hex_of_geometry`) -/
theorem wkb_text_length (l : Line) : (hexChars (wkbLineString l)).length = 2 * (9 + 16 * l.length) := by
  rw [hexChars_length, wkbLineString_length]

-- (a literal is by definition `String.ofList` of its characters; `"…".toList` is computed through the byte encoding)
example : hexChars (wkbLineString []) = "010200000000000000".toList := by
  rw [String.toList_ofList]
  decide +kernel
-- 1.0f32 = 0x3F800000 widens to 0x3FF0000000000000, -2.0f32 = 0xC0000000 to 0xC000000000000000
example : hexChars (wkbLineString [⟨0x3F800000, 0xC0000000⟩]) =
    "010200000001000000000000000000F03F00000000000000C0".toList := by
  rw [String.toList_ofList]
  decide +kernel

-- non-vacuity: a three-edge route with a repeated edge; a route whose middle edge has no row
example : generateRouteOutput (tableOf [[⟨1, 2⟩, ⟨3, 4⟩], [⟨3, 4⟩, ⟨7, 8⟩, ⟨9, 10⟩]]) .wkt
    [⟨1, 0, 0, []⟩, ⟨0, 0, 0, []⟩, ⟨1, 0, 0, []⟩] =
    .ok (.wkt [⟨3, 4⟩, ⟨7, 8⟩, ⟨9, 10⟩, ⟨1, 2⟩, ⟨3, 4⟩, ⟨3, 4⟩, ⟨7, 8⟩, ⟨9, 10⟩]) := rfl
example : generateRouteOutput (tableOf [[⟨1, 2⟩, ⟨3, 4⟩], [⟨3, 4⟩, ⟨7, 8⟩]]) .wkb
    [⟨1, 0, 0, []⟩, ⟨2, 0, 0, []⟩, ⟨0, 0, 0, []⟩] = .error .failed := rfl

/-! ### 3. tree outputs: one entry per branch, whatever order the hash map iterates in -/

theorem tree_output_one_entry_per_branch (g : Geoms) (f : Fmt) (t : Tree) (o : TreeOut)
    (h : generateTreeOutput g f t = .ok o) : o.size = t.length := by
  rw [(generateTreeOutput_ok h).2, renderTree_size]

/-- the ids a tree output shows are the branch edge ids, in the map's iteration order -/
theorem tree_output_edge_ids (g : Geoms) (f : Fmt) (t : Tree) (o : TreeOut) (s : List Nat)
    (h : generateTreeOutput g f t = .ok o) (hs : o.edgeSeq? = some s) : s = t.map fun kv => kv.2.et.edge := by
  rw [(generateTreeOutput_ok h).2, renderTree_edgeSeq] at hs
  split at hs
  · cases hs
  · exact (Option.some.inj hs).symm

/-- the linestrings a tree output shows are the stored geometries of the branch edges, one per branch, not
concatenated -/
theorem tree_output_lines (g : Geoms) (f : Fmt) (t : Tree) (o : TreeOut) (ls : List Line)
    (h : generateTreeOutput g f t = .ok o) (hl : o.lines? = some ls) :
    ls.length = t.length ∧ ∀ (i : Nat) (ht : i < t.length) (hs : i < ls.length), g t[i].2.et.edge = some ls[i] := by
  obtain ⟨hall, rfl⟩ := generateTreeOutput_ok h
  rw [renderTree_lines] at hl
  split at hl
  · next hf =>
    cases hl
    refine ⟨by rw [List.length_map, treeIds, List.length_map], fun i ht _ => ?_⟩
    simp only [treeIds, List.map_map, List.getElem_map, Function.comp_def]
    exact stored_getElem (key := fun kv : Nat × Branch => kv.2.et.edge) (hall hf) ht
  · cases hl

theorem tree_missing_geometry_is_error (g : Geoms) (f : Fmt) (t : Tree) (i : Nat) (hi : i < t.length)
    (hm : g t[i].2.et.edge = none) (hf : usesGeometry f = true) :
    generateTreeOutput g f t = .error .failed :=
  (generateTreeOutput_eq g f t).trans (if_pos ⟨hf,
    allStored_false_of_missing_getElem (key := fun kv : Nat × Branch => kv.2.et.edge) hi hm⟩)

/-- exact characterisation for trees, as for routes: a geometry format renders a tree iff every branch edge has a
row (same caveat for `wkb` as in `geometry_rendered_iff_all_stored`: `geom_to_wkb` is taken not to fail) -/
theorem tree_geometry_rendered_iff_all_stored (g : Geoms) (f : Fmt) (t : Tree) (hf : usesGeometry f = true) :
    (∃ o, generateTreeOutput g f t = .ok o) ↔ ∀ kv ∈ t, ∃ l, g kv.2.et.edge = some l := by
  rw [← allStored_map_iff g (fun kv => kv.2.et.edge) t, generateTreeOutput_eq]
  exact guard_isOk_iff hf

/-- the hash map's iteration order is unspecified: for any two orders of the same branches the outcome is the
same error, or two outputs with the same number of entries whose ids / linestrings are permutations of each
other -/
theorem tree_output_order_independent (g : Geoms) (f : Fmt) (t t' : Tree) (hp : t.Perm t') :
    (∀ e, generateTreeOutput g f t = .error e → generateTreeOutput g f t' = .error e) ∧
    (∀ o, generateTreeOutput g f t = .ok o → ∃ o', generateTreeOutput g f t' = .ok o' ∧ o'.size = o.size ∧
      (∀ s, o.edgeSeq? = some s → ∃ s', o'.edgeSeq? = some s' ∧ s.Perm s') ∧
      (∀ ls, o.lines? = some ls → ∃ ls', o'.lines? = some ls' ∧ ls.Perm ls')) := by
  have hids : (treeIds t).Perm (treeIds t') := hp.map _
  rw [generateTreeOutput_eq, generateTreeOutput_eq, allStored_perm g hids]
  refine ⟨fun e h => ?_, fun o h => ?_⟩
  · split at h
    · next hc => rw [if_pos hc]; exact h
    · cases h
  · split at h
    · cases h
    · next hc =>
      cases h
      refine ⟨_, if_neg hc, by rw [renderTree_size, renderTree_size, hp.length_eq], fun s hs => ?_, fun ls hl => ?_⟩
      · rw [renderTree_edgeSeq] at hs ⊢
        split at hs
        · cases hs
        · next hn => cases hs; exact ⟨_, if_neg hn, hids⟩
      · rw [renderTree_lines] at hl ⊢
        split at hl
        · next hf => cases hl; exact ⟨_, if_pos hf, hids.map _⟩
        · cases hl

-- non-vacuity: a two-branch tree in both iteration orders; a branch without a row
example : generateTreeOutput (tableOf [[⟨1, 2⟩, ⟨3, 4⟩], [⟨5, 6⟩, ⟨7, 8⟩]]) .wkt
    [(4, ⟨0, ⟨1, 0, 0, []⟩⟩), (9, ⟨4, ⟨0, 0, 0, []⟩⟩)] = .ok (.wkt [[⟨5, 6⟩, ⟨7, 8⟩], [⟨1, 2⟩, ⟨3, 4⟩]]) := rfl
example : generateTreeOutput (tableOf [[⟨1, 2⟩, ⟨3, 4⟩], [⟨5, 6⟩, ⟨7, 8⟩]]) .edgeId
    [(9, ⟨4, ⟨0, 0, 0, []⟩⟩), (4, ⟨0, ⟨1, 0, 0, []⟩⟩)] = .ok (.edgeIds [0, 1]) := rfl
example : generateTreeOutput (tableOf [[⟨1, 2⟩, ⟨3, 4⟩]]) .geoJson
    [(4, ⟨0, ⟨0, 0, 0, []⟩⟩), (9, ⟨4, ⟨1, 0, 0, []⟩⟩)] = .error .failed := rfl

/-! ### 4. the attached identifiers are the stored ones -/

/-- on success the two keys hold exactly `table[origin_vertex]` and `table[destination_vertex]`, and every
other key of the output is untouched -/
theorem uuid_attached_are_stored (u : Uuids) (out out' : Json) (h : uuidProcess u true out = .ok out') :
    ∃ o d ou du, getOdVertexIds out = .ok (o, d) ∧ u o = some ou ∧ u d = some du ∧
      out'.get? "origin_vertex_uuid" = some (.str ou) ∧
      out'.get? "destination_vertex_uuid" = some (.str du) ∧
      ∀ k, k ≠ "origin_vertex_uuid" → k ≠ "destination_vertex_uuid" → out'.get? k = out.get? k := by
  rcases uuidProcess_after_search u out with ⟨e, _, he⟩ | ⟨kvs, ou, du, rfl, hl, hp⟩
  · rw [he] at h; cases h
  · rw [hp] at h
    cases h
    obtain ⟨o, d, hg, ho, hd⟩ := uuidLookup_ok u _ ou du hl
    refine ⟨o, d, ou, du, hg, ho, hd, ?_, Json.lookup_insertKv_same _ _ _, fun k h1 h2 => ?_⟩
    · exact (Json.lookup_insertKv_other _ _ _ _ (by simp)).trans (Json.lookup_insertKv_same _ _ _)
    · exact (Json.lookup_insertKv_other _ _ _ _ h2).trans (Json.lookup_insertKv_other _ _ _ _ h1)

/-- the plugin fails exactly when the request does not name two vertices or one of them has no stored
identifier — it never attaches anything else, and it never panics -/
theorem uuid_error_iff (u : Uuids) (out : Json) :
    (∃ e, uuidProcess u true out = .err e) ↔
      ((∃ e, getOdVertexIds out = .error e) ∨ ∃ o d, getOdVertexIds out = .ok (o, d) ∧ (u o = none ∨ u d = none)) := by
  rw [← uuidLookup_error_iff]
  rcases uuidProcess_after_search u out with ⟨e, hl, he⟩ | ⟨kvs, ou, du, _, hl, hp⟩
  · exact ⟨fun _ => ⟨e, hl⟩, fun _ => ⟨e, he⟩⟩
  · rw [hp, hl]
    exact ⟨fun ⟨e, he⟩ => (by cases he), fun ⟨e, he⟩ => (by cases he)⟩

theorem uuid_never_panics (u : Uuids) (ok : Bool) (out : Json) (h : uuidProcess u ok out = .panic) : False := by
  cases ok with
  | false => cases h
  | true =>
    rcases uuidProcess_after_search u out with ⟨e, _, he⟩ | ⟨kvs, ou, du, _, _, hp⟩
    · rw [he] at h; cases h
    · rw [hp] at h; cases h

/-- a failed search leaves the output alone (restates the `Err(_) => Ok(())` arm) -/
theorem uuid_failed_search_untouched (u : Uuids) (out : Json) : uuidProcess u false out = .ok out := rfl

/-- the direct call and the pipeline step are the same lookup: on the output object the pipeline works on
(`request` stored under its key, whatever other keys are present) `process` succeeds exactly when the pipeline
step does, with the same two identifiers, and fails with the same error -/
theorem uuid_direct_matches_pipeline (u : Uuids) (req : Json) (res : SearchResult) (r : Resp)
    (rest : List (String × Json)) :
    (∀ x, pluginStep req res (.uuid u) r = .error x →
      (match uuidProcess u true (.obj (("request", req) :: rest)) with | .err y => y = x | _ => False)) ∧
    (∀ r', pluginStep req res (.uuid u) r = .ok r' →
      ∃ ou du out', uuidProcess u true (.obj (("request", req) :: rest)) = .ok out' ∧
        r'.originUuid = some ou ∧ r'.destinationUuid = some du ∧
        out'.get? "origin_vertex_uuid" = some (.str ou) ∧ out'.get? "destination_vertex_uuid" = some (.str du)) := by
  have hl : uuidLookup u (.obj (("request", req) :: rest)) = uuidLookup u (.obj [("request", req)]) :=
    uuidLookup_congr u (by simp only [Json.get?, Json.lookup_cons, if_true])
  rcases uuidProcess_after_search u (.obj (("request", req) :: rest)) with ⟨e, hle, he⟩ | ⟨kvs, ou, du, hk, hlo, hp⟩
  · rw [hl] at hle
    refine ⟨fun x hx => ?_, fun r' hr' => ?_⟩
    · simp only [pluginStep, hle] at hx
      cases hx
      rw [he]
    · simp only [pluginStep, hle] at hr'
      cases hr'
  · rw [hl] at hlo
    cases hk
    refine ⟨fun x hx => ?_, fun r' hr' => ?_⟩
    · simp only [pluginStep, hlo] at hx
      cases hx
    · simp only [pluginStep, hlo] at hr'
      cases hr'
      exact ⟨ou, du, _, hp, rfl, rfl,
        (Json.lookup_insertKv_other _ _ _ _ (by simp)).trans (Json.lookup_insertKv_same _ _ _), Json.lookup_insertKv_same _ _ _⟩

-- non-vacuity (string-to-number parsing does not reduce in the kernel, so the two JSON numbers are taken as
-- given): ids 2 and 0 of a three-row table; a destination beyond the table; a query without destination
example (two zero : Json) (h2 : two.asU64? = some 2) (h0 : zero.asU64? = some 0) :
    uuidProcess (uuidTableOf ["a", "b", "c"]) true
      (.obj [("request", .obj [("origin_vertex", two), ("destination_vertex", zero)])]) =
    .ok (.obj [("request", .obj [("origin_vertex", two), ("destination_vertex", zero)]),
               ("origin_vertex_uuid", .str "c"), ("destination_vertex_uuid", .str "a")]) := by
  simp [uuidProcess, uuidLookup, getOdVertexIds, Json.get?, Json.lookup, Json.asObject?, h2, h0, uuidTableOf,
    Json.indexAssign, Json.insertKv]
example (two three : Json) (h2 : two.asU64? = some 2) (h3 : three.asU64? = some 3) :
    uuidLookup (uuidTableOf ["a", "b", "c"])
      (.obj [("request", .obj [("origin_vertex", two), ("destination_vertex", three)])]) = .error .failed := by
  simp [uuidLookup, getOdVertexIds, Json.get?, Json.lookup, Json.asObject?, h2, h3, uuidTableOf]
example (two : Json) (h2 : two.asU64? = some 2) :
    uuidLookup (uuidTableOf ["a", "b", "c"]) (.obj [("request", .obj [("origin_vertex", two)])]) =
    .error (.missingField "destination_vertex") := by
  simp [uuidLookup, getOdVertexIds, Json.get?, Json.lookup, Json.asObject?, h2]

/-! ### 5. the response: an error, or every configured key rendered from the returned routes and trees -/

/-- what a successful `TraversalPlugin::process` stores: one rendered path per returned route, in order, each
the format's rendering of that (non-empty) route; one rendered tree per returned tree -/
theorem traversal_process_renders_every_route (cfg : TraversalCfg) (res : SearchResult) (r r' : Resp)
    (h : traversalProcess cfg res r = .ok r') :
    (∀ f, cfg.route = some f → ∃ outs, r'.route = some (shape outs) ∧ outs.length = res.routes.length ∧
      ∀ (i : Nat) (hr : i < res.routes.length) (ho : i < outs.length),
        res.routes[i] ≠ [] ∧ generateRouteOutput cfg.geoms f res.routes[i] = .ok outs[i]) ∧
    (∀ f, cfg.tree = some f → ∃ outs, r'.tree = some (shape outs) ∧ outs.length = res.trees.length ∧
      ∀ (i : Nat) (ht : i < res.trees.length) (ho : i < outs.length),
        generateTreeOutput cfg.geoms f res.trees[i] = .ok outs[i]) := by
  -- the traversal plugin does not read the request: any value serves as `req`
  have hstep : (writes .null res (.traversal cfg)).map (·.over r) = .ok r' :=
    (pluginStep_eq .null res (.traversal cfg) r).symm.trans h
  cases hw : writes .null res (.traversal cfg) with
  | error x => rw [hw] at hstep; cases hstep
  | ok w =>
    rw [hw] at hstep
    cases hstep
    rcases writes_ok hw with ⟨_, ro, to, e, hro, hto, rfl⟩ | ⟨e, _⟩ | ⟨_, _, _, e, _⟩ <;> cases e
    constructor
    · intro f hf
      rcases routeKey_ok hro with ⟨hn, _⟩ | ⟨f', outs, hf', hm, rfl⟩
      · rw [hn] at hf; cases hf
      · rw [hf'] at hf
        cases hf
        exact ⟨outs, rfl, routes_rendered hm⟩
    · intro f hf
      rcases treeKey_ok hto with ⟨hn, _⟩ | ⟨f', outs, hf', hm, rfl⟩
      · rw [hn] at hf; cases hf
      · rw [hf'] at hf
        cases hf
        exact ⟨outs, rfl, mapExcept_ok hm⟩

/-- for **any** list of output plugins: whatever a (non-error) response carries under `route` was rendered by
one of the configured traversal plugins from the returned routes — one path per route, in order, each the
format's rendering of that route over that plugin's geometry table -/
theorem response_route_is_rendering (req : Json) (res : SearchResult) (plugins : List Plugin) (resp : Resp)
    (h : applyOutputProcessing req (some res) plugins = .ok resp) (sh : Shape RouteOut) (hs : resp.route = some sh) :
    ∃ cfg f, Plugin.traversal cfg ∈ plugins ∧ cfg.route = some f ∧ sh.toList.length = res.routes.length ∧
      ∀ (i : Nat) (hr : i < res.routes.length) (ho : i < sh.toList.length),
        res.routes[i] ≠ [] ∧ generateRouteOutput cfg.geoms f res.routes[i] = .ok sh.toList[i] := by
  obtain ⟨p, hp, w, hw, e⟩ := applyOutputProcessing_key (·.route) (fun _ _ => rfl) rfl h hs
  obtain ⟨cfg, rfl, hro⟩ := writes_route hw e
  rcases routeKey_ok hro with ⟨_, e⟩ | ⟨f, outs, hf, hm, e⟩ <;> cases e
  refine ⟨cfg, f, hp, hf, ?_⟩
  rw [shape_loses_nothing]
  exact routes_rendered hm

/-- for any list of output plugins: whatever a (non-error) response carries under `tree` was rendered by one of the
configured traversal plugins from the returned trees — one rendered tree per tree, in order -/
theorem response_tree_is_rendering (req : Json) (res : SearchResult) (plugins : List Plugin) (resp : Resp)
    (h : applyOutputProcessing req (some res) plugins = .ok resp) (sh : Shape TreeOut) (hs : resp.tree = some sh) :
    ∃ cfg f, Plugin.traversal cfg ∈ plugins ∧ cfg.tree = some f ∧ sh.toList.length = res.trees.length ∧
      ∀ (i : Nat) (ht : i < res.trees.length) (ho : i < sh.toList.length),
        generateTreeOutput cfg.geoms f res.trees[i] = .ok sh.toList[i] := by
  obtain ⟨p, hp, w, hw, e⟩ := applyOutputProcessing_key (·.tree) (fun _ _ => rfl) rfl h hs
  obtain ⟨cfg, rfl, hto⟩ := writes_tree hw e
  rcases treeKey_ok hto with ⟨_, e⟩ | ⟨f, outs, hf, hm, e⟩ <;> cases e
  refine ⟨cfg, f, hp, hf, ?_⟩
  rw [shape_loses_nothing]
  exact mapExcept_ok hm

/-- for any list of output plugins: identifiers in a response are `table[origin_vertex]` and
`table[destination_vertex]` of the request, for the table of one of the configured uuid plugins; counts are the
sizes of the returned routes and trees -/
theorem response_ids_and_counts (req : Json) (res : SearchResult) (plugins : List Plugin) (resp : Resp)
    (h : applyOutputProcessing req (some res) plugins = .ok resp) :
    (∀ s, resp.originUuid = some s → ∃ table o d, Plugin.uuid table ∈ plugins ∧
        getOdVertexIds (.obj [("request", req)]) = .ok (o, d) ∧ table o = some s) ∧
    (∀ s, resp.destinationUuid = some s → ∃ table o d, Plugin.uuid table ∈ plugins ∧
        getOdVertexIds (.obj [("request", req)]) = .ok (o, d) ∧ table d = some s) ∧
    (∀ n, resp.routeEdges = some n → n = (res.routes.map List.length).sum) ∧
    (∀ n, resp.treeSizeCount = some n → n = (res.trees.map List.length).sum) := by
  refine ⟨fun s hs => ?_, fun s hs => ?_, fun n hn => ?_, fun n hn => ?_⟩
  · obtain ⟨p, hp, w, hw, e⟩ := applyOutputProcessing_key (·.originUuid) (fun _ _ => rfl) rfl h hs
    obtain ⟨table, ou, du, rfl, hl, e', _⟩ := writes_uuid hw (.inl e)
    obtain ⟨o, d, hg, ho, _⟩ := uuidLookup_ok table _ _ _ hl
    exact ⟨table, o, d, hp, hg, ho.trans (e'.symm.trans e)⟩
  · obtain ⟨p, hp, w, hw, e⟩ := applyOutputProcessing_key (·.destinationUuid) (fun _ _ => rfl) rfl h hs
    obtain ⟨table, ou, du, rfl, hl, _, e'⟩ := writes_uuid hw (.inr e)
    obtain ⟨o, d, hg, _, hd⟩ := uuidLookup_ok table _ _ _ hl
    exact ⟨table, o, d, hp, hg, hd.trans (e'.symm.trans e)⟩
  · obtain ⟨p, hp, w, hw, e⟩ := applyOutputProcessing_key (·.routeEdges) (fun _ _ => rfl) rfl h hn
    exact (writes_counts hw).1 n e
  · obtain ⟨p, hp, w, hw, e⟩ := applyOutputProcessing_key (·.treeSizeCount) (fun _ _ => rfl) rfl h hn
    exact (writes_counts hw).2 n e

/-- a missing geometry anywhere in a returned route (geometry format configured) makes the whole response an
error response, wherever the traversal plugin sits among the output plugins -/
theorem response_error_on_missing_geometry (req : Json) (res : SearchResult) (plugins : List Plugin)
    (cfg : TraversalCfg) (hp : Plugin.traversal cfg ∈ plugins) (f : Fmt) (hf : cfg.route = some f)
    (hg : usesGeometry f = true) (rt : List EdgeTraversal) (hrt : rt ∈ res.routes) (t : EdgeTraversal)
    (ht : t ∈ rt) (hm : cfg.geoms t.edge = none) :
    ∃ x, applyOutputProcessing req (some res) plugins = .error x := by
  obtain ⟨i, hi, rfl⟩ := List.getElem_of_mem ht
  have h1 : ∃ x, constructRouteOutput res.costSlots cfg.geoms f rt = .error x := by
    unfold constructRouteOutput
    cases rt.getLast? with
    | none => exact ⟨_, rfl⟩
    | some _ => simp only [missing_geometry_is_error cfg.geoms f rt i hi hm hg]; exact ⟨_, rfl⟩
  exact runPlugins_error_of_writes hp ⟨_, writes_error_of_route hf hrt h1 req⟩ {}

/-- a tree branch without geometry (geometry format configured for trees) makes the whole response an error
response, wherever the traversal plugin sits among the output plugins -/
theorem response_error_on_missing_tree_geometry (req : Json) (res : SearchResult) (plugins : List Plugin)
    (cfg : TraversalCfg) (hp : Plugin.traversal cfg ∈ plugins) (f : Fmt) (hf : cfg.tree = some f)
    (hg : usesGeometry f = true) (tr : Tree) (htr : tr ∈ res.trees) (kv : Nat × Branch)
    (hkv : kv ∈ tr) (hm : cfg.geoms kv.2.et.edge = none) :
    ∃ x, applyOutputProcessing req (some res) plugins = .error x := by
  obtain ⟨i, hi, rfl⟩ := List.getElem_of_mem hkv
  obtain ⟨x, hx⟩ := mapExcept_error_of_mem _ res.trees tr htr
    ⟨_, tree_missing_geometry_is_error cfg.geoms f tr i hi hm hg⟩
  refine runPlugins_error_of_writes hp ?_ {}
  -- the routes are rendered first: their error, if any, is the plugin's
  cases hr : routeKey cfg res with
  | error y => exact ⟨y, by simp only [writes, hr]⟩
  | ok ro => exact ⟨x, by simp only [writes, hr, treeKey, hf, hx]⟩

/-- errors are never swallowed: with a route (tree) format configured the response is an error response or
carries the `route` (`tree`) key -/
theorem response_has_route_or_is_error (req : Json) (res : SearchResult) (plugins : List Plugin)
    (cfg : TraversalCfg) (hp : Plugin.traversal cfg ∈ plugins) :
    (∃ x, applyOutputProcessing req (some res) plugins = .error x) ∨
    ∃ resp, applyOutputProcessing req (some res) plugins = .ok resp ∧
      (cfg.route.isSome = true → resp.route.isSome = true) ∧ (cfg.tree.isSome = true → resp.tree.isSome = true) := by
  simp only [applyOutputProcessing]
  cases h : runPlugins req res plugins {} with
  | error x => exact Or.inl ⟨x, rfl⟩
  | ok resp =>
    obtain ⟨w, hw⟩ := runPlugins_ok_writes h hp
    rcases writes_ok hw with ⟨_, ro, to, e, hro, hto, rfl⟩ | ⟨e, _⟩ | ⟨_, _, _, e, _⟩ <;> cases e
    refine Or.inr ⟨resp, rfl, fun hs => ?_, fun hs => ?_⟩
    · refine (runPlugins_key (·.route) (fun _ _ => rfl) h).2 _ hp _ hw ?_
      rcases routeKey_ok hro with ⟨hn, _⟩ | ⟨_, _, _, _, rfl⟩
      · rw [hn] at hs; cases hs
      · rfl
    · refine (runPlugins_key (·.tree) (fun _ _ => rfl) h).2 _ hp _ hw ?_
      rcases treeKey_ok hto with ⟨hn, _⟩ | ⟨_, _, _, _, rfl⟩
      · rw [hn] at hs; cases hs
      · rfl

/-- a failed search is an error response, whatever the plugins (restates the first arm of
`apply_output_processing` / `create_initial_output`) -/
theorem failed_search_is_error_response (req : Json) (plugins : List Plugin) :
    applyOutputProcessing req none plugins = .error .search := rfl

/-- behaviour worth knowing (not a clause of C20): a returned route with no edges — origin = destination —
makes `construct_route_output` fail ("cannot find result route state when route is empty"), so with a route
format configured the response is an error response in *every* format -/
theorem empty_route_is_error_response (req : Json) (res : SearchResult) (plugins : List Plugin)
    (cfg : TraversalCfg) (hp : Plugin.traversal cfg ∈ plugins) (f : Fmt) (hf : cfg.route = some f)
    (hrt : [] ∈ res.routes) : ∃ x, applyOutputProcessing req (some res) plugins = .error x := by
  exact runPlugins_error_of_writes hp ⟨_, writes_error_of_route hf hrt ⟨_, rfl⟩ req⟩ {}

/-- behaviour worth knowing (outside the literal statement of C20: nothing wrong is attached — nothing is
delivered): a query without `destination_vertex` — the ordinary way to ask for a search tree — or an
edge-oriented query (no `origin_vertex`) makes `get_od_vertex_ids` fail, so **any pipeline that contains the uuid
plugin answers it with an error response and the rendered tree is discarded**, whatever the other plugins do -/
theorem destinationless_query_with_uuid_plugin_is_error_response (kvs : List (String × Json))
    (res : SearchResult) (plugins : List Plugin) (u : Uuids) (hp : Plugin.uuid u ∈ plugins)
    (hq : Json.lookup kvs "origin_vertex" = none ∨ Json.lookup kvs "destination_vertex" = none) :
    ∃ x, applyOutputProcessing (.obj kvs) (some res) plugins = .error x := by
  refine runPlugins_error_of_writes hp ?_ {}
  cases hl : uuidLookup u (.obj [("request", .obj kvs)]) with
  | error y => exact ⟨y, by simp only [writes, hl]⟩
  | ok p =>
    obtain ⟨o, d, hg, _, _⟩ := uuidLookup_ok u _ p.1 p.2 hl
    obtain ⟨kvs', ov, dv, h0, h2, _, h4, _⟩ := (getOdVertexIds_ok_iff _ o d).1 hg
    obtain rfl : kvs = kvs' := by simpa [Json.get?, Json.lookup_cons] using h0
    rcases hq with h | h
    · rw [h] at h2; cases h2
    · rw [h] at h4; cases h4

/-- the default pipeline `traversal, summary, uuid`: everything the response carries, in one statement -/
theorem default_pipeline_response (req : Json) (res : SearchResult) (cfg : TraversalCfg) (u : Uuids) (resp : Resp)
    (h : applyOutputProcessing req (some res) [.traversal cfg, .summary, .uuid u] = .ok resp) :
    (∃ r1, traversalProcess cfg res {} = .ok r1 ∧ resp.route = r1.route ∧ resp.tree = r1.tree) ∧
    resp.routeEdges = some ((res.routes.map List.length).sum) ∧
    resp.treeSizeCount = some ((res.trees.map List.length).sum) ∧
    ∃ o d ou du, getOdVertexIds (.obj [("request", req)]) = .ok (o, d) ∧ u o = some ou ∧ u d = some du ∧
      resp.originUuid = some ou ∧ resp.destinationUuid = some du := by
  simp only [applyOutputProcessing, runPlugins, pluginStep] at h
  cases h1 : traversalProcess cfg res {} with
  | error x => rw [h1] at h; cases h
  | ok r1 =>
    simp only [h1] at h
    cases hu : uuidLookup u (.obj [("request", req)]) with
    | error x => rw [hu] at h; cases h
    | ok p =>
      obtain ⟨ou, du⟩ := p
      rw [hu] at h
      cases h
      obtain ⟨o, d, hg, ho, hd⟩ := uuidLookup_ok u _ ou du hu
      exact ⟨⟨r1, rfl, rfl, rfl⟩, rfl, rfl, o, d, ou, du, hg, ho, hd, rfl, rfl⟩

-- non-vacuity of `default_pipeline_response` / `response_uuids_are_stored` (string-to-number parsing does not
-- reduce in the kernel, so the two JSON numbers are taken as given; the differential run exercises the closed instance)
example (two zero : Json) (h2 : two.asU64? = some 2) (h0 : zero.asU64? = some 0) :
    applyOutputProcessing (.obj [("origin_vertex", two), ("destination_vertex", zero)])
      (some { routes := [[⟨1, 0, 0, []⟩]], trees := [] })
      [.traversal { geoms := tableOf [[⟨1, 2⟩], [⟨3, 4⟩]], route := some .edgeId, tree := none }, .summary,
       .uuid (uuidTableOf ["a", "b", "c"])] =
    .ok { route := some (.one (.edgeIds [1])), routeEdges := some 1, treeSizeCount := some 0,
          originUuid := some "c", destinationUuid := some "a" } := by
  simp [applyOutputProcessing, runPlugins, pluginStep, traversalProcess, mapExcept, constructRouteOutput,
    generateRouteOutput, shape, summaryProcess, routeEdgesCount, treeSizeCount, uuidLookup, getOdVertexIds,
    Json.get?, Json.lookup, Json.asObject?, h2, h0, uuidTableOf]

/-- the identifiers in a response of the default pipeline are `table[origin_vertex]`, `table[destination_vertex]`
of the request -/
theorem response_uuids_are_stored (req : Json) (res : SearchResult) (cfg : TraversalCfg) (u : Uuids) (resp : Resp)
    (h : applyOutputProcessing req (some res) [.traversal cfg, .summary, .uuid u] = .ok resp) :
    ∃ kvs ov dv o d, req = .obj kvs ∧ Json.lookup kvs "origin_vertex" = some ov ∧ ov.asU64? = some o ∧
      Json.lookup kvs "destination_vertex" = some dv ∧ dv.asU64? = some d ∧
      resp.originUuid = u o ∧ resp.destinationUuid = u d ∧ (u o).isSome = true ∧ (u d).isSome = true := by
  obtain ⟨_, _, _, o, d, ou, du, hg, ho, hd, h1, h2⟩ := default_pipeline_response req res cfg u resp h
  obtain ⟨kvs, ov, dv, h0, a, b, c, e⟩ := (getOdVertexIds_ok_iff _ o d).1 hg
  have : req = .obj kvs := by simpa [Json.get?, Json.lookup_cons] using h0
  exact ⟨kvs, ov, dv, o, d, this, a, b, c, e, by rw [h1, ho], by rw [h2, hd], by simp [ho], by simp [hd]⟩

/-! ### 6. summary counts -/

/-- restates `summaryProcess` (the Rust lines are `routes.iter().map(|r| r.len()).sum()` and the same for trees) -/
theorem summary_counts (res : SearchResult) (r : Resp) :
    (summaryProcess res r).routeEdges = some ((res.routes.map List.length).sum) ∧
    (summaryProcess res r).treeSizeCount = some ((res.trees.map List.length).sum) ∧
    (summaryProcess res r).route = r.route ∧ (summaryProcess res r).tree = r.tree := ⟨rfl, rfl, rfl, rfl⟩

/-- the tree count is the size of the rendered tree; for the route the first clause only says that the count is the
number of edges -/
theorem summary_counts_single (g : Geoms) (rt : List EdgeTraversal) (tr : Tree) (f : Fmt) (o : TreeOut)
    (h : generateTreeOutput g f tr = .ok o) :
    routeEdgesCount { routes := [rt], trees := [tr] } = (rt.map (·.edge)).length ∧
    treeSizeCount { routes := [rt], trees := [tr] } = o.size := by
  rw [tree_output_one_entry_per_branch g f tr o h]
  simp [routeEdgesCount, treeSizeCount]

-- non-vacuity: one route, one tree, traversal + summary; then a route whose middle edge has no row
example : applyOutputProcessing .null
      (some { routes := [[⟨1, 0, 0, []⟩, ⟨0, 0, 0, []⟩]], trees := [[(3, ⟨0, ⟨1, 0, 0, []⟩⟩)]] })
      [.traversal { geoms := tableOf [[⟨1, 2⟩, ⟨3, 4⟩], [⟨5, 6⟩, ⟨7, 8⟩]], route := some .wkt, tree := some .edgeId },
       .summary] =
    .ok { route := some (.one (.wkt [⟨5, 6⟩, ⟨7, 8⟩, ⟨1, 2⟩, ⟨3, 4⟩])), tree := some (.one (.edgeIds [1])),
          routeEdges := some 2, treeSizeCount := some 1 } := rfl
example : ∃ x, applyOutputProcessing .null
      (some { routes := [[⟨1, 0, 0, []⟩, ⟨2, 0, 0, []⟩, ⟨0, 0, 0, []⟩]], trees := [] })
      [.summary, .traversal { geoms := tableOf [[⟨1, 2⟩, ⟨3, 4⟩], [⟨5, 6⟩, ⟨7, 8⟩]], route := some .geoJson, tree := none }]
      = .error x := ⟨_, rfl⟩

/-! ### 7. loading the lookup tables: every row in its place, or no table at all

What these theorems are: statements about the first-party reader (`read_raw_file` + `from_file`) over an
*abstract* file `{readable, intact, rows}` whose rows the third-party WKT parser has already classified.  "A
rejected row is not skipped" is the defining clause `none :: _ => .error .io` of `parseRows`, "cut off" is the
input flag `intact = false`; the theorems derive from these the index-exact table (`traversal_from_file_table`)
and the all-or-nothing behaviour.  That real files behave like this record (line splitting, CRLF, gzip, what the
WKT grammar rejects, a truncated gzip stream) is evidenced only by the differential run. -/

/-- the geometry reader returns a table exactly when the file opens, decodes to its end and every row parses;
the table then holds **every** row at its own index — a bad row is never skipped, so geometries never shift
against edge ids -/
theorem geometry_file_loads_all_rows_or_fails (f : TableFile GeomRow) (ls : List Line) :
    readLinestringTextFile f = .ok ls ↔ (f.readable = true ∧ f.intact = true ∧ f.rows = ls.map some) := by
  rcases readLinestringTextFile_cases f with ⟨ls', hr, hi, hrows, e⟩ | ⟨hbad, e⟩ <;> rw [e]
  · constructor
    · intro h
      cases h
      exact ⟨hr, hi, hrows⟩
    · intro h
      rw [(List.map_inj_right fun _ _ => Option.some.inj).1 (hrows.symm.trans h.2.2)]
  · refine ⟨fun h => (by cases h), fun h => ?_⟩
    rcases hbad with hb | hb | hb
    · rw [h.1] at hb; cases hb
    · rw [h.2.1] at hb; cases hb
    · rw [h.2.2] at hb; simp at hb

/-- any row the WKT parser rejects (blank line, other geometry type, quoted or CSV-prefixed text …), a file that
cannot be opened, or a byte stream that breaks off: the reader fails, and the plugin is not built -/
theorem geometry_file_bad_row_is_error (f : TableFile GeomRow) (route tree : Option Fmt)
    (h : f.readable = false ∨ f.intact = false ∨ none ∈ f.rows) :
    readLinestringTextFile f = .error .io ∧ traversalFromFile f route tree = .error .build := by
  have h1 : readLinestringTextFile f = .error .io := by
    rcases readLinestringTextFile_cases f with ⟨ls, hr, hi, hrows, _⟩ | ⟨_, e⟩
    · rcases h with h | h | h
      · rw [hr] at h; cases h
      · rw [hi] at h; cases h
      · rw [hrows] at h; simp at h
    · exact e
  exact ⟨h1, by simp [traversalFromFile, h1]⟩

/-- the plugin built from a file: row `e` of the file is the geometry of edge `e`, ids at or beyond the number of
rows have no geometry (the plugin never learns the number of edges: a short file shows up as missing rows, extra
rows are never looked at), and the configured formats are kept -/
theorem traversal_from_file_table (f : TableFile GeomRow) (route tree : Option Fmt) (cfg : TraversalCfg)
    (h : traversalFromFile f route tree = .ok cfg) :
    cfg.route = route ∧ cfg.tree = tree ∧ ∀ e, cfg.geoms e = (f.rows[e]?).bind id := by
  obtain ⟨ls, hr, rfl⟩ := traversalFromFile_ok h
  obtain ⟨_, _, hrows⟩ := (geometry_file_loads_all_rows_or_fails f ls).1 hr
  refine ⟨rfl, rfl, fun e => ?_⟩
  simp only [tableOf, hrows, List.getElem?_map]
  cases ls[e]? <;> rfl

/-- the identifier file is taken row by row, verbatim -/
theorem uuid_from_file_table (f : TableFile String) (u : Uuids) (h : uuidFromFile f = .ok u) :
    f.readable = true ∧ f.intact = true ∧ ∀ i, u i = f.rows[i]? := by
  unfold uuidFromFile at h
  cases hr : f.readable <;> cases hi : f.intact <;> simp [hr, hi] at h
  subst h
  exact ⟨rfl, rfl, fun _ => rfl⟩

theorem uuid_from_file_error_iff (f : TableFile String) :
    uuidFromFile f = .error .build ↔ (f.readable = false ∨ f.intact = false) := by
  unfold uuidFromFile
  cases f.readable <;> cases f.intact <;> simp

/-- `parse_wkb_linestring` returns `l` exactly for the row that is the linestring `l` (the left side says
`parseWkbLinestring r = .ok l`) -/
theorem parse_wkb_linestring_ok_iff (r : WkbRow) (l : Line) :
    (∃ l', parseWkbLinestring r = .ok l' ∧ l' = l) ↔ r = .linestring l := by
  cases r <;> simp [parseWkbLinestring]

/-- modelled behaviour of an unused public helper (reported, not a clause of C20): it hands the bytes of the text
row to the WKB decoder undecoded, so a hex-encoded row (first byte `'0'`) or an unknown geometry type panics inside
the `wkb` crate instead of giving the `InvalidData` error -/
theorem parse_wkb_linestring_panics_iff (r : WkbRow) :
    (match parseWkbLinestring r with | .panic => True | _ => False) ↔ (r = .badByteOrder ∨ r = .unknownType) := by
  cases r <;> simp [parseWkbLinestring]

example : readLinestringTextFile { readable := true, intact := true, rows := [some [⟨1, 2⟩], none, some [⟨3, 4⟩]] } =
    .error .io := rfl
example : (traversalFromFile { readable := true, intact := true, rows := [some [⟨1, 2⟩], some [⟨3, 4⟩]] }
    (some .wkt) none).toOption.map (fun c => (c.geoms 1, c.geoms 2)) = some (some [⟨3, 4⟩], none) := rfl

/-! ### 8. the configuration builders -/

/-- in either accepted spelling: the plain string and serde's single-key map form `{"<name>": null}` -/
theorem format_names_roundtrip (f : Fmt) :
    Fmt.ofName? f.name = some f ∧ fmtParam (some (.str f.name)) = .ok (some f) ∧
    fmtParam (some (.obj [(f.name, .null)])) = .ok (some f) := by
  have h1 : Fmt.ofName? f.name = some f := (of_name_iff f _).2 rfl
  exact ⟨h1, by simp [fmtParam, fmtOfName, h1], by simp [fmtParam, fmtOfName, h1]⟩

/-- **the exact set of accepted values of the `route` / `tree` parameter** (model of
`serde_json::from_value::<TraversalOutputFormat>`, checked differentially on strings, `null`, numbers, arrays and
objects of every shape): an absent key means "do not render"; a present value is accepted iff it is one of the
five names written as a string or as the single-key object `{"<name>": null}`; it then denotes that format
(`{"wkt": null}` builds a WKT plugin). -/
theorem format_param_accepts_iff (v : Option Json) (o : Option Fmt) :
    fmtParam v = .ok o ↔
      ((v = none ∧ o = none) ∨
       ∃ f, o = some f ∧ (v = some (.str f.name) ∨ v = some (.obj [(f.name, .null)]))) := by
  constructor
  · intro h
    unfold fmtParam at h
    split at h
    · injection h with h; exact Or.inl ⟨rfl, h.symm⟩
    · obtain ⟨f, hf, ho⟩ := (format_of_name_ok_iff _ o).1 h
      exact Or.inr ⟨f, ho, Or.inl (by rw [hf])⟩
    · obtain ⟨f, hf, ho⟩ := (format_of_name_ok_iff _ o).1 h
      exact Or.inr ⟨f, ho, Or.inr (by rw [hf])⟩
    · cases h
  · rintro (⟨rfl, rfl⟩ | ⟨f, rfl, (rfl | rfl)⟩)
    · rfl
    · exact (format_names_roundtrip f).2.1
    · exact (format_names_roundtrip f).2.2

-- the accepted map form, and shapes that look similar but are rejected
example : (fmtParam (some (.obj [("wkt", .null)]))).toOption = some (some .wkt) := by decide +kernel
example : (fmtParam (some (.obj [("geo_json", .null)]))).toOption = some (some .geoJson) := by decide +kernel
example : (fmtParam (some (.obj [("wkt", .bool false)]))).toOption = none := by decide +kernel
example : (fmtParam (some (.obj [("wkt", .null), ("wkb", .null)]))).toOption = none := by decide +kernel
example : (fmtParam (some (.obj []))).toOption = none := by decide +kernel
example : (fmtParam (some .null)).toOption = none := by decide +kernel
example : (fmtParam (some (.str "WKT"))).toOption = none := by decide +kernel

/-- a traversal plugin is built only from an existing file whose every row parses and from known format names; it
then is exactly the plugin `from_file` gives for those formats (so `traversal_from_file_table` applies) -/
theorem build_traversal_ok (file : FileParam GeomRow) (route tree : Option Json) (cfg : TraversalCfg)
    (h : buildTraversal file route tree = .ok cfg) :
    ∃ f, file = .file f ∧ f.isFile = true ∧ f.readable = true ∧ fmtParam route = .ok cfg.route ∧
      fmtParam tree = .ok cfg.tree ∧
      traversalFromFile f cfg.route cfg.tree = .ok cfg := by
  unfold buildTraversal at h
  cases hp : filePath file with
  | error e => rw [hp] at h; cases h
  | ok f =>
    obtain ⟨rfl, hf⟩ := filePath_ok hp
    cases h1 : fmtParam route with
    | error e => rw [hp, h1] at h; cases h
    | ok r =>
      cases h2 : fmtParam tree with
      | error e => rw [hp, h1, h2] at h; cases h
      | ok t =>
        rw [hp, h1, h2] at h
        cases h3 : traversalFromFile f r t with
        | error e => simp only [h3] at h; cases h
        | ok c =>
          simp only [h3] at h
          cases h
          obtain ⟨ls, hl, rfl⟩ := traversalFromFile_ok h3
          exact ⟨f, rfl, hf, ((geometry_file_loads_all_rows_or_fails f ls).1 hl).1, rfl, rfl, h3⟩

/-- the two ways a lookup file can be unusable reach different error arms: a path that is not a file is
`FileNotFoundForComponent` (before the format parameters are even looked at); a file that exists but does not
open (no read permission), is cut off or holds a rejected row is a `PluginError` wrapping the loader's
`BuildFailed` (after the format parameters have been accepted) -/
theorem build_traversal_file_errors (f : TableFile GeomRow) (route tree : Option Json) :
    (f.isFile = false → buildTraversal (.file f) route tree = .error .fileNotFound) ∧
    (f.isFile = true → (f.readable = false ∨ f.intact = false ∨ none ∈ f.rows) →
      ∀ r t, fmtParam route = .ok r → fmtParam tree = .ok t →
        buildTraversal (.file f) route tree = .error .plugin) := by
  constructor
  · intro h; simp [buildTraversal, filePath, h]
  · intro h hbad r t hr ht
    have := (geometry_file_bad_row_is_error f r t hbad).2
    simp [buildTraversal, filePath, h, hr, ht, this]

theorem build_uuid_ok (file : FileParam String) (u : Uuids) (h : buildUuid file = .ok u) :
    ∃ f, file = .file f ∧ ∀ i, u i = f.rows[i]? := by
  unfold buildUuid at h
  cases hp : filePath file with
  | error e => rw [hp] at h; cases h
  | ok f =>
    obtain ⟨rfl, _⟩ := filePath_ok hp
    rw [hp] at h
    cases h3 : uuidFromFile f with
    | error e => simp only [h3] at h; cases h
    | ok c =>
      simp only [h3] at h
      cases h
      exact ⟨f, rfl, (uuid_from_file_table f _ h3).2.2⟩

example : ((buildTraversal (.file { readable := true, intact := true, rows := [some [⟨1, 2⟩]] })
    (some (.str "geo_json")) none).toOption.map (fun c => (c.route, c.tree))) = some (some .geoJson, none) := by
  decide +kernel
example : (buildTraversal (.file { readable := true, intact := true, rows := [some [⟨1, 2⟩]] })
    (some .null) none).toOption.isNone = true := by decide +kernel
-- exists, but no read permission: the loader's failure, not "file not found"
example : (match buildTraversal (.file { readable := false, isFile := true, intact := true, rows := [some [⟨1, 2⟩]] })
    (some (.str "wkt")) none with | .error .plugin => true | _ => false) = true := by decide +kernel
example : (match buildUuid (.file { readable := false, isFile := true, intact := true, rows := ["a"] })
    with | .error .plugin => true | _ => false) = true := by decide +kernel

/-! ### 9. the plugins called directly on a JSON output -/

/-- after a failed search every plugin leaves the output alone -/
theorem failed_search_leaves_output (cfg : TraversalCfg) (a : Bool) (u : Uuids) (out : Json) :
    (match traversalProcessOn cfg none a with | .ok none => True | _ => False) ∧
    (match summaryProcessOn none out with | .ok j => j = out | _ => False) ∧
    (match uuidProcess u false out with | .ok j => j = out | _ => False) := by
  simp [traversalProcessOn, summaryProcessOn, uuidProcess]

/-- on an object (or `null`) the direct call of the **traversal** plugin does what the pipeline model does, for
every combination of configured route / tree formats (the corresponding statements for the other two plugins are
`uuid_direct_matches_pipeline` and, for the two counts only, `summary_process_on_object`) -/
theorem traversal_process_on_object (cfg : TraversalCfg) (sr : SearchResult) :
    traversalProcessOn cfg (some sr) true =
      match traversalProcess cfg sr {} with
      | .ok r => .ok (some r)
      | .error x => .err x := by
  unfold traversalProcessOn traversalProcess
  cases cfg.route with
  | none =>
    cases cfg.tree with
    | none => rfl
    | some ft => dsimp only; cases mapExcept (generateTreeOutput cfg.geoms ft) sr.trees <;> rfl
  | some fr =>
    dsimp only
    cases mapExcept (constructRouteOutput sr.costSlots cfg.geoms fr) sr.routes with
    | error x => rfl
    | ok outs =>
      cases cfg.tree with
      | none => rfl
      | some ft => dsimp only; cases mapExcept (generateTreeOutput cfg.geoms ft) sr.trees <;> rfl

/-- the index-assignment panic needs an output that is neither an object nor `null` **and** something to write:
`apply_output_processing` only ever passes an object, so it is unreachable from the application -/
theorem traversal_process_on_panic (cfg : TraversalCfg) (res : Option SearchResult) (a : Bool)
    (h : match traversalProcessOn cfg res a with | .panic => True | _ => False) :
    a = false ∧ (cfg.route.isSome = true ∨ cfg.tree.isSome = true) := by
  cases a with
  | true =>
    cases res with
    | none => simp [traversalProcessOn] at h
    | some sr =>
      rw [traversal_process_on_object] at h
      cases ht : traversalProcess cfg sr {} with
      | ok r => rw [ht] at h; exact h.elim
      | error x => rw [ht] at h; exact h.elim
  | false =>
    refine ⟨rfl, ?_⟩
    cases hr : cfg.route with
    | some f => simp
    | none =>
      cases ht : cfg.tree with
      | some f => simp
      | none =>
        cases res with
        | none => simp [traversalProcessOn] at h
        | some sr => simp [traversalProcessOn, hr, ht] at h

/-- `SummaryOutputPlugin::process` on an object: the two counts are the sizes of the routes and trees, and no key
other than its own six is touched -/
theorem summary_process_on_object (sr : SearchResult) (si : SummaryInput) (kvs : List (String × Json)) :
    ∃ kvs', summaryProcessOn (some (sr, si)) (.obj kvs) = .ok (.obj kvs') ∧
      Json.lookup kvs' "route_edges" = some (jnat ((sr.routes.map List.length).sum)) ∧
      Json.lookup kvs' "tree_size_count" = some (jnat ((sr.trees.map List.length).sum)) ∧
      ∀ k, k ∉ ["search_executed_time", "search_runtime", "route_edges", "tree_size_count",
                "search_result_size_mib", "iterations"] → Json.lookup kvs' k = Json.lookup kvs k := by
  refine ⟨_, by simp [summaryProcessOn, assignAll, Json.indexAssign]; rfl, ?_, ?_, ?_⟩
  · rw [Json.lookup_insertKv_other _ _ _ _ (by simp), Json.lookup_insertKv_other _ _ _ _ (by simp),
      Json.lookup_insertKv_other _ _ _ _ (by simp), Json.lookup_insertKv_same]
    rfl
  · rw [Json.lookup_insertKv_other _ _ _ _ (by simp), Json.lookup_insertKv_other _ _ _ _ (by simp),
      Json.lookup_insertKv_same]
    rfl
  · intro k hk
    simp only [List.mem_cons, List.not_mem_nil, or_false, not_or] at hk
    obtain ⟨h1, h2, h3, h4, h5, h6⟩ := hk
    rw [Json.lookup_insertKv_other _ _ _ _ h6, Json.lookup_insertKv_other _ _ _ _ h5, Json.lookup_insertKv_other _ _ _ _ h4,
      Json.lookup_insertKv_other _ _ _ _ h3, Json.lookup_insertKv_other _ _ _ _ h2, Json.lookup_insertKv_other _ _ _ _ h1]

/-- the summary plugin panics exactly on an output that is neither an object nor `null` (after a successful
search); unreachable from `apply_output_processing` -/
theorem summary_process_on_panic_iff (sr : SearchResult) (si : SummaryInput) (out : Json) :
    (match summaryProcessOn (some (sr, si)) out with | .panic => True | _ => False) ↔
      (out.isObject = false ∧ out.isNull = false) := by
  cases out <;> simp [summaryProcessOn, assignAll, Json.indexAssign, Json.isObject, Json.isNull]

/-- `add_od_uuids` (public helper): the two identifiers are written into the request object, everything else —
other request fields, other output keys, key order — stays -/
theorem add_od_uuids_result (out out' : Json) (ou du : String) (h : addOdUuids out ou du = .ok out') :
    ∃ kvs rq rq', out = .obj kvs ∧ Json.lookup kvs "request" = some (.obj rq) ∧
      out' = .obj (replaceKv kvs "request" (.obj rq')) ∧
      Json.lookup (replaceKv kvs "request" (.obj rq')) "request" = some (.obj rq') ∧
      Json.lookup rq' "origin_vertex_uuid" = some (.str ou) ∧
      Json.lookup rq' "destination_vertex_uuid" = some (.str du) ∧
      (∀ k, k ≠ "origin_vertex_uuid" → k ≠ "destination_vertex_uuid" → Json.lookup rq' k = Json.lookup rq k) ∧
      (∀ k, k ≠ "request" → Json.lookup (replaceKv kvs "request" (.obj rq')) k = Json.lookup kvs k) := by
  unfold addOdUuids at h
  cases out with
  | obj kvs =>
    cases hl : Json.lookup kvs "request" with
    | none => simp only [hl] at h; cases h
    | some r =>
      cases r with
      | obj rq =>
        simp only [hl] at h
        cases h
        refine ⟨kvs, rq, _, rfl, hl, rfl, ?_, ?_, Json.lookup_insertKv_same _ _ _,
          fun k h1 h2 => ?_, fun k hk => by rw [lookup_replaceKv, if_neg hk]⟩
        · rw [lookup_replaceKv, if_pos rfl, hl]
          rfl
        · rw [Json.lookup_insertKv_other _ _ _ _ (by simp), Json.lookup_insertKv_same]
        · rw [Json.lookup_insertKv_other _ _ _ _ h2, Json.lookup_insertKv_other _ _ _ _ h1]
      | _ => simp only [hl] at h; cases h
  | _ => cases h

/-- `get_route_geometry_wkt` (unused public helper) succeeds exactly on a string stored under `route` -/
theorem get_route_geometry_wkt_ok_iff (out : Json) (w : String) :
    getRouteGeometryWkt out = .ok w ↔ out.get? "route" = some (.str w) := by
  unfold getRouteGeometryWkt
  cases h : out.get? "route" with
  | none => simp
  | some j => cases j <;> simp

example : summaryProcessOn (some ({ routes := [[⟨1, 0, 0, []⟩, ⟨0, 0, 0, []⟩]], trees := [] },
      { executedTime := "t", runtime := "0:00:00.000", iterations := 3 })) .null =
    .ok (.obj [("search_executed_time", .str "t"), ("search_runtime", .str "0:00:00.000"), ("route_edges", jnat 2),
      ("tree_size_count", jnat 0), ("search_result_size_mib", .null), ("iterations", jnat 3)]) := by
  simp [summaryProcessOn, assignAll, Json.indexAssign, Json.insertKv, routeEdgesCount, treeSizeCount]
example : (match traversalProcessOn { geoms := tableOf [], route := some .edgeId, tree := none }
      (some { routes := [[⟨0, 0, 0, []⟩]], trees := [] }) false with | .panic => true | _ => false) = true := rfl

end C20
end Compass
