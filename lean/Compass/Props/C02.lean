/-
C02 — the returned route has least total cost under the query's own objective.

Setting: validity is edge-local, the cost of an edge is a strictly positive function `c e` of the
edge alone (no access model: the `config_…` theorems below say which configurations meet this), the heuristic is a
non-negative function of the vertex.  Walks are in the search direction, so the statements cover
forward and reverse search alike.  Every statement is for every instance, origin, destination and
every schedule the queue may take (ties, re-opened vertices).  A* needs admissibility (`hv v ≤` cost
of every walk from `v` to the target) — on metrically consistent networks with weight factor in
`[0, 1]` that is what the great-circle estimate provides; Dijkstra (`h = 0`) needs nothing.

The premises are taken only on the calls the search really makes and only of calls that answer
(`UniformOn` / `UniformCostOn`, relative to an invariant `S` of the (last edge, state) pairs; a call
that fails fails the run, and every theorem is about a run that returned).  The unrestricted
`SearchOpt.Uniform` / `UniformCost` quantify over *every* state vector and previous edge and are met
by no concrete configuration (`valid` answers `network` on an edge id beyond the edge list), so
no theorem here is stated with them (toy instances in `Proofs/SearchOpt.lean` meet them).  The `config_…` theorems
discharge the `_on` premises for every *edge-local* configuration (`Config.EdgeLocal`: no access
model, no turn restrictions, consistent adjacency) — with the distance or the speed-table traversal
model, any weights, rates (offsets too), surcharges, aggregation and feature units: there the cost of
an edge is `Config.costOf c e`, the floor applied to the C07 formula of the edge's own state change.
Admissibility of the configuration's own estimate `Config.hOf` is a premise of
`config_astar_route_least_cost` and is proved (`config_distance_estimate_admissible`,
`config_speed_estimate_admissible`) on metrically consistent great-circle tables: sum aggregation,
rates from the property's list (`zero / raw / factor ≥ 0 / combined`, no offset), weights, surcharges
and lengths ≥ 0, `0 ≤ weight_factor ≤ 1`, `max_speed ≥` every table speed, and — speed-table model —
every table speed strictly positive.

Premises that the property text does not state, named here and in the manifest:
* `0 ≤ weight_factor` (the text says "at most 1"): every A* theorem assumes `0 ≤ c.wfOf`; a negative
  factor makes the estimate negative and is outside the theorems.
* speed-table model, A*: `0 < table speed` on every edge (`Config.SpeedMetric.edge`).  The engine the
  builder returns guarantees only `0 ≤ speed` (`speed_engine_estimate_premise`); an edge whose table
  speed is zero can never be traversed (`zero_speed_edge_never_traversed`: `create_time` refuses it,
  the search fails with a traversal error when it relaxes such an edge, it is not skipped), so a search
  that returns used positive speeds only (`returned_search_used_positive_speeds`) — but the
  admissibility proof compares with *all* walks, hence the premise on every edge.
* a route being returned at all: see `config_dijkstra_least_cost_route_returned` (schedule existence
  and termination, `Proofs/SearchTermination.lean`).
* **outside every theorem** (ordered fields have no +∞, NaN, overflow or underflow), tied by the
  correspondence run only — the oracles are silent on such cases: a tentative cost of +∞ (an
  overflowing sum) or NaN never improves on a *missing* label: the code tests
  `tentative < Cost::INFINITY`, the model `improves tent none = Lit.belowInf tent`, constantly true in
  an ordered field (`LawfulLit.belowInf_eq`) and the IEEE test at
  `Float`.  One generated case in six is pushed where the plain generator never goes (lengths,
  speeds, weights, rates, delays, initial values, weight factors, vehicle limits of 0, −0, negative,
  1e308, ±∞, NaN, subnormal; limits at the ends of `u64` / `usize`);
* **modelled rather than verified — the NaN-free domain**: the code orders `Cost`, `Distance`,
  `Weight`, `Speed` by `OrderedFloat`'s total order (NaN the greatest number, NaN = NaN), the model by
  IEEE `<` / `≤`.  They differ only on NaN operands (`push_increase` against a NaN priority; a NaN
  vehicle-restriction limit; `get_max_speed` of a table with a NaN), which no file or JSON document
  can supply — the readers refuse NaN — and which the extreme-value stream reaches only through
  values constructed in code, where model and code agreed on every generated case.
-/
import Compass.Gen.Decisions
import Compass.Model.Search
import Compass.Model.Build
import Compass.Props.C07
import Compass.Proofs.Build
import Compass.Proofs.SearchTermination
import Compass.Model.CostIO

namespace Compass
namespace C02

set_option linter.unusedSectionVars false

open SearchOpt

variable {α : Type} [Field α] [LinearOrder α] [IsStrictOrderedRing α] [Lit α] [LawfulLit α]

/-- A consistent heuristic (`hv v ≤ c e + hv (head e)` on every valid edge, `hv t ≤ 0`) is admissible. -/
theorem consistent_is_admissible {I : Inst α} {ok : Nat → Bool} {c hv : Nat → α} {t : Nat}
    (hcons : ∀ v, ∀ e ∈ I.incident v, ok e = true → hv v ≤ c e + hv (I.keyV e)) (ht : hv t ≤ 0) :
    Admissible I ok c hv t :=
  admissible_of_consistent hcons ht

/-- A pointwise smaller heuristic of an admissible one (weight factor ≤ 1) is admissible. -/
theorem smaller_heuristic_admissible {I : Inst α} {ok : Nat → Bool} {c hv hv' : Nat → α} {t : Nat}
    (h : Admissible I ok c hv t) (hle : ∀ v, hv' v ≤ hv v) : Admissible I ok c hv' t :=
  h.mono hle

/-! ### The theorems, premises restricted to the calls the search makes (`UniformOn`) -/

/-- A*, label: premises only on the (last edge, state) pairs satisfying the invariant `S` -/
theorem astar_label_least_cost_on {I : Inst α} {S : Option Nat → List α → Prop} {ok : Nat → Bool}
    {c hv : Nat → α} (U : UniformOn I S ok c hv) {source t : Nat} (hts : t ≠ source)
    (hadm : Admissible I ok c hv t) {sched : List Nat} {s : SState α}
    (hrun : runAStar I source (some t) sched = .ok s) :
    ∃ d, s.g t = some d ∧ (∃ es, Walk I ok source es t ∧ cost c es = d) ∧
      ∀ es, Walk I ok source es t → d ≤ cost c es :=
  label_optimal_on U hts hadm hrun

/-- A*, route (`WF I`: every answered traversal charges a positive cost) -/
theorem astar_route_least_cost_on {I : Inst α} {S : Option Nat → List α → Prop} {ok : Nat → Bool}
    {c hv : Nat → α} (hI : SearchTree.WF I) (U : UniformOn I S ok c hv) {source t : Nat}
    (hts : t ≠ source) (hadm : Admissible I ok c hv t) {sched : List Nat} {res : SearchResult α}
    (h : runVertexOriented I source (some t) sched = .ok res) :
    ∃ route d, res.route = some route ∧ route ≠ [] ∧
      Walk I ok source (route.map (·.edge)) t ∧
      (route.map (fun b => b.access + b.traversal)).sum = cost c (route.map (·.edge)) ∧
      res.final.g t = some d ∧
      (route.map (fun b => b.access + b.traversal)).sum = d ∧
      ∀ es, Walk I ok source es t → (route.map (fun b => b.access + b.traversal)).sum ≤ cost c es :=
  SearchRoute.route_optimal_on hI U hts hadm h

/-- Dijkstra, route: whenever the heuristic answers, it answers 0 -/
theorem dijkstra_route_least_cost_on {I : Inst α} {S : Option Nat → List α → Prop}
    {ok : Nat → Bool} {c : Nat → α} (hI : SearchTree.WF I) (U : UniformCostOn I S ok c)
    (h0 : VertexHOn I S (fun _ => 0)) {source t : Nat} (hts : t ≠ source)
    {sched : List Nat} {res : SearchResult α}
    (h : runVertexOriented I source (some t) sched = .ok res) :
    ∃ route d, res.route = some route ∧ route ≠ [] ∧
      Walk I ok source (route.map (·.edge)) t ∧
      (route.map (fun b => b.access + b.traversal)).sum = cost c (route.map (·.edge)) ∧
      res.final.g t = some d ∧
      (route.map (fun b => b.access + b.traversal)).sum = d ∧
      ∀ es, Walk I ok source es t → (route.map (fun b => b.access + b.traversal)).sum ≤ cost c es :=
  SearchRoute.route_optimal_on hI (U.toDijkstra h0) hts (SearchRoute.admissible_zero U.cost_pos t) h

/-- Dijkstra, label: the destination's label is the minimum total cost over all valid
origin–destination walks -/
theorem dijkstra_label_least_cost_on {I : Inst α} {S : Option Nat → List α → Prop}
    {ok : Nat → Bool} {c : Nat → α} (U : UniformCostOn I S ok c)
    (h0 : VertexHOn I S (fun _ => 0)) {source t : Nat} (hts : t ≠ source)
    {sched : List Nat} {s : SState α} (hrun : runAStar I source (some t) sched = .ok s) :
    ∃ d, s.g t = some d ∧ (∃ es, Walk I ok source es t ∧ cost c es = d) ∧
      ∀ es, Walk I ok source es t → d ≤ cost c es :=
  label_optimal_on (U.toDijkstra h0) hts (SearchRoute.admissible_zero U.cost_pos t) hrun

/-- A destination-less search labels every reached vertex with its least cost. -/
theorem tree_labels_least_cost_on {I : Inst α} {S : Option Nat → List α → Prop} {ok : Nat → Bool}
    {c : Nat → α} (U : UniformCostOn I S ok c) {source : Nat} {sched : List Nat} {s : SState α}
    (hrun : runAStar I source none sched = .ok s) (v : Nat) (x : α) (hx : s.g v = some x) :
    (∃ es, Walk I ok source es v ∧ cost c es = x) ∧ ∀ es, Walk I ok source es v → x ≤ cost c es :=
  tree_labels_optimal_on U hrun v x hx

/-- Consequently Dijkstra and A* report the same route cost, whatever schedules they take:
`{ I with h := 0 }` is the same instance run as Dijkstra. -/
theorem astar_route_cost_eq_dijkstra_on {I : Inst α} {S : Option Nat → List α → Prop}
    {ok : Nat → Bool} {c hv : Nat → α} (hI : SearchTree.WF I) (U : UniformOn I S ok c hv)
    {source t : Nat} (hts : t ≠ source) (hadm : Admissible I ok c hv t)
    {sched sched' : List Nat} {res res' : SearchResult α}
    (h : runVertexOriented I source (some t) sched = .ok res)
    (h' : runVertexOriented { I with h := fun _ _ => .ok 0 } source (some t) sched' = .ok res') :
    ∃ route route', res.route = some route ∧ res'.route = some route' ∧
      (route.map (fun b => b.access + b.traversal)).sum
        = (route'.map (fun b => b.access + b.traversal)).sum := by
  have U' : UniformCostOn ({ I with h := fun _ _ => .ok 0 } : Inst α) S ok c :=
    ⟨U.incident_term, U.init_ok, U.valid_eq, U.trav_eq, U.cost_pos⟩
  have h0 : VertexHOn ({ I with h := fun _ _ => .ok 0 } : Inst α) S (fun _ => 0) := by
    intro v le st x _ hx
    injection hx with hx
    exact hx.symm
  exact SearchRoute.route_cost_unique_on (I' := { I with h := fun _ _ => .ok 0 }) hI
    ⟨hI.incident_term, hI.cost_pos⟩ U (U'.toDijkstra h0) rfl rfl rfl hts hadm
    (SearchRoute.admissible_zero U.cost_pos t) h h'

/-! ### Concrete configurations -/

/-- the state-independence premise of the property, proved: in an edge-local configuration, whenever
the frontier models answer the verdict is `okOf c e`, and whenever `forward_traversal` /
`reverse_traversal` answers — from any state, after any previous edge — the record's
`access + traversal` is `costOf c e > 0` -/
theorem config_edge_cost_uniform (c : Config α) (h : c.EdgeLocal) :
    UniformCostOn c.inst (fun _ _ => True) c.okOf c.costOf :=
  c.uniformCostOn h

/-- what `costOf` is under sum aggregation: the floor applied to
`Σᵢ wᵢ·rateᵢ(Δᵢ e) + Σᵢ wᵢ·lookupᵢ(e)`, `Δ e` the state change of the edge
(`Config.edgeDelta_distance`, `Config.edgeDelta_speed`) -/
theorem config_edge_cost_formula (c : Config α) (hs : c.cost.agg = .sum) (e : Nat) :
    c.costOf e = enforceStrictlyPositive
      ((c.cost.indices.map fun i => c.cost.wt i * (c.cost.vr i).mapValue (c.edgeDelta e i)).sum
        + (c.cost.indices.map fun i => c.cost.wt i * (c.cost.nr i).traversalCost e).sum) :=
  c.costOf_sum hs e

/-- whenever `estimate_traversal_cost` answers it answers `hOf c v`, whatever the state -/
theorem config_estimate_vertex_function (c : Config α) (v : Nat) (st : List α) (x : α)
    (h : estimate c v st = .ok x) : x = c.hOf v :=
  estimate_eq c v st x h

/-- **A\* on a concrete configuration**: for every edge-local configuration with a non-negative weight
factor whose estimate `hOf` is admissible for `t` (e.g. consistent, `consistent_is_admissible`), every
source, every schedule: the route `Config.runVertex` returns is a valid walk source ⇝ `t`, its summed
cost is `Σ costOf` over its edges, and no valid walk source ⇝ `t` costs less
(`Compass.config_route_least_cost`, repacked) -/
theorem config_astar_route_least_cost (c : Config α) (h : c.EdgeLocal) (hwf : 0 ≤ c.wfOf)
    {source t : Nat} (hts : t ≠ source) (hadm : Admissible c.inst c.okOf c.costOf c.hOf t)
    {sched : List Nat} {r : AlgResult α} (hrun : c.runVertex source (some t) sched = .ok r) :
    ∃ route, r.routes = [route] ∧ route ≠ [] ∧
      Walk c.inst c.okOf source (route.map (·.edge)) t ∧
      (route.map (fun b => b.access + b.traversal)).sum = cost c.costOf (route.map (·.edge)) ∧
      ∀ es, Walk c.inst c.okOf source es t →
        (route.map (fun b => b.access + b.traversal)).sum ≤ cost c.costOf es := by
  obtain ⟨res, hres, _, hroutes, _⟩ := runVertex_ok hrun
  obtain ⟨route, hr, rest⟩ := config_route_least_cost c h hwf hts hadm hres
  exact ⟨route, by rw [hroutes, hr]; rfl, rest⟩

/-- **Dijkstra on a concrete configuration** (`weight_factor = 0`): every edge-local configuration,
every origin, destination and schedule — the returned route is a valid walk whose summed cost is
`Σ costOf` over its edges and is the least over all valid walks: the case `weight_factor = 0` of
`config_astar_route_least_cost`. -/
theorem config_dijkstra_route_least_cost (c : Config α) (h : c.EdgeLocal) (hwf : c.wf = some 0)
    {source t : Nat} (hts : t ≠ source)
    {sched : List Nat} {r : AlgResult α} (hrun : c.runVertex source (some t) sched = .ok r) :
    ∃ route, r.routes = [route] ∧ route ≠ [] ∧
      Walk c.inst c.okOf source (route.map (·.edge)) t ∧
      (route.map (fun b => b.access + b.traversal)).sum = cost c.costOf (route.map (·.edge)) ∧
      ∀ es, Walk c.inst c.okOf source es t →
        (route.map (fun b => b.access + b.traversal)).sum ≤ cost c.costOf es :=
  config_astar_route_least_cost c h (by simp [Config.wfOf, hwf]) hts (c.admissible_dijkstra hwf t) hrun

/-- **through the edge-oriented wrapper** (`run_edge_oriented`, origin and destination edges not
adjacent): the returned route's summed cost is the least cost of a valid walk from the origin edge's
head to the destination edge's tail -/
theorem config_edge_oriented_route_least_cost (c : Config α) (h : c.EdgeLocal) (hwf : 0 ≤ c.wfOf)
    (source tgt : Nat) (sched : List Nat) (r : AlgResult α)
    (e1 e2 : EdgeRec α) (h1 : c.edges[source]? = some e1) (h2 : c.edges[tgt]? = some e2)
    (hne : source ≠ tgt) (hnadj : e1.dst ≠ e2.src)
    (hadm : Admissible c.inst c.okOf c.costOf c.hOf e2.src)
    (hrun : c.runEdge source (some tgt) sched = .ok r) :
    ∃ (route inner : List (Branch α)) (last : Branch α), r.routes = [route] ∧
      route = SearchRoute.originBranch c source e1 :: inner
        ++ [SearchRoute.destBranch tgt e2 last.state] ∧
      Walk c.inst c.okOf e1.dst (inner.map (·.edge)) e2.src ∧
      (route.map (fun b => b.access + b.traversal)).sum = cost c.costOf (inner.map (·.edge)) ∧
      ∀ es, Walk c.inst c.okOf e1.dst es e2.src →
        (route.map (fun b => b.access + b.traversal)).sum ≤ cost c.costOf es :=
  SearchRoute.runEdge_route_optimal_on c h.adj (c.uniformOn h hwf) source tgt sched r e1 e2 h1 h2
    hne hnadj hadm hrun

/-- the same wrapper when the destination edge starts where the origin edge ends (`e1.dst = e2.src`):
no search is run; the route is the two edges, both really traversed and both charged, so there is no
cheaper alternative.  (In the non-adjacent case the two end edges are reported with zero cost.) -/
theorem config_edge_oriented_adjacent_route_cost (c : Config α) (h : c.EdgeLocal)
    (source tgt : Nat) (sched : List Nat) (r : AlgResult α)
    (e1 e2 : EdgeRec α) (h1 : c.edges[source]? = some e1) (h2 : c.edges[tgt]? = some e2)
    (hne : source ≠ tgt) (hadj : e1.dst = e2.src)
    (hrun : c.runEdge source (some tgt) sched = .ok r) :
    ∃ b1 b2 : Branch α, r.routes = [[b1, b2]] ∧ b1.edge = source ∧ b2.edge = tgt ∧
      b1.access + b1.traversal = c.costOf source ∧ b2.access + b2.traversal = c.costOf tgt ∧
      (r.routes.map fun rt => (rt.map (fun b => b.access + b.traversal)).sum)
        = [c.costOf source + c.costOf tgt] := by
  obtain ⟨ac1, tc1, st1, ac2, tc2, st2, ht1, ht2, hroutes, _, _⟩ :=
    SearchRoute.runEdge_adjacent c source tgt sched r e1 e2 h1 h2 hne hadj hrun
  have hc1 : ac1 + tc1 = c.costOf source :=
    edgeTraversal_noAccess ({ c with reverse := false } : Config α) h.noAccess _ _ _ _ _ _ ht1
  have hc2 : ac2 + tc2 = c.costOf tgt :=
    edgeTraversal_noAccess ({ c with reverse := false } : Config α) h.noAccess _ _ _ _ _ _ ht2
  refine ⟨_, _, hroutes, rfl, rfl, hc1, hc2, ?_⟩
  rw [hroutes]
  simp only [List.map_cons, List.map_nil, List.sum_cons, List.sum_nil, add_zero]
  rw [hc1, hc2]

/-- **Dijkstra and A\* report the same route cost** on a concrete configuration: under the premises
of `config_astar_route_least_cost` for `c` (edge-local, `0 ≤ weight_factor`, admissible estimate) the
route `c` returns and the route the same configuration returns as Dijkstra
(`weight_factor = 0`, the premises of `config_dijkstra_route_least_cost` then hold by themselves)
have equal summed cost, whatever schedules the two runs take -/
theorem config_astar_cost_eq_dijkstra_cost (c : Config α) (h : c.EdgeLocal) (hwf : 0 ≤ c.wfOf)
    {source t : Nat} (hts : t ≠ source) (hadm : Admissible c.inst c.okOf c.costOf c.hOf t)
    {sched sched' : List Nat} {r r' : AlgResult α}
    (hrun : c.runVertex source (some t) sched = .ok r)
    (hrun' : ({ c with wf := some 0 } : Config α).runVertex source (some t) sched' = .ok r') :
    ∃ route route', r.routes = [route] ∧ r'.routes = [route'] ∧
      (route.map (fun b => b.access + b.traversal)).sum
        = (route'.map (fun b => b.access + b.traversal)).sum := by
  obtain ⟨res, hres, _, hroutes, _⟩ := runVertex_ok hrun
  obtain ⟨res', hres', _, hroutes', _⟩ := runVertex_ok hrun'
  have h' : ({ c with wf := some 0 } : Config α).EdgeLocal := ⟨h.adj, h.noAccess, h.noTurn⟩
  obtain ⟨route, route', hr, hr', heq⟩ :=
    SearchRoute.route_cost_unique_on (c.inst_wf h.adj) (Config.inst_wf _ h'.adj) (c.uniformOn h hwf)
      (Config.uniformOn _ h' (by simp [Config.wfOf])) rfl rfl rfl hts hadm
      (Config.admissible_dijkstra _ rfl t) hres hres'
  exact ⟨route, route', by rw [hroutes, hr]; rfl, by rw [hroutes', hr']; rfl, heq⟩

/-- **a least-cost route IS returned** (Dijkstra; schedule existence and termination).
Premises: a well-formed configuration (`Config.WellFormedDistance`, `Config.GraphOK`: **distance
traversal model, no access model, no turn restrictions, every vertex in the coordinate range**) over
the vertices `< c.nV`; a termination model that does **not fire within `|V|` iterations and `|V| · D`
tree entries**, `D` a bound on the number of incident edges of a vertex; a reachable destination.
Some schedule of at most `|V| + 1` pops returns a route, and *every* accepted schedule that ends
(`IsFinal`) ends in a route that is a valid walk of least summed cost. -/
theorem config_dijkstra_least_cost_route_returned (c : Config α) {du : DistanceUnit}
    (W : c.WellFormedDistance du) {source t : Nat} (G : c.GraphOK source true)
    (hwf : c.wf = some 0) {D : Nat} (hD : ∀ v, (c.inst.incident v).length ≤ D)
    (hlim : ∀ sz it, it ≤ c.nV → sz ≤ c.nV * D → c.term.test sz it = .ok ())
    (hsrc : source < c.nV)
    (hV : c.VerticesBelow c.nV) (hts : t ≠ source)
    (hreach : ∃ es, Walk c.inst c.okOf source es t) :
    (∃ sched r route, sched.length ≤ c.nV + 1 ∧ c.runVertex source (some t) sched = .ok r ∧
      r.routes = [route] ∧
      ∀ es, Walk c.inst c.okOf source es t →
        (route.map (fun b => b.access + b.traversal)).sum ≤ cost c.costOf es) ∧
    ∀ sched, SearchTermination.IsFinal (c.runVertex source (some t) sched) →
      ∃ r route, c.runVertex source (some t) sched = .ok r ∧ r.routes = [route] ∧
        Walk c.inst c.okOf source (route.map (·.edge)) t ∧
        ∀ es, Walk c.inst c.okOf source es t →
          (route.map (fun b => b.access + b.traversal)).sum ≤ cost c.costOf es := by
  have hEL := SearchTermination.edgeLocal_of_wellFormed c W G
  have hall : ∀ sched, SearchTermination.IsFinal (c.runVertex source (some t) sched) →
      ∃ r route, c.runVertex source (some t) sched = .ok r ∧ r.routes = [route] ∧
        Walk c.inst c.okOf source (route.map (·.edge)) t ∧
        ∀ es, Walk c.inst c.okOf source es t →
          (route.map (fun b => b.access + b.traversal)).sum ≤ cost c.costOf es := by
    intro sched hfin
    obtain ⟨_, hiff, _⟩ := SearchTermination.config_final_decides c W G
      (SearchTermination.config_dijkstra_bound c G.adj hwf hsrc hV (some t)) hD hlim hfin
    obtain ⟨r, hr⟩ := hiff.2 hreach
    obtain ⟨route, h1, _, h3, _, h5⟩ := config_dijkstra_route_least_cost c hEL hwf hts hr
    exact ⟨r, route, hr, h1, h3, h5⟩
  refine ⟨?_, hall⟩
  obtain ⟨⟨sched, hlen, hend⟩, _, _⟩ :=
    SearchTermination.config_dijkstra_terminates c G.adj hwf hsrc hV (some t)
  obtain ⟨r, route, hr, h1, _, h5⟩ := hall sched hend.isFinal
  exact ⟨sched, r, route, hlen, hr, h1, h5⟩

/-- **the estimate is admissible** (distance model): sum aggregation, rates in use linear and
non-decreasing (the property's list `zero / raw / factor ≥ 0 / combined`, no offset:
`CostModel.rates_of_offsetFree`), weights, surcharges, lengths ≥ 0, weight factor in `[0, 1]`, and a
great-circle table that is ≥ 0, zero at the destination and consistent with the lengths of the
permitted edges (`Config.DistanceMetric`): the configuration's own estimate is admissible -/
theorem config_distance_estimate_admissible (c : Config α) (hadj : c.AdjConsistent)
    {du : DistanceUnit} {t : Nat} (M : c.DistanceMetric du t) :
    Admissible c.inst c.okOf c.costOf c.hOf t :=
  M.scaled.admissible hadj M.gc_target

/-- **A\* on a concrete configuration with its own estimate** (distance model): no premise on the
heuristic is left -/
theorem config_astar_distance_route_least_cost (c : Config α) (h : c.EdgeLocal)
    {du : DistanceUnit} {source t : Nat} (M : c.DistanceMetric du t) (hts : t ≠ source)
    {sched : List Nat} {r : AlgResult α} (hrun : c.runVertex source (some t) sched = .ok r) :
    ∃ route, r.routes = [route] ∧ route ≠ [] ∧
      Walk c.inst c.okOf source (route.map (·.edge)) t ∧
      (route.map (fun b => b.access + b.traversal)).sum = cost c.costOf (route.map (·.edge)) ∧
      ∀ es, Walk c.inst c.okOf source es t →
        (route.map (fun b => b.access + b.traversal)).sum ≤ cost c.costOf es :=
  config_astar_route_least_cost c h M.wf_nonneg hts (M.scaled.admissible h.adj M.gc_target) hrun

/-- **the estimate is admissible** (speed-table model): as for the distance model, with positive
lengths, positive table speeds and `max_speed ≥` every table speed (`Config.SpeedMetric`) -/
theorem config_speed_estimate_admissible (c : Config α) (hadj : c.AdjConsistent)
    {su : SpeedUnit} {du : DistanceUnit} {tu : TimeUnit} {ms : α} {table : List α} {t : Nat}
    (M : c.SpeedMetric su du tu ms table t) : Admissible c.inst c.okOf c.costOf c.hOf t :=
  M.scaled.admissible hadj M.gc_target

/-- **A\* on a concrete configuration with its own estimate** (speed-table model) -/
theorem config_astar_speed_route_least_cost (c : Config α) (h : c.EdgeLocal)
    {su : SpeedUnit} {du : DistanceUnit} {tu : TimeUnit} {ms : α} {table : List α}
    {source t : Nat} (M : c.SpeedMetric su du tu ms table t) (hts : t ≠ source)
    {sched : List Nat} {r : AlgResult α} (hrun : c.runVertex source (some t) sched = .ok r) :
    ∃ route, r.routes = [route] ∧ route ≠ [] ∧
      Walk c.inst c.okOf source (route.map (·.edge)) t ∧
      (route.map (fun b => b.access + b.traversal)).sum = cost c.costOf (route.map (·.edge)) ∧
      ∀ es, Walk c.inst c.okOf source es t →
        (route.map (fun b => b.access + b.traversal)).sum ≤ cost c.costOf es :=
  config_astar_route_least_cost c h M.wf_nonneg hts (M.scaled.admissible h.adj M.gc_target) hrun

/-- the premise on the rates is the property's own list: rates built from
`zero / raw / factor f ≥ 0 / combined` of those are linear and non-decreasing -/
theorem listed_rates_linear (m : CostModel α)
    (h : ∀ i ∈ m.indices, (m.vr i).offsetFree = true ∧ 0 ≤ m.wt i) :
    m.LinearRates ∧ m.NonnegRates :=
  m.rates_of_offsetFree h

/-! ### Non-vacuity of the generalisation itself: `Example.exInstS` prices malformed states wrongly, so
it is outside `UniformCost`, and inside `UniformOn` with the invariant "the state has one slot" -/

example : ¬ UniformCost Example.exInstS Example.exOk Example.exCost := Example.ex_not_uniformCost
example : UniformOn Example.exInstS (fun _ st => st.length = 1) Example.exOk Example.exCost
    Example.exH := Example.ex_uniform_on

/-! ### Non-vacuity on concrete configurations (`ConfigUniform.Example`): an offset rate, an edge
surcharge, a unit conversion, a forbidden shortcut, a cycle and self loops; the speed-table model;
A* with a non-zero admissible estimate; a reverse search. -/

section
open ConfigUniform.Example SearchRoute.Example

/-- Dijkstra on `exC`: the run returns `[0, 7]` (not the shortest-by-length `[0, 1, 2]`, not the
forbidden shortcut `[6]`), and the theorem bounds every valid walk `0 ⇝ 3` by its cost -/
example : ∃ r route, exC.runVertex 0 (some 3) [0, 1, 2, 3] = .ok r ∧ r.routes = [route] ∧
    route.map (·.edge) = [0, 7] ∧
    ∀ es, Walk exC.inst exC.okOf 0 es 3 →
      (route.map (fun b => b.access + b.traversal)).sum ≤ cost exC.costOf es := by
  obtain ⟨r, hr⟩ := ok_of_routeEdgesOf exC_run
  obtain ⟨route, h1, _, _, _, h5⟩ :=
    config_dijkstra_route_least_cost exC exC_edgeLocal rfl (by decide) hr
  refine ⟨r, route, hr, h1, ?_, h5⟩
  have := exC_run
  rw [hr] at this
  simpa [routeEdgesOf, h1] using this

/-- the quantifier over walks is not empty, and the cheaper shortcut is indeed excluded -/
example : Walk exC.inst exC.okOf 0 [0, 1, 2] 3 ∧ ¬ Walk exC.inst exC.okOf 0 [6] 3 ∧
    cost exC.costOf [6] < cost exC.costOf [0, 7] ∧
    cost exC.costOf [0, 7] < cost exC.costOf [0, 1, 2] := by
  simp only [Walk]
  decide +kernel

/-- the speed-table model (`exS`), A* with a non-zero estimate (`exA`), a reverse search (`exR`) -/
example : ∃ r route, exS.runVertex 0 (some 3) [0, 1, 2, 3] = .ok r ∧ r.routes = [route] ∧
    ∀ es, Walk exS.inst exS.okOf 0 es 3 →
      (route.map (fun b => b.access + b.traversal)).sum ≤ cost exS.costOf es := by
  obtain ⟨r, hr⟩ := ok_of_routeEdgesOf exS_run
  obtain ⟨route, h1, _, _, _, h5⟩ :=
    config_dijkstra_route_least_cost exS exS_edgeLocal rfl (by decide) hr
  exact ⟨r, route, hr, h1, h5⟩

example : exA.hOf 0 ≠ 0 ∧ ∃ r route, exA.runVertex 0 (some 3) [0, 1, 2, 3] = .ok r ∧
    r.routes = [route] ∧
    ∀ es, Walk exA.inst exA.okOf 0 es 3 →
      (route.map (fun b => b.access + b.traversal)).sum ≤ cost exA.costOf es := by
  refine ⟨by rw [exA_h0]; norm_num, ?_⟩
  obtain ⟨r, hr⟩ := ok_of_routeEdgesOf exA_run
  obtain ⟨route, h1, _, _, _, h5⟩ :=
    config_astar_route_least_cost exA exA_edgeLocal (by simp [Config.wfOf, exA]) (by decide)
      exA_admissible hr
  exact ⟨r, route, hr, h1, h5⟩

example : ∃ r route, exR.runVertex 3 (some 0) [3, 2, 1, 0] = .ok r ∧ r.routes = [route] ∧
    ∀ es, Walk exR.inst exR.okOf 3 es 0 →
      (route.map (fun b => b.access + b.traversal)).sum ≤ cost exR.costOf es := by
  obtain ⟨r, hr⟩ := ok_of_routeEdgesOf exR_run
  obtain ⟨route, h1, _, _, _, h5⟩ :=
    config_dijkstra_route_least_cost exR exR_edgeLocal rfl (by decide) hr
  exact ⟨r, route, hr, h1, h5⟩

/-- the edge-oriented wrapper on `exC`: origin edge 0 (0→1), destination edge 4 (3→1); the inner
route is `[7]` -/
example : ∃ r route, exC.runEdge 0 (some 4) [1, 2, 3] = .ok r ∧ r.routes = [route] ∧
    route.map (·.edge) = [0, 7, 4] ∧
    ∀ es, Walk exC.inst exC.okOf 1 es 3 →
      (route.map (fun b => b.access + b.traversal)).sum ≤ cost exC.costOf es := by
  have hobs : routeEdgesOf (exC.runEdge 0 (some 4) [1, 2, 3]) = some [[0, 7, 4]] := by
    decide +kernel
  obtain ⟨r, hr⟩ := ok_of_routeEdgesOf hobs
  obtain ⟨route, inner, last, h1, _, _, _, h5⟩ :=
    config_edge_oriented_route_least_cost exC exC_edgeLocal (by simp [Config.wfOf, exC]) 0 4
      [1, 2, 3] r ⟨0, 1, 1000⟩ ⟨3, 1, 700⟩ rfl rfl (by decide) (by decide)
      (exC.admissible_dijkstra rfl 3) hr
  refine ⟨r, route, hr, h1, ?_, h5⟩
  rw [hr] at hobs
  simpa [routeEdgesOf, h1] using hobs

/-- why the property excludes offset rates *for A\**: with an offset the estimate at the destination
itself is positive (`exC` with weight factor one: `hOf 3 = 2`), so it is not admissible.  Dijkstra
(weight factor 0, the examples above) is not affected: the cost of an edge is still a function of the
edge alone. -/
example : ¬ Admissible ({ exC with wf := none } : Config ℚ).inst ({ exC with wf := none } : Config ℚ).okOf
    ({ exC with wf := none } : Config ℚ).costOf ({ exC with wf := none } : Config ℚ).hOf 3 := by
  intro h
  have h3 := h 3 [] rfl
  revert h3
  simp only [cost]
  decide +kernel

/-- `exA` meets `DistanceMetric`, so its A* run needs no premise on the estimate -/
example : ∃ r route, exA.runVertex 0 (some 3) [0, 1, 2, 3] = .ok r ∧ r.routes = [route] ∧
    ∀ es, Walk exA.inst exA.okOf 0 es 3 →
      (route.map (fun b => b.access + b.traversal)).sum ≤ cost exA.costOf es := by
  obtain ⟨r, hr⟩ := ok_of_routeEdgesOf exA_run
  obtain ⟨route, h1, _, _, _, h5⟩ :=
    config_astar_distance_route_least_cost exA exA_edgeLocal exA_metric (by decide) hr
  exact ⟨r, route, hr, h1, h5⟩

/-- `exSA` (speed table, time cost, weight factor one) meets `SpeedMetric` -/
example : exSA.hOf 0 ≠ 0 ∧ ∃ r route, exSA.runVertex 0 (some 3) [0, 1, 2, 3] = .ok r ∧
    r.routes = [route] ∧
    ∀ es, Walk exSA.inst exSA.okOf 0 es 3 →
      (route.map (fun b => b.access + b.traversal)).sum ≤ cost exSA.costOf es := by
  refine ⟨exSA_h0, ?_⟩
  obtain ⟨r, hr⟩ := ok_of_routeEdgesOf exSA_run
  obtain ⟨route, h1, _, _, _, h5⟩ :=
    config_astar_speed_route_least_cost exSA exSA_edgeLocal exSA_metric (by decide) hr
  exact ⟨r, route, hr, h1, h5⟩

/-- Dijkstra and A* agree on the cost: `exA` (weight factor one, estimate 3000 at the origin) and its
Dijkstra twin both return a route, of equal summed cost -/
example : ∃ r r' route route', exA.runVertex 0 (some 3) [0, 1, 2, 3] = .ok r ∧
    ({ exA with wf := some 0 } : Config ℚ).runVertex 0 (some 3) [0, 1, 2, 3] = .ok r' ∧
    r.routes = [route] ∧ r'.routes = [route'] ∧
    (route.map (fun b => b.access + b.traversal)).sum
      = (route'.map (fun b => b.access + b.traversal)).sum := by
  obtain ⟨r, hr⟩ := ok_of_routeEdgesOf exA_run
  obtain ⟨r', hr'⟩ := ok_of_routeEdgesOf
    (show routeEdgesOf (({ exA with wf := some 0 } : Config ℚ).runVertex 0 (some 3) [0, 1, 2, 3])
      = some [[0, 1, 2]] by decide +kernel)
  obtain ⟨route, route', h1, h2, h3⟩ :=
    config_astar_cost_eq_dijkstra_cost exA exA_edgeLocal (by simp [Config.wfOf, exA]) (by decide)
      exA_admissible hr hr'
  exact ⟨r, r', route, route', hr, hr', h1, h2, h3⟩

/-- the adjacent case of the edge-oriented wrapper on `exC`: origin edge 0 (0→1), destination edge 1
(1→2); both edges are charged -/
example : ∃ r, exC.runEdge 0 (some 1) [] = .ok r ∧
    (r.routes.map fun rt => (rt.map (fun b => b.access + b.traversal)).sum)
      = [exC.costOf 0 + exC.costOf 1] := by
  have hobs : routeEdgesOf (exC.runEdge 0 (some 1) []) = some [[0, 1]] := by decide +kernel
  obtain ⟨r, hr⟩ := ok_of_routeEdgesOf hobs
  obtain ⟨_, _, _, _, _, _, _, h6⟩ :=
    config_edge_oriented_adjacent_route_cost exC exC_edgeLocal 0 1 [] r ⟨0, 1, 1000⟩ ⟨1, 2, 2000⟩
      rfl rfl (by decide) rfl hr
  exact ⟨r, hr, h6⟩

/-- `exC` without any limit -/
def exC0 : Config ℚ := { exC with term := .combined [] }

/-- a least-cost route is returned: `exC0` is well formed, vertex 3 is reachable -/
example : ∃ sched r route, sched.length ≤ 6 ∧ exC0.runVertex 0 (some 3) sched = .ok r ∧
    r.routes = [route] ∧
    ∀ es, Walk exC0.inst exC0.okOf 0 es 3 →
      (route.map (fun b => b.access + b.traversal)).sum ≤ cost exC0.costOf es := by
  have W : exC0.WellFormedDistance .meters := exC_wellFormed.withTerm _
  have G : exC0.GraphOK 0 true := (exC_graphOK 0 (by decide) true).withTerm _
  have hw : Walk exC0.inst exC0.okOf 0 [0, 7] 3 := by simp only [Walk]; decide +kernel
  exact (config_dijkstra_least_cost_route_returned exC0 W (source := 0) (t := 3) G rfl
    (degree_le exC0 rfl rfl)
    (fun sz it _ _ => SearchLimits.combined_nil_test sz it) (by decide) (by decide) (by decide)
    ⟨[0, 7], hw⟩).1

/-- the same under a **configured limit**: `exC` itself carries an iterations limit of 100, which does
not fire within the 5 iterations (and 15 tree entries) a Dijkstra run on its 5 vertices can reach —
the premise `hlim` is met by a real limit, and the least-cost route is returned -/
example : ∃ sched r route, sched.length ≤ 6 ∧ exC.runVertex 0 (some 3) sched = .ok r ∧
    r.routes = [route] ∧
    ∀ es, Walk exC.inst exC.okOf 0 es 3 →
      (route.map (fun b => b.access + b.traversal)).sum ≤ cost exC.costOf es := by
  have hw : Walk exC.inst exC.okOf 0 [0, 7] 3 := by simp only [Walk]; decide +kernel
  have hlim : ∀ sz it, it ≤ exC.nV → sz ≤ exC.nV * 3 → exC.term.test sz it = .ok () := by
    intro sz it hit _
    have hit' : it ≤ 5 := hit
    have h1 : ¬ (it + 1 > 100) := by omega
    show (TermM.iters 100).test sz it = .ok ()
    rw [SearchLimits.test_ok_iff]
    simp [TermM.fires, h1]
  exact (config_dijkstra_least_cost_route_returned exC exC_wellFormed (source := 0) (t := 3)
    (exC_graphOK 0 (by decide) true) rfl (degree_le exC rfl rfl) hlim (by decide) (by decide)
    (by decide)
    ⟨[0, 7], hw⟩).1

/-- a zero table speed: the search that relaxes such an edge fails with a traversal error, it does
not skip the edge (here edge 7 of `exS`, relaxed when vertex 1 is expanded) -/
example : ConfigUniform.Example.errOf (({ exS with
      trav := .speed .kilometersPerHour .meters .seconds 72 [36, 36, 36, 36, 36, 36, 36, 0] } : Config ℚ).runVertex
      0 (some 3) [0, 1, 2, 3]) = some .traversal := by decide +kernel

end

/-! ### The maximum speed the time estimate divides by, and the weight factor of the query

`SpeedTraversalEngine::new` reads the speed table from a file and hands `get_max_speed` of it to the
model; `SpeedMetric` (the premise of `config_speed_estimate_admissible`) asks `0 < max_speed` and
`table speed ≤ max_speed` on every edge.  Both hold of every engine the constructor returns, for
every file. -/

open Build

/-- `get_max_speed` answers `m` exactly when `m` is an entry of the table, positive, and no entry is
larger: the maximum, never anything else -/
theorem max_speed_is_table_maximum (table : List α) (m : α) :
    getMaxSpeed table = .ok m ↔ (m ∈ table ∧ 0 < m ∧ ∀ s ∈ table, s ≤ m) :=
  getMaxSpeed_ok_iff table m

/-- … and it refuses exactly the tables that have no maximum to offer: no entry at all, or no
positive entry (nothing could be traversed, and the estimate would divide by zero) -/
theorem max_speed_refused_iff (table : List α) :
    (getMaxSpeed table = .error .empty ↔ table = []) ∧
    (getMaxSpeed table = .error .zero ↔ (table ≠ [] ∧ ∀ s ∈ table, s ≤ 0)) ∧
    (∀ k, getMaxSpeed table = .error k → k = .empty ∨ k = .zero) :=
  ⟨getMaxSpeed_empty_iff table, getMaxSpeed_zero_iff table, fun _ h => getMaxSpeed_error_kind h⟩

/-- Every engine `SpeedTraversalEngine::new` returns — whatever the file, the units given or left
to their defaults — carries a positive `max_speed` that is a table entry and bounds every table
entry, and no negative entry: the `ms_pos` and `sp ≤ ms` premises of `SpeedMetric`. -/
theorem speed_engine_estimate_premise (file : Option (List (NumRow α))) (su : SpeedUnit)
    (duOpt : Option DistanceUnit) (tuOpt : Option TimeUnit) (e : SpeedEngine α)
    (h : speedEngineNew file su duOpt tuOpt = .ok e) :
    0 < e.maxSpeed ∧ e.maxSpeed ∈ e.table ∧
      ∀ (i : Nat) (sp : α), e.table[i]? = some sp → 0 ≤ sp ∧ sp ≤ e.maxSpeed := by
  obtain ⟨rows, _, hrows, hmax, _⟩ := (speedEngineNew_ok_iff file su duOpt tuOpt e).1 h
  obtain ⟨hm, hpos, hall⟩ := (getMaxSpeed_ok_iff _ _).1 hmax
  refine ⟨hpos, hm, fun i sp hsp => ⟨?_, hall sp (List.mem_of_getElem? hsp)⟩⟩
  obtain ⟨x, _, hx⟩ := (allSome_getElem? hrows i).2 sp hsp
  exact ((parseSpeed_iff x sp).1 hx).2

/-- what the engine guarantees of a table entry that is not zero: it is strictly positive and at
most `max_speed` — the per-edge speed premise of `Config.SpeedMetric` (`0 < sp ∧ sp ≤ max_speed`).  The
builder accepts a zero row (`speed_row_accepted_iff`), so `0 < sp` is a premise on the table, not a
consequence of building it. -/
theorem speed_engine_nonzero_entry_premise (file : Option (List (NumRow α))) (su : SpeedUnit)
    (duOpt : Option DistanceUnit) (tuOpt : Option TimeUnit) (e : SpeedEngine α)
    (h : speedEngineNew file su duOpt tuOpt = .ok e) (i : Nat) (sp : α)
    (hsp : e.table[i]? = some sp) (hne : sp ≠ 0) : 0 < sp ∧ sp ≤ e.maxSpeed := by
  obtain ⟨h0, h1⟩ := (speed_engine_estimate_premise file su duOpt tuOpt e h).2.2 i sp hsp
  exact ⟨lt_of_le_of_ne h0 (Ne.symm hne), h1⟩

/-- every traversal that answers used a strictly positive table speed -/
theorem traversed_edge_speed_pos (c : Config α) {su : SpeedUnit} {du : DistanceUnit}
    {tu : TimeUnit} {ms : α} {table : List α} (ht : c.trav = .speed su du tu ms table)
    {e : Nat} {le : Option Nat} {st : List α} {r : α × α × List α}
    (h : c.inst.trav e le st = .ok r) : ∃ sp, table[e]? = some sp ∧ 0 < sp := by
  obtain ⟨ac, tc, st'⟩ := r
  obtain ⟨_, st1, _, _, _, htr, _⟩ := edgeTraversal_ok (c := c) h
  obtain ⟨er, _, h'⟩ := TravModel.traverse_ok htr
  rw [ht] at h'
  obtain ⟨sp, t, _, hsp, hct, _⟩ := h'
  -- `create_time` answers only for a positive speed
  exact ⟨sp, hsp, (C09.createTime_eq_some hct).1⟩

/-- **a table speed that is not positive is never used**: `create_time` refuses it, so every
`forward_traversal` / `reverse_traversal` of that edge fails — from any state, after any edge, with
any access, cost and frontier model.  (The search does not skip such an edge: relaxing it fails the
search with a traversal error.) -/
theorem zero_speed_edge_never_traversed (c : Config α) {su : SpeedUnit} {du : DistanceUnit}
    {tu : TimeUnit} {ms : α} {table : List α} (ht : c.trav = .speed su du tu ms table)
    {e : Nat} {sp : α} (hsp : table[e]? = some sp) (h0 : sp ≤ 0) (le : Option Nat) (st : List α)
    (r : α × α × List α) : c.inst.trav e le st ≠ .ok r := by
  intro h
  obtain ⟨sp', h1, h2⟩ := traversed_edge_speed_pos c ht h
  rw [hsp] at h1
  cases h1
  exact absurd h2 (not_lt.2 h0)

/-- **a search that returns used positive speeds only** (speed-table model; any access, cost and
frontier model, weight factor, direction, schedule): every entry of the returned tree and every
element of the returned route carries an edge whose table speed is strictly positive -/
theorem returned_search_used_positive_speeds (c : Config α) {su : SpeedUnit} {du : DistanceUnit}
    {tu : TimeUnit} {ms : α} {table : List α} (ht : c.trav = .speed su du tu ms table)
    {source : Nat} {target : Option Nat} {sched : List Nat} {res : SearchResult α}
    (hrun : runVertexOriented c.inst source target sched = .ok res) :
    (∀ v b, res.final.sol v = some b → ∃ sp, table[b.edge]? = some sp ∧ 0 < sp) ∧
    ∀ route, res.route = some route → ∀ b ∈ route, ∃ sp, table[b.edge]? = some sp ∧ 0 < sp := by
  -- every entry and every route element carries the answer of a traversal (`EntryOK`)
  obtain ⟨h1, h2⟩ := SearchRoute.runVertexOriented_validInv c.inst source target sched res hrun
  exact ⟨fun v b hb => let ⟨_, _, _, htr⟩ := h1 v b hb; traversed_edge_speed_pos c ht htr,
    fun route hr b hb => let ⟨_, _, _, htr⟩ := h2 route hr b hb; traversed_edge_speed_pos c ht htr⟩

/-- through the application's builder (`SpeedLookupBuilder::build`), the two premises of `SpeedMetric`
among those: whatever the configuration and the file, a service that is built has a positive
`max_speed` that bounds every table entry -/
theorem speed_builder_estimate_premise (cfg : Json) (file : Option (List (NumRow α))) (e : SpeedEngine α)
    (h : speedLookupBuild cfg file = .ok e) :
    0 < e.maxSpeed ∧ ∀ (i : Nat) (sp : α), e.table[i]? = some sp → sp ≤ e.maxSpeed := by
  -- four refusals with a configuration error (no file path, no / unknown speed unit, unknown distance
  -- unit, unknown time unit) come before `SpeedTraversalEngine::new` is called
  unfold speedLookupBuild at h
  split at h
  · cases h
  · split at h
    · cases h
    · split at h
      · cases h
      · split at h
        · cases h
        · have := speed_engine_estimate_premise _ _ _ _ e h
          exact ⟨this.1, fun i sp hsp => (this.2.2 i sp hsp).2⟩

/-- a speed table file with a row that is not a number, is negative or is NaN, a file without rows,
a file without a positive row, and a file that cannot be read are all refused -/
theorem speed_engine_refuses (su : SpeedUnit) (duOpt : Option DistanceUnit) (tuOpt : Option TimeUnit) :
    (speedEngineNew (α := α) none su duOpt tuOpt = .error .read) ∧
    (∀ rows : List (NumRow α), (∃ r ∈ rows, parseSpeed r = none) →
      speedEngineNew (some rows) su duOpt tuOpt = .error .read) ∧
    (speedEngineNew (α := α) (some []) su duOpt tuOpt = .error .empty) ∧
    (∀ (rows : List (NumRow α)) (table : List α), Build.allSome parseSpeed rows = some table → table ≠ [] →
      (∀ s ∈ table, s ≤ 0) → speedEngineNew (some rows) su duOpt tuOpt = .error .zero) :=
  speedEngineNew_errors su duOpt tuOpt

theorem speed_row_accepted_iff (r : NumRow α) (x : α) : parseSpeed r = some x ↔ (r = .val x ∧ 0 ≤ x) :=
  parseSpeed_iff r x

omit [Field α] [LinearOrder α] [IsStrictOrderedRing α] [Lit α] [LawfulLit α] in
/-- The weight factor in force is the query's own number whenever the query has the field —
whatever is configured, Dijkstra's zero included —, the configured one otherwise; a field that is
not a number is an error response (`BuildError`), never a default. -/
theorem weight_factor_of_query (dec : Nat → α) (q : Json) (configured : Option α) :
    (q.get? "weight_factor" = none → weightFactorOfQuery dec q configured = .ok configured) ∧
    (∀ l b, q.get? "weight_factor" = some (.num l b) →
      weightFactorOfQuery dec q configured = .ok (some (dec b))) ∧
    (∀ v, q.get? "weight_factor" = some v → v.isNumber = false →
      weightFactorOfQuery dec q configured = .error .build) := by
  refine ⟨fun h => by simp [weightFactorOfQuery, h], fun l b h => by simp [weightFactorOfQuery, h, Json.asF64Bits?], ?_⟩
  intro v h hv
  cases v <;> simp_all [weightFactorOfQuery, Json.asF64Bits?, Json.isNumber]

/-! ### The objective in force: the query's weights, vehicle rates and aggregation where the query
gives them, the configuration's otherwise

`CostModelService::build(query, state_model)` (`CostService.build`, `Model/CostIO.lean`; the parsing
and the error arms are C07's, `Props/C07.lean` §14). -/

/-- **the objective in force**.  Whenever the service builds a cost model for a query there are a
weight mapping `w`, a vehicle-rate mapping `vr` and an aggregation `ag` *in force* such that
* `w` is the query's `weights` object when the query has that field (deserialised as it stands) and
  the configured mapping otherwise — a query field replaces the configured mapping as a whole, it is
  not merged with it; likewise `vr` for `vehicle_rates` and `ag` for `cost_aggregation`;
* the cost model iterates over the state features `0 … n-1`, aggregates with `ag`, and feature `i`
  (named `names[i]`) carries the weight `w` holds for its name (absent: `0`), the vehicle rate `vr`
  holds for its name (absent: `Zero`) and the *configured* network rate for its name (network rates
  cannot be overridden by a query).
The cost model is the `c.cost` of the configuration every search theorem above speaks about, so
"least cost" is least cost for the query's own weights and rates where it states them. -/
theorem query_objective_in_force (s : CostService α) (num : Json → Option α) (query : Json)
    (names : List String) (m : CostModel α) (h : s.build num query names = .ok m) :
    ∃ (w : List (String × α)) (vr : List (String × VehicleCostRate α)) (ag : CostAggregation),
      (query.get? "weights" = none → w = s.weights) ∧
      (∀ v, query.get? "weights" = some v → parseMap num v = some w) ∧
      (query.get? "vehicle_rates" = none → vr = s.vehicleRates) ∧
      (∀ v, query.get? "vehicle_rates" = some v → parseMap (parseVehicleRate num) v = some vr) ∧
      (query.get? "cost_aggregation" = none → ag = s.agg) ∧
      (∀ v, query.get? "cost_aggregation" = some v → parseAggregation v = some ag) ∧
      m.agg = ag ∧ m.indices = List.range names.length ∧
      ∀ i (hi : i < names.length),
        m.wt i = (assocGet w names[i]).getD 0 ∧
        m.vr i = (assocGet vr names[i]).getD .zero ∧
        m.nr i = (assocGet s.networkRates names[i]).getD .zero := by
  obtain ⟨wq, vq, aq, hw, hv, ha, -, hm'⟩ := CostService.build_ok h
  obtain ⟨w1, w2⟩ := optField_some hw
  obtain ⟨v1, v2⟩ := optField_some hv
  obtain ⟨a1, a2⟩ := optField_some ha
  obtain ⟨hind, _, _, _, hagg⟩ := CostModel.new_eq_some _ _ _ hm'
  refine ⟨wq.getD s.weights, vq.getD s.vehicleRates, aq.getD s.agg,
    fun h0 => by rw [w1 h0]; rfl,
    fun v hq => by obtain ⟨b, hb, rfl⟩ := w2 v hq; exact hb,
    fun h0 => by rw [v1 h0]; rfl,
    fun v hq => by obtain ⟨b, hb, rfl⟩ := v2 v hq; exact hb,
    fun h0 => by rw [a1 h0]; rfl,
    fun v hq => by obtain ⟨b, hb, rfl⟩ := a2 v hq; exact hb,
    hagg, by simpa using hind, ?_⟩
  intro i hi
  have hi' : i < (names.map fun n => (assocGet (wq.getD s.weights) n,
      assocGet (vq.getD s.vehicleRates) n, assocGet s.networkRates n)).length := by
    simpa using hi
  obtain ⟨e1, e2, e3⟩ := CostModel.new_accessors _ _ _ hm' i hi'
  rw [e1, e2, e3]
  simp only [List.getElem_map, FeatureConfig.weight, FeatureConfig.vehicleRate,
    FeatureConfig.networkRate]
  refine ⟨?_, ?_, ?_⟩
  · cases assocGet (wq.getD s.weights) names[i] <;> simp [zero_eq]
  · cases assocGet (vq.getD s.vehicleRates) names[i] <;> simp
  · cases assocGet s.networkRates names[i] <;> simp

/-- a query field that is present and does not deserialise is an error response, never a silent
fall-back to the configured objective -/
theorem query_objective_malformed_is_error (s : CostService α) (num : Json → Option α) (query v : Json)
    (names : List String) :
    (query.get? "weights" = some v → parseMap num v = none →
      s.build num query names = .error .serde) ∧
    (query.get? "vehicle_rates" = some v → parseMap (parseVehicleRate num) v = none →
      ∀ m, s.build num query names ≠ .ok m) ∧
    (query.get? "cost_aggregation" = some v → parseAggregation v = none →
      ∀ m, s.build num query names ≠ .ok m) := by
  refine ⟨fun hq hp => ?_, fun hq hp m hm => ?_, fun hq hp m hm => ?_⟩
  · simp [CostService.build, optField, hq, hp]
  · obtain ⟨w, vr, ag, _, _, _, h4, _⟩ := query_objective_in_force s num query names m hm
    have := h4 v hq
    rw [hp] at this
    cases this
  · obtain ⟨w, vr, ag, _, _, _, _, _, h6, _⟩ := query_objective_in_force s num query names m hm
    have := h6 v hq
    rw [hp] at this
    cases this

/-! Non-vacuity: the service of C07's example configuration (weight 2 on `distance`, raw rate) and a
query that states its own weights and aggregation: the model carries the query's weight 5 on
`distance`, weight 1 on `time` (which the configuration does not weigh at all), `mul` aggregation,
and still the configured rate; without the fields it carries the configured values. -/
example : ((buildCostService C07.numQ C07.exConfig).map fun s =>
      ((s.build C07.numQ (.obj [("weights", .obj [("distance", .num "5" 5), ("time", .num "1" 1)]),
          ("cost_aggregation", .str "mul")]) ["distance", "time"]).toOption.map fun m =>
        (m.weights, m.agg, m.vehicleRates.map (fun r => r.mapValue 3)),
       (s.build C07.numQ (.obj []) ["distance", "time"]).toOption.map fun m =>
        (m.weights, m.agg, m.vehicleRates.map (fun r => r.mapValue 3))))
    = some (some ([5, 1], .mul, [3, 0]), some ([2, 0], .sum, [3, 0])) := by decide +kernel

/-! Non-vacuity: a three-row file (36, 72, 18 km/h) gives the engine with maximum 72; files with a
negative row, a junk row, no row and only zero rows are refused. -/
example : (speedEngineNew (some [.val (36 : ℚ), .val 72, .val 18]) .kilometersPerHour none none).toOption.map
      (fun e => (e.maxSpeed, e.table, e.timeUnit, e.distanceUnit)) =
    some (72, [36, 72, 18], baseTimeUnit, baseDistanceUnit) := by decide +kernel
example : errOf (speedEngineNew (α := ℚ) (some [.val 36, .val (-1)]) .kilometersPerHour none none) = some .read := by decide +kernel
example : errOf (speedEngineNew (α := ℚ) (some [.val 36, .junk]) .kilometersPerHour none none) = some .read := by decide +kernel
example : errOf (speedEngineNew (α := ℚ) (some [.val 36, .nan]) .kilometersPerHour none none) = some .read := by decide +kernel
example : errOf (speedEngineNew (α := ℚ) (some []) .kilometersPerHour none none) = some .empty := by decide +kernel
example : errOf (speedEngineNew (α := ℚ) (some [.val 0, .val 0]) .kilometersPerHour none none) = some .zero := by decide +kernel
example : weightFactorOfQuery (fun b => (b : ℚ)) (.obj [("weight_factor", .str "1.0")]) (some 1) = .error .build := by decide +kernel

end C02
end Compass

namespace Compass
namespace C02
open Src

/-! ### Source decision ties

What these theorems are for is said in `Props/C01.lean` under the same heading. -/

theorem src_relax_improves {α : Type} [Field α] [LinearOrder α] [IsStrictOrderedRing α] [Lit α] [LawfulLit α] (tent ex : α) :
    some (improves tent (some ex)) = relax_improves.num tent ex := by
  simp [improves, relax_improves, Rel.num]

/-- A SYNTACTIC tie: in a linear order the running maximum is the same under `>` and `>=` (only which of two
equal rows is kept differs, and they are equal), so the statement with `.ge` in place of `.gt` is also true — it
is this proof script that stops checking when the extracted operator changes.  In `f64` the two differ only on
NaN rows, which `Speed::from_str` refuses. -/
theorem src_max_speed_fold {α : Type} [Field α] [LinearOrder α] [IsStrictOrderedRing α] [Lit α] [LawfulLit α] (table : List α) :
    Build.maxFold table =
      table.foldl (fun acc row => (if max_speed_fold.num acc.1 row = some true then acc.1 else row, acc.2 + 1))
        ((zero : α), 0) := by
  simp [Build.maxFold, max_speed_fold, Rel.num]

theorem src_speed_from_str_negative {α : Type} [Field α] [LinearOrder α] [IsStrictOrderedRing α] [Lit α] [LawfulLit α] (x : α) :
    Build.parseSpeed (.val x) = if speed_from_str_negative.num x (zero : α) = some true then none else some x := by
  simp [Build.parseSpeed, speed_from_str_negative, Rel.num]

end C02
end Compass
