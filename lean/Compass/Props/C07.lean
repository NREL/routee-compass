/-
C07 — edge costs are finite and strictly positive; estimates are non-negative.

All theorems are about the executable model `Compass/Model/Cost.lean` (the functions the driver runs
at `Float` against the real `CostModel`), for every cost model value — index lists, weight / rate
vectors and state vectors of any length, `Combined` rates nested to any depth — over any linearly
ordered field `α`.  Finiteness is trivial there: every element of a field is finite; overflow and
rounding of `f64` are outside the theorems (DESIGN §3) and are watched by the oracle of the harness.

The charged cost is strictly positive but **not** always at least `MIN_COST`: `enforce_strictly_positive`
replaces only values `≤ 0`, a positive total below the floor is charged as it is
(`charged_below_floor_witness`).  The property asks for strict positivity, which is what is proved.

The charged edge total and the per-turn surcharge (§3b): the property's formula for "the cost charged
for accessing plus traversing the edge" lists the per-turn surcharges; `EdgeTraversal::total_cost()`
never contains them.  `edge_total_sum_formula_partial` (full statement in its docstring) holds when the
weighted per-turn surcharge of the pair is zero; `edge_total_excludes_turn_surcharge` and
`edge_total_ignores_turn_tables` say what the code does for all inputs;
`edge_total_sum_formula_counterexample` is the witness (finding
`edge_traversal/turn-surcharge-not-charged`).  Positivity of the total (§1) is unaffected.

Second part (§9–§16, model `Compass/Model/CostIO.lean`): the order of `Cost` (`OrderedFloat`,
`ReverseCost`), `agg_iter` with `Err` items, `forward_traversal` / `reverse_traversal` with the error arms
listed in `edge_traversal_errors`, `serialize_cost` / `serialize_cost_info`, the serde form of the rate enums, `CostModelBuilder` /
`CostModelService`, `NetworkCostRateBuilder`.  Findings there (`known:` keys `cost_rate_serde/*`,
`serialize_cost/feature-named-total_cost-lost`): each has a `_partial` theorem and a `_counterexample`;
`serialize_cost_info/feature-named-cost_aggregation-lost` is not stated (`serialize_cost_info_partial` says only
what is found under that key).

Modelled rather than verified (the theorems do not speak about these; the differential run does):
`f64` rounding / overflow / NaN (the NaN arms of the `OrderedFloat` order are in the model and compared
bit for bit, but over a field `cost_cmp_spec` only says the order is the order); lookup tables are
association lists with unique keys standing for `HashMap`s (iteration order never observed; the
harness sorts what came out of one); the serde decisions of §13 are a model of what `serde` 1.0 /
`serde_json` 1.0 do with these enum shapes, taken from observed behaviour, not from serde's source;
CSV / gzip decoding of lookup files is abstracted (the case carries the decoded rows, as in C15);
in `forward_traversal` / `reverse_traversal` the access and traversal models are scripted (they leave
a prescribed state or fail), the graph is reduced to "edge exists / end vertex exists".

Notation (`Proofs/Cost.lean`): `m.wt i`, `m.vr i`, `m.nr i` are the weight, vehicle rate and network
rate of state index `i`; `stateDelta prev next i = next[i] − prev[i]`; `m.InRangeV prev next` says
every index of `m.indices` lies inside `prev`, `next`, `weights`, `vehicleRates`; `m.InRange` adds
`networkRates`.  `traversalTotal` / `accessTotal` are the values `traversal_cost` / `access_cost`
compute just before `Cost::enforce_strictly_positive`.  For `q : CostQuery` (an edge, a turn, the estimate)
`m.charged q`, `m.total q`, `m.value q` are the three functions, their values before the clip, and those in closed
form (sums of parts `m.part X`), as one function of what is asked.
-/
import Compass.Gen.Decisions
import Compass.Gen.FnsC07
import Compass.Proofs.Cost
import Compass.Proofs.CostIO
import Compass.Proofs.Graph

namespace Compass
namespace C07

set_option linter.unusedSectionVars false

section
variable {α : Type} [Field α] [LinearOrder α] [IsStrictOrderedRing α] [Lit α] [LawfulLit α]

/-! ### 1. The charged costs are strictly positive, the estimate is non-negative -/

theorem min_cost_pos : (0 : α) < minCost := minCost_pos

/-- C07: whenever `traversal_cost` returns, the cost is strictly positive — any weights, rates,
aggregation and state change -/
theorem traversal_cost_pos (m : CostModel α) (e : Nat) (prev next : List α) (c : α)
    (h : m.traversalCost e prev next = some c) : 0 < c :=
  CostModel.traversalCost_pos m e prev next c h

/-- C07: whenever `access_cost` returns, the cost is strictly positive -/
theorem access_cost_pos (m : CostModel α) (pe ne : Nat) (prev next : List α) (c : α)
    (h : m.accessCost pe ne prev next = some c) : 0 < c :=
  CostModel.accessCost_pos m pe ne prev next c h

/-- C07: whenever `cost_estimate` returns, the estimate is not negative -/
theorem estimate_nonneg (m : CostModel α) (src dst : List α) (c : α)
    (h : m.costEstimate src dst = some c) : 0 ≤ c := by
  obtain ⟨v, -, rfl⟩ := (m.charged_eq_some_iff .estimate src dst c).mp h
  exact enforceNonNegative_nonneg v

/-- `EdgeTraversal::total_cost()`: `access + (total − access)` is the traversal total, whatever the
access share (so what enters the access share alone never reaches the total: §3b) -/
theorem edge_total_eq (access total : α) : edgeTotalCost access total = total :=
  add_sub_cancel access total

/-- the same on the record the constructors build: `edgeRecordTotal (a, t - a)` unfolds to `edgeTotalCost a t` -/
theorem edge_record_total_mk (access total : α) : edgeRecordTotal (access, total - access) = total :=
  edge_total_eq access total

/-- C07: the cost charged for accessing plus traversing an edge is strictly positive, with or without
previous edge, whatever `access_cost` returned -/
theorem edge_total_pos (m : CostModel α) (e : Nat) (prev next : List α) (t : α) (ac : Option α)
    (h : m.traversalCost e prev next = some t) : 0 < edgeTotalCost (edgeAccessShare ac) t := by
  rw [edge_total_eq]; exact traversal_cost_pos m e prev next t h

theorem edge_access_share_nonneg (ac : Option α) (h : ∀ a, ac = some a → 0 < a) :
    0 ≤ edgeAccessShare ac := by
  cases ac with
  | none => exact le_of_eq zero_eq.symm
  | some a => exact le_of_lt (by rw [edgeAccessShare, zero_eq, zero_add]; exact h a rfl)

/-- C07, on the record `EdgeTraversal::forward_traversal` / `reverse_traversal` build (with or without
neighbouring edge, whatever state the access model produced): `total_cost()` is exactly what
`traversal_cost` charged for the edge, hence strictly positive; and the access share is non-negative -/
theorem edge_record_total_pos (m : CostModel α) (trav : Nat) (pair : Option (Nat × Nat))
    (prev accessed next : List α) (r : α × α)
    (h : m.edgeTraversal trav pair prev accessed next = some r) :
    m.traversalCost trav prev next = some (edgeRecordTotal r) ∧ 0 < edgeRecordTotal r ∧ 0 ≤ r.1 := by
  rw [CostModel.edgeTraversal_eq] at h
  cases hall : pair.all (fun pn => (m.accessCost pn.1 pn.2 prev accessed).isSome) with
  | false =>
    rw [hall] at h
    cases h
  | true =>
    rw [hall, cond_true, Option.map_eq_some_iff] at h
    obtain ⟨t, ht, rfl⟩ := h
    rw [edge_record_total_mk]
    refine ⟨ht, traversal_cost_pos m trav prev next t ht, edge_access_share_nonneg _ fun a ha => ?_⟩
    obtain ⟨pn, -, hpn⟩ := Option.bind_eq_some_iff.mp ha
    exact access_cost_pos m pn.1 pn.2 prev accessed a hpn

/-! ### 2. When the functions return -/

/-- `traversal_cost` returns exactly when every feature index lies inside all five vectors -/
theorem traversal_cost_isSome_iff (m : CostModel α) (e : Nat) (prev next : List α) :
    (m.traversalCost e prev next).isSome ↔ m.InRange prev next :=
  m.charged_isSome_iff (.traversal e) prev next

/-- `access_cost` returns exactly when every feature index lies inside the state vectors, the weights
and the vehicle rates (a feature beyond `network_rates` contributes zero instead of failing) -/
theorem access_cost_isSome_iff (m : CostModel α) (pe ne : Nat) (prev next : List α) :
    (m.accessCost pe ne prev next).isSome ↔ m.InRangeV prev next :=
  m.charged_isSome_iff (.access pe ne) prev next

/-- `cost_estimate` returns exactly when every feature index lies inside the four vectors it reads -/
theorem cost_estimate_isSome_iff (m : CostModel α) (src dst : List α) :
    (m.costEstimate src dst).isSome ↔ m.InRangeV src dst :=
  m.charged_isSome_iff .estimate src dst

/-- an index outside a state vector makes all three fail (`StateIndexOutOfBounds`) -/
theorem none_of_short_state (m : CostModel α) (e pe ne : Nat) (prev next : List α) (i : Nat)
    (hi : i ∈ m.indices) (h : prev.length ≤ i ∨ next.length ≤ i) :
    m.traversalCost e prev next = none ∧ m.accessCost pe ne prev next = none
      ∧ m.costEstimate prev next = none := by
  have key : ∀ q, m.charged q prev next = none := fun q =>
    Option.not_isSome_iff_eq_none.mp fun hs =>
      have hr := ((m.charged_isSome_iff q prev next).mp hs).toV
      h.elim (not_le.mpr (hr.prev_lt hi)) (not_le.mpr (hr.next_lt hi))
  exact ⟨key (.traversal e), key (.access pe ne), key .estimate⟩

/-- `CostModel::new` fails exactly when the weights (absent = 0) sum to zero -/
theorem new_eq_none_iff (feats : List (FeatureConfig α)) (agg : CostAggregation) :
    CostModel.new feats agg = none ↔ (feats.map FeatureConfig.weight).sum = 0 :=
  CostModel.new_eq_none_iff feats agg

/-! ### 3. Sum aggregation: the formula -/

/-- C07 (sum formula, traversal): the pre-floor value is
`Σᵢ wᵢ·rateᵢ(Δᵢ) + Σᵢ wᵢ·(per-edge surcharge of feature i)` -/
theorem sum_formula_traversal (m : CostModel α) (hs : m.agg = .sum) (e : Nat) (prev next : List α) (s : α)
    (h : m.traversalTotal e prev next = some s) :
    s = (m.indices.map fun i => m.wt i * (m.vr i).mapValue (stateDelta prev next i)).sum
      + (m.indices.map fun i => m.wt i * (m.nr i).traversalCost e).sum :=
  ((m.total_eq_some_iff (.traversal e) prev next s).mp h).2.trans
    (congrArg₂ (· + ·) (m.part_sum hs _) (m.part_sum hs _))

/-- C07 (sum formula, access): the pre-floor value is
`Σᵢ wᵢ·rateᵢ(Δᵢ) + Σᵢ wᵢ·(per-turn surcharge of feature i)` -/
theorem sum_formula_access (m : CostModel α) (hs : m.agg = .sum) (pe ne : Nat) (prev next : List α) (s : α)
    (h : m.accessTotal pe ne prev next = some s) :
    s = (m.indices.map fun i => m.wt i * (m.vr i).mapValue (stateDelta prev next i)).sum
      + (m.indices.map fun i => m.wt i * (m.nr i).accessCost pe ne).sum :=
  ((m.total_eq_some_iff (.access pe ne) prev next s).mp h).2.trans
    (congrArg₂ (· + ·) (m.part_sum hs _) (m.part_sum hs _))

/-- C07 (sum formula, estimate): the pre-clip value is `Σᵢ wᵢ·rateᵢ(Δᵢ)` -/
theorem sum_formula_estimate (m : CostModel α) (hs : m.agg = .sum) (src dst : List α) (v : α)
    (h : m.vehicleCosts src dst = some v) :
    v = (m.indices.map fun i => m.wt i * (m.vr i).mapValue (stateDelta src dst i)).sum :=
  ((m.vehicleCosts_eq_some_iff src dst v).mp h).2.trans (m.part_sum hs _)

/-- C07 (sum formula + floor): under sum aggregation the charged traversal cost is the formula when
that is positive and the floor exactly when it is `≤ 0` -/
theorem sum_formula (m : CostModel α) (hs : m.agg = .sum) (e : Nat) (prev next : List α) (c : α)
    (h : m.traversalCost e prev next = some c) :
    let s := (m.indices.map fun i => m.wt i * (m.vr i).mapValue (stateDelta prev next i)).sum
      + (m.indices.map fun i => m.wt i * (m.nr i).traversalCost e).sum
    (0 < s → c = s) ∧ (s ≤ 0 → c = minCost) := by
  have := CostModel.charged_eq_value_or_floor (q := .traversal e) rfl h
  rwa [CostModel.value, CostModel.netPart, m.part_sum hs, m.part_sum hs] at this

/-- the same for `access_cost` -/
theorem sum_formula_access_floor (m : CostModel α) (hs : m.agg = .sum) (pe ne : Nat) (prev next : List α) (c : α)
    (h : m.accessCost pe ne prev next = some c) :
    let s := (m.indices.map fun i => m.wt i * (m.vr i).mapValue (stateDelta prev next i)).sum
      + (m.indices.map fun i => m.wt i * (m.nr i).accessCost pe ne).sum
    (0 < s → c = s) ∧ (s ≤ 0 → c = minCost) := by
  have := CostModel.charged_eq_value_or_floor (q := .access pe ne) rfl h
  rwa [CostModel.value, CostModel.netPart, m.part_sum hs, m.part_sum hs] at this

/-- the same for `cost_estimate`: the formula when positive, `0` otherwise -/
theorem sum_formula_estimate_clip (m : CostModel α) (hs : m.agg = .sum) (src dst : List α) (c : α)
    (h : m.costEstimate src dst = some c) :
    c = max (m.indices.map fun i => m.wt i * (m.vr i).mapValue (stateDelta src dst i)).sum 0 := by
  obtain ⟨v, hv, rfl⟩ := (m.charged_eq_some_iff .estimate src dst c).mp h
  exact (enforceNonNegative_eq v).trans (congrArg (max · 0) (sum_formula_estimate m hs src dst v hv))

/-! ### 3b. The charged edge total and the per-turn surcharge -/

/-- What `total_cost()` of the record is, for ALL inputs (sum aggregation): the floored sum of the
weighted rated state changes (over the whole step `prev → next`, access included) and the per-EDGE
surcharges.  The per-turn surcharge of the pair is not in it. -/
theorem edge_total_excludes_turn_surcharge (m : CostModel α) (hs : m.agg = .sum) (trav : Nat)
    (pair : Option (Nat × Nat)) (prev accessed next : List α) (r : α × α)
    (h : m.edgeTraversal trav pair prev accessed next = some r) :
    let s := (m.indices.map fun i => m.wt i * (m.vr i).mapValue (stateDelta prev next i)).sum
      + (m.indices.map fun i => m.wt i * (m.nr i).traversalCost trav).sum
    (0 < s → edgeRecordTotal r = s) ∧ (s ≤ 0 → edgeRecordTotal r = minCost) :=
  sum_formula m hs trav prev next (edgeRecordTotal r) (edge_record_total_pos m trav pair prev accessed next r h).1

/-- C07 (sum formula of the charged edge total), PARTIAL.
Full statement (the property): under sum aggregation the cost charged for accessing plus traversing
the edge — `total_cost()` of the record — equals
`S = Σᵢ wᵢ·rateᵢ(Δᵢ) + Σᵢ wᵢ·(per-edge surcharge) + Σᵢ wᵢ·(per-turn surcharge of the edge pair)` when
`S > 0`, and the floor otherwise.
Proved only when the weighted per-turn surcharge of the pair is zero (no neighbouring edge, no
edge-pair table, a pair that misses every table, zero weights).  Excluded: every configuration in
which the pair hits an edge-pair table with a non-zero weighted value — there the statement is FALSE
of the code: the surcharge enters `access_cost` and is subtracted again in the traversal share
(`traversal_cost = total − access_cost`), so `total_cost()` never contains it
(`edge_total_excludes_turn_surcharge`, `edge_total_ignores_turn_tables`,
`edge_total_sum_formula_counterexample`; finding `edge_traversal/turn-surcharge-not-charged`). -/
theorem edge_total_sum_formula_partial (m : CostModel α) (hs : m.agg = .sum) (trav : Nat)
    (pair : Option (Nat × Nat)) (prev accessed next : List α) (r : α × α)
    (h : m.edgeTraversal trav pair prev accessed next = some r)
    (hturn : turnSurcharge m pair = 0) :
    let S := (m.indices.map fun i => m.wt i * (m.vr i).mapValue (stateDelta prev next i)).sum
      + (m.indices.map fun i => m.wt i * (m.nr i).traversalCost trav).sum
      + turnSurcharge m pair
    (0 < S → edgeRecordTotal r = S) ∧ (S ≤ 0 → edgeRecordTotal r = minCost) := by
  intro S
  have := edge_total_excludes_turn_surcharge m hs trav pair prev accessed next r h
  simp only [S, hturn, add_zero]
  exact this

/-- `total_cost()` of the record is what `traversal_cost` returned; the access cost of the pair only
decides whether there is a record -/
theorem edge_record_total_eq (m : CostModel α) (trav : Nat) (pair : Option (Nat × Nat))
    (prev accessed next : List α) :
    (m.edgeTraversal trav pair prev accessed next).map edgeRecordTotal
      = bif pair.all (fun pn => (m.accessCost pn.1 pn.2 prev accessed).isSome) then m.traversalCost trav prev next
        else none := by
  rw [CostModel.edgeTraversal_eq]
  cases pair.all (fun pn => (m.accessCost pn.1 pn.2 prev accessed).isSome) with
  | false => rfl
  | true =>
    rw [cond_true, cond_true, Option.map_map]
    exact (Option.map_congr fun t _ => edge_record_total_mk _ t).trans Option.map_id'

/-- A configured per-turn surcharge never reaches the charged edge total, for ALL inputs and BOTH
aggregations: removing every edge-pair table from the cost model (`dropTurns`) leaves `total_cost()` of
every record unchanged (and a record exists for the one exactly when it exists for the other); only the
split into access share and traversal share moves. -/
theorem edge_total_ignores_turn_tables (m : CostModel α) (trav : Nat) (pair : Option (Nat × Nat))
    (prev accessed next : List α) :
    (m.dropTurns.edgeTraversal trav pair prev accessed next).map edgeRecordTotal
      = (m.edgeTraversal trav pair prev accessed next).map edgeRecordTotal := by
  have ha : ∀ pn : Nat × Nat, (m.dropTurns.accessCost pn.1 pn.2 prev accessed).isSome
      = (m.accessCost pn.1 pn.2 prev accessed).isSome := fun pn =>
    Bool.eq_iff_iff.mpr ((access_cost_isSome_iff _ _ _ _ _).trans (access_cost_isSome_iff m _ _ _ _).symm)
  rw [edge_record_total_eq, edge_record_total_eq, m.traversalCost_dropTurns, funext ha]

/-! ### 4. What the rates denote -/

/-- a combined vehicle rate applies its mappings one after the other (any nesting depth) -/
theorem vehicle_rate_combined (rs : List (VehicleCostRate α)) (x : α) :
    (VehicleCostRate.combined rs).mapValue x = rs.foldl (fun acc r => r.mapValue acc) x := by
  simp [VehicleCostRate.mapValue, VehicleCostRate.mapValueList_eq_foldl]

/-- the four simple vehicle rates: nothing, the value, the value times a factor, the value plus an offset -/
theorem vehicle_rate_leaves (f o x : α) :
    (VehicleCostRate.zero : VehicleCostRate α).mapValue x = 0 ∧ (VehicleCostRate.raw : VehicleCostRate α).mapValue x = x
      ∧ (VehicleCostRate.factor f).mapValue x = x * f ∧ (VehicleCostRate.offset o).mapValue x = x + o := by
  simp [VehicleCostRate.mapValue]

/-- every vehicle rate, however nested, is an affine map of the state change -/
theorem vehicle_rate_affine (r : VehicleCostRate α) (x : α) : r.mapValue x = r.slope * x + r.intercept :=
  r.mapValue_affine x

/-- a combined network rate charges the sum of its parts (per edge) -/
theorem network_rate_combined_traversal (rs : List (NetworkCostRate α)) (e : Nat) :
    (NetworkCostRate.combined rs).traversalCost e = (rs.map fun r => r.traversalCost e).sum := by
  simp [NetworkCostRate.traversalCost, NetworkCostRate.traversalCostList_eq]

/-- a combined network rate charges the sum of its parts (per turn) -/
theorem network_rate_combined_access (rs : List (NetworkCostRate α)) (p n : Nat) :
    (NetworkCostRate.combined rs).accessCost p n = (rs.map fun r => r.accessCost p n).sum := by
  simp [NetworkCostRate.accessCost, NetworkCostRate.accessCostList_eq]

/-- the leaves: an edge table charges per edge only, an edge-pair table per turn only; a key that is
not in the table costs nothing -/
theorem network_rate_leaves (t1 : List (Nat × α)) (t2 : List ((Nat × Nat) × α)) (e p n : Nat) :
    (NetworkCostRate.zero : NetworkCostRate α).traversalCost e = 0
      ∧ (NetworkCostRate.zero : NetworkCostRate α).accessCost p n = 0
      ∧ (NetworkCostRate.edgeLookup t1).traversalCost e = lookup1 t1 e
      ∧ (NetworkCostRate.edgeLookup t1).accessCost p n = 0
      ∧ (NetworkCostRate.edgeEdgeLookup t2).traversalCost e = 0
      ∧ (NetworkCostRate.edgeEdgeLookup t2).accessCost p n = lookup2 t2 (p, n) := by
  simp [NetworkCostRate.traversalCost, NetworkCostRate.accessCost]

/-- table lookups (keys unique, as in a `HashMap`): the stored value on a hit, zero on a miss -/
theorem lookup_hit_miss (t1 : List (Nat × α)) (t2 : List ((Nat × Nat) × α))
    (h1 : t1.Pairwise (fun p q => p.1 ≠ q.1)) (h2 : t2.Pairwise (fun p q => p.1 ≠ q.1)) :
    (∀ k v, (k, v) ∈ t1 → lookup1 t1 k = v) ∧ (∀ k, (∀ p ∈ t1, p.1 ≠ k) → lookup1 t1 k = 0)
      ∧ (∀ k v, (k, v) ∈ t2 → lookup2 t2 k = v) ∧ (∀ k, (∀ p ∈ t2, p.1 ≠ k) → lookup2 t2 k = 0) := by
  have miss1 : ∀ k, (∀ p ∈ t1, p.1 ≠ k) → lookup1 t1 k = 0 := fun k h => by
    rw [lookup1, List.find?_eq_none.mpr fun p hp => by rw [beq_iff_eq]; exact h p hp]
    exact zero_eq
  have miss2 : ∀ k, (∀ p ∈ t2, p.1 ≠ k) → lookup2 t2 k = 0 := fun k h => by
    rw [lookup2, List.find?_eq_none.mpr fun p hp => by rw [lookup2_test_iff_key_eq]; exact h p hp]
    exact zero_eq
  refine ⟨fun k v h => ?_, miss1, fun k v h => ?_, miss2⟩
  · rw [lookup1, find?_eq_some_of_unique h (beq_self_eq_true k)
      fun y hy hq => eq_of_key_eq h1 h hy (beq_iff_eq.mp hq)]
  · rw [lookup2, find?_eq_some_of_unique h ((lookup2_test_iff_key_eq _ k).mpr rfl)
      fun y hy hq => eq_of_key_eq h2 h hy ((lookup2_test_iff_key_eq y k).mp hq)]

/-! ### 5. Linear in the weights (sum aggregation) -/

/-- C07: under sum aggregation the pre-floor traversal value is a linear function of the weight vector -/
theorem linear_in_weights (m : CostModel α) (hs : m.agg = .sum) (w1 w2 : List α) (hl : w1.length = w2.length)
    (a b : α) (e : Nat) (prev next : List α) (s1 s2 : α)
    (h1 : ({ m with weights := w1 }).traversalTotal e prev next = some s1)
    (h2 : ({ m with weights := w2 }).traversalTotal e prev next = some s2) :
    ({ m with weights := List.zipWith (fun x y => a * x + b * y) w1 w2 }).traversalTotal e prev next
      = some (a * s1 + b * s2) :=
  m.total_linear_in_weights hs w1 w2 hl a b (.traversal e) prev next s1 s2 h1 h2

theorem linear_in_weights_access (m : CostModel α) (hs : m.agg = .sum) (w1 w2 : List α) (hl : w1.length = w2.length)
    (a b : α) (pe ne : Nat) (prev next : List α) (s1 s2 : α)
    (h1 : ({ m with weights := w1 }).accessTotal pe ne prev next = some s1)
    (h2 : ({ m with weights := w2 }).accessTotal pe ne prev next = some s2) :
    ({ m with weights := List.zipWith (fun x y => a * x + b * y) w1 w2 }).accessTotal pe ne prev next
      = some (a * s1 + b * s2) :=
  m.total_linear_in_weights hs w1 w2 hl a b (.access pe ne) prev next s1 s2 h1 h2

theorem linear_in_weights_estimate (m : CostModel α) (hs : m.agg = .sum) (w1 w2 : List α) (hl : w1.length = w2.length)
    (a b : α) (src dst : List α) (s1 s2 : α)
    (h1 : ({ m with weights := w1 }).vehicleCosts src dst = some s1)
    (h2 : ({ m with weights := w2 }).vehicleCosts src dst = some s2) :
    ({ m with weights := List.zipWith (fun x y => a * x + b * y) w1 w2 }).vehicleCosts src dst
      = some (a * s1 + b * s2) :=
  m.total_linear_in_weights hs w1 w2 hl a b .estimate src dst s1 s2 h1 h2

/-! ### 6. Zero-weight features are ignored -/

/-- C07: a feature whose weight is zero is ignored — neither its state variables nor its vehicle and
network rates influence any of the three results (`m'`, `prev'`, `next'` differ from `m`, `prev`,
`next` only at zero-weight features).  This holds for both aggregations; under sum aggregation the
feature can moreover be dropped altogether (`zero_weight_removable`), under mul aggregation it
annihilates the product instead (`mul_zero_weight_floor`). -/
theorem zero_weight_ignored (m m' : CostModel α)
    (hagg : m'.agg = m.agg) (hidx : m'.indices = m.indices) (hw : m'.weights = m.weights)
    (hvl : m'.vehicleRates.length = m.vehicleRates.length)
    (hnl : m'.networkRates.length = m.networkRates.length)
    (prev next prev' next' : List α) (hp : prev'.length = prev.length) (hn : next'.length = next.length)
    (h : ∀ i ∈ m.indices, m.wt i = 0 ∨
      (m'.vr i = m.vr i ∧ m'.nr i = m.nr i ∧ prev'.getD i 0 = prev.getD i 0 ∧ next'.getD i 0 = next.getD i 0))
    (e pe ne : Nat) :
    m'.traversalCost e prev' next' = m.traversalCost e prev next
      ∧ m'.accessCost pe ne prev' next' = m.accessCost pe ne prev next
      ∧ m'.costEstimate prev' next' = m.costEstimate prev next := by
  have hwt : ∀ i, m'.wt i = m.wt i := fun i => by unfold CostModel.wt; rw [hw]
  -- a part does not change when its factor does at zero-weight features only
  have hpart : ∀ X X' : Nat → α, (∀ i ∈ m.indices, m.wt i = 0 ∨ X' i = X i) → m'.part X' = m.part X :=
    fun X X' hX => CostModel.part_congr hagg hidx fun i hi => by
      rw [hwt]
      rcases hX i hi with h0 | h1
      · rw [h0, mul_zero, mul_zero]
      · rw [h1]
  have key : ∀ q, m'.charged q prev' next' = m.charged q prev next := fun q =>
    CostModel.charged_congr q (CostModel.Dom_congr q hidx hp hn hvl (congrArg List.length hw) hnl) <|
      congrArg₂ (· + ·)
      (hpart _ _ fun i hi => (h i hi).imp_right fun ⟨h1, _, h3, h4⟩ => by rw [h1, stateDelta, stateDelta, h3, h4])
      (hpart _ _ fun i hi => (h i hi).imp_right fun ⟨_, h2, _, _⟩ => by rw [h2])
  exact ⟨key (.traversal e), key (.access pe ne), key .estimate⟩

/-- C07 (sum aggregation): a zero-weight feature can be removed from the model without changing any
result (when the results exist) -/
theorem zero_weight_removable (m : CostModel α) (hs : m.agg = .sum) (k : Nat) (hk : m.wt k = 0)
    (prev next : List α) (hr : m.InRange prev next) (e pe ne : Nat) :
    let m' : CostModel α := { m with indices := m.indices.filter (fun j => j != k) }
    m'.traversalCost e prev next = m.traversalCost e prev next
      ∧ m'.accessCost pe ne prev next = m.accessCost pe ne prev next
      ∧ m'.costEstimate prev next = m.costEstimate prev next := by
  intro m'
  have hr' : m'.InRange prev next := fun i hi => hr i (List.mem_of_mem_filter hi)
  have key : ∀ q, m'.charged q prev next = m.charged q prev next := fun q =>
    CostModel.charged_congr q (iff_of_true (hr'.toDom q) (hr.toDom q)) <| congrArg₂ (· + ·)
      (m.part_drop_zero_weight hs k hk _) (m.part_drop_zero_weight hs k hk _)
  exact ⟨key (.traversal e), key (.access pe ne), key .estimate⟩

/-! ### 7. Multiplication aggregation, exactly as the code behaves -/

/-- under mul aggregation each part is the product of the per-feature costs — `0` for an empty
feature list — and the two parts are *added*; the total is then floored like any other -/
theorem mul_formula_traversal (m : CostModel α) (hm : m.agg = .mul) (e : Nat) (prev next : List α) (s : α)
    (h : m.traversalTotal e prev next = some s) :
    s = (if m.indices = [] then 0
          else (m.indices.map fun i => (m.vr i).mapValue (stateDelta prev next i) * m.wt i).prod)
      + (if m.indices = [] then 0 else (m.indices.map fun i => (m.nr i).traversalCost e * m.wt i).prod) :=
  ((m.total_eq_some_iff (.traversal e) prev next s).mp h).2.trans
    (congrArg₂ (· + ·) (m.part_mul hm _) (m.part_mul hm _))

theorem mul_formula_access (m : CostModel α) (hm : m.agg = .mul) (pe ne : Nat) (prev next : List α) (s : α)
    (h : m.accessTotal pe ne prev next = some s) :
    s = (if m.indices = [] then 0
          else (m.indices.map fun i => (m.vr i).mapValue (stateDelta prev next i) * m.wt i).prod)
      + (if m.indices = [] then 0 else (m.indices.map fun i => (m.nr i).accessCost pe ne * m.wt i).prod) :=
  ((m.total_eq_some_iff (.access pe ne) prev next s).mp h).2.trans
    (congrArg₂ (· + ·) (m.part_mul hm _) (m.part_mul hm _))

theorem mul_formula_estimate (m : CostModel α) (hm : m.agg = .mul) (src dst : List α) (v : α)
    (h : m.vehicleCosts src dst = some v) :
    v = (if m.indices = [] then 0
          else (m.indices.map fun i => (m.vr i).mapValue (stateDelta src dst i) * m.wt i).prod) :=
  ((m.vehicleCosts_eq_some_iff src dst v).mp h).2.trans (m.part_mul hm _)

/-- C07 (mul aggregation): the charged cost is still strictly positive: the product formula when that
is positive, the floor otherwise -/
theorem mul_aggregation_pos (m : CostModel α) (hm : m.agg = .mul) (e : Nat) (prev next : List α) (c : α)
    (h : m.traversalCost e prev next = some c) :
    let s := (if m.indices = [] then 0
          else (m.indices.map fun i => (m.vr i).mapValue (stateDelta prev next i) * m.wt i).prod)
      + (if m.indices = [] then 0 else (m.indices.map fun i => (m.nr i).traversalCost e * m.wt i).prod)
    0 < c ∧ (0 < s → c = s) ∧ (s ≤ 0 → c = minCost) := by
  have := CostModel.charged_eq_value_or_floor (q := .traversal e) rfl h
  rw [CostModel.value, CostModel.netPart, m.part_mul hm, m.part_mul hm] at this
  exact ⟨m.traversalCost_pos e prev next c h, this⟩

/-- under mul aggregation a zero-weight feature is *not* ignored: it annihilates both products, so the
floor is charged and the estimate is zero -/
theorem mul_zero_weight_floor (m : CostModel α) (hm : m.agg = .mul) (k : Nat) (hk : k ∈ m.indices)
    (h0 : m.wt k = 0) (e pe ne : Nat) (prev next : List α) (hr : m.InRange prev next) :
    m.traversalCost e prev next = some minCost ∧ m.accessCost pe ne prev next = some minCost
      ∧ m.costEstimate prev next = some 0 := by
  have z := m.part_mul_zero_weight hm hk h0
  have key : ∀ q, m.charged q prev next = some (q.clip 0) := fun q => by
    rw [m.charged_of_dom q (hr.toDom q), CostModel.value, CostModel.netPart, z, z, add_zero]
  exact ⟨(key (.traversal e)).trans (congrArg some (enforceStrictlyPositive_of_nonpos le_rfl)),
    (key (.access pe ne)).trans (congrArg some (enforceStrictlyPositive_of_nonpos le_rfl)),
    (key .estimate).trans (congrArg some ((enforceNonNegative_eq _).trans (max_self 0)))⟩

end

/-! ### 8. Witness and non-vacuity (evaluated by the kernel on `ℚ`) -/

/-- The floor is not a lower bound of the charged cost: a positive pre-floor total below the floor is
charged as it is (`enforce_strictly_positive` only replaces values `≤ 0`).  So "result ≥ MIN_COST"
does not hold; "result > 0" (`traversal_cost_pos`) does. -/
theorem charged_below_floor_witness :
    ∃ (m : CostModel ℚ) (e : Nat) (prev next : List ℚ) (c : ℚ),
      m.traversalCost e prev next = some c ∧ 0 < c ∧ c < minCost :=
  ⟨{ indices := [0], weights := [1], vehicleRates := [.raw], networkRates := [.zero], agg := .sum },
    0, [0], [minCost / 2], minCost / 2, by decide +kernel, by decide +kernel, by decide +kernel⟩

/-- two features; the first rated by a nested combined rate and charged per edge and per turn, the
second with weight zero -/
def exSum : CostModel ℚ :=
  { indices := [0, 1], weights := [2, 0],
    vehicleRates := [.combined [.factor 3, .combined [.offset (-1), .combined []], .raw], .raw],
    networkRates := [.combined [.edgeLookup [(3, 1/4)], .edgeEdgeLookup [((1, 3), 4)]], .edgeLookup [(3, 100)]],
    agg := .sum }

/-- the same under mul aggregation, both weights non-zero -/
def exMul : CostModel ℚ := { exSum with weights := [2, -1], agg := .mul }

/-- finding `edge_traversal/turn-surcharge-not-charged`: `exSum` charges the turn `(1, 3)` a surcharge
of `4` on a feature of weight `2`.  Entering edge `3` from edge `1` the property's formula gives
`4 + ½ + 8 = 12½`; `access_cost` is `12`, the traversal share `4½ − 12 = −7½`, and `total_cost()` is
`4½` — exactly what the cost model without any turn table charges. -/
theorem edge_total_sum_formula_counterexample :
    (exSum.edgeTraversal 3 (some (1, 3)) [1, 0] [2, 7] [2, 7]) = some (12, 4 + 1/2 - 12)
      ∧ (exSum.edgeTraversal 3 (some (1, 3)) [1, 0] [2, 7] [2, 7]).map edgeRecordTotal = some (4 + 1/2)
      ∧ turnSurcharge exSum (some (1, 3)) = 8
      ∧ (exSum.indices.map fun i => exSum.wt i * (exSum.vr i).mapValue (stateDelta [1, 0] [2, 7] i)).sum
          + (exSum.indices.map fun i => exSum.wt i * (exSum.nr i).traversalCost 3).sum
          + turnSurcharge exSum (some (1, 3)) = 12 + 1/2
      ∧ (exSum.dropTurns.edgeTraversal 3 (some (1, 3)) [1, 0] [2, 7] [2, 7]).map edgeRecordTotal = some (4 + 1/2)
      ∧ exSum.dropTurns.accessCost 1 3 [1, 0] [2, 7] = some 4 := by
  decide +kernel

-- non-vacuity of `edge_total_sum_formula_partial`: a pair that misses the table, and no neighbouring
-- edge; every hypothesis instantiated, the theorem applied
example : (exSum.edgeTraversal 3 (some (0, 3)) [1, 0] [2, 7] [2, 7]).map edgeRecordTotal = some (4 + 1/2) := by
  have h : exSum.edgeTraversal 3 (some (0, 3)) [1, 0] [2, 7] [2, 7] = some (4, 4 + 1/2 - 4) := by decide +kernel
  have hs : exSum.agg = .sum := rfl
  have ht : turnSurcharge exSum (some (0, 3)) = 0 := by decide +kernel
  have := (edge_total_sum_formula_partial exSum hs 3 (some (0, 3)) [1, 0] [2, 7] [2, 7] _ h ht).1
  have hS : (exSum.indices.map fun i => exSum.wt i * (exSum.vr i).mapValue (stateDelta [1, 0] [2, 7] i)).sum
      + (exSum.indices.map fun i => exSum.wt i * (exSum.nr i).traversalCost 3).sum
      + turnSurcharge exSum (some (0, 3)) = 4 + 1/2 := by decide +kernel
  rw [hS] at this
  rw [h]
  simp only [Option.map_some, Option.some.injEq]
  exact this (by norm_num)

-- §1: the functions return on in-range input; positive delta: the formula; the per-turn surcharge
-- goes to the access cost only, the per-edge surcharge to the traversal cost only
example : exSum.traversalCost 3 [1, 0] [2, 7] = some (2 * ((1 * 3 - 1)) + 2 * (1/4)) := by decide +kernel
example : exSum.accessCost 1 3 [1, 0] [2, 7] = some (2 * ((1 * 3 - 1)) + 2 * 4) := by decide +kernel
example : exSum.costEstimate [1, 0] [2, 7] = some (2 * ((1 * 3 - 1))) := by decide +kernel
-- negative delta (regained energy): floor, and the estimate is clipped to zero
example : exSum.traversalCost 0 [2, 0] [1, 7] = some minCost := by decide +kernel
example : exSum.accessCost 0 0 [2, 0] [1, 7] = some minCost := by decide +kernel
example : exSum.costEstimate [2, 0] [1, 7] = some 0 := by decide +kernel
-- zero delta with a negative offset: floor
example : exSum.traversalCost 0 [1, 0] [1, 0] = some minCost := by decide +kernel
-- §1: the edge record, with a previous edge
example : edgeTotalCost (edgeAccessShare (exSum.accessCost 1 3 [1, 0] [2, 7])) (4 + 1/2) = 4 + 1/2 := by
  decide +kernel
example : (exSum.edgeTraversal 3 (some (1, 3)) [1, 0] [1, 0] [2, 7]).map edgeRecordTotal = some (4 + 1/2) := by
  decide +kernel
-- … the traversal share of the record may well be negative (turn surcharge above the edge's total)
example : (exSum.edgeTraversal 3 (some (1, 3)) [1, 0] [2, 7] [2, 7]).map (·.2) = some (4 + 1/2 - 12) := by
  decide +kernel
-- §2: too short a state vector: none from all three; `new` accepts / rejects
example : exSum.traversalCost 3 [1] [2, 7] = none ∧ exSum.accessCost 1 3 [1, 0] [2] = none
    ∧ exSum.costEstimate [] [] = none := by decide +kernel
example : (CostModel.new [((some 1 : Option ℚ), some .raw, none), (none, none, none)] .sum).isSome = true := by
  decide +kernel
example : CostModel.new [((some 1 : Option ℚ), some .raw, none), (some (-1), none, none)] .sum = none := by
  decide +kernel
example : CostModel.new ([] : List (FeatureConfig ℚ)) .sum = none := by decide +kernel
-- §3/§5: the hypotheses of the formula and linearity theorems are satisfiable
example : exSum.agg = .sum ∧ (exSum.traversalTotal 3 [1, 0] [2, 7]).isSome = true
    ∧ (({ exSum with weights := [1, 1] }).traversalTotal 3 [1, 0] [2, 7]).isSome = true := by decide +kernel
-- §5: the pre-floor value of weights 2·(2,0) + 3·(1,1) is 2·(…) + 3·(…), also when it is negative
example : ({ exSum with weights := [7, 3] }).traversalTotal 3 [2, 0] [1, 7]
    = (do let a ← exSum.traversalTotal 3 [2, 0] [1, 7]
          let b ← ({ exSum with weights := [1, 1] }).traversalTotal 3 [2, 0] [1, 7]
          pure (2 * a + 3 * b)) := by decide +kernel
-- §6: feature 1 has weight zero: its state and rates do not matter
example : exSum.wt 1 = 0 := by decide +kernel
example : exSum.traversalCost 3 [1, 5] [2, -9] = exSum.traversalCost 3 [1, 0] [2, 7] := by decide +kernel
-- §7: mul aggregation: product of the per-feature costs plus product of the surcharges
example : exMul.accessCost 1 3 [1, 7] [2, 0] = some ((2 * 2) * (-7 * -1) + (4 * 2) * (0 * -1)) := by
  decide +kernel
example : exMul.traversalCost 3 [1, 0] [2, 7] = some minCost := by decide +kernel
-- a zero weight annihilates the product
example : ({ exSum with agg := .mul }).traversalCost 3 [1, 0] [2, 7] = some minCost := by decide +kernel

/-! ## Second part: the rest of the anchor files (model `Compass/Model/CostIO.lean`) -/

section
variable {α : Type} [Field α] [LinearOrder α] [IsStrictOrderedRing α] [Lit α] [LawfulLit α]

/-! ### 9. The order of `Cost` (`unit/cost.rs`) -/

/-- a linearly ordered field has no NaN -/
theorem cost_is_nan_false (x : α) : costIsNaN x = false := by
  simp [costIsNaN]

/-- over a linear order `OrderedFloat::cmp` is the order itself -/
theorem cost_cmp_spec (a b : α) :
    (costCmp a b = .lt ↔ a < b) ∧ (costCmp a b = .eq ↔ a = b) ∧ (costCmp a b = .gt ↔ b < a) := by
  unfold costCmp
  simp only [cost_is_nan_false, Bool.false_or, Bool.not_eq_true', decide_eq_false_iff_not, not_le]
  rcases lt_trichotomy a b with h | h | h
  · simp [h, ne_of_lt h, not_lt.mpr (le_of_lt h)]
  · subst h; simp
  · simp [h, not_lt.mpr (le_of_lt h), ne_of_gt h]

/-- `ReverseCost` reverses it (the frontier is a max-heap over `ReverseCost`: the least cost pops first) -/
theorem reverse_cost_cmp_spec (a b : α) :
    (reverseCostCmp a b = .lt ↔ b < a) ∧ (reverseCostCmp a b = .eq ↔ a = b) ∧ (reverseCostCmp a b = .gt ↔ a < b) := by
  unfold reverseCostCmp
  obtain ⟨h1, h2, h3⟩ := cost_cmp_spec b a
  exact ⟨h1, by rw [h2]; exact eq_comm, h3⟩

theorem cost_le_iff (a b : α) : costLe a b = true ↔ a ≤ b := by
  rw [costLe, bne_iff_ne, Ne, (cost_cmp_spec a b).2.2, not_lt]

theorem cost_lt_iff (a b : α) : costLt a b = true ↔ a < b := by
  rw [costLt, beq_iff_eq, (cost_cmp_spec a b).1]

/-- `Ord::max` / `Ord::min` on costs -/
theorem cost_max_min (a b : α) : costMax a b = max a b ∧ costMin a b = min a b := by
  have hgt : costCmp a b = .gt ↔ ¬ a ≤ b := (cost_cmp_spec a b).2.2.trans not_le.symm
  exact ⟨(if_congr hgt rfl rfl).trans ((ite_not _ _ _).trans (max_def a b).symm),
    (if_congr hgt rfl rfl).trans ((ite_not _ _ _).trans (min_def a b).symm)⟩

/-- the floor and the clip written with the derived comparison of `Cost` (what the code evaluates)
are the functions of §1 -/
theorem enforce_cmp_eq (c : α) :
    enforceStrictlyPositiveCmp c = enforceStrictlyPositive c ∧ enforceNonNegativeCmp c = enforceNonNegative c :=
  ⟨if_congr (cost_le_iff c zero) rfl rfl, if_congr (cost_lt_iff c zero) rfl rfl⟩

/-! ### 10. `CostAggregation::agg_iter` / `agg` called directly -/

/-- `agg_iter` fails exactly when some item is an `Err`, and then `firstNone` names the first one:
the item at that position is an `Err` and every earlier one is a cost -/
theorem agg_iter_error (a : CostAggregation) (items : List (Option α)) :
    (a.aggIter items = none ↔ ∃ x ∈ items, x = none) ∧
    (∀ k, firstNone items = some k → items[k]? = some none ∧ ∀ j, j < k → ∃ c, items[j]? = some (some c)) ∧
    (firstNone items = none ↔ ∀ x ∈ items, x ≠ none) :=
  ⟨(aggIter_eq_none_iff a items).trans ⟨fun h => ⟨none, h, rfl⟩, fun ⟨_, hx, e⟩ => e ▸ hx⟩,
    fun _ => firstNone_eq_some, firstNone_eq_none_iff items⟩

/-- without `Err` item the result is the aggregate: the sum in order (`0` for no component), or the
product in order — `0`, not `1`, for no component; a single component is returned unchanged -/
theorem agg_iter_value (a : CostAggregation) (cs : List α) :
    a.aggIter (cs.map some) = some (a.agg cs) ∧
    CostAggregation.sum.agg cs = cs.sum ∧ CostAggregation.mul.agg cs = (if cs = [] then 0 else cs.prod) ∧
    (∀ c : α, CostAggregation.sum.agg [c] = c ∧ CostAggregation.mul.agg [c] = c) := by
  refine ⟨?_, agg_sum cs, agg_mul cs, fun c => ⟨by simp [agg_sum], by simp [agg_mul]⟩⟩
  have := aggIter_map_some a cs (fun c => some c) id (fun _ _ => rfl)
  simpa using this

/-! ### 11. `EdgeTraversal::forward_traversal` / `reverse_traversal` -/

/-- C07 on the real constructors: whenever either returns a record, its `total_cost()` is what
`traversal_cost` charged for the traversed edge on the state the traversal model left — strictly
positive — and the access share is non-negative; whatever graph, models and neighbouring edge -/
theorem edge_traversal_total_pos (m : CostModel α) (env : ETEnv α) (forward : Bool) (trav : Nat)
    (nbr : Option Nat) (prev : List α) (r : α × α)
    (h : m.edgeTraversalE env forward trav nbr prev = .ok r) :
    ∃ next, env.traverse = some next ∧ m.traversalCost trav prev next = some (edgeRecordTotal r)
      ∧ 0 < edgeRecordTotal r ∧ 0 ≤ r.1 := by
  obtain ⟨next, hn, h'⟩ := edgeTraversalE_ok h
  exact ⟨next, hn, edge_record_total_pos m trav _ prev _ next r h'⟩

/-- error arms, in the order the code takes them.  Not stated: a neighbouring edge whose end vertex is
missing (network error), an access cost the cost model refuses (cost error), and the traversal / cost
arms when there is a neighbouring edge -/
theorem edge_traversal_errors (m : CostModel α) (env : ETEnv α) (forward : Bool) (trav : Nat)
    (nbr : Option Nat) (prev : List α) :
    -- an unknown traversed edge, or one whose end vertex is not in the graph: network error, first of all
    (env.tripletOk trav = false → m.edgeTraversalE env forward trav nbr prev = .error .network) ∧
    -- an unknown neighbouring edge: network error
    (∀ k, env.tripletOk trav = true → nbr = some k → env.edge k = none →
      m.edgeTraversalE env forward trav nbr prev = .error .network) ∧
    -- a failing access model (graph lookups fine): access error
    (∀ k s d, env.tripletOk trav = true → nbr = some k → env.edge k = some (s, d) →
      env.vertex (if forward then s else d) = true → env.access = none →
      m.edgeTraversalE env forward trav nbr prev = .error .access) ∧
    -- without neighbouring edge a failing traversal model: traversal error
    (env.tripletOk trav = true → nbr = none → env.traverse = none →
      m.edgeTraversalE env forward trav nbr prev = .error .traversal) ∧
    -- without neighbouring edge, a traversal model that leaves a state the cost model rejects: cost error
    (∀ next, env.tripletOk trav = true → nbr = none → env.traverse = some next →
      m.traversalCost trav prev next = none →
      m.edgeTraversalE env forward trav nbr prev = .error .cost) := by
  refine ⟨?_, ?_, ?_, ?_, ?_⟩
  · intro h; simp [CostModel.edgeTraversalE, h]
  · intro k h hn he; subst hn; simp [CostModel.edgeTraversalE, CostModel.accessStep, h, he]
  · intro k s d h hn he hv ha; subst hn; simp [CostModel.edgeTraversalE, CostModel.accessStep, h, he, hv, ha]
  · intro h hn ht; subst hn; simp [CostModel.edgeTraversalE, CostModel.accessStep, h, ht]
  · intro next h hn ht hc; subst hn; simp [CostModel.edgeTraversalE, CostModel.accessStep, h, ht, hc]

/-! ### 12. `serialize_cost` / `serialize_cost_info` -/

/-- `serialize_cost`, PARTIAL.  Full statement: the result holds one entry per state feature — the
feature's name with the rated value of its state variable — and `total_cost`, their sum in feature
order.  Proved when no feature is named `total_cost` (and the names are distinct, one per index, every
index inside the state and the vehicle rates); a feature of that name loses its entry
(`serialize_cost_total_cost_counterexample`). -/
theorem serialize_cost_partial (m : CostModel α) (names : List String) (state : List α)
    (hn : names.Nodup) (ht : "total_cost" ∉ names) (hlen : names.length = m.indices.length)
    (hr : ∀ i ∈ m.indices, i < state.length ∧ i < m.vehicleRates.length) :
    m.serializeCost names state
      = some ((names.zip m.indices).map (fun p => (p.1, (m.vr p.2).mapValue (state.getD p.2 0)))
          ++ [("total_cost", (m.indices.map fun i => (m.vr i).mapValue (state.getD i 0)).sum)]) := by
  -- the entries are `names` zipped with the rated values (`hz`): the keys are `names` — distinct, so the fold appends
  -- them one by one, and none of them `total_cost`, so the last insert appends as well
  have hz : (names.zip m.indices).map (fun p => (p.1, (m.vr p.2).mapValue (state.getD p.2 0)))
      = names.zip (m.indices.map fun i => (m.vr i).mapValue (state.getD i 0)) :=
    (List.zip_map_right (f := fun i => (m.vr i).mapValue (state.getD i 0))).symm
  have hfc : m.featureCosts names state
      = some ((names.zip m.indices).map (fun p => (p.1, (m.vr p.2).mapValue (state.getD p.2 0)))) := by
    unfold CostModel.featureCosts
    apply allSome_map_some
    intro p hp
    have hi := hr p.2 (List.of_mem_zip hp).2
    obtain ⟨name, i⟩ := p
    simp only at hi ⊢
    rw [getElem?_eq_some_getD state i 0 hi.1, getElem?_eq_some_getD m.vehicleRates i .zero hi.2]
    rfl
  have hkeys : ∀ vals : List α, vals.length = m.indices.length → (names.zip vals).map Prod.fst = names :=
    fun vals hv => List.map_fst_zip (le_of_eq (hlen.trans hv.symm))
  have hvals : ∀ vals : List α, vals.length = m.indices.length → (names.zip vals).map Prod.snd = vals :=
    fun vals hv => List.map_snd_zip (le_of_eq (hv.trans hlen.symm))
  unfold CostModel.serializeCost
  rw [hfc, hz]
  simp only
  -- `kvInsert` is `upsert` of the pair
  show some (kvInsert (List.foldl upsert [] _) _ _) = _
  rw [foldl_upsert_of_nodup _ [] (by rw [hkeys _ (List.length_map _)]; exact hn) (fun _ _ _ hq => nomatch hq),
    List.nil_append, hvals _ (List.length_map _), zero_eq, ← List.sum_eq_foldl]
  exact congrArg some (upsert_of_not_mem _ ("total_cost", _) fun q hq heq =>
    ht (hkeys _ (List.length_map _) ▸ List.mem_map.mpr ⟨q, hq, heq⟩))

/-- a state vector that does not reach a feature's index: `serialize_cost` fails
(`StateIndexOutOfBounds`) -/
theorem serialize_cost_short_state (m : CostModel α) (names : List String) (state : List α)
    (p : String × Nat) (hp : p ∈ names.zip m.indices) (hs : state.length ≤ p.2) :
    m.serializeCost names state = none := by
  have : m.featureCosts names state = none := by
    unfold CostModel.featureCosts
    refine (allSome_eq_none_iff _).mpr (List.mem_map.mpr ⟨p, hp, ?_⟩)
    simp only [List.getElem?_eq_none hs]
  rw [CostModel.serializeCost, this]

/-- `serialize_cost_info`, PARTIAL.  Full statement: for every cost model `CostModel::new` accepts the
description of the model is returned.  Proved when every rate has a serde form (no `Combined` rate, no
edge-pair lookup with entries); then the result is an object that reports the aggregation under
`cost_aggregation`.  Otherwise it fails (`serialize_cost_info_counterexample`). -/
theorem serialize_cost_info_partial (m : CostModel α) (enc : α → Json) (names : List String)
    (hr : ∀ i ∈ m.indices, ∃ w v n, m.weights[i]? = some w ∧ m.vehicleRates[i]? = some v
      ∧ m.networkRates[i]? = some n ∧ (v.toJson? enc).isSome ∧ (n.toJson? enc).isSome) :
    ∃ kvs, m.serializeCostInfo enc names = some (.obj kvs)
      ∧ Json.lookup kvs "cost_aggregation" = some m.agg.toJson := by
  have key : ∀ (l : List (String × Nat)) (acc : List (String × Json)), (∀ p ∈ l, p.2 ∈ m.indices) →
      ∃ kvs, m.costInfoEntries enc l acc = some kvs := by
    intro l
    induction l with
    | nil => intro acc _; exact ⟨acc, rfl⟩
    | cons p l ih =>
      intro acc hp
      obtain ⟨w, v, n, hw, hv, hn, hvj, hnj⟩ := hr p.2 (hp p (by simp))
      obtain ⟨vj, hvj'⟩ := Option.isSome_iff_exists.mp hvj
      obtain ⟨nj, hnj'⟩ := Option.isSome_iff_exists.mp hnj
      obtain ⟨name, i⟩ := p
      simp only [CostModel.costInfoEntries, hw, hv, hn, hvj', hnj']
      exact ih _ (fun q hq => hp q (by simp [hq]))
  obtain ⟨kvs, hk⟩ := key (names.zip m.indices) [] (fun p hp => (List.of_mem_zip hp).2)
  refine ⟨Json.insertKv kvs "cost_aggregation" m.agg.toJson, ?_, Json.lookup_insertKv_same _ _ _⟩
  simp [CostModel.serializeCostInfo, hk]

/-! ### 13. The serde form of the rates and of the aggregation -/

/-- whatever serde writes for a vehicle rate reads back as that rate (`num` decodes what `enc` writes).
`Combined` is not written at all (`vehicle_rate_combined_not_written`). -/
theorem vehicle_rate_serde_roundtrip (num : Json → Option α) (enc : α → Json) (hne : ∀ x, num (enc x) = some x)
    (r : VehicleCostRate α) (j : Json) (h : r.toJson? enc = some j) : parseVehicleRate num j = some r := by
  cases r with
  | zero => cases h; rfl
  | raw => cases h; rfl
  | factor f => cases h; simp [parseVehicleRate, Json.lookup, hne]
  | offset o => cases h; simp [parseVehicleRate, Json.lookup, hne]
  | combined rs => cases h

/-- the known limits of the serde form (finding `cost_rate_serde/not-serializable`): a `Combined` rate
of either kind, and an edge-pair lookup with entries, cannot be written -/
theorem vehicle_rate_combined_not_written (enc : α → Json) (rs : List (VehicleCostRate α))
    (ns : List (NetworkCostRate α)) (p : (Nat × Nat) × α) (t : List ((Nat × Nat) × α)) :
    (VehicleCostRate.combined rs).toJson? enc = none ∧ (NetworkCostRate.combined ns).toJson? enc = none
      ∧ (NetworkCostRate.edgeEdgeLookup (p :: t)).toJson? enc = none := by
  simp [VehicleCostRate.toJson?, NetworkCostRate.toJson?]

/-- a `Combined` vehicle rate is read from the sequence form `["combined", r₁, r₂, …]` only: the
object form is rejected whatever else it holds -/
theorem vehicle_rate_combined_forms (num : Json → Option α) (js : List Json) (kvs : List (String × Json))
    (hk : Json.lookup kvs "type" = some (.str "combined")) :
    parseVehicleRate num (.arr (.str "combined" :: js)) = (parseVehicleRateList num js).map .combined
      ∧ parseVehicleRate num (.obj kvs) = none := by
  constructor
  · simp [parseVehicleRate]
  · simp [parseVehicleRate, hk]

/-- a vehicle rate given as `null`, a boolean, a number, a string, the empty sequence or an object without
`type` key is rejected, and so is a network rate given as `null`, a string, the empty sequence or such an
object (an error, never a panic); a non-string or unknown tag is not covered here -/
theorem rate_malformed_rejected (num : Json → Option α) (b : Bool) (l : String) (n : Nat) (s : String)
    (kvs : List (String × Json)) (hk : Json.lookup kvs "type" = none) :
    parseVehicleRate num .null = none ∧ parseVehicleRate num (.bool b) = none
      ∧ parseVehicleRate num (.num l n) = none ∧ parseVehicleRate num (.str s) = none
      ∧ parseVehicleRate num (.arr []) = none ∧ parseVehicleRate num (.obj kvs) = none
      ∧ parseNetworkRate (α := α) .null = none ∧ parseNetworkRate (α := α) (.str s) = none
      ∧ parseNetworkRate (α := α) (.arr []) = none ∧ parseNetworkRate (α := α) (.obj kvs) = none := by
  simp [parseVehicleRate, parseNetworkRate, hk]

/-- NETWORK RATES, PARTIAL.  Full statement: whatever serde writes for a network rate reads back as
that rate.  Proved for `Zero` and for the two lookups without entries; an edge lookup with entries is
written and then rejected (`network_rate_serde_roundtrip_counterexample`). -/
theorem network_rate_serde_roundtrip_partial (enc : α → Json) :
    parseNetworkRate (α := α) ((NetworkCostRate.zero : NetworkCostRate α).toJson? enc |>.getD .null) = some .zero
      ∧ parseNetworkRate (α := α) ((NetworkCostRate.edgeLookup ([] : List (Nat × α))).toJson? enc |>.getD .null)
          = some (.edgeLookup [])
      ∧ parseNetworkRate (α := α) ((NetworkCostRate.edgeEdgeLookup ([] : List ((Nat × Nat) × α))).toJson? enc |>.getD .null)
          = some (.edgeEdgeLookup []) := by
  simp [NetworkCostRate.toJson?, parseNetworkRate, Json.lookup, parseEmptyLookup]

/-- finding `cost_rate_serde/lookup-not-deserializable`: an edge lookup with an entry is written as
`{"type":"edge_lookup","lookup":{"<id>":cost,…}}` and that text is rejected on reading -/
theorem network_rate_serde_roundtrip_counterexample (enc : α → Json) (p : Nat × α) (t : List (Nat × α)) :
    ∃ j, (NetworkCostRate.edgeLookup (p :: t)).toJson? enc = some j ∧ parseNetworkRate (α := α) j = none := by
  refine ⟨_, rfl, ?_⟩
  simp [parseNetworkRate, Json.lookup, parseEmptyLookup]

/-- the aggregation is written as its name and read back (the string form of the externally tagged enum) -/
theorem aggregation_serde_roundtrip (a : CostAggregation) : parseAggregation a.toJson = some a := by
  cases a <;> rfl

/-! ### 14. `CostModelBuilder::build` and `CostModelService::build` -/

/-- a configuration without any of the five keys (or that is no object): no rates, no weights, sum
aggregation, unknown weights ignored -/
theorem build_cost_service_defaults (num : Json → Option α) (config : Json)
    (h : ∀ k, config.get? k = none) :
    buildCostService num config
      = some (CostService.mk [] [] [] CostAggregation.sum true) := by
  simp [buildCostService, optField, h]

/-- a section that is present and does not deserialise fails the build (shown for `weights`; the
other four keys are read the same way) -/
theorem build_cost_service_malformed (num : Json → Option α) (config v : Json)
    (hw : config.get? "weights" = some v) (hbad : parseMap num v = none) :
    buildCostService num config = none := by
  unfold buildCostService
  have : optField (parseMap num) config "weights" = none := by simp [optField, hw, hbad]
  rw [this]
  split
  · simp_all
  · rfl

/-- with the ignore flag on (the default) unknown weights never fail the query -/
theorem service_build_ignore (s : CostService α) (num : Json → Option α) (query : Json) (names : List String)
    (hi : s.ignoreUnknownWeights = true) : s.build num query names ≠ .error .unknownWeights := by
  unfold CostService.build
  cases optField (parseMap num) query "weights" with
  | none => nofun
  | some wq =>
    dsimp only
    rw [hi, if_neg fun hc => Bool.noConfusion hc.2]
    cases optField (parseMap (parseVehicleRate num)) query "vehicle_rates" with
    | none => nofun
    | some vq =>
      cases optField parseAggregation query "cost_aggregation" with
      | none => nofun
      | some aq =>
        dsimp only
        split <;> nofun

/-- with the ignore flag off, a weight for a name that is no state feature fails the query
(weights from the query when it has any, else the configured ones; names distinct) -/
theorem service_build_unknown_weights (s : CostService α) (num : Json → Option α) (query : Json)
    (names : List String) (wq : Option (List (String × α)))
    (hq : optField (parseMap num) query "weights" = some wq)
    (hi : s.ignoreUnknownWeights = false) (hn : names.Nodup)
    (u : String) (hu : u ∈ (wq.getD s.weights).map Prod.fst) (hun : u ∉ names) :
    s.build num query names = .error .unknownWeights := by
  unfold CostService.build
  rw [hq]
  simp only [hi]
  -- the code compares the number of weights with the number of names that have one; the names with a weight are
  -- distinct keys of the weights other than `u`, so there are fewer of them
  have hlt : (names.filter fun n => (wq.getD s.weights).any fun p => p.1 == n).length
      < (wq.getD s.weights).length := by
    set ws := wq.getD s.weights with hws
    have hsub : (names.filter fun n => ws.any fun p => p.1 == n) ⊆ (ws.map Prod.fst).erase u := by
      intro n hnm
      rw [List.mem_filter] at hnm
      obtain ⟨hnn, hany⟩ := hnm
      rw [List.any_eq_true] at hany
      obtain ⟨p, hp, hpe⟩ := hany
      have hne : n ≠ u := fun h => hun (h ▸ hnn)
      have : n ∈ ws.map Prod.fst := List.mem_map.mpr ⟨p, hp, by simpa using hpe⟩
      exact (List.mem_erase_of_ne hne).mpr this
    have hle := (List.subperm_of_subset (hn.filter _) hsub).length_le
    rw [List.length_erase_of_mem hu, List.length_map] at hle
    have hpos : 0 < ws.length := by
      rw [← List.length_map (f := Prod.fst)]; exact List.length_pos_of_mem hu
    omega
  have hne : (wq.getD s.weights).length ≠ (names.filter fun n => (wq.getD s.weights).any fun p => p.1 == n).length :=
    fun h => by omega
  simp [hne]

/-- a cost model the service returns answers on every pair of state vectors as long as the state
model, with strictly positive costs (§1) -/
theorem service_build_returns (s : CostService α) (num : Json → Option α) (query : Json) (names : List String)
    (m : CostModel α) (h : s.build num query names = .ok m) (e pe ne : Nat) (prev next : List α)
    (h1 : names.length ≤ prev.length) (h2 : names.length ≤ next.length) :
    (m.traversalCost e prev next).isSome ∧ (m.accessCost pe ne prev next).isSome
      ∧ (m.costEstimate prev next).isSome ∧ m.weights.sum ≠ 0 := by
  obtain ⟨_, _, _, -, -, -, -, hm⟩ := CostService.build_ok h
  exact CostModel.new_returns _ _ m hm e pe ne prev next (by rwa [List.length_map]) (by rwa [List.length_map])

/-! ### 15. `NetworkCostRateBuilder::build` -/

/-- collecting rows into a table invents no entry -/
theorem collectTable_subset {κ : Type} [BEq κ] (rows : List (κ × α)) :
    ∀ p ∈ collectTable rows, p ∈ rows := fun p hp =>
  (mem_foldl_upsert rows [] p hp).resolve_left List.not_mem_nil

/-- a lookup builder returns a rate exactly when its file can be read, every row decodes and every
cost is finite; the table then holds rows of the file only — so every surcharge it can add is a
finite number (C07 "finite", for the one place where a non-finite number could enter from a file) -/
theorem lookup_builder_build (finite : α → Bool) (f : CsvFile (Nat × α)) :
    (∀ r, (NetworkCostRateBuilder.edgeLookup f).build finite = some r →
      ∃ rows, f.present = true ∧ f.hasHeader = true ∧ f.rows = rows.map Row.ok ∧ r = .edgeLookup (collectTable rows)
        ∧ ∀ p ∈ collectTable rows, finite p.2 = true) ∧
    (∀ rows, f.present = true → f.hasHeader = true → f.rows = rows.map Row.ok → (∀ p ∈ rows, finite p.2 = true) →
      (NetworkCostRateBuilder.edgeLookup f).build finite = some (.edgeLookup (collectTable rows))) := by
  rw [NetworkCostRateBuilder.build]
  constructor
  · intro r h
    cases hr : readCsv f with
    | error e => rw [hr] at h; cases h
    | ok rows =>
      obtain ⟨hp, hh, hrows⟩ := (readCsv_ok_iff f rows).mp hr
      rw [hr] at h
      dsimp only at h
      split at h
      · rename_i hall
        cases h
        exact ⟨rows, hp, hh, hrows, rfl, fun p hp' => List.all_eq_true.mp hall p (collectTable_subset rows p hp')⟩
      · cases h
  · intro rows hp hh hr hf
    rw [(readCsv_ok_iff f rows).mpr ⟨hp, hh, hr⟩]
    exact if_pos (List.all_eq_true.mpr hf)

/-- the same for a table keyed by edge pairs -/
theorem pair_lookup_builder_build (finite : α → Bool) (f : CsvFile ((Nat × Nat) × α)) :
    (∀ r, (NetworkCostRateBuilder.edgeEdgeLookup f).build finite = some r →
      ∃ rows, f.present = true ∧ f.hasHeader = true ∧ f.rows = rows.map Row.ok ∧ r = .edgeEdgeLookup (collectTable rows)
        ∧ ∀ p ∈ collectTable rows, finite p.2 = true) ∧
    (∀ rows, f.present = true → f.hasHeader = true → f.rows = rows.map Row.ok → (∀ p ∈ rows, finite p.2 = true) →
      (NetworkCostRateBuilder.edgeEdgeLookup f).build finite = some (.edgeEdgeLookup (collectTable rows))) := by
  rw [NetworkCostRateBuilder.build]
  constructor
  · intro r h
    cases hr : readCsv f with
    | error e => rw [hr] at h; cases h
    | ok rows =>
      obtain ⟨hp, hh, hrows⟩ := (readCsv_ok_iff f rows).mp hr
      rw [hr] at h
      dsimp only at h
      split at h
      · rename_i hall
        cases h
        exact ⟨rows, hp, hh, hrows, rfl, fun p hp' => List.all_eq_true.mp hall p (collectTable_subset rows p hp')⟩
      · cases h
  · intro rows hp hh hr hf
    rw [(readCsv_ok_iff f rows).mpr ⟨hp, hh, hr⟩]
    exact if_pos (List.all_eq_true.mpr hf)

/-- a combined builder builds every part, in order, and fails when one of them fails -/
theorem combined_builder_build (finite : α → Bool) (bs : List (NetworkCostRateBuilder α)) :
    (NetworkCostRateBuilder.combined bs).build finite
      = (allSome (bs.map fun b => b.build finite)).map .combined := by
  rw [NetworkCostRateBuilder.build, NetworkCostRateBuilder.buildList_eq]

/-- a key that occurs in several rows of a lookup file is charged the cost of its LAST row (the rows
are collected into a `HashMap`); a key without row costs nothing -/
theorem lookup_builder_last_row_wins (rows : List (Nat × α)) (k : Nat) :
    lookup1 (collectTable rows) k
      = match rows.reverse.find? (fun p => p.1 == k) with
        | some p => p.2
        | none => 0 := by
  -- `collectTable` is the fold of `upsert` over the rows
  rw [lookup1, show collectTable rows = rows.foldl upsert [] from rfl, find?_foldl_upsert, List.find?_nil,
    Option.or_none]
  cases rows.reverse.find? (fun p => p.1 == k) with
  | none => exact zero_eq
  | some p => rfl
end

/-! ### 16. Witnesses of the findings and non-vacuity of §9–§15 (kernel-evaluated on `ℚ`) -/

/-- numbers of the examples: the JSON number's second component read as a natural number -/
def numQ : Json → Option ℚ
  | .num _ b => some (b : ℚ)
  | _ => none
/-- the examples never read a number back: every number is written as `null` -/
def encQ : ℚ → Json := fun _ => .null
/-- the error a service call ended with, if any -/
def errOf {β : Type} : Except ServiceErr β → Option ServiceErr
  | .error e => some e
  | .ok _ => none

/-- two features of weight `1`, both rated `raw`, no network rates -/
def exTwo : CostModel ℚ :=
  { indices := [0, 1], weights := [1, 1], vehicleRates := [.raw, .raw], networkRates := [.zero, .zero], agg := .sum }

/-- finding `serialize_cost/feature-named-total_cost-lost`: with features `distance`, `total_cost` and
state `[1, 5]` the report is `{distance: 1, total_cost: 6}` — the feature's own cost `5` is gone -/
theorem serialize_cost_total_cost_counterexample :
    exTwo.serializeCost ["distance", "total_cost"] [1, 5] = some [("distance", 1), ("total_cost", 6)] := by
  decide +kernel

/-- finding `cost_rate_serde/not-serializable`: a cost model `CostModel::new`
accepts — one feature rated by a `Combined` rate — has no `serialize_cost_info` -/
theorem serialize_cost_info_counterexample :
    ((CostModel.new [((some 1 : Option ℚ), some (.combined [.factor 2, .offset 1]), none)] .sum).map
      fun m => (m.serializeCostInfo encQ ["time"]).isNone) = some true := by
  decide +kernel

-- §9: the order on concrete costs
example : costCmp (1 : ℚ) 2 = .lt ∧ costCmp (2 : ℚ) 2 = .eq ∧ reverseCostCmp (1 : ℚ) 2 = .gt
    ∧ costMax (1 : ℚ) 2 = 2 ∧ costMin (1 : ℚ) 2 = 1 := by decide +kernel
-- §10: the second item is the first error; no component costs nothing under either aggregation
example : CostAggregation.mul.aggIter [some (2 : ℚ), none, none] = none
    ∧ firstNone [some (2 : ℚ), none, none] = some 1
    ∧ CostAggregation.mul.aggIter ([] : List (Option ℚ)) = some 0
    ∧ CostAggregation.sum.aggIter [some (2 : ℚ), some (-3)] = some (-1)
    ∧ CostAggregation.mul.aggIter [some (-2 : ℚ), some (-3)] = some 6 := by decide +kernel
-- §11: a record, and the error arms
def exEnv : ETEnv ℚ :=
  { edge := fun e => if e < 3 then some (e, e + 1) else if e = 3 then some (3, 9) else none,
    vertex := fun v => decide (v < 4), access := some [1, 0], traverse := some [2, 7] }
example : (exSum.edgeTraversalE exEnv true 1 (some 0) [1, 0]).toOption.map edgeRecordTotal
    = exSum.traversalCost 1 [1, 0] [2, 7] := by decide +kernel
example : (exSum.edgeTraversalE exEnv true 7 none [1, 0]).toOption = none
    ∧ (exSum.edgeTraversalE exEnv true 3 none [1, 0]).toOption = none
    ∧ (exSum.edgeTraversalE exEnv false 1 (some 7) [1, 0]).toOption = none
    ∧ (exSum.edgeTraversalE { exEnv with access := none } true 1 (some 0) [1, 0]).toOption = none
    ∧ (exSum.edgeTraversalE { exEnv with traverse := some [2] } true 1 none [1, 0]).toOption = none := by
  decide +kernel
-- §12: the report of a model whose rates all have a serde form
example : exTwo.serializeCost ["distance", "time"] [1, 5] = some [("distance", 1), ("time", 5), ("total_cost", 6)] := by
  decide +kernel
example : (exTwo.serializeCostInfo encQ ["distance", "time"]).isSome = true
    ∧ exTwo.serializeCost ["distance", "time"] [1] = none := by decide +kernel
-- §13: both serde forms; the rate read from `["combined", {"type":"factor","factor":2}, ["offset", 1]]` maps 3 to 7
example : ((parseVehicleRate numQ (.arr [.str "combined", .obj [("type", .str "factor"), ("factor", .num "2" 2)],
      .arr [.str "offset", .num "1" 1]])).map fun r => r.mapValue 3) = some 7 := by decide +kernel
example : (parseVehicleRate numQ (.obj [("type", .str "combined"), ("mappings", .arr [])])).isNone = true
    ∧ (parseVehicleRate numQ (.obj [("type", .str "factor"), ("factor", .str "2")])).isNone = true
    ∧ (parseNetworkRate (α := ℚ) (.obj [("type", .str "edge_lookup"), ("lookup", .obj [("3", .num "1" 1)])])).isNone = true
    ∧ (parseNetworkRate (α := ℚ) (.obj [("type", .str "edge_lookup"), ("lookup", .obj [])])).isSome = true
    ∧ parseAggregation (.obj [("mul", .null)]) = some .mul ∧ parseAggregation (.str "Sum") = none := by
  decide +kernel
-- §14: a configuration and a query; the ignore flag; weights that sum to zero
def exConfig : Json :=
  .obj [("vehicle_rates", .obj [("distance", .obj [("type", .str "raw")])]),
        ("weights", .obj [("distance", .num "2" 2)]),
        ("ignore_unknown_user_provided_weights", .bool false)]
example : ((buildCostService numQ exConfig).map fun s =>
      ((s.build numQ (.obj []) ["distance", "time"]).toOption.bind fun m => m.traversalCost 0 [0, 0] [3, 4]))
    = some (some 6) := by decide +kernel
example : ((buildCostService numQ exConfig).map fun s =>
      (errOf (s.build numQ (.obj [("weights", .obj [("distance", .num "1" 1), ("toll", .num "1" 1)])]) ["distance", "time"]),
       errOf (s.build numQ (.obj [("weights", .obj [("distance", .num "0" 0)])]) ["distance", "time"]),
       errOf (s.build numQ (.obj [("weights", .str "distance")]) ["distance", "time"])))
    = some (some .unknownWeights, some .newFailed, some .serde) := by decide +kernel
-- §15: two rows for edge 3, the last one counts; a missing file, an undecodable row, a non-finite cost,
-- a file without any content (no header row) fail
example : ((NetworkCostRateBuilder.edgeLookup (CsvFile.mk true 4 true [.ok (3, (1 : ℚ)), .ok (5, 2), .ok (3, 7)])).build
      (fun _ => true)).map
      (fun r => (r.traversalCost 3, r.traversalCost 5, r.traversalCost 4)) = some (7, 2, 0) := by decide +kernel
example : ((NetworkCostRateBuilder.edgeLookup (CsvFile.mk false 0 true ([] : List (Row (Nat × ℚ))))).build
      (fun _ => true)).isNone = true
    ∧ ((NetworkCostRateBuilder.edgeLookup (CsvFile.mk true 2 true [.ok (3, (1 : ℚ)), .bad])).build
      (fun _ => true)).isNone = true
    ∧ ((NetworkCostRateBuilder.edgeLookup (CsvFile.mk true 2 true [.ok (3, (1 : ℚ))])).build
      (fun x => decide (x ≠ 1))).isNone = true
    ∧ ((NetworkCostRateBuilder.edgeLookup (CsvFile.mk true 0 false ([] : List (Row (Nat × ℚ))))).build
      (fun _ => true)).isNone = true := by decide +kernel

section
open Src

/-! ### Source decision ties

Each `src_*` theorem ties a `Src.*` definition, regenerated from the Rust source on every run, to the model function
it transcribes: a changed source body makes it fail. -/

theorem src_cost_strictly_positive {α : Type} [Field α] [LinearOrder α] [IsStrictOrderedRing α] [Lit α] [LawfulLit α] (c : α) :
    some (enforceStrictlyPositive c) =
      (cost_strictly_positive.num c (zero : α)).map fun b => if b then minCost else c :=
  congrArg some (if_congr decide_eq_true_iff.symm rfl rfl)

theorem src_cost_non_negative {α : Type} [Field α] [LinearOrder α] [IsStrictOrderedRing α] [Lit α] [LawfulLit α] (c : α) :
    some (enforceNonNegative c) =
      (cost_non_negative.num c (zero : α)).map fun b => if b then (zero : α) else c :=
  congrArg some (if_congr decide_eq_true_iff.symm rfl rfl)

/-! ### Generated function bodies

`tools/gen_fns.py` re-translates the body of the Rust function on every run into `Compass/Gen/FnsC07.lean`
(`Gen.<Type>_<fn>`; conventions in the header of the tool).  Each `gen_*_eq` theorem below says that the
generated definition *is* the hand-written model function the property theorems are about.  A source
change to the function changes the generated definition and the proof stops checking (a body the
translator no longer recognises is not emitted: the theorem no longer elaborates). -/

theorem gen_agg_fold1_eq {α : Type} [Field α] (cs : List (String × α)) (acc : α) :
    Gen.CostAggregation_agg_fold1 cs acc = (cs.map (·.2)).foldl (· + ·) acc := by
  induction cs generalizing acc with
  | nil => simp [Gen.CostAggregation_agg_fold1]
  | cons c cs ih => obtain ⟨s, c⟩ := c; simp [Gen.CostAggregation_agg_fold1, ih]

theorem gen_agg_fold2_eq {α : Type} [Field α] (cs : List (String × α)) (acc : α) :
    Gen.CostAggregation_agg_fold2 cs acc = (cs.map (·.2)).foldl (· * ·) acc := by
  induction cs generalizing acc with
  | nil => simp [Gen.CostAggregation_agg_fold2]
  | cons c cs ih => obtain ⟨s, c⟩ := c; simp [Gen.CostAggregation_agg_fold2, ih]

/-- `CostAggregation::agg` takes `(name, cost)` pairs; the model's `agg` the costs -/
theorem gen_agg_eq {α : Type} [Field α] [LinearOrder α] [IsStrictOrderedRing α] [Lit α] [LawfulLit α] (a : CostAggregation) (cs : List (String × α)) :
    Gen.CostAggregation_agg a cs = a.agg (cs.map (·.2)) := by
  cases a with
  | sum => simp [Gen.CostAggregation_agg, CostAggregation.agg, gen_agg_fold1_eq]
  | mul => simp [Gen.CostAggregation_agg, CostAggregation.agg, gen_agg_fold2_eq]

mutual
theorem gen_map_value_eq {α : Type} [Field α] [LinearOrder α] [IsStrictOrderedRing α] [Lit α] [LawfulLit α] (r : VehicleCostRate α) (x : α) :
    Gen.VehicleCostRate_map_value r x = r.mapValue x := by
  cases r with
  | zero => simp [Gen.VehicleCostRate_map_value, VehicleCostRate.mapValue]
  | raw => simp [Gen.VehicleCostRate_map_value, VehicleCostRate.mapValue]
  | factor f => simp [Gen.VehicleCostRate_map_value, VehicleCostRate.mapValue]
  | offset o => simp [Gen.VehicleCostRate_map_value, VehicleCostRate.mapValue]
  | combined rs =>
    simp only [Gen.VehicleCostRate_map_value, VehicleCostRate.mapValue]
    exact gen_map_value_fold_eq rs x
theorem gen_map_value_fold_eq {α : Type} [Field α] [LinearOrder α] [IsStrictOrderedRing α] [Lit α] [LawfulLit α] (rs : List (VehicleCostRate α)) (x : α) :
    Gen.VehicleCostRate_map_value_fold1 rs x = VehicleCostRate.mapValueList rs x := by
  cases rs with
  | nil => simp [Gen.VehicleCostRate_map_value_fold1, VehicleCostRate.mapValueList]
  | cons r rs =>
    simp only [Gen.VehicleCostRate_map_value_fold1, VehicleCostRate.mapValueList]
    rw [gen_map_value_eq r x]
    exact gen_map_value_fold_eq rs (r.mapValue x)
end

theorem gen_enforce_strictly_positive_eq {α : Type} [Field α] [LinearOrder α] [IsStrictOrderedRing α] [Lit α] [LawfulLit α] (c : α) :
    Gen.Cost_enforce_strictly_positive c = enforceStrictlyPositive c := rfl

theorem gen_enforce_non_negative_eq {α : Type} [Field α] [LinearOrder α] [IsStrictOrderedRing α] [Lit α] [LawfulLit α] (c : α) :
    Gen.Cost_enforce_non_negative c = enforceNonNegative c := rfl

theorem gen_network_traversal_fold_eq {α : Type} [Field α] (xs : List α) (a : α) :
    Gen.NetworkCostRate_traversal_cost_fold2 xs a = xs.foldl (· + ·) a := by
  induction xs generalizing a with
  | nil => simp [Gen.NetworkCostRate_traversal_cost_fold2]
  | cons x xs ih => simp [Gen.NetworkCostRate_traversal_cost_fold2, ih]

theorem gen_network_access_fold_eq {α : Type} [Field α] (xs : List α) (a : α) :
    Gen.NetworkCostRate_access_cost_fold2 xs a = xs.foldl (· + ·) a := by
  induction xs generalizing a with
  | nil => simp [Gen.NetworkCostRate_access_cost_fold2]
  | cons x xs ih => simp [Gen.NetworkCostRate_access_cost_fold2, ih]

mutual
/-- `NetworkCostRate::traversal_cost` never returns `Err`; the edge is its `edge_id`, the `HashMap` an
association list with unique keys -/
theorem gen_traversal_cost_eq {α : Type} [Field α] [LinearOrder α] [IsStrictOrderedRing α] [Lit α] [LawfulLit α]
    (r : NetworkCostRate α) (e : Nat) :
    Gen.NetworkCostRate_traversal_cost r e = some (r.traversalCost e) := by
  cases r with
  | zero => simp [Gen.NetworkCostRate_traversal_cost, NetworkCostRate.traversalCost]
  | edgeLookup tbl =>
    simp only [Gen.NetworkCostRate_traversal_cost, NetworkCostRate.traversalCost, lookup1]
    cases List.find? (fun p : Nat × α => p.1 == e) tbl <;> rfl
  | edgeEdgeLookup tbl => simp [Gen.NetworkCostRate_traversal_cost, NetworkCostRate.traversalCost]
  | combined rs =>
    simp only [Gen.NetworkCostRate_traversal_cost, NetworkCostRate.traversalCost]
    rw [gen_traversal_cost_collect_eq rs e]
    simp [gen_network_traversal_fold_eq, NetworkCostRate.traversalCostList_eq, List.sum_eq_foldl]
theorem gen_traversal_cost_collect_eq {α : Type} [Field α] [LinearOrder α] [IsStrictOrderedRing α] [Lit α] [LawfulLit α]
    (rs : List (NetworkCostRate α)) (e : Nat) :
    Gen.NetworkCostRate_traversal_cost_collect1 e rs = some (rs.map (·.traversalCost e)) := by
  cases rs with
  | nil => simp [Gen.NetworkCostRate_traversal_cost_collect1]
  | cons r rs =>
    simp only [Gen.NetworkCostRate_traversal_cost_collect1]
    rw [gen_traversal_cost_eq r e, gen_traversal_cost_collect_eq rs e]
    simp
end

theorem gen_lookup2_pred (a b : Nat) {α : Type} :
    (fun p : (Nat × Nat) × α => p.1 == (a, b)) = (fun p => p.1.1 == a && p.1.2 == b) := by
  funext p
  rw [Bool.eq_iff_iff, beq_iff_eq]
  exact (lookup2_test_iff_key_eq p (a, b)).symm

mutual
theorem gen_access_cost_eq {α : Type} [Field α] [LinearOrder α] [IsStrictOrderedRing α] [Lit α] [LawfulLit α]
    (r : NetworkCostRate α) (p n : Nat) :
    Gen.NetworkCostRate_access_cost r p n = some (r.accessCost p n) := by
  cases r with
  | zero => simp [Gen.NetworkCostRate_access_cost, NetworkCostRate.accessCost]
  | edgeLookup tbl => simp [Gen.NetworkCostRate_access_cost, NetworkCostRate.accessCost]
  | edgeEdgeLookup tbl =>
    simp only [Gen.NetworkCostRate_access_cost, NetworkCostRate.accessCost, lookup2, gen_lookup2_pred]
    cases List.find? (fun q : (Nat × Nat) × α => q.1.1 == p && q.1.2 == n) tbl <;> rfl
  | combined rs =>
    simp only [Gen.NetworkCostRate_access_cost, NetworkCostRate.accessCost]
    rw [gen_access_cost_collect_eq rs p n]
    simp [gen_network_access_fold_eq, NetworkCostRate.accessCostList_eq, List.sum_eq_foldl]
theorem gen_access_cost_collect_eq {α : Type} [Field α] [LinearOrder α] [IsStrictOrderedRing α] [Lit α] [LawfulLit α]
    (rs : List (NetworkCostRate α)) (p n : Nat) :
    Gen.NetworkCostRate_access_cost_collect1 p n rs = some (rs.map (·.accessCost p n)) := by
  cases rs with
  | nil => simp [Gen.NetworkCostRate_access_cost_collect1]
  | cons r rs =>
    simp only [Gen.NetworkCostRate_access_cost_collect1]
    rw [gen_access_cost_eq r p n, gen_access_cost_collect_eq rs p n]
    simp
end

end

end C07
end Compass
