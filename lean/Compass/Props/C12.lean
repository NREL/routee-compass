/-
C12 — no query batch can make the application panic, abort or run without bound.

Model: the batch pipeline of `Model/Batch.lean` in its `…O` form: every place where the Rust code can do
something a total function cannot — `par_chunks(0)`, `value[key] = …` on a non-object, `bin_totals[i]` /
`assignments[i]` out of bounds, the indexing and the loop of `MultiSet` (total; C17) — is an
explicit `panic` / `diverges` outcome.  "No panic" is therefore a theorem about the guards, not an artefact of totalisation.
The model follows /repo with its repairs 93abeee (chunk size ≥ 1), 0edf6bd (the guard of the inject plugin), 1eb0c7f
(a weight estimate that is not a number), 6b89952 (a query that is not an object), 755333a (an invariant error names
the query), bdada7d (`toml` inject format), 08a69e9 (a directory as query file), 7b74719 (unknown origin), ae1b946
(`MultiSet`).
Tie to the code: `harness/src/c06.rs`, profile C12 — structurally mutated batches under every plugin
configuration, each run in a forked child with an alarm and an address-space limit.

SCOPE.  What is proved is the batch pipeline AROUND the single-query function.  `run_single_query` (the search,
the `InputJsonExtensions` getters it uses, the origin / destination guards of the search wrappers, the cost /
state / traversal models, every output plugin incl. `construct_route_output`) is the parameter `respond`, and the
r-tree matchers and the haversine load balancer are recorded tables (`Plugin.table`): both are total by type, so
a panic inside them cannot be expressed in `runO`, and `never_panics_partial` says nothing about them.
`run_returns_iff_single_query_returns` (over `runRO`: the single-query function with outcomes,
`ResponseSink::None`, the per-run configuration already parsed, table plugins still total — `TableEntry` has
only `ok | err`, a panic inside an r-tree / haversine plugin is inexpressible there too) states what the pipeline
adds IN THAT MODEL: the call returns iff parallelism is 0 or the single-query function returns on every query
that reaches the search.  That the real single-query function and the real matchers return on the input classes
the property names is evidenced by the forked differential run (per-class counters `input_class_*` in the
evidence; corpus `corpus_input_classes`) and by theorems of the properties that own those pieces:

| input class of the property | where it is decided | cited theorems (not re-proved here) |
|---|---|---|
| empty batch, wrong JSON type, degenerate grid section, plugin fields | this file / C17 | `empty_batch`, `non_object_query_echoed`, `batch_of_wrong_json_type`, `grid_search_fuel_suffices`, `plugins_never_panic` |
| missing / ill-typed search fields (`origin_vertex`, …) | getters, inside `respond` | `C16.id_reader_errors_name_their_field`, `C16.coordinate_readers_agree` (the getters are total; errors are values) |
| out-of-range coordinates | r-tree matchers (`Plugin.table`) | `C16.vertex_beyond_tolerance_is_error`, `C16.vertex_destination_beyond_tolerance_is_error`, `C16.edge_beyond_tolerance_is_error` |
| out-of-range ids | search wrappers, inside `respond` | harness only (oracle `search/unknown-origin-accepted`); `C05.config_calls_answer` for ids in the graph |
| identical origin and destination | search + traversal output plugin | `C20.empty_route_is_error_response` |
| unknown vehicle name | energy traversal service | `C08.select_rejected` |
| zero / unknown / bad weights | cost model service | `C07.service_build_returns`, `C07.service_build_unknown_weights` |
| vehicle parameters, termination section | frontier / termination builders | `C04.vehicle_parameters_refusals`, `C10.builder_total` |

Proved, for every list of JSON values, every plugin list of the model (grid search, inject in both modes,
numeric / categorical load balancer, user-defined plugins, table plugins with arbitrary recorded effects), every
TOTAL `respond`, the per-run configuration already parsed and `ResponseSink::None` (`runO`):
* `never_panics_partial` — every parallelism (0 included), both policies: `runO` is `Ok` or the whole-batch `Err`
  of parallelism 0, never `panic` / `diverges` (the four modelled sites);
* `returns_responses`, `whole_batch_error_iff` — for parallelism ≥ 1 it is `Ok`; the other whole-call `Err` exits
  of the real `run` are in the model with entry points: `call_never_panics_partial`, `call_error_cases`;
* `empty_batch` — `[]` returns `[]`;
* `every_query_accounted_for` — parallelism ≥ 1: under the persist policy each query contributes its expanded
  queries' responses or one error response; under the discard policy exactly its input-stage error response.
What the guards are there for is stated about the unguarded operations: the two that would panic
(`par_chunks_zero_panics`, `inject_unguarded_assignment_panics`) and, in C17, the degenerate grid sections on which
the (total) `MultiSet` would silently yield the query once or not at all (`C17.unguarded_*`).

Answering and echoing (input stage):
* `every_query_answered_partial` — hypothesis `ObjOp`: every plugin maps an object to an object or a non-empty
  array of objects.  Proved for grid search, inject, custom load balancer, user split / fail
  (`every_query_answered_builtin_partial`); for a recorded table plugin — all map-matching configurations — when
  its recorded results are objects (`table_plugin_keeps_objects`; checked on every recorded table by the harness,
  key `table/non-object-result`); false for a plugin that answers `[]`
  (`table_plugin_can_erase_a_query_counterexample`, `invariant_breaker_is_answered_with_the_query`);
* `non_object_query_echoed`, `error_echoes_request` (no hypothesis) — a non-object query is echoed verbatim; a
  plugin-broken invariant names the original query; otherwise the request is the expanded query on
  which a plugin failed AS THAT PLUGIN LEFT IT: unchanged for the model's own plugins (`own_plugins_fail_clean`),
  the recorded value for a table plugin (the vertex matcher that has written `origin_vertex` before the
  destination fails).  Echo by the search stage is C06 (`single_query_echoes_request`, premise `hr`).

Where the code still deviates (finding with counterexample; key as in the harness oracle):
* `pipeline/sibling-responses-lost` — `C06.sibling_responses_lost_counterexample`, restated here: "the
  remaining queries are served" fails for the siblings of a failing expanded query.

Entry points and builders: `call_never_panics_partial` (`_partial` as `never_panics_partial`: TOTAL `respond`,
total table plugins; every JSON value, each of the three entries `run` on a value / on a vector / `run_queries`
on texts, every per-run configuration and every sink OF THE MODEL — none or a JSON file), `call_error_cases`
(necessary conditions of each whole-call `Err`; sufficiency: `C06.invalid_run_config_fails_call`,
`C06.sink_build_errors`, `C06.failing_sink_fails_call`, `whole_batch_error_iff`), `batch_of_wrong_json_type`, `inject_builder_never_panics` /
`inject_builder_toml_is_error` (the `toml` format is an error, not `todo!()`), `inject_builder_builds_the_plugin`.

The command-line entry (`Model/Cli.lean`): `cli_validate_refuses_iff`, `cli_dispatch_of_validated`,
`cli_chunksize_zero_panics` / `cli_cast_wraps` (what the refusals guard against), `cli_never_panics_partial`,
`cli_never_diverges`, `cli_unreadable_query_file_refused` / `cli_run_newline_json_on_unreadable_file_diverges`,
`cli_first_failing_chunk_ends_the_call` / `cli_remaining_chunks_served_partial`, and two `_counterexample`s
(`cli_validate_accepts_what_dispatch_refuses_counterexample`, `cli_later_chunks_not_served_counterexample`).

Modelled rather than verified / not modelled: the single-query function and the opaque plugins (above); abort
(allocation failure — reachable from one small query: a grid section with 12 axes of 10 options asks for 10^12
queries; stack depth); the time a search takes; the two "could not build progress bar" exits, a poisoned sink
mutex, the `Combined` output policy and the CSV output format (C19) — a per-run or configured policy of either
kind is accepted by the code and is answered `runConfig` by the model (`decodePolicy` = `none`), so for such a
value `call_never_panics_partial` and the first disjunct of `call_error_cases` describe the model, not the code
(`Batch.isCombined`, `Batch.isCsvFile`; the harness offers neither); one `writeOk` flag stands for every write of a
call; the internals of serde_json / rstar / rayon / kdam; real thread interleavings.
-/
import Compass.Props.C06

namespace Compass
namespace C12
open Batch
open MultiSet (Outcome)
open GridSearch (noRequest)

/-! ## the guards -/

/-- every input plugin of the model is a total function: no panic, no divergence, on any JSON value
(grid search: `GridSearch.processO_eq`, fuel sufficiency of `MultiSet` included) -/
theorem plugins_never_panic (p : Plugin) (q : Json) : processO p q = .ok (processT p q) :=
  processO_eq p q

/-- the grid-search plugin as the code — `MultiSet` with its fuel `Πn + 1`, every indexing explicit — returns
what the total function returns: the fuel suffices and no index is out of range -/
theorem grid_search_fuel_suffices (q : Json) : GridSearch.processO q = .ok (GridSearch.process q) :=
  GridSearch.processO_eq q

/-- `apply_input_plugins` never panics, whatever the plugins and the query -/
theorem input_processing_never_panics (plugins : List Plugin) (q : Json) :
    prepO plugins q = .ok (prepT plugins q) :=
  prepO_eq plugins q

/-- what the `.max(1)` of `plugin_chunk_size` guards against: `par_chunks(0)` panics … -/
theorem par_chunks_zero_panics {α : Type} (l : List α) :
    parChunksO 0 l = .panic "rayon/par_chunks-zero" := rfl

/-- … `⌈0 / selfPar⌉` is 0 (on `Nat`; this conjunct is arithmetic on the formula written out again, it does
not mention `chunkSize`), and `chunkSize` of an empty batch is 1 -/
theorem chunk_size_guard (selfPar : Nat) :
    (0 + selfPar - 1) / selfPar = 0 ∧ chunkSize 0 selfPar = 1 := by
  constructor
  · cases selfPar with
    | zero => rfl
    | succ n => exact Nat.div_eq_of_lt (by omega)
  · unfold chunkSize
    cases selfPar with
    | zero => rfl
    | succ n =>
      have : n / (n + 1) = 0 := Nat.div_eq_of_lt (Nat.lt_succ_self n)
      simp [this]

/-- what the guard of the inject plugin is there for: index assignment on anything but an object
or `null` panics inside `serde_json` … -/
theorem inject_unguarded_assignment_panics (q : Json) (k : String) (v : Json) (ho : q.isObject = false)
    (hn : q.isNull = false) : q.indexAssign k v = none := by
  cases q <;> simp_all [Json.indexAssign, Json.isObject, Json.isNull]

/-- … and the guard answers every non-object query with an error instead (either mode) -/
theorem inject_rejects_non_object (key : String) (value : Json) (overwrite : Bool) (q : Json)
    (ho : q.isObject = false) :
    processO (.inject key value overwrite) q = .ok (.error { kind := "UnexpectedQueryStructure" }) := by
  rw [processO_eq]
  cases q <;> cases overwrite <;> simp_all [processT, injectGuard, Json.isObject]

/-! ## the whole call -/

/- Full statement (the property): for every JSON batch, every plugin and search configuration, the real
`CompassApp::run` — input plugins incl. the r-tree matchers, `run_single_query` (search + output plugins) on
every expanded query, the sink — neither panics nor fails to return.  Proved here: the part of it that lies in the
batch pipeline AROUND the single-query function (`_partial`: SCOPE in the header). -/

/-- **The batch pipeline around the single-query function never panics** (`_partial` as in the header: a TOTAL
`respond`, total table plugins): chunking, `apply_input_plugins` over grid search / inject / load balancer / user
plugins, partition, `apply_load_balancing_policy`, assembly — for every list of JSON values, every parallelism
(configured and per run, 0 included), both policies, every weight arithmetic.  The panics it excludes are the
modelled sites: `par_chunks(0)`, `value[key] = …` on a non-object, bin indexing, the indexing and the fuel of
`MultiSet`. -/
theorem never_panics_partial {α : Type} (W : WOps α) (cfg : Config) (respond : Json → Json)
    (batch : List Json) : ∃ r, runO W cfg respond batch = .ok r := by
  rcases runO_cases W cfg respond batch with ⟨_, _, h⟩ | ⟨_, _, h, _⟩
  · exact ⟨_, h⟩
  · exact ⟨_, h⟩

/-- **What the pipeline adds to the single-query function, in the model `runRO`**: over a single-query function
WITH outcomes (`respondO : Json → Outcome Json` — it may panic, it may not return), with `ResponseSink::None`,
the per-run configuration already parsed and the table plugins still total (`TableEntry` has only `ok | err`: a
panic inside an r-tree / haversine plugin is inexpressible here as well), the call returns if and only if
parallelism is 0 (the call is then `Ok []` or the whole-batch `Err` before any search) or the single-query
function returns on every query that reaches the search.  So IN THIS MODEL "no batch makes `run` panic or run
without bound" is equivalent to "`run_single_query` returns on every expanded query of every batch" — which is
NOT proved here, and which does not cover the opaque plugins: both are evidenced by the forked differential
run (every case in a child process with an alarm and a memory limit) and by the theorems of the properties
that own the pieces (table in the header). -/
theorem run_returns_iff_single_query_returns {α : Type} (W : WOps α) (cfg : Config)
    (respondO : Json → Outcome Json) (batch : List Json) :
    (∃ r, runRO W cfg respondO batch = .ok r) ↔
      (cfg.parallelism = 0 ∨ ∀ q ∈ processed cfg.plugins batch, ∃ v, respondO q = .ok v) := by
  rw [runRO_eq]
  rcases balanceO_cases W cfg.parallelism (processed cfg.plugins batch) with
    ⟨h0, _, hb⟩ | ⟨hp, bins, hb, hperm, _⟩
  · rw [hb]
    exact ⟨fun _ => Or.inl h0, fun _ => ⟨_, rfl⟩⟩
  · rw [hb]
    dsimp only
    -- the bins hold the processed queries, so "every search returns" can be asked of either
    have hall : (∀ q ∈ processed cfg.plugins batch, ∃ v, respondO q = .ok v) ↔
        ∃ vs, respondAllO respondO bins.flatten = .ok vs := by
      rw [respondAllO_ok_iff]
      exact forall_congr' fun q => by rw [hperm.mem_iff]
    have h0 : cfg.parallelism = 0 → processed cfg.plugins batch = [] := fun h0 => by
      rcases hp with hp | hp
      · omega
      · exact hp
    constructor
    · intro ⟨r, hr⟩
      refine Or.inr (hall.mpr ?_)
      cases hv : respondAllO respondO bins.flatten with
      | ok vs => exact ⟨vs, rfl⟩
      | panic s => rw [hv] at hr; cases hr
      | diverges => rw [hv] at hr; cases hr
    · intro h
      obtain ⟨vs, hv⟩ := hall.mp (h.elim (fun h0' q hq => by rw [h0 h0'] at hq; cases hq) id)
      rw [hv]
      exact ⟨_, rfl⟩

/-- with a total single-query function the model with outcomes is the model the other theorems are about -/
theorem run_with_total_single_query {α : Type} (W : WOps α) (cfg : Config) (respond : Json → Json)
    (batch : List Json) :
    runRO W cfg (fun q => .ok (respond q)) batch = runO W cfg respond batch := by
  rw [runRO_eq, runO_eq]
  cases balanceO W cfg.parallelism (processed cfg.plugins batch) with
  | panic s => rfl
  | diverges => rfl
  | ok r =>
    cases r with
    | error e => rfl
    | ok bins =>
      simp only [respondAllO_total, assemble, List.map_flatten]
      -- with no bins both sides are the errors; otherwise both are the responses followed by the errors
      cases bins with
      | nil => cases cfg.persist <;> simp
      | cons b bs => cases cfg.persist <;> simp

/-- for parallelism ≥ 1 `run` as modelled by `runO` — a parsed per-run configuration, `ResponseSink::None`,
total `respond` — returns responses, never the whole-batch `Err` (an ill-typed weight estimate counts as the
default weight).  The other whole-batch `?` exits of the real `run` (per-run configuration that does not
deserialize, sink that cannot be built, failed write) are in the model with entry points: `call_error_cases`;
the two "could not build progress bar" exits are not modelled (no bar format is ever set) -/
theorem returns_responses {α : Type} (W : WOps α) (cfg : Config) (respond : Json → Json)
    (batch : List Json) (hp : 1 ≤ cfg.parallelism) :
    ∃ out, runO W cfg respond batch = .ok (.ok out) :=
  (C06.run_multiset W cfg respond batch hp).imp fun _ => And.left

/-- the only whole-batch `Err` of the model: parallelism 0 with at least one processed query -/
theorem whole_batch_error_iff {α : Type} (W : WOps α) (cfg : Config) (respond : Json → Json)
    (batch : List Json) (e : AppErr) :
    runO W cfg respond batch = .ok (.error e) ↔
      (cfg.parallelism = 0 ∧ processed cfg.plugins batch ≠ []) :=
  runO_error_iff W cfg respond batch e

/-- **The empty batch returns `[]`** (its chunk size is 1, not 0), under every configuration -/
theorem empty_batch {α : Type} (W : WOps α) (cfg : Config) (respond : Json → Json) :
    runO W cfg respond [] = .ok (.ok []) := by
  rw [runO_eq]
  simp [processed, oks, errs, balanceO, assemble]

/-- **Every query is accounted for and the others are served** — for parallelism `≥ 1` (parallelism 0 is the
whole-batch `Err` of `whole_batch_error_iff`: nothing is served), `ResponseSink::None`, total `respond`.  Under
the persist policy the responses are, as a multiset, `⨄_q answer q`; under the discard policy exactly the
error responses of the input stage, `⨄_q answerErr q` (the search responses exist only in the sink).  A query
whose input processing fails contributes exactly one response, `{"request": …, "error": …}`, under both
policies, and the answers of the queries around it are unchanged -/
theorem every_query_accounted_for {α : Type} (W : WOps α) (cfg : Config) (respond : Json → Json)
    (pre post : List Json) (q : Json) (hp : 1 ≤ cfg.parallelism) :
    ∃ out, runO W cfg respond (pre ++ q :: post) = .ok (.ok out) ∧
      out.Perm (if cfg.persist then
          answers cfg.plugins respond pre ++ answer cfg.plugins respond q ++ answers cfg.plugins respond post
        else answersErr cfg.plugins pre ++ answerErr cfg.plugins q ++ answersErr cfg.plugins post) ∧
      (∀ e, prepT cfg.plugins q = .error e →
        answer cfg.plugins respond q = [e] ∧ answerErr cfg.plugins q = [e] ∧
        ∃ req kind, e = .obj [("request", req), ("error", .str kind)]) := by
  obtain ⟨out, h1, h2⟩ := C06.run_multiset W cfg respond (pre ++ q :: post) hp
  refine ⟨out, h1, h2.trans (.of_eq ?_), fun e he =>
    ⟨answer_of_error respond he, by simp [answerErr, he], C06.error_response_shape cfg.plugins q e he⟩⟩
  rw [answers_append, answers_cons, answersErr_append, answersErr_cons, List.append_assoc, List.append_assoc]

/-! ## every query is answered, every error response echoes the request -/

/- Full statement: for every plugin configuration, every JSON value offered as a query gets at least one
response.  False when a plugin answers with the empty array (`table_plugin_can_erase_a_query_counterexample`);
proved under `ObjOp` (every plugin maps an object to an object or a non-empty array of objects), which holds of
grid search, inject, the custom load balancer and the user split / fail plugins, and of a recorded table plugin
— vertex / edge r-tree matching, haversine load balancer — when its recorded results are objects
(`table_plugin_keeps_objects`; checked on every recorded table by the harness, key `table/non-object-result`). -/

/-- **Every query is answered** (`_partial`: plugins that keep objects): whatever JSON value is offered (number,
string, `null`, array, `[]`, object with any fields) it gets at least one response -/
theorem every_query_answered_partial (plugins : List Plugin) (hw : ∀ p ∈ plugins, ObjOp (processT p))
    (respond : Json → Json) (q : Json) : answer plugins respond q ≠ [] :=
  C06.every_query_answered_partial plugins hw respond q

/-- a recorded table plugin (r-tree matcher, haversine load balancer) keeps objects when every recorded result
is an object — which the real matchers' results are (they only insert fields) -/
theorem table_plugin_keeps_objects (t : List (String × TableEntry))
    (h : ∀ k v, (k, TableEntry.ok v) ∈ t → v.isObject = true) : ObjOp (processT (.table t)) :=
  processT_table_objOp t h

/-- without the hypothesis the statement is false: a (table) plugin that answers with the empty array erases
the query — no response at all -/
theorem table_plugin_can_erase_a_query_counterexample (respond : Json → Json) :
    answer [.table [("{\"a\":null}", .ok (.arr []))]] respond (.obj [("a", .null)]) = [] := by
  rfl

/-- … in particular under every configuration made of grid search, inject, load balancer and the user-defined
split / fail-on-marker plugins -/
theorem every_query_answered_builtin_partial (plugins : List Plugin) (hb : ∀ p ∈ plugins, p.wellBehaved = true)
    (respond : Json → Json) (q : Json) : answer plugins respond q ≠ [] :=
  C06.every_query_answered_partial plugins (fun p hp => processT_objOp p (hb p hp)) respond q

/-- a query that fails input processing is answered with exactly one response, its error response -/
theorem failing_query_answered (plugins : List Plugin) (respond : Json → Json) (q e : Json)
    (h : prepT plugins q = .error e) : answer plugins respond q = [e] :=
  answer_of_error respond h

/-- **A non-object query is echoed verbatim**, whatever the plugins -/
theorem non_object_query_echoed (plugins : List Plugin) (q : Json) (h : q.isObject = false) :
    prepT plugins q = .error (.obj [("request", q), ("error", .str "UnexpectedQueryStructure")]) :=
  prepT_non_object plugins q h

/-- **Every error response of the input stage echoes the request** — for every plugin list, user-defined and
invariant-breaking plugins included: the query itself when it is not an object; the query `x` — `q`, or one of
the queries the earlier plugins made of `q` — on which plugin `p` failed, as `p` left it (or the original
query); the original query — not the placeholder — when a plugin broke the invariant. -/
theorem error_echoes_request (plugins : List Plugin) (q e : Json) (h : prepT plugins q = .error e) :
    (q.isObject = false ∧ e = .obj [("request", q), ("error", .str "UnexpectedQueryStructure")]) ∨
    (∃ pre p post xs x pe req, plugins = pre ++ p :: post ∧
      GridSearch.applyOps (pre.map processT) (.arr [q]) = .ok (.arr xs) ∧ x ∈ xs ∧
      processT p x = .error pe ∧
      e = .obj [("request", req), ("error", .str pe.kind)] ∧ (req = pe.left.getD x ∨ req = q)) ∨
    (q.isObject = true ∧ e = .obj [("request", q), ("error", .str invariantKind)]) :=
  C06.error_echoes_request plugins q e h

-- non-vacuity of the echo group: the no-overwrite inject plugin rejects an object that already has the key,
-- and the error response carries that object
example : prepT [.inject "k" .null false] (.obj [("k", .bool true)])
    = .error (.obj [("request", .obj [("k", .bool true)]), ("error", .str "InputPluginFailed")]) := by
  rfl

/-- an object query rejected by the first plugin is echoed verbatim (grid search, inject, load balancer: they
fail before touching the query) -/
theorem error_echoes_request_first_plugin (p : Plugin) (rest : List Plugin) (kvs : List (String × Json))
    (e : PErr) (h : processT p (.obj kvs) = .error e) (hl : e.left = none) :
    prepT (p :: rest) (.obj kvs)
      = .error (.obj [("request", .obj kvs), ("error", .str e.kind)]) := by
  rw [prepT, List.map_cons, GridSearch.applyInputPlugins_of_error rfl
      (GridSearch.applyOps_cons_of_mapOp_error (by rw [GridSearch.mapOp, h])),
    GridSearch.withRequest_plugin_self]
  simp only [errorResponse, hl, Option.getD_none, fixRequest_self]

/-- the model's own plugins never leave a modified query behind when they fail (only recorded table plugins —
the r-tree matcher that has written `origin_vertex` before the destination fails — do) -/
theorem own_plugins_fail_clean (p : Plugin) (q : Json) (e : PErr) (h : processT p q = .error e)
    (hp : ∀ t, p ≠ .table t) : e.left = none :=
  processT_error_left p q e h hp

/-- a plugin that breaks the invariant does not break the pipeline: it never panics; a scalar left behind is
answered with an invariant error that names the query (oracle key
`pipeline/invariant-error-loses-request`).  `every_query_answered_partial` needs its hypothesis: a plugin that
answers with the empty array erases the query (no expanded query, no response). -/
theorem invariant_breaker_is_answered_with_the_query (respond : Json → Json) :
    answer [.userBreaker "break"] respond (.obj [("break", .str "scalar")])
      = [.obj [("request", .obj [("break", .str "scalar")]), ("error", .str invariantKind)]] ∧
    answer [.userBreaker "break"] respond (.obj [("break", .str "empty")]) = [] ∧
    (∀ q, ∃ r, prepO [.userBreaker "break"] q = .ok r) :=
  ⟨C06.breaker_scalar_names_the_query respond, by rfl, fun q => ⟨_, prepO_eq _ q⟩⟩

/-- **Finding `pipeline/sibling-responses-lost`** (C06): one failing expanded query takes its siblings with
it — "the remaining queries are served" fails for them -/
theorem sibling_responses_lost_counterexample (respond : Json → Json) :
    (∃ c₁ c₂, processT .gridSearch C06.s1Query = .ok (.arr [c₁, c₂]) ∧
      (∃ c, processT C06.s1Inject c₂ = .ok c)) ∧
    (answer [.gridSearch, C06.s1Inject] respond C06.s1Query).length = 1 := by
  obtain ⟨h1, _, h3, h4, _⟩ := C06.sibling_responses_lost_counterexample respond
  exact ⟨⟨_, _, h1, h3⟩, by rw [h4]; rfl⟩

-- non-vacuity: a batch mixing an object, a number, a degenerate grid section and an empty array, under grid
-- search + inject, parallelism 3 over a configured 0, returns (and the model says what)
example : ∃ out, runO C06.natOps
    { plugins := [.gridSearch, .inject "k" .null true], selfPar := 0, runPar := some 3, persist := true }
    (fun q => .arr [q])
    [.obj [("a", .null)], .num "5" 0, .obj [("grid_search", .obj [])], .arr []] = .ok (.ok out) :=
  returns_responses _ _ _ _ (by decide +kernel)

/-! ## the entry points and the builders never panic either -/

/-- **Whatever JSON value is offered as a batch, through each of the three entries (`run` on a value, `run` on a
vector, `run_queries` on texts), with whatever per-run configuration and sink of the model, the call returns**:
`Ok(responses)` or an `Err` for the call — never a panic, never a divergence (`_partial` as in the header).  A
`Combined` policy or a CSV file policy is answered `runConfig` by the model and is accepted by the code: for
such a per-run value this is a statement about the model only (the harness offers neither). -/
theorem call_never_panics_partial {α : Type} (W : WOps α) (env : String → Bool × Bool) (app : App)
    (runCfg : Option Json) (respond : Json → Json) (v : Json) :
    (∃ r, callValueO W env app runCfg respond v = .ok r) ∧
    (∀ batch, ∃ r, callO W env app runCfg respond batch = .ok r) ∧
    (∀ (textCfg : Option (Option Json)) (texts : List (Option Json)),
      ∃ r, runQueriesO W env app textCfg respond texts = .ok r) := by
  refine ⟨?_, callO_returns W env app runCfg respond, fun textCfg texts => ?_⟩
  · unfold callValueO
    split
    · exact ⟨_, rfl⟩
    · exact callO_returns ..
  · unfold runQueriesO
    split
    · exact ⟨_, rfl⟩
    · split
      · exact ⟨_, rfl⟩
      · exact callO_returns ..

/-- **Every whole-call `Err` of the modelled call: NECESSARY conditions** (the statement is one-directional —
from the `Err` to its cause): a per-run value that does not deserialize (in the model: a `Combined` or CSV
policy is answered `runConfig` too, which is not the code's answer — not modelled); a sink whose file cannot be
opened or whose flush rate is `≤ 0`; parallelism 0 with a query to run; a failed write with something to write
— an input-stage error response or a query to run (a failing sink on a batch with nothing to write returns
`Ok []`: `failing_sink_with_nothing_to_write`).  The converses are `C06.invalid_run_config_fails_call`,
`C06.sink_build_errors` (with `callO`'s definition), `C06.failing_sink_fails_call` (parallelism ≥ 1) and
`whole_batch_error_iff`.  (Not modelled: the two "could not build progress bar" exits — no bar format is ever
set — and a poisoned sink mutex.) -/
theorem call_error_cases {α : Type} (W : WOps α) (env : String → Bool × Bool) (app : App)
    (runCfg : Option Json) (respond : Json → Json) (batch : List Json) (e : CallErr)
    (h : callO W env app runCfg respond batch = .ok (.error e)) :
    (parseRunConfig env runCfg = none ∧ e = .runConfig) ∨
    (∃ o, parseRunConfig env runCfg = some o ∧
      (buildSink (o.policy.getD app.policy) = .error e ∨
       (e = .app .minBinEmpty ∧ (app.config o).parallelism = 0 ∧
         processed (app.config o).plugins batch ≠ []) ∨
       (e = .sinkWrite ∧ sinkFails (o.policy.getD app.policy) = true ∧
         (errs (app.config o).plugins batch ≠ [] ∨ processed (app.config o).plugins batch ≠ [])))) := by
  rcases callO_cases W env app runCfg respond batch with ⟨hp, h'⟩ | ⟨o, hp, ⟨e', hb, h'⟩ | ⟨_, h'⟩⟩
  · rw [h'] at h; cases h; exact .inl ⟨hp, rfl⟩
  · rw [h'] at h; cases h; exact .inr ⟨o, hp, .inl hb⟩
  · rw [h'] at h
    refine .inr ⟨o, hp, .inr ?_⟩
    -- the call is `run` plus the sink: an `Err` of `run`, or a returning `run` and a failed write
    rw [callCoreO_eq_run] at h
    rcases runO_cases W (app.config o) respond batch with ⟨h0, hq, hr⟩ | ⟨_, out, hr, _⟩
    · rw [hr] at h
      cases h
      exact .inl ⟨rfl, h0, hq⟩
    · rw [hr] at h
      dsimp only at h
      split at h
      · next hc => cases h; exact .inr ⟨rfl, hc⟩
      · cases h

/-- a failing sink on a batch with nothing to write — no input-stage error, no query to run; the empty batch
in particular — does not fail the call: nothing is written, `Ok []` (any parallelism, 0 included) -/
theorem failing_sink_with_nothing_to_write {α : Type} (W : WOps α) (cfg : Config) (s : SinkSpec)
    (respond : Json → Json) (batch : List Json) (he : errs cfg.plugins batch = [])
    (hq : processed cfg.plugins batch = []) :
    callCoreO W cfg (.file s) respond batch = .ok (.ok []) :=
  callCoreO_nothing_to_write W cfg _ respond batch he hq

/-- a value that is not a batch — a number, a string, `null`, an object whose `queries` is not an array — is
refused with an error for the call; every array and every other object is run -/
theorem batch_of_wrong_json_type (v : Json) :
    (getQueries v = none ↔
      (v.isArray = false ∧ v.isObject = false) ∨
      (∃ kvs w, v = .obj kvs ∧ Json.lookup kvs queriesKey = some w ∧ w.isArray = false)) := by
  constructor
  · intro h
    cases v with
    | arr qs => simp [getQueries] at h
    | obj kvs =>
      right
      cases hl : Json.lookup kvs queriesKey with
      | none => simp [getQueries, hl] at h
      | some w => exact ⟨kvs, w, rfl, hl, by cases w <;> simp_all [getQueries, Json.isArray]⟩
    | _ => left; exact ⟨rfl, rfl⟩
  · rintro (⟨ha, ho⟩ | ⟨kvs, w, rfl, hl, hw⟩)
    · exact C06.get_queries_spec.2.2.2.2 v ha ho
    · exact C06.get_queries_spec.2.2.2.1 kvs w hl hw

/-- **`InjectPluginBuilder::build` never panics** (`format = "toml"` is a configuration error, not `todo!()`), on any parameters and whatever `serde_json` makes of the value text.  (True BY CONSTRUCTION of
the model, which has no panic arm — what ties the statement to the code is the forked builder stream of the
harness.  The load-balancer builder's model,
`buildLoadBalancer`, has no panic outcome in its type at all.) -/
theorem inject_builder_never_panics (params : Json) (ps pj : Option Json) :
    ∃ r, buildInject params ps pj = .ok r := by
  unfold buildInject
  cases cfgString params "key" with
  | error e => exact ⟨_, rfl⟩
  | ok key =>
    dsimp only
    cases cfgString params "value" with
    | error e => exact ⟨_, rfl⟩
    | ok v =>
      dsimp only
      cases params.get? "format" with
      | none => exact ⟨_, rfl⟩
      | some f =>
        dsimp only
        cases decodeInjectFormat f with
        | none => exact ⟨_, rfl⟩
        | some fmt =>
          -- whatever the value turns out to be, and whatever `overwrite` holds, the answer is a value
          dsimp only
          split
          · exact ⟨_, rfl⟩
          · split <;> exact ⟨_, rfl⟩

/-- the `toml` format is a configuration error, whatever else the parameters say -/
theorem inject_builder_toml_is_error (params : Json) (ps pj : Option Json) (key value : String)
    (hk : cfgString params "key" = .ok key) (hv : cfgString params "value" = .ok value)
    (hf : params.get? "format" = some (.str "toml")) :
    buildInject params ps pj = .ok (.error .userConfig) := by
  simp [buildInject, hk, hv, hf, decodeInjectFormat, injectFormatName]

/-- a well-formed configuration builds the inject plugin it describes; `overwrite` defaults to `true` -/
theorem inject_builder_builds_the_plugin (params : Json) (ps : Option Json) (key value : String) (v : Json)
    (hk : cfgString params "key" = .ok key) (hv : cfgString params "value" = .ok value)
    (hf : params.get? "format" = some (.str "json")) :
    (params.get? "overwrite" = none →
      buildInject params ps (some v) = .ok (.ok (.inject key v true))) ∧
    (∀ b, params.get? "overwrite" = some (.bool b) →
      buildInject params ps (some v) = .ok (.ok (.inject key v b))) ∧
    buildInject params ps none = .ok (.error .userConfig) := by
  refine ⟨?_, ?_, ?_⟩
  · intro ho; simp [buildInject, hk, hv, hf, decodeInjectFormat, injectFormatName, ho]
  · intro b ho; simp [buildInject, hk, hv, hf, decodeInjectFormat, injectFormatName, ho]
  · simp [buildInject, hk, hv, hf, decodeInjectFormat, injectFormatName]

/-! ## the command-line entry (`app/cli/run.rs::command_line_runner`, `app/cli/cli_args.rs`)

Model: `Model/Cli.lean` (the batch runner a parameter, here `callO`); run against the real `command_line_runner`
by the `cli` stream of harness/src/c06/cli.rs.  The partition / one-response statements are `C06.cli_*`. -/

/-- **`CliArgs::validate` refuses exactly** a chunk size without `newline_delimited` and a chunk size below 1 —
an iff on the arguments, for every `chunksize: Option<i64>` and both flags -/
theorem cli_validate_refuses_iff (a : Cli.CliArgs) :
    Cli.validate (ε := CallErr) a = .ok () ↔
      ¬ (a.chunksize.isSome = true ∧ a.newlineDelimited = false) ∧ ∀ c, a.chunksize = some c → 1 ≤ c :=
  Cli.validate_ok_iff a

/-- what the second refusal is there for: `run_newline_json` with a chunk size of 0 panics
(`itertools::chunks`: `assert!(size != 0)`), whatever the file holds and whatever the runner -/
theorem cli_chunksize_zero_panics {ε ρ : Type} (run : List Json → Outcome (Except ε ρ)) (doc : Option Json)
    (lines : List (Option Json)) :
    Cli.runNewlineJsonO run (some 0) (.content doc lines) = .panic "itertools/chunks-zero" := rfl

/-- … and the cast alone would not protect: `-1 as usize` is `usize::MAX`, `i64::MIN as usize` is `2^63` — it is
the comparison `c > 0` of `get_chunksize_option` (and `c < 1` of `validate`) that keeps 0 away -/
theorem cli_cast_wraps : Cli.asUsize (-1) = 2 ^ 64 - 1 ∧ Cli.asUsize (-(2 ^ 63)) = 2 ^ 63 ∧ Cli.asUsize 0 = 0 := by
  decide +kernel

/-- **the dispatch on validated arguments** (`chunksize` an `i64`): one document through `run_json`; chunks of
exactly `chunksize` lines through `run_newline_json` — the cast loses nothing and the value is never 0; the arms
"not yet implemented" and the error of `get_chunksize_option` are dead; `--newline-delimited` WITHOUT a chunk size
passes `validate` and is then refused with the internal error "invalid argument combination should have been
caught during CLI validation" (see the `_counterexample` below) -/
theorem cli_dispatch_of_validated {ε ρ : Type} (run : List Json → Outcome (Except ε ρ)) (a : Cli.CliArgs)
    (hv : Cli.validate (ε := ε) a = .ok ()) (hi : ∀ c, a.chunksize = some c → c < 2 ^ 63) (file : Cli.QueryFile) :
    Cli.dispatchO run a file =
      (match a.chunksize with
       | none =>
         if a.newlineDelimited then .ok { log := [], result := .error .invalidCombination }
         else Cli.runJsonO run file
       | some c => Cli.runNewlineJsonO run (some c.toNat) file) ∧
    (∀ c, a.chunksize = some c → c.toNat ≠ 0) := by
  obtain ⟨cs, nd⟩ := a
  have hv' := (Cli.validate_ok_iff (ε := ε) ⟨cs, nd⟩).mp hv
  cases cs with
  | none => cases nd <;> exact ⟨rfl, by simp⟩
  | some c =>
    have h1 : 1 ≤ c := hv'.2 c rfl
    have hnd : nd = true := by
      cases nd with
      | true => rfl
      | false => exact absurd ⟨rfl, rfl⟩ hv'.1
    subst hnd
    have hpos : c > 0 := by omega
    have hcast := Cli.asUsize_of_pos c h1 (hi c rfl)
    refine ⟨?_, ?_⟩
    · simp only [Cli.dispatchO, Cli.getChunksizeOption, hpos, if_true, hcast.1]
    · intro c' hc'
      cases hc'
      rw [← hcast.1]; exact hcast.2

/-- **`validate` does not refuse everything the dispatch refuses** — a `_counterexample` to "validate accepts
exactly the argument combinations the runner serves": `--newline-delimited` without `--chunksize` passes
`validate` (its doc comment: "chunksize must be set if newline_delimited_queries is true" is the MESSAGE of the
opposite arm), the application is built, the query file opened, and the call then ends with `InternalError` on
every file — although `run_newline_json` is written for it (`chunksize_option.unwrap_or(usize::MAX)`) -/
theorem cli_validate_accepts_what_dispatch_refuses_counterexample {ε ρ : Type}
    (run : List Json → Outcome (Except ε ρ)) (doc : Option Json) (lines : List (Option Json)) :
    Cli.validate (ε := ε) { chunksize := none, newlineDelimited := true } = .ok () ∧
    Cli.commandLineRunnerO run { chunksize := none, newlineDelimited := true } .good (.content doc lines)
      = .ok { log := [], result := .error .invalidCombination } :=
  ⟨rfl, rfl⟩

/-- **`command_line_runner` never panics and returns**, for every argument combination (`chunksize` any `i64`,
both flags), every configuration file (unreadable, unbuildable, good), EVERY query file — missing, a directory
(opens, cannot be read), readable with blank lines, lines that are not JSON, a document that is no batch —, every
per-run configuration: an `Ok` or an `Err` of the call (`_partial` as in the header).  Built into the model's types rather than proved: reading and building the
configuration return (`ConfigFile` has three total outcomes), and a readable query file is a FINITE list of
lines (a FIFO or a character device such as /dev/urandom passes the directory test and is outside the model).
(The directory is covered because `command_line_runner` refuses it before the dispatch:
`cli_unreadable_query_file_refused`.) -/
theorem cli_never_panics_partial {α : Type} (W : WOps α) (env : String → Bool × Bool) (app : App)
    (runCfg : Option Json) (respond : Json → Json) (a : Cli.CliArgs)
    (hi : ∀ c, a.chunksize = some c → c < 2 ^ 63) (cfg : Cli.ConfigFile) (file : Cli.QueryFile) :
    ∃ o, Cli.commandLineRunnerO (callO W env app runCfg respond) a cfg file = .ok o :=
  Cli.commandLineRunnerO_returns _
    (callO_returns W env app runCfg respond) a hi cfg file

/-- **`command_line_runner` does not run without bound unless a run does**: for EVERY batch runner that never
diverges (it may fail, it may panic), every argument combination (any integer as chunk size), every
configuration file and every query file of the model — the directory included — the call does not diverge: the
loop over the chunks makes one run per chunk of a finite file and stops at the first failing one.  (Same
environment assumptions as `cli_never_panics_partial`: the application build returns, the file is finite.) -/
theorem cli_never_diverges {ε ρ : Type} (run : List Json → Outcome (Except ε ρ))
    (hrun : ∀ b, run b ≠ .diverges) (a : Cli.CliArgs) (cfg : Cli.ConfigFile) (file : Cli.QueryFile) :
    Cli.commandLineRunnerO run a cfg file ≠ .diverges := by
  rcases Cli.commandLineRunnerO_failure run a cfg file with h | ⟨h, _⟩
  · exact h.ne_diverges hrun
  · intro hd
    rw [hd] at h
    cases h

/-- **a query "file" that opens but cannot be read (a directory) is refused like a missing file**
(`query_file.metadata().is_dir()` right after `File::open`), for every validated argument combination and every
batch runner: `BuildFailure("Could not find query file …")`, nothing is run. -/
theorem cli_unreadable_query_file_refused {ε ρ : Type} (run : List Json → Outcome (Except ε ρ)) (a : Cli.CliArgs)
    (hv : Cli.validate (ε := ε) a = .ok ()) :
    Cli.commandLineRunnerO run a .good .unreadable = .ok { log := [], result := .error .queryFileMissing } := by
  simp only [Cli.commandLineRunnerO, hv, Cli.afterValidateO]

/-- what the refusal is there for: ON such a file `run_newline_json` itself runs without bound —
`BufRead::lines` yields the read error (`EISDIR`) on every call, each item is collected as an unparsable row, and
as soon as the run of the empty batch succeeds (it does: `empty_batch`) the loop over the chunks never ends; with
a chunk size the machine cannot collect the first chunk is never complete (the case
`--query-file <a directory> --chunksize 2 --newline-delimited`).  (`run_json` on the same file
returns the read error.) -/
theorem cli_run_newline_json_on_unreadable_file_diverges {ε ρ : Type} (run : List Json → Outcome (Except ε ρ))
    (res : ρ) (h : run [] = .ok (.ok res)) (n : Nat) (hn : n ≠ 0) :
    Cli.runNewlineJsonO run (some n) .unreadable = .diverges ∧
    Cli.runJsonO run .unreadable = .ok { log := [], result := .error .notJson } := by
  refine ⟨?_, rfl⟩
  simp only [Cli.runNewlineJsonO, Option.getD_some, hn, if_false, h]

-- `cli_never_diverges` for the model of the application: whatever the arguments (any integer as chunk size)
example {α : Type} (W : WOps α) (env : String → Bool × Bool) (app : App) (runCfg : Option Json)
    (respond : Json → Json) (a : Cli.CliArgs) (cfg : Cli.ConfigFile) (file : Cli.QueryFile) :
    Cli.commandLineRunnerO (callO W env app runCfg respond) a cfg file ≠ .diverges :=
  cli_never_diverges _ (fun b h => by
    obtain ⟨r, hr⟩ := callO_returns W env app runCfg respond b
    rw [hr] at h; cases h) a cfg file
-- non-vacuity of the hypothesis: the run of the empty batch succeeds in the model of the application
example : callO C06.natOps (fun _ => (true, true))
    { plugins := [], parallelism := 2, persist := true, policy := .none } none id [] = .ok (.ok []) := by rfl

/-- **What `run_newline_json` returns: the first failing run wins.**  If the runs of the chunks before `c`
succeed and the run of chunk `c` fails with `e`, the call is `Err(e)`: the chunks before `c` have been served,
the unparsable lines of `c` are not reported, and NOTHING of what comes after `c` matters — the statement does
not mention `post`: those chunks are never run. -/
theorem cli_first_failing_chunk_ends_the_call {ε ρ : Type} (run : List Json → Outcome (Except ε ρ))
    (r : List (Option Json) → ρ) (n : Nat) (hn : 1 ≤ n) (doc : Option Json) (lines : List (Option Json))
    (pre : List (List (Option Json))) (c : List (Option Json)) (post : List (List (Option Json))) (e : ε)
    (hcs : chunks n lines = pre ++ c :: post)
    (hpre : ∀ p ∈ pre, run (Cli.chunkBatch p) = .ok (.ok (r p)))
    (hc : run (Cli.chunkBatch c) = .ok (.error e)) :
    Cli.runNewlineJsonO run (some n) (.content doc lines)
      = .ok { log := pre.map (fun p => { served := r p, parseErrors := Cli.chunkBad p }),
              result := .error (.run e) } := by
  rw [Cli.runNewlineJsonO_content run hn, hcs, Cli.runChunksO_first_failure run r c post e hc pre hpre]

/-- … and when no run fails every chunk is served and the call is `Ok` (`C06.cli_newline_json_all_chunks_run`).
`_partial` reading of C12's "the call returns so the remaining queries are served": it holds for the chunks up to
the first failing run only. -/
theorem cli_remaining_chunks_served_partial {ε ρ : Type} (run : List Json → Outcome (Except ε ρ))
    (r : List (Option Json) → ρ) (n : Nat) (hn : 1 ≤ n) (doc : Option Json) (lines : List (Option Json))
    (hok : ∀ c ∈ chunks n lines, run (Cli.chunkBatch c) = .ok (.ok (r c))) :
    Cli.runNewlineJsonO run (some n) (.content doc lines)
      = .ok { log := (chunks n lines).map (fun c => { served := r c, parseErrors := Cli.chunkBad c }),
              result := .ok () } := by
  exact Cli.runNewlineJsonO_all_ok run r hn doc lines hok

/-- the witness of the harness (`cli_corpus_failing_run_then_servable_chunk`): application without plugins, a
per-run `parallelism` that reads as 0, `--chunksize 1 --newline-delimited` -/
def cliWitnessApp : App := { plugins := [], parallelism := 2, persist := true, policy := .none }
def cliWitnessQuery : Json := .obj [("origin_vertex", .num "0" 0), ("destination_vertex", .num "3" 0)]
def cliWitnessFive : Json := .num "5" 0

/-- **later chunks are NOT served after a failing run** — a `_counterexample` to "the call returns so the remaining
queries are served" at the level of the command line: the file `{"origin_vertex":0,"destination_vertex":3}` / `5`
in chunks of one line under a per-run parallelism of 0.  The run of the first chunk fails (`MinBinEmpty`: a query
to balance over 0 bins), the call ends with that error and the line `5` is never run — although the same line as
the FIRST chunk of a file is served: its run returns its (error) response and the call is `Ok`.  (Every run error
of the model is a matter of configuration or of the sink, not of the queries; what the witness shows is that the
loop gives up the whole file on the first of them.) -/
theorem cli_later_chunks_not_served_counterexample (zero : Json) (h0 : zero.asU64? = some 0) :
    let run := callO C06.natOps (fun _ => (true, true)) cliWitnessApp (some (.obj [("parallelism", zero)])) id
    let args : Cli.CliArgs := { chunksize := some 1, newlineDelimited := true }
    Cli.commandLineRunnerO run args .good (.content none [some cliWitnessQuery, some cliWitnessFive])
      = .ok { log := [], result := .error (.run (.app .minBinEmpty)) } ∧
    (∃ resp, Cli.commandLineRunnerO run args .good (.content none [some cliWitnessFive])
      = .ok { log := [{ served := [resp], parseErrors := 0 }], result := .ok () }) := by
  have hp : parseRunConfig (fun _ => (true, true)) (some (.obj [("parallelism", zero)]))
      = some { par := some 0, persist := none, policy := none } := by
    simp [parseRunConfig, runConfigKey, Json.get?, Json.lookup, decodeUsize, h0]
  have h1 : callO C06.natOps (fun _ => (true, true)) cliWitnessApp (some (.obj [("parallelism", zero)])) id
      [cliWitnessQuery] = .ok (.error (.app .minBinEmpty)) := by
    unfold callO; rw [hp]; rfl
  obtain ⟨resp, h2⟩ : ∃ resp, callO C06.natOps (fun _ => (true, true)) cliWitnessApp
      (some (.obj [("parallelism", zero)])) id [cliWitnessFive] = .ok (.ok [resp]) := by
    unfold callO; rw [hp]; exact ⟨_, rfl⟩
  refine ⟨?_, resp, ?_⟩
  · exact cli_first_failing_chunk_ends_the_call
      (callO C06.natOps (fun _ => (true, true)) cliWitnessApp (some (.obj [("parallelism", zero)])) id)
      (fun _ => []) 1 (Nat.le_refl 1) none [some cliWitnessQuery, some cliWitnessFive]
      [] [some cliWitnessQuery] [[some cliWitnessFive]] (.app .minBinEmpty) (by rfl) (by simp) h1
  · exact cli_remaining_chunks_served_partial
      (callO C06.natOps (fun _ => (true, true)) cliWitnessApp (some (.obj [("parallelism", zero)])) id)
      (fun _ => [resp]) 1 (Nat.le_refl 1) none [some cliWitnessFive]
      (by
        intro c hc
        have : c = [some cliWitnessFive] := by
          have hcs : chunks 1 [some cliWitnessFive] = [[some cliWitnessFive]] := by rfl
          rw [hcs] at hc; simpa using hc
        subst this; exact h2)

-- non-vacuity: the chunks of the witness
example : chunks 1 [some cliWitnessQuery, some cliWitnessFive] = [[some cliWitnessQuery], [some cliWitnessFive]] := by
  rfl

end C12
end Compass
