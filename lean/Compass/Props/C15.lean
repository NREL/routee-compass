/-
C15 — the loaded network is exactly the one described by the edge/vertex files.

Model: `Compass.Model.Graph` (the `EdgeLoader` row callback folded over the decoded rows, the `Graph`
accessors, the order of evaluation and error kinds of `graph_from_files`, the lookups of the per-edge
table consumers) and `Compass.Model.GraphIO` (the `Vertex` decoder, `DefaultGraphBuilder::build`).

Domain of the property ("the listed network"): the documented input format, in which the id of an
edge / vertex is the number of its row and every endpoint is a listed vertex:
`RowIds es`, `VertexRowIds vs`, `EndpointsBelow es vs.length`.  The loader checks all three (and that
every endpoint is below the declared / scanned vertex count), so the top-level statement is proved for
EVERY input of the model without hypothesis (`loaded_network_is_listed`).  What the loader builds from
arbitrary rows is stated by the `…_general` theorems; they, the adjacency of listed rows (`out_edges_eq`, …) and
the characterisation of a successful load (`graphFromFiles_ok_iff`) are in `Proofs/Graph.lean`.

Adjacency order: `out_edges v` is the rows leaving `v` *in file order* (the container's `keys()` yields
insertion order in each of its representations); nothing bounds a vertex's degree.

MODELLED RATHER THAN VERIFIED (nothing below is a theorem about these; the differential run of
harness/src/c15.rs is the only evidence, on the inputs it generates):
* bytes to records: csv tokenising (quoting, BOM, CR / LF, blank lines, header names are not trimmed),
  gzip decoding (one or several members, streams cut short), line counting, text-to-number parsing.
  A file reaches the model as `CsvFile` = (can it be read to its end, text lines, is there a header
  row, the records and which of them do not decode).  In particular "gzip or plain" and "a gzip file
  cut short is a load error" are NOT Lean statements: `present = false` / `hasHeader = false` are
  flags the harness sets from the bytes it wrote (corpus W10–W18), and `unreadable_file_never_loads`
  / `empty_file_never_loads` say no more than what `readCsv` / `scanCount` do with those flags.
* per-edge tables: that the real readers and consumers address a table by LINE NUMBER = edge id is how
  the model defines them (`tableRow`, `tableGet`, mirrored from `table.get(edge_id.as_usize())`); the
  `lookup` and `table` case streams compare that with the real `get_speed`, `get_headings`,
  `get_grade` and `RoadClassFrontierModel::valid_frontier`.
* the adjacency container is the abstract insertion-ordered association list (equal to C11's
  specification: `adjacency_entry_is_container_spec`); that the five-representation Rust container
  refines it is C11's theorem, the composition is not formalised beyond that equality.
* allocation: a vertex count whose adjacency tables exceed the address space is a `DatasetError`
  (`graphFromFilesAlloc`, case stream `loadcap`); a smaller count that exceeds the memory the process
  can get is not modelled (the process may be killed).  The `InternalError` of the progress bar
  builder is not an outcome of the model: kdam only fails on a `bar_format`, and none is given.
* distances and coordinates are an abstract `α`: NaN, infinities, negative lengths are loaded as
  listed and nothing here says they are sensible.
-/
import Compass.Gen.Decisions
import Compass.Proofs.Graph
import Compass.Proofs.GraphIO
import Compass.Proofs.Container

namespace Compass
namespace C15

open Graph

section
variable {α : Type}

/-! ### sizes, edges and vertices by position (true of every input) -/

theorem n_edges_eq (es : List (Edge α)) (vs : List (Vertex α)) (nV : Nat) :
    (buildGraph es vs nV).nEdges = es.length := rfl

theorem n_vertices_eq (es : List (Edge α)) (vs : List (Vertex α)) (nV : Nat) :
    (buildGraph es vs nV).nVertices = vs.length := rfl

/-- the adjacency tables have the declared (or scanned) vertex count, not the vertex file's -/
theorem adj_length (es : List (Edge α)) (vs : List (Vertex α)) (nV : Nat) :
    (buildGraph es vs nV).adj.length = nV ∧ (buildGraph es vs nV).rev.length = nV := by
  unfold buildGraph loadEdges
  exact ⟨(foldl_step_length EdgeLoad.adj Edge.src Edge.dst step_adj es _).trans List.length_replicate,
    (foldl_step_length EdgeLoad.rev Edge.dst Edge.src step_rev es _).trans List.length_replicate⟩

/-! ### the listed network (ids are row numbers) -/

theorem get_edge_row (es : List (Edge α)) (vs : List (Vertex α)) (nV : Nat) (h : RowIds es)
    (i : Nat) (hi : i < es.length) :
    (buildGraph es vs nV).getEdge i = .ok es[i] ∧ es[i].edgeId = i := by
  refine ⟨?_, h i hi⟩
  rw [get_edge_general, List.getElem?_eq_getElem hi]

/-- an id that is not listed is reported, not invented -/
theorem get_edge_not_listed (es : List (Edge α)) (vs : List (Vertex α)) (nV i : Nat) (hi : es.length ≤ i) :
    (buildGraph es vs nV).getEdge i = .error (.edgeNotFound i) := by
  rw [get_edge_general, List.getElem?_eq_none hi]

theorem incident_edges_eq (es : List (Edge α)) (vs : List (Vertex α)) (nV : Nat) (h : RowIds es)
    (hb : EndpointsBelow es nV) (v : Nat) :
    (buildGraph es vs nV).incidentEdges v .forward = (es.filter (fun e => e.src = v)).map Edge.edgeId ∧
    (buildGraph es vs nV).incidentEdges v .reverse = (es.filter (fun e => e.dst = v)).map Edge.edgeId :=
  ⟨out_edges_eq es vs nV h hb v, in_edges_eq es vs nV h hb v⟩

/-- no edge is listed twice at a vertex -/
theorem out_in_edges_nodup (es : List (Edge α)) (vs : List (Vertex α)) (nV : Nat) (h : RowIds es)
    (hb : EndpointsBelow es nV) (v : Nat) :
    ((buildGraph es vs nV).outEdges v).Nodup ∧ ((buildGraph es vs nV).inEdges v).Nodup := by
  rw [out_edges_eq es vs nV h hb, in_edges_eq es vs nV h hb]
  exact ⟨h.nodup_filter _, h.nodup_filter _⟩

/-- "however many there are": the out- and in-degree are the number of listed rows, without bound -/
theorem degree_eq_count (es : List (Edge α)) (vs : List (Vertex α)) (nV : Nat) (h : RowIds es)
    (hb : EndpointsBelow es nV) (v : Nat) :
    ((buildGraph es vs nV).outEdges v).length = es.countP (fun e => e.src = v) ∧
    ((buildGraph es vs nV).inEdges v).length = es.countP (fun e => e.dst = v) := by
  rw [out_edges_eq es vs nV h hb, in_edges_eq es vs nV h hb]
  simp [List.countP_eq_length_filter]

/-- forward and reverse adjacency describe the same edge set, as sets: an id is some vertex's out-edge exactly when it
is some vertex's in-edge -/
theorem fwd_rev_same_edge_set (es : List (Edge α)) (vs : List (Vertex α)) (nV : Nat) (h : RowIds es)
    (hb : EndpointsBelow es nV) (x : Nat) :
    (∃ v, x ∈ (buildGraph es vs nV).outEdges v) ↔ (∃ w, x ∈ (buildGraph es vs nV).inEdges w) := by
  simp only [mem_out_edges_iff es vs nV h hb, mem_in_edges_iff es vs nV h hb]
  constructor
  · rintro ⟨_, hx, _⟩
    exact ⟨_, hx, rfl⟩
  · rintro ⟨_, hx, _⟩
    exact ⟨_, hx, rfl⟩

/-- each listed edge is an out-edge of its source and an in-edge of its destination, and of no other vertex -/
theorem edge_at_its_endpoints (es : List (Edge α)) (vs : List (Vertex α)) (nV : Nat) (h : RowIds es)
    (hb : EndpointsBelow es nV) (x : Nat) (hx : x < es.length) (v : Nat) :
    (x ∈ (buildGraph es vs nV).outEdges v ↔ v = es[x].src) ∧
    (x ∈ (buildGraph es vs nV).inEdges v ↔ v = es[x].dst) := by
  rw [mem_out_edges_iff es vs nV h hb, mem_in_edges_iff es vs nV h hb]
  exact ⟨⟨fun ⟨_, e⟩ => e.symm, fun e => ⟨hx, e.symm⟩⟩, ⟨fun ⟨_, e⟩ => e.symm, fun e => ⟨hx, e.symm⟩⟩⟩

/-- the same edge set as multisets (this theorem and the next two): all out-edges, all in-edges and all edge ids are
permutations of each other -/
theorem all_out_edges_perm (es : List (Edge α)) (vs : List (Vertex α)) (nV : Nat) (h : RowIds es)
    (hb : EndpointsBelow es nV) :
    ((List.range nV).flatMap (buildGraph es vs nV).outEdges).Perm (List.range es.length) := by
  rw [funext (out_edges_eq es vs nV h hb)]
  exact h.flatMap_filter_perm Edge.src nV fun e he => (hb e he).1

theorem all_in_edges_perm (es : List (Edge α)) (vs : List (Vertex α)) (nV : Nat) (h : RowIds es)
    (hb : EndpointsBelow es nV) :
    ((List.range nV).flatMap (buildGraph es vs nV).inEdges).Perm (List.range es.length) := by
  rw [funext (in_edges_eq es vs nV h hb)]
  exact h.flatMap_filter_perm Edge.dst nV fun e he => (hb e he).2

theorem all_out_in_edges_perm (es : List (Edge α)) (vs : List (Vertex α)) (nV : Nat) (h : RowIds es)
    (hb : EndpointsBelow es nV) :
    ((List.range nV).flatMap (buildGraph es vs nV).outEdges).Perm
      ((List.range nV).flatMap (buildGraph es vs nV).inEdges) :=
  (all_out_edges_perm es vs nV h hb).trans (all_in_edges_perm es vs nV h hb).symm

/-- `incident_triplet_attributes` of a listed network: for each listed edge at `v` in the direction of
travel, (the vertex `v`, the edge, the vertex at its far end), with their listed data -/
theorem incident_triplet_attributes_eq (es : List (Edge α)) (vs : List (Vertex α)) (nV : Nat) (h : RowIds es)
    (hb : EndpointsBelow es nV) (hb' : EndpointsBelow es vs.length) (v : Nat) :
    (∃ r, (buildGraph es vs nV).incidentTripletAttributes v .forward = .ok r ∧
      List.Forall₂ (fun e t => vs[e.src]? = some t.1 ∧ t.2.1 = e ∧ vs[e.dst]? = some t.2.2)
        (es.filter (fun e => e.src = v)) r) ∧
    (∃ r, (buildGraph es vs nV).incidentTripletAttributes v .reverse = .ok r ∧
      List.Forall₂ (fun e t => vs[e.dst]? = some t.1 ∧ t.2.1 = e ∧ vs[e.src]? = some t.2.2)
        (es.filter (fun e => e.dst = v)) r) := by
  have hids := incident_triplet_ids_eq es vs nV h hb v
  exact ⟨Graph.incident_triplet_attributes_of_ids es vs nV h v .forward Edge.src Edge.dst (fun e he => hb' e he) hids.1 _
      fun e _ h1 h2 => ⟨List.getElem?_eq_getElem h1, rfl, List.getElem?_eq_getElem h2⟩,
    Graph.incident_triplet_attributes_of_ids es vs nV h v .reverse Edge.dst Edge.src (fun e he => (hb' e he).symm) hids.2 _
      fun e _ h1 h2 => ⟨List.getElem?_eq_getElem h1, rfl, List.getElem?_eq_getElem h2⟩⟩

/-! ### the file layer: counts explicit or scanned, validation, error kinds -/

/-- files in the documented format (every row decodes, ids are row numbers, endpoints are listed
vertices) load to `buildGraph` of the rows, with the vertex count explicit (`nV = vs.length`) or scanned
(header line + one line per row), and any treatment of the edge count (explicit — even wrong — or
scanned from a non-empty file): explicit and scanned loads are the same -/
theorem from_files_ok (es : List (Edge α)) (vs : List (Vertex α)) (el vl : Nat)
    (nE nV : Option Nat) (hE : nE ≠ none ∨ 1 ≤ el)
    (hV : nV = some vs.length ∨ (nV = none ∧ vl = vs.length + 1))
    (h : RowIds es) (hb : EndpointsBelow es vs.length) (hv : VertexRowIds vs) :
    graphFromFiles ⟨true, el, true, es.map Row.ok⟩ ⟨true, vl, true, vs.map Row.ok⟩ nE nV =
      .ok (buildGraph es vs vs.length) := by
  refine (graphFromFiles_ok_iff _ _ _ _ _).2 ⟨es, vs, vs.length, ?_, ?_, (readCsv_ok_iff _ _).2 ⟨rfl, rfl, rfl⟩,
    (readCsv_ok_iff _ _).2 ⟨rfl, rfl, rfl⟩, h, hv, hb, hb, rfl⟩
  · cases nE with
    | some n => exact ⟨n, rfl⟩
    | none =>
      have hl : ¬ el < 1 := Nat.not_lt.2 (hE.resolve_left fun h => h rfl)
      exact ⟨el - 1, by simp only [countOrScan, scanCount, hl, if_false, Bool.true_eq_false]⟩
  · rcases hV with rfl | ⟨rfl, rfl⟩
    · rfl
    · have hl : ¬ vs.length + 1 < 1 := Nat.not_lt.2 (Nat.le_add_left 1 _)
      simp only [countOrScan, scanCount, hl, if_false, Bool.true_eq_false, Nat.add_sub_cancel]

/-- a file that cannot be opened: `IOError` when its count is scanned, `CsvError` when it is declared -/
theorem missing_file_errors (ef : CsvFile (Edge α)) (vf : CsvFile (Vertex α)) (nV : Option Nat)
    (n : Nat) (h : ef.present = false) :
    graphFromFiles ef vf none nV = .error .io ∧
    (∀ m, countOrScan nV vf = .ok m → graphFromFiles ef vf (some n) nV = .error .csv) := by
  constructor
  · simp [graphFromFiles, countOrScan, scanCount, h]
  · intro m hm
    simp only [graphFromFiles, hm, readCsv, h, if_true]
    rfl

/-- an empty file (no header line) whose count is scanned: `DatasetError` -/
theorem empty_file_scan_error (ef : CsvFile (Edge α)) (vf : CsvFile (Vertex α)) (nV : Option Nat)
    (h : ef.present = true) (hl : ef.lines = 0) :
    graphFromFiles ef vf none nV = .error .dataset := by
  simp [graphFromFiles, countOrScan, scanCount, h, hl]

/-- a row that does not decode (missing column, unparsable or negative id, short row): `CsvError` -/
theorem undecodable_edge_row_error (a : List (Edge α)) (b : List (Row (Edge α))) (vf : CsvFile (Vertex α))
    (el nE nV : Nat) :
    graphFromFiles ⟨true, el, true, a.map Row.ok ++ Row.bad :: b⟩ vf (some nE) (some nV) = .error .csv := by
  simp [graphFromFiles, countOrScan, readCsv, decodeRows_bad]

theorem undecodable_vertex_row_error (es : List (Edge α)) (a : List (Vertex α)) (b : List (Row (Vertex α)))
    (el vl nE nV : Nat) (hb : EndpointsBelow es nV) :
    graphFromFiles ⟨true, el, true, es.map Row.ok⟩ ⟨true, vl, true, a.map Row.ok ++ Row.bad :: b⟩ (some nE) (some nV) =
      .error .csv := by
  have h3 : (missingVertices es nV).isEmpty = true := by
    rw [(missingVertices_eq_nil_iff es nV).2 hb]; rfl
  simp [graphFromFiles, countOrScan, readCsv, decodeRows_ok, decodeRows_bad, h3]

/-- a record that does not decode, in either file, never loads — whatever the counts (the error KIND
`CsvError` is `undecodable_edge_row_error` / `undecodable_vertex_row_error`, stated for declared counts) -/
theorem undecodable_row_never_loads {α : Type} (ef : CsvFile (Edge α)) (vf : CsvFile (Vertex α))
    (nE nV : Option Nat) (h : Row.bad ∈ ef.rows ∨ Row.bad ∈ vf.rows) (g : Graph α) :
    graphFromFiles ef vf nE nV ≠ .ok g := by
  intro hg
  obtain ⟨es, vs, _, _, l⟩ := from_files_ok_inv _ _ _ _ _ hg
  rcases h with h | h
  · rw [l.edgeRows] at h; obtain ⟨_, _, h⟩ := List.mem_map.1 h; cases h
  · rw [l.vertexRows] at h; obtain ⟨_, _, h⟩ := List.mem_map.1 h; cases h

/-- an edge with an endpoint at or beyond the declared / scanned vertex count is never loaded
(`EdgeLoader::try_from` reports its `missing_vertices`) -/
theorem missing_vertex_rejected (es : List (Edge α)) (vf : CsvFile (Vertex α)) (el : Nat)
    (nE nV : Option Nat) (n : Nat) (hn : countOrScan nV vf = .ok n) (hb : ¬ EndpointsBelow es n) (g : Graph α) :
    graphFromFiles ⟨true, el, true, es.map Row.ok⟩ vf nE nV ≠ .ok g := by
  intro hg
  obtain ⟨es', vs, n', _, l⟩ := from_files_ok_inv _ _ _ _ _ hg
  cases map_ok_inj l.edgeRows
  cases hn.symm.trans l.count
  exact hb l.below

/-- an edge file whose ids are not its row numbers (permuted, offset, duplicated) is never loaded -/
theorem edge_id_not_row_rejected (es : List (Edge α)) (vf : CsvFile (Vertex α)) (el : Nat)
    (nE nV : Option Nat) (h : ¬ RowIds es) (g : Graph α) :
    graphFromFiles ⟨true, el, true, es.map Row.ok⟩ vf nE nV ≠ .ok g := by
  intro hg
  obtain ⟨es', vs, n', _, l⟩ := from_files_ok_inv _ _ _ _ _ hg
  cases map_ok_inj l.edgeRows
  exact h l.rowIds

/-- a vertex file whose ids are not its row numbers is never loaded -/
theorem vertex_id_not_row_rejected (ef : CsvFile (Edge α)) (vs : List (Vertex α)) (vl : Nat)
    (nE nV : Option Nat) (h : ¬ VertexRowIds vs) (g : Graph α) :
    graphFromFiles ef ⟨true, vl, true, vs.map Row.ok⟩ nE nV ≠ .ok g := by
  intro hg
  obtain ⟨es, vs', n', _, l⟩ := from_files_ok_inv _ _ _ _ _ hg
  cases map_ok_inj l.vertexRows
  exact h l.vertexRowIds

/-- an edge with an endpoint that has no row in the vertex file is never loaded, whatever vertex
count was declared or scanned -/
theorem endpoint_beyond_vertex_rows_rejected (es : List (Edge α)) (vs : List (Vertex α)) (el vl : Nat)
    (nE nV : Option Nat) (h : ¬ EndpointsBelow es vs.length) (g : Graph α) :
    graphFromFiles ⟨true, el, true, es.map Row.ok⟩ ⟨true, vl, true, vs.map Row.ok⟩ nE nV ≠ .ok g := by
  intro hg
  obtain ⟨es', vs', n', _, l⟩ := from_files_ok_inv _ _ _ _ _ hg
  cases map_ok_inj l.edgeRows
  cases map_ok_inj l.vertexRows
  exact h l.belowRows

end

/-! ### the whole property -/

/-- "the graph exposes exactly the listed topology", by id (the harness's oracle states the same as
multisets): sizes, every listed edge and vertex retrievable by its id, and the out- / in-edges of every
vertex EXACTLY the ids of the listed edges that leave / enter it, once each, in file order -/
structure DescribesTopology {α : Type} (g : Graph α) (es : List (Edge α)) (vs : List (Vertex α)) : Prop where
  nEdges : g.nEdges = es.length
  nVertices : g.nVertices = vs.length
  edge : ∀ e ∈ es, g.getEdge e.edgeId = .ok e
  vertex : ∀ v ∈ vs, g.getVertex v.vertexId = .ok v
  out : ∀ v, g.outEdges v = (es.filter (fun e => e.src = v)).map Edge.edgeId
  inc : ∀ v, g.inEdges v = (es.filter (fun e => e.dst = v)).map Edge.edgeId

/-- … and the triplet of every listed edge: both endpoints are listed vertices -/
structure Describes {α : Type} (g : Graph α) (es : List (Edge α)) (vs : List (Vertex α)) : Prop
    extends DescribesTopology g es vs where
  triplet : ∀ e ∈ es, ∃ s d, g.edgeTriplet e.edgeId = .ok (s, e, d) ∧ s.vertexId = e.src ∧ d.vertexId = e.dst

theorem DescribesTopology.mem_out_in {α : Type} {g : Graph α} {es : List (Edge α)} {vs : List (Vertex α)}
    (h : DescribesTopology g es vs) (v x : Nat) :
    (x ∈ g.outEdges v ↔ ∃ e ∈ es, e.edgeId = x ∧ e.src = v) ∧
    (x ∈ g.inEdges v ↔ ∃ e ∈ es, e.edgeId = x ∧ e.dst = v) := by
  have key : ∀ p : Edge α → Nat, x ∈ (es.filter (fun e => p e = v)).map Edge.edgeId ↔
      ∃ e ∈ es, e.edgeId = x ∧ p e = v := fun p => by
    simp only [List.mem_map, List.mem_filter, decide_eq_true_eq]
    exact ⟨fun ⟨e, ⟨he, hs⟩, hx⟩ => ⟨e, he, hx, hs⟩, fun ⟨e, he, hx, hs⟩ => ⟨e, ⟨he, hs⟩, hx⟩⟩
  rw [h.out, h.inc]
  exact ⟨key _, key _⟩

theorem describes_buildGraph {α : Type} (es : List (Edge α)) (vs : List (Vertex α)) (n : Nat)
    (h : RowIds es) (hv : VertexRowIds vs) (hb : EndpointsBelow es n) (hb' : EndpointsBelow es vs.length) :
    Describes (buildGraph es vs n) es vs where
  nEdges := rfl
  nVertices := rfl
  edge := get_edge_by_id es vs n h
  vertex := fun v hm => by
    obtain ⟨i, hi, rfl⟩ := List.mem_iff_getElem.1 hm
    rw [hv i hi, get_vertex_general, List.getElem?_eq_getElem hi]
  out := out_edges_eq es vs n h hb
  inc := in_edges_eq es vs n h hb
  triplet := fun e he => ⟨_, _, edge_triplet_eq es vs _ h hb' e he, hv _ _, hv _ _⟩

/-- FULL, for every pair of edge/vertex files (any rows, decodable or not, any ids and endpoints, any
text-line counts) and every way of giving the counts (explicit — right or wrong — or scanned): a load
either fails or yields a graph that exposes exactly the listed network: sizes, every listed edge
retrievable by its id with its source, destination and length, every vertex with its coordinates, the
out- and in-edges of every vertex precisely the listed ones, and the triplet of every edge.  No
hypothesis.  (The loader validates ids and endpoints; the inputs those checks reject are the `…_rejected_witness`
theorems below.) -/
theorem loaded_network_is_listed {α : Type} (ef : CsvFile (Edge α)) (vf : CsvFile (Vertex α))
    (nE nV : Option Nat) (g : Graph α) (hg : graphFromFiles ef vf nE nV = .ok g) :
    ∃ es vs, ef.rows = es.map Row.ok ∧ vf.rows = vs.map Row.ok ∧ Describes g es vs := by
  obtain ⟨es, vs, n, rfl, l⟩ := from_files_ok_inv _ _ _ _ _ hg
  exact ⟨es, vs, l.edgeRows, l.vertexRows, describes_buildGraph es vs n l.rowIds l.vertexRowIds l.below l.belowRows⟩

theorem loaded_topology_is_listed {α : Type} (ef : CsvFile (Edge α)) (vf : CsvFile (Vertex α))
    (nE nV : Option Nat) (g : Graph α) (hg : graphFromFiles ef vf nE nV = .ok g) :
    ∃ es vs, ef.rows = es.map Row.ok ∧ vf.rows = vs.map Row.ok ∧ DescribesTopology g es vs := by
  obtain ⟨es, vs, he, hv, hd⟩ := loaded_network_is_listed ef vf nE nV g hg
  exact ⟨es, vs, he, hv, hd.toDescribesTopology⟩

/-- the documented format loads, and to the listed network (the theorems above are not vacuous) -/
theorem listed_network_loads {α : Type} (es : List (Edge α)) (vs : List (Vertex α))
    (el vl : Nat) (nE nV : Option Nat) (hE : nE ≠ none ∨ 1 ≤ el)
    (hV : nV = some vs.length ∨ (nV = none ∧ vl = vs.length + 1))
    (h : RowIds es) (hb : EndpointsBelow es vs.length) (hv : VertexRowIds vs) :
    ∃ g, graphFromFiles ⟨true, el, true, es.map Row.ok⟩ ⟨true, vl, true, vs.map Row.ok⟩ nE nV = .ok g ∧
      Describes g es vs :=
  ⟨_, from_files_ok es vs el vl nE nV hE hV h hb hv, describes_buildGraph es vs _ h hv hb hb⟩

/-! witnesses (distances and coordinates in `Nat`; the same files are W1 … W9 of the harness corpus) -/

def w1Edges : List (Edge Nat) := [⟨1, 0, 1, 7⟩, ⟨0, 1, 0, 9⟩]
def w2Edges : List (Edge Nat) := [⟨0, 0, 1, 7⟩, ⟨1, 1, 5, 9⟩]
def w3Edges : List (Edge Nat) := [⟨0, 0, 1, 7⟩, ⟨1, 1, 2, 9⟩, ⟨2, 2, 0, 4⟩]
def w8Edges : List (Edge Nat) := [⟨0, 0, 1, 7⟩, ⟨1, 1, 2, 9⟩]
def wVertices (n : Nat) : List (Vertex Nat) := (List.range n).map (fun i => ⟨i, 10 * i, 20 * i⟩)

/-- W1 (without the check `get_edge 1` would answer with edge 0): two edges listed in the reverse order of their
ids are a `DatasetError` -/
theorem edge_id_not_row_rejected_witness :
    graphFromFiles ⟨true, 3, true, w1Edges.map Row.ok⟩ ⟨true, 3, true, (wVertices 2).map Row.ok⟩ (some 2) (some 2) =
      .error .dataset := rfl

/-- W2 (without the check its triplet could not be produced): an edge whose destination (5) is not
in the two-row vertex file, scanned counts, is a `DatasetError` -/
theorem missing_vertex_rejected_witness :
    missingVertices w2Edges 2 = [5] ∧
    graphFromFiles ⟨true, 3, true, w2Edges.map Row.ok⟩ ⟨true, 3, true, (wVertices 2).map Row.ok⟩ none none =
      .error .dataset := ⟨by decide +kernel, rfl⟩

/-- W3 (without the check `out_edges 2` would be `[]`): a declared vertex count (2) below the vertex file's (3),
with an edge leaving vertex 2, is a `DatasetError`; without such an edge the load is correct
(`loaded_network_is_listed`) -/
theorem declared_vertex_count_too_small_rejected_witness :
    graphFromFiles ⟨true, 4, true, w3Edges.map Row.ok⟩ ⟨true, 4, true, (wVertices 3).map Row.ok⟩ (some 3) (some 2) =
      .error .dataset := rfl

/-- W4 (without the check `get_vertex 0` would answer with vertex 1): vertex rows listed in another order than
their ids are a `DatasetError` -/
theorem vertex_id_not_row_rejected_witness :
    graphFromFiles ⟨true, 2, true, [Row.ok (⟨0, 0, 1, 7⟩ : Edge Nat)]⟩ ⟨true, 3, true, [Row.ok ⟨1, 10, 20⟩, Row.ok ⟨0, 30, 40⟩]⟩
      none none = .error .dataset := rfl

/-- W6 (without the check the adjacency would be empty): a scan that sees fewer text lines than the csv reader
yields records — a vertex file with lone-CR line endings is ONE line, scanned count 0 — is a
`DatasetError` as soon as there is an edge; the same files load correctly with the count declared -/
theorem scanned_count_below_rows_rejected_witness :
    graphFromFiles ⟨true, 3, true, [Row.ok (⟨0, 0, 1, 7⟩ : Edge Nat), Row.ok ⟨1, 1, 0, 9⟩]⟩
        ⟨true, 1, true, (wVertices 2).map Row.ok⟩ none none = .error .dataset ∧
    ∃ g, graphFromFiles ⟨true, 3, true, [Row.ok (⟨0, 0, 1, 7⟩ : Edge Nat), Row.ok ⟨1, 1, 0, 9⟩]⟩
        ⟨true, 1, true, (wVertices 2).map Row.ok⟩ none (some 2) = .ok g ∧ g.outEdges 0 = [0] ∧ g.inEdges 0 = [1] :=
  ⟨rfl, _, rfl, by decide +kernel, by decide +kernel⟩

/-- W8 / W9 (without the check `edge_triplet 1` would be `VertexNotFound 2`): the vertex file has two rows,
edge 1 ends at vertex 2; with a declared vertex count of 3 — or a scanned one, the file having a
trailing blank line (4 text lines) — the load is a `DatasetError` -/
theorem endpoint_beyond_vertex_rows_rejected_witness :
    graphFromFiles ⟨true, 3, true, w8Edges.map Row.ok⟩ ⟨true, 3, true, (wVertices 2).map Row.ok⟩ (some 2) (some 3) =
      .error .dataset ∧
    graphFromFiles ⟨true, 3, true, w8Edges.map Row.ok⟩ ⟨true, 4, true, (wVertices 2).map Row.ok⟩ none none =
      .error .dataset := ⟨rfl, rfl⟩

/-! ### files that cannot be read to their end, or have no content -/

section
variable {α : Type}

/-- a file flagged as not readable to its end (`present = false`) never loads, whichever of the two files it is and
however the counts are given (which byte streams get the flag: see the header; corpus W10–W12) -/
theorem unreadable_file_never_loads (ef : CsvFile (Edge α)) (vf : CsvFile (Vertex α)) (nE nV : Option Nat)
    (h : ef.present = false ∨ vf.present = false) (g : Graph α) : graphFromFiles ef vf nE nV ≠ .ok g := by
  intro hg
  obtain ⟨_, _, _, _, l⟩ := from_files_ok_inv _ _ _ _ _ hg
  rcases h with h | h
  · exact absurd (h.symm.trans l.edgesPresent) (by simp)
  · exact absurd (h.symm.trans l.verticesPresent) (by simp)

/-- likewise for a file flagged as having no acceptable header row (`hasHeader = false`: no content, a header row
without the required columns, or none): it never loads, also with explicit counts and without records (corpus W14,
W17, W18) -/
theorem empty_file_never_loads (ef : CsvFile (Edge α)) (vf : CsvFile (Vertex α)) (nE nV : Option Nat)
    (h : ef.hasHeader = false ∨ vf.hasHeader = false) (g : Graph α) : graphFromFiles ef vf nE nV ≠ .ok g := by
  intro hg
  obtain ⟨_, _, _, _, l⟩ := from_files_ok_inv _ _ _ _ _ hg
  rcases h with h | h
  · exact absurd (h.symm.trans l.edgeHeader) (by simp)
  · exact absurd (h.symm.trans l.vertexHeader) (by simp)

/-- the error kinds of an edge file without content: a `DatasetError` when its count is scanned (no text
line) and a `CsvError` when it is declared (no header row); for an unreadable file see `missing_file_errors` -/
theorem empty_edge_file_errors (rows : List (Row (Edge α))) (vf : CsvFile (Vertex α)) (n : Nat)
    (nV : Option Nat) (m : Nat) (hm : countOrScan nV vf = .ok m) :
    graphFromFiles ⟨true, 0, false, rows⟩ vf none nV = .error .dataset ∧
    graphFromFiles ⟨true, 0, false, rows⟩ vf (some n) nV = .error .csv := by
  constructor
  · simp [graphFromFiles, countOrScan, scanCount]
  · simp only [graphFromFiles, hm, readCsv]
    rfl

/-! ### every accessor, on any `Graph` value (nothing is assumed about its four fields) -/

/-- a vertex outside the adjacency table has no edges; that is not an error -/
theorem incident_edges_beyond_table (g : Graph α) (v : Nat) :
    (g.adj.length ≤ v → g.outEdges v = [] ∧ g.incidentEdges v .forward = []) ∧
    (g.rev.length ≤ v → g.inEdges v = [] ∧ g.incidentEdges v .reverse = []) := by
  constructor <;> intro h
  · simp [Graph.outEdges, Graph.incidentEdges, List.getElem?_eq_none h]
  · simp [Graph.inEdges, Graph.incidentEdges, List.getElem?_eq_none h]

/-- `edge_triplet`: the edge, then its source vertex, then its destination vertex; the first one that
is missing is the error (the model's definition with its matches flattened — its content is that the
differential run ties THIS order to the code; `edge_triplet_ok_iff` is the consequence) -/
theorem edge_triplet_any (g : Graph α) (e : Nat) :
    g.edgeTriplet e = match g.edges[e]? with
      | none => .error (.edgeNotFound e)
      | some ed =>
        match g.vertices[ed.src]? with
        | none => .error (.vertexNotFound ed.src)
        | some s =>
          match g.vertices[ed.dst]? with
          | none => .error (.vertexNotFound ed.dst)
          | some d => .ok (s, ed, d) := by
  unfold Graph.edgeTriplet
  rw [Graph.getEdge]
  cases g.edges[e]? with
  | none => rfl
  | some ed =>
    simp only [Graph.getVertex]
    cases g.vertices[ed.src]? with
    | none => rfl
    | some s => cases g.vertices[ed.dst]? <;> rfl

theorem edge_triplet_ok_iff (g : Graph α) (e : Nat) :
    (∃ t, g.edgeTriplet e = .ok t) ↔
      ∃ h : e < g.edges.length, g.edges[e].src < g.vertices.length ∧ g.edges[e].dst < g.vertices.length := by
  rw [edge_triplet_any]
  constructor
  · intro ⟨t, ht⟩
    cases he : g.edges[e]? with
    | none => rw [he] at ht; cases ht
    | some ed =>
      obtain ⟨hlt, rfl⟩ := List.getElem?_eq_some_iff.1 he
      rw [he] at ht
      dsimp only at ht
      cases hs : g.vertices[g.edges[e].src]? with
      | none => rw [hs] at ht; cases ht
      | some s =>
        cases hd : g.vertices[g.edges[e].dst]? with
        | none => rw [hs, hd] at ht; cases ht
        | some d => exact ⟨hlt, (List.getElem?_eq_some_iff.1 hs).1, (List.getElem?_eq_some_iff.1 hd).1⟩
  · rintro ⟨h, hs, hd⟩
    rw [List.getElem?_eq_getElem h]
    dsimp only
    rw [List.getElem?_eq_getElem hs, List.getElem?_eq_getElem hd]
    exact ⟨_, rfl⟩

theorem incident_triplet_ids_ok_iff (g : Graph α) (v : Nat) (d : Direction) :
    (∃ r, g.incidentTripletIds v d = .ok r) ↔ ∀ e ∈ g.incidentEdges v d, e < g.edges.length :=
  tripletIdsGo_ok_iff g v d _

/-- on ANY graph: the edge lookup inside `incident_triplet_attributes` cannot fail — the triplets come from
`incident_triplet_ids`, which has looked every one of those edges up already — so its only errors are
that one's `EdgeNotFound` and a `VertexNotFound` (the `?` after `get_edge` in that function is dead) -/
theorem triplet_attributes_edge_lookup_never_fails (g : Graph α) (v : Nat) (d : Direction)
    (l : List (Nat × Nat × Nat)) (h : g.incidentTripletIds v d = .ok l) :
    ∀ t ∈ l, ∃ ed, g.getEdge t.2.1 = .ok ed :=
  getEdge_of_incidentTripletIds g v d l h

end

/-! ### `Edge::default()` -/

/-- `Edge::default()` is the edge 0 from vertex 0 to vertex 1 of unit length -/
theorem edge_default_fields {α : Type} [Lit α] :
    (Edge.default : Edge α).edgeId = 0 ∧ (Edge.default : Edge α).src = 0 ∧ (Edge.default : Edge α).dst = 1 ∧
    (Edge.default : Edge α).distance = one := ⟨rfl, rfl, rfl, rfl⟩

/-! ### `DefaultGraphBuilder::build` -/

section
variable {α : Type}

/-- everything a successful build implies: both paths are configured as strings and name files, the
counts are absent or unsigned integers, and the graph describes the files at those paths -/
theorem builder_ok_describes (params : Json) (eIsFile vIsFile : Bool) (ef : CsvFile (Edge α))
    (vf : CsvFile (Vertex α)) (g : Graph α) (h : graphBuilderBuild params eIsFile vIsFile ef vf = .ok g) :
    eIsFile = true ∧ vIsFile = true ∧
    (∃ s, (params.get? "edge_list_input_file").bind Json.asStr? = some s) ∧
    (∃ s, (params.get? "vertex_list_input_file").bind Json.asStr? = some s) ∧
    ∃ es vs, ef.rows = es.map Row.ok ∧ vf.rows = vs.map Row.ok ∧ Describes g es vs := by
  unfold graphBuilderBuild at h
  cases h1 : getConfigPath params "edge_list_input_file" "graph" eIsFile with
  | error e => simp [h1] at h
  | ok pe =>
    cases h2 : getConfigPath params "vertex_list_input_file" "graph" vIsFile with
    | error e => simp [h1, h2] at h
    | ok pv =>
      cases h3 : getConfigOptUsize params "n_edges" with
      | error e => simp [h1, h2, h3] at h
      | ok nE =>
        cases h4 : getConfigOptUsize params "n_vertices" with
        | error e => simp [h1, h2, h3, h4] at h
        | ok nV =>
          cases h5 : getConfigOptBool params "verbose" with
          | error e => simp [h1, h2, h3, h4, h5] at h
          | ok vb =>
            cases h6 : graphFromFiles ef vf nE nV with
            | error e => simp [h1, h2, h3, h4, h5, h6] at h
            | ok g' =>
              simp only [h1, h2, h3, h4, h5, h6, Except.ok.injEq] at h
              subst h
              obtain ⟨f1, s1⟩ := (getConfigPath_ok_iff _ _ _ _ _).1 h1
              obtain ⟨f2, s2⟩ := (getConfigPath_ok_iff _ _ _ _ _).1 h2
              exact ⟨f1, f2, ⟨pe, s1⟩, ⟨pv, s2⟩, loaded_network_is_listed ef vf nE nV g' h6⟩

/-- the error for a missing, ill-typed or dangling edge-file path names `edge_list_input_file` (the key
that is wrong) and the component `graph`; it is decided before anything else is looked at -/
theorem builder_edge_path_errors (params : Json) (eIsFile vIsFile : Bool) (ef : CsvFile (Edge α))
    (vf : CsvFile (Vertex α)) :
    (params.get? "edge_list_input_file" = none →
      graphBuilderBuild params eIsFile vIsFile ef vf = .error (.expectedField "edge_list_input_file" "graph")) ∧
    (∀ v, params.get? "edge_list_input_file" = some v → v.asStr? = none →
      graphBuilderBuild params eIsFile vIsFile ef vf = .error (.expectedType "edge_list_input_file" "String")) ∧
    (∀ v s, params.get? "edge_list_input_file" = some v → v.asStr? = some s → eIsFile = false →
      graphBuilderBuild params eIsFile vIsFile ef vf = .error (.fileNotFound s "edge_list_input_file" "graph")) := by
  refine ⟨fun h => ?_, fun v h hs => ?_, fun v s h hs hf => ?_⟩
  · simp [graphBuilderBuild, getConfigPath, getConfigString, h]
  · simp [graphBuilderBuild, getConfigPath, getConfigString, h, hs]
  · simp [graphBuilderBuild, getConfigPath, getConfigString, h, hs, hf]

/-- the same for the vertex-file path, once the edge-file path is fine -/
theorem builder_vertex_path_errors (params : Json) (vIsFile : Bool) (ef : CsvFile (Edge α))
    (vf : CsvFile (Vertex α)) (pe : String) (he : getConfigPath params "edge_list_input_file" "graph" true = .ok pe) :
    (params.get? "vertex_list_input_file" = none →
      graphBuilderBuild params true vIsFile ef vf = .error (.expectedField "vertex_list_input_file" "graph")) ∧
    (∀ v, params.get? "vertex_list_input_file" = some v → v.asStr? = none →
      graphBuilderBuild params true vIsFile ef vf = .error (.expectedType "vertex_list_input_file" "String")) ∧
    (∀ v s, params.get? "vertex_list_input_file" = some v → v.asStr? = some s → vIsFile = false →
      graphBuilderBuild params true vIsFile ef vf = .error (.fileNotFound s "vertex_list_input_file" "graph")) := by
  refine ⟨fun h => ?_, fun v h hs => ?_, fun v s h hs hf => ?_⟩
  · simp only [graphBuilderBuild, he]
    simp [getConfigPath, getConfigString, h]
  · simp only [graphBuilderBuild, he]
    simp [getConfigPath, getConfigString, h, hs]
  · simp only [graphBuilderBuild, he]
    simp [getConfigPath, getConfigString, h, hs, hf]

/-- with both paths fine: an ill-typed count or flag is a deserialization error; otherwise the build IS
the load of the two files with the configured counts, a load error coming through as `GraphError`; the
`verbose` flag and a configured edge count never change the outcome beyond the edge count's scan -/
theorem builder_is_load (params : Json) (ef : CsvFile (Edge α)) (vf : CsvFile (Vertex α)) (pe pv : String)
    (he : getConfigPath params "edge_list_input_file" "graph" true = .ok pe)
    (hv : getConfigPath params "vertex_list_input_file" "graph" true = .ok pv)
    (nE nV : Option Nat) (vb : Option Bool)
    (h3 : getConfigOptUsize params "n_edges" = .ok nE) (h4 : getConfigOptUsize params "n_vertices" = .ok nV)
    (h5 : getConfigOptBool params "verbose" = .ok vb) :
    graphBuilderBuild params true true ef vf =
      match graphFromFiles ef vf nE nV with
      | .error e => .error (.graph e)
      | .ok g => .ok g := by
  simp only [graphBuilderBuild, he, hv, h3, h4, h5]
  cases graphFromFiles ef vf nE nV <;> rfl

/-- an ill-typed `n_edges`, `n_vertices` or `verbose` (present but not an unsigned integer / not a
boolean) is a deserialization error — which does NOT name the key (`SerdeDeserializationError` carries
only serde_json's text); only the two path keys are named by their errors -/
theorem builder_ill_typed_count_or_flag (params : Json) (ef : CsvFile (Edge α)) (vf : CsvFile (Vertex α)) (pe pv : String)
    (he : getConfigPath params "edge_list_input_file" "graph" true = .ok pe)
    (hv : getConfigPath params "vertex_list_input_file" "graph" true = .ok pv) :
    (∀ v, params.get? "n_edges" = some v → v.asU64? = none →
      graphBuilderBuild params true true ef vf = .error .serde) ∧
    (∀ nE v, getConfigOptUsize params "n_edges" = .ok nE → params.get? "n_vertices" = some v → v.asU64? = none →
      graphBuilderBuild params true true ef vf = .error .serde) ∧
    (∀ nE nV v, getConfigOptUsize params "n_edges" = .ok nE → getConfigOptUsize params "n_vertices" = .ok nV →
      params.get? "verbose" = some v → v.asBool? = none →
      graphBuilderBuild params true true ef vf = .error .serde) := by
  refine ⟨fun v hg hu => ?_, fun nE v h3 hg hu => ?_, fun nE nV v h3 h4 hg hu => ?_⟩
  · simp [graphBuilderBuild, he, hv, getConfigOptUsize, hg, hu]
  · simp only [graphBuilderBuild, he, hv, h3]
    simp [getConfigOptUsize, hg, hu]
  · simp only [graphBuilderBuild, he, hv, h3, h4]
    simp [getConfigOptBool, hg, hu]

end

/-! ### per-edge tables: readers and consumers

The model DEFINES a table as the list of its decoded lines and a lookup as `table[edge id]?`
(`tableRow`, `tableGet`), mirroring `read_raw_file` / `from_csv` and `table.get(edge_id.as_usize())`;
that the real readers and the real `get_speed` / `get_headings` / `get_grade` / road-class check behave
so is evidenced by the `table` and `lookup` case streams, not proved.  What is proved over that model:
a table loads whole and in line order or not at all; the consumers' answer for the edge listed in row
`k` of the edge file is line `k` of the table file; and nothing compares the two lengths. -/

/-- a table whose lines all decode is loaded whole and in order, and the row callback ran once per
row -/
theorem read_table_ok {ρ : Type} (l : List ρ) :
    readTable true (l.map Row.ok) = .ok l ∧ callbackCount (l.map Row.ok) = l.length := by
  refine ⟨by simp [readTable, decodeRows_ok], ?_⟩
  have := callbackCount_map_ok_append l []
  rwa [List.append_nil] at this

/-- one line that does not decode, or a file that cannot be read to its end, fails the whole table
(never a shorter or shifted one) -/
theorem read_table_errors {ρ : Type} (a : List ρ) (b : List (Row ρ)) (rows : List (Row ρ)) :
    readTable true (a.map Row.ok ++ Row.bad :: b) = .error .io ∧
    callbackCount (a.map Row.ok ++ Row.bad :: b) = a.length ∧
    readTable false rows = .error .io := by
  exact ⟨by simp [readTable, decodeRows_bad], callbackCount_map_ok_append a (Row.bad :: b), rfl⟩

/-- every successful read: entry `k` of the table is the payload of LINE `k` of the file, for every
`k` (no line is dropped, none is shifted), and there are as many entries as lines -/
theorem read_table_entry_is_file_line {ρ : Type} (rows : List (Row ρ)) (t : List ρ)
    (h : readTable true rows = .ok t) :
    t.length = rows.length ∧ ∀ k, tableRow t k = (rows[k]?).bind Row.payload? := by
  rw [rows_of_readTable_ok h]
  refine ⟨(List.length_map (f := Row.ok)).symm, fun k => ?_⟩
  rw [tableRow, List.getElem?_map]
  cases t[k]? <;> rfl

/-- per-edge tables composed with the loader: for every network that loads and every table file that reads, IF the
table file has one line per row of the edge file (`rows.length = g.nEdges` — a fact about the two files
that the code never checks), then for every edge id `k` of the network the edge retrieved by `k` is the
one listed in row `k` of the edge file and the consumers' lookup for it yields the payload of line `k`
of the table file -/
theorem loaded_network_table_lookup {α ρ : Type} (ef : CsvFile (Edge α)) (vf : CsvFile (Vertex α))
    (nE nV : Option Nat) (g : Graph α) (hg : graphFromFiles ef vf nE nV = .ok g)
    (rows : List (Row ρ)) (t : List ρ) (ht : readTable true rows = .ok t) (hl : rows.length = g.nEdges)
    (k : Nat) (hk : k < g.nEdges) :
    ∃ ed x, g.getEdge k = .ok ed ∧ ed.edgeId = k ∧ ef.rows[k]? = some (.ok ed) ∧
      tableGet t ed.edgeId = .ok x ∧ rows[k]? = some (.ok x) := by
  obtain ⟨es, vs, n, rfl, l⟩ := from_files_ok_inv _ _ _ _ _ hg
  have hk' : k < es.length := hk
  obtain rfl := rows_of_readTable_ok ht
  have hkt : k < t.length := by rw [← List.length_map (f := Row.ok), hl]; exact hk
  have h1 := get_edge_row es vs n l.rowIds k hk'
  refine ⟨es[k], t[k], h1.1, h1.2, ?_, ?_, ?_⟩
  · rw [l.edgeRows, List.getElem?_map, List.getElem?_eq_getElem hk']; rfl
  · rw [h1.2, tableGet, tableRow, List.getElem?_eq_getElem hkt]
  · rw [List.getElem?_map, List.getElem?_eq_getElem hkt]; rfl

/-- the code never compares a table's length with the number of edges: with a table shorter than the
network the load and the read both succeed, and the first edge without a line is a listed, retrievable
edge whose lookup fails when a query reaches it (an explicit error at query time, never another edge's
value; a longer table's extra lines are never looked at) -/
theorem table_shorter_than_network_lookup_fails {α β : Type} (ef : CsvFile (Edge α)) (vf : CsvFile (Vertex α))
    (nE nV : Option Nat) (g : Graph α) (hg : graphFromFiles ef vf nE nV = .ok g) (t : List β)
    (hl : t.length < g.nEdges) :
    ∃ ed, g.getEdge t.length = .ok ed ∧ ed.edgeId = t.length ∧ tableGet t ed.edgeId = .error (.missing t.length) := by
  obtain ⟨es, vs, n, rfl, l⟩ := from_files_ok_inv _ _ _ _ _ hg
  have h1 := get_edge_row es vs n l.rowIds t.length hl
  exact ⟨_, h1.1, h1.2, by rw [h1.2]; exact tableGet_of_length_le (Nat.le_refl _)⟩

/-- without a grade table every grade is the zero grade; without a road-class restriction in the query
every edge is valid and the class table is not looked at; with one, the answer is membership of the
edge's class (its line of the class file) in the restriction -/
theorem grade_and_road_class_lookups {β : Type} (zero : β) (t : List β) (lookup allowed : List Nat) (e : Nat) :
    getGrade none zero e = .ok zero ∧ getGrade (some t) zero e = tableGet t e ∧
    roadClassValid lookup none e = .ok true ∧
    (∀ c, tableGet lookup e = .ok c → roadClassValid lookup (some allowed) e = .ok (allowed.contains c)) ∧
    (lookup.length ≤ e → roadClassValid lookup (some allowed) e = .error (.missing e)) := by
  refine ⟨rfl, rfl, rfl, fun c hc => by simp [roadClassValid, hc], fun h => ?_⟩
  simp [roadClassValid, tableGet_of_length_le h]

/-! ### counts explicit or scanned, right or wrong: the accessors do not depend on them -/

/-- counts do not matter to the accessors: whenever the same two files load under two ways of giving the counts (explicit,
scanned, too large, or a scan inflated by blank lines), the two graphs have the same edges and vertices
and the same out- and in-edges at every vertex.  (The `Graph` VALUES may differ in the length of their
adjacency tables — `adj_length` — which no accessor exposes; `from_files_ok` gives equal values when the
count in force is the number of vertex rows.) -/
theorem counts_do_not_change_accessors {α : Type} (ef : CsvFile (Edge α)) (vf : CsvFile (Vertex α))
    (nE1 nV1 nE2 nV2 : Option Nat) (g1 g2 : Graph α)
    (h1 : graphFromFiles ef vf nE1 nV1 = .ok g1) (h2 : graphFromFiles ef vf nE2 nV2 = .ok g2) :
    g1.edges = g2.edges ∧ g1.vertices = g2.vertices ∧
    ∀ v, g1.outEdges v = g2.outEdges v ∧ g1.inEdges v = g2.inEdges v := by
  obtain ⟨es, vs, n, rfl, l⟩ := from_files_ok_inv _ _ _ _ _ h1
  obtain ⟨es', vs', n', rfl, l'⟩ := from_files_ok_inv _ _ _ _ _ h2
  cases map_ok_inj (l.edgeRows.symm.trans l'.edgeRows)
  cases map_ok_inj (l.vertexRows.symm.trans l'.vertexRows)
  refine ⟨rfl, rfl, fun v => ⟨?_, ?_⟩⟩
  · rw [out_edges_eq es vs n l.rowIds l.below, out_edges_eq es vs n' l.rowIds l'.below]
  · rw [in_edges_eq es vs n l.rowIds l.below, in_edges_eq es vs n' l.rowIds l'.below]

/-! ### allocation of the adjacency tables -/

/-- a declared or scanned vertex count beyond the allocation limit is a `DatasetError` (after the counts
were obtained, before the edge file is read — also when that file is missing); at or below the limit the
allocation step changes nothing (`try_reserve_exact` in `adjacency_table`, where `vec![..; n]` would panic) -/
theorem alloc_limit {α : Type} (cap : Nat) (ef : CsvFile (Edge α)) (vf : CsvFile (Vertex α))
    (nE nV : Option Nat) (k n : Nat) (hE : countOrScan nE ef = .ok k) (hV : countOrScan nV vf = .ok n) :
    (cap < n → graphFromFilesAlloc cap ef vf nE nV = .error .dataset) ∧
    (n ≤ cap → graphFromFilesAlloc cap ef vf nE nV = graphFromFiles ef vf nE nV) := by
  constructor <;> intro h <;> simp only [graphFromFilesAlloc, hE, hV]
  · simp [h]
  · simp [Nat.not_lt.2 h]

/-- hence every network that loads through the allocating entry point is a network that
`graphFromFiles` loads: all theorems of this file apply to it -/
theorem alloc_ok_is_load {α : Type} (cap : Nat) (ef : CsvFile (Edge α)) (vf : CsvFile (Vertex α))
    (nE nV : Option Nat) (g : Graph α) (h : graphFromFilesAlloc cap ef vf nE nV = .ok g) :
    graphFromFiles ef vf nE nV = .ok g := by
  unfold graphFromFilesAlloc at h
  cases h1 : countOrScan nE ef with
  | error x => simp [h1] at h
  | ok k =>
    cases h2 : countOrScan nV vf with
    | error x => simp [h1, h2] at h
    | ok n =>
      simp only [h1, h2] at h
      split at h
      · simp at h
      · exact h

/-! ### the `Vertex` decoder: any column order, any bystander columns -/

section
variable {α : Type}

/-- a vertex row whose columns include exactly one `vertex_id`, one `x` and one `y`, each parseable,
decodes to the listed vertex in ANY column order and with ANY other columns between, before or after
them (csv: `strictEnd = false`) -/
theorem decode_vertex_any_column_order (es : List (String × Cell α)) (i : Nat) (x y : α)
    (hi : OneColumn es "vertex_id" Cell.asUsize i) (hx : OneColumn es "x" Cell.asF32 x)
    (hy : OneColumn es "y" Cell.asF32 y) :
    decodeVertex (some (es.map some)) false = .ok { vertexId := i, x := x, y := y } := by
  obtain ⟨rest, hr⟩ := visitEntries_slots es {} i x y (Slot.pending hi) (Slot.pending hx) (Slot.pending hy) (by simp)
  simp [decodeVertex, hr]

theorem decode_vertex_missing_column (es : List (String × Cell α)) (k : String)
    (hk : k = "vertex_id" ∨ k = "x" ∨ k = "y") (hno : ∀ e ∈ es, e.1 ≠ k) (strict : Bool) (v : Vertex α) :
    decodeVertex (some (es.map some)) strict ≠ .ok v := by
  intro h
  unfold decodeVertex at h
  cases hv : visitEntries (es.map some) ({} : VisitState α) with
  | error e => simp [hv] at h
  | ok p =>
    obtain ⟨v', rest⟩ := p
    have hl : ({} : VisitState α).lacks k := hk.imp (fun h => ⟨h, rfl⟩) (Or.imp (fun h => ⟨h, rfl⟩) fun h => ⟨h, rfl⟩)
    exact visitEntries_missing es {} k hl hno v' rest hv

end

/-- a format that insists on the whole map being consumed (serde_json) makes the same decoder depend on
the column order: a bystander AFTER the three columns is an error, the same bystander BEFORE them is not.
(Vertices are read from csv files, where nothing is checked after the visitor returns; recorded as an
observation, not used by the application.) -/
theorem decode_vertex_strict_end_order_dependent_counterexample :
    let c : Cell Nat := ⟨some 7, some 7⟩
    decodeVertex (some [some ("z", c), some ("vertex_id", c), some ("x", c), some ("y", c)]) true = .ok ⟨7, 7, 7⟩ ∧
    decodeVertex (some [some ("vertex_id", c), some ("x", c), some ("y", c), some ("z", c)]) true = .error .trailing ∧
    decodeVertex (some [some ("vertex_id", c), some ("x", c), some ("y", c), some ("z", c)]) false = .ok ⟨7, 7, 7⟩ := by
  decide +kernel

/-! ### the vertex decoder composed with the loader -/

/-- the `Vertex` decoder composed with the loader: a vertex file given as records of (column name, cell) pairs in which
record `k` has exactly one `vertex_id` column parsing to `k`, one `x` and one `y` column, each parseable —
in ANY column order, possibly a different one in every record, with any other columns — decodes to the
listed vertices, so together with an edge file in the documented format it loads to the listed network -/
theorem vertex_file_any_column_order {α : Type} (recs : List (List (String × Cell α))) (vs : List (Vertex α))
    (hlen : recs.length = vs.length)
    (h : ∀ k (h1 : k < recs.length) (h2 : k < vs.length),
      OneColumn recs[k] "vertex_id" Cell.asUsize vs[k].vertexId ∧ OneColumn recs[k] "x" Cell.asF32 vs[k].x ∧
        OneColumn recs[k] "y" Cell.asF32 vs[k].y) :
    recs.map decodeVertexRow = vs.map Row.ok := by
  apply List.ext_getElem
  · simp [hlen]
  · intro k h1 h2
    have k1 : k < recs.length := by simpa using h1
    have k2 : k < vs.length := by simpa using h2
    obtain ⟨hi, hx, hy⟩ := h k k1 k2
    simp only [List.getElem_map, decodeVertexRow,
      decode_vertex_any_column_order recs[k] vs[k].vertexId vs[k].x vs[k].y hi hx hy]

theorem loaded_vertices_any_column_order {α : Type} (es : List (Edge α)) (recs : List (List (String × Cell α)))
    (vs : List (Vertex α)) (el vl : Nat) (nE nV : Option Nat) (hE : nE ≠ none ∨ 1 ≤ el)
    (hV : nV = some vs.length ∨ (nV = none ∧ vl = vs.length + 1))
    (hr : RowIds es) (hb : EndpointsBelow es vs.length) (hv : VertexRowIds vs)
    (hlen : recs.length = vs.length)
    (h : ∀ k (h1 : k < recs.length) (h2 : k < vs.length),
      (∃ a c b, recs[k] = a ++ ("vertex_id", c) :: b ∧ c.asUsize = some vs[k].vertexId ∧
        (∀ e ∈ a, e.1 ≠ "vertex_id") ∧ ∀ e ∈ b, e.1 ≠ "vertex_id") ∧
      (∃ a c b, recs[k] = a ++ ("x", c) :: b ∧ c.asF32 = some vs[k].x ∧ (∀ e ∈ a, e.1 ≠ "x") ∧ ∀ e ∈ b, e.1 ≠ "x") ∧
      (∃ a c b, recs[k] = a ++ ("y", c) :: b ∧ c.asF32 = some vs[k].y ∧ (∀ e ∈ a, e.1 ≠ "y") ∧ ∀ e ∈ b, e.1 ≠ "y")) :
    ∃ g, graphFromFiles ⟨true, el, true, es.map Row.ok⟩ ⟨true, vl, true, recs.map decodeVertexRow⟩ nE nV = .ok g ∧
      Describes g es vs := by
  rw [vertex_file_any_column_order recs vs hlen h]
  exact listed_network_loads es vs el vl nE nV hE hV hr hb hv

/-- with a DUPLICATED column name the decoder is order dependent (the last `x` before the triple is
complete wins): the hypothesis "exactly one column of each name" of `decode_vertex_any_column_order`
cannot be dropped.  A second column named like a required one is accepted silently. -/
theorem decode_vertex_duplicate_column_order_dependent_counterexample :
    let c (n : Nat) : Cell Nat := ⟨some n, some n⟩
    decodeVertex (some [some ("x", c 1), some ("vertex_id", c 0), some ("x", c 2), some ("y", c 5)]) false = .ok ⟨0, 2, 5⟩ ∧
    decodeVertex (some [some ("vertex_id", c 0), some ("x", c 1), some ("y", c 5), some ("x", c 2)]) false = .ok ⟨0, 1, 5⟩ := by
  decide +kernel

/-! ### the adjacency entry under any sequence of inserts (also repeated keys) -/

/-- after any sequence of inserts the keys are exactly the inserted ones, each once -/
theorem adjKeys_foldl_insert (ins : List (Nat × Nat)) (m : AdjMap) (hm : (adjKeys m).Nodup) :
    (adjKeys (ins.foldl (fun m kv => adjInsert kv.1 kv.2 m) m)).Nodup ∧
    ∀ k, k ∈ adjKeys (ins.foldl (fun m kv => adjInsert kv.1 kv.2 m) m) ↔ k ∈ adjKeys m ∨ k ∈ ins.map Prod.fst := by
  induction ins generalizing m with
  | nil => exact ⟨hm, fun k => ⟨Or.inl, fun h => h.elim id (fun h' => nomatch h')⟩⟩
  | cons kv r ih =>
    have hn : (adjKeys (adjInsert kv.1 kv.2 m)).Nodup := by
      rw [adjKeys_adjInsert]
      split
      · exact hm
      · next h => exact List.Nodup.append hm (List.nodup_singleton _) (List.disjoint_singleton.2 h)
    have hmem : ∀ k, k ∈ adjKeys (adjInsert kv.1 kv.2 m) ↔ k ∈ adjKeys m ∨ k = kv.1 := by
      intro k
      rw [adjKeys_adjInsert]
      split
      · next h => exact ⟨Or.inl, fun h' => h'.elim id (fun e => e ▸ h)⟩
      · rw [List.mem_append, List.mem_singleton]
    obtain ⟨h1, h2⟩ := ih (adjInsert kv.1 kv.2 m) hn
    refine ⟨h1, fun k => ?_⟩
    rw [List.foldl_cons, h2 k, hmem, List.map_cons, List.mem_cons, or_assoc]

/-! ### the adjacency entry is C11's specification -/

/-- the abstract adjacency entry of this model and the specification C11 proves the Rust container
against are the same function (so C11's refinement theorems speak about `adjInsert`; the composition
"`Graph` over the real container" is not formalised beyond this equality) -/
theorem adjacency_entry_is_container_spec (k v : Nat) (m : AdjMap) : adjInsert k v m = Spec.insert m k v := by
  induction m with
  | nil => rfl
  | cons p r ih =>
    obtain ⟨k', v'⟩ := p
    by_cases h : k' = k
    · simp [adjInsert, Spec.insert, h]
    · simp [adjInsert, Spec.insert, h, ih]

/-! ### non-vacuity -/

/-- a star: `n` edges leave vertex 0 (ids `0 … n-1`), for any `n` — degrees are unbounded -/
def star (n : Nat) : List (Edge Nat) := (List.range n).map (fun i => ⟨i, 0, i % 3, i + 1⟩)

theorem star_rowIds (n : Nat) : RowIds (star n) := by
  intro i h
  simp [star]

theorem star_endpoints (n : Nat) : EndpointsBelow (star n) 3 := by
  intro e he
  simp only [star, List.mem_map, List.mem_range] at he
  obtain ⟨i, _, rfl⟩ := he
  exact ⟨by simp, Nat.mod_lt _ (by decide)⟩

theorem wVertices_rowIds (n : Nat) : VertexRowIds (wVertices n) := by
  intro i h
  simp [wVertices]

/-- the star of 7 edges over 3 vertices, counts scanned: the load the examples below share -/
theorem star7_loads :
    graphFromFiles ⟨true, 8, true, (star 7).map Row.ok⟩ ⟨true, 4, true, (wVertices 3).map Row.ok⟩ none none =
      .ok (buildGraph (star 7) (wVertices 3) 3) :=
  from_files_ok (star 7) (wVertices 3) 8 4 none none (Or.inr (by decide)) (Or.inr ⟨rfl, rfl⟩)
    (star_rowIds 7) (star_endpoints 7) (wVertices_rowIds 3)

/-- for every `n` there is a listed network with a vertex of out-degree exactly `n`, all of whose
edges are returned -/
theorem degree_unbounded (n : Nat) :
    ((buildGraph (star n) (wVertices 3) 3).outEdges 0) = List.range n := by
  rw [out_edges_eq _ _ _ (star_rowIds n) (star_endpoints n)]
  have : (star n).filter (fun e => decide (e.src = 0)) = star n := by
    rw [List.filter_eq_self]
    intro e he
    simp only [star, List.mem_map, List.mem_range] at he
    obtain ⟨i, _, rfl⟩ := he
    simp
  rw [this, (star_rowIds n).map_eq_range]
  simp [star]

-- the hypotheses of the main theorems are satisfiable with out-degree 7 and in-degree ≥ 2 (past the
-- container's four inline representations), parallel edges (0 → 0 … ) and self loops (edge 0, 3, 6)
example : RowIds (star 7) ∧ EndpointsBelow (star 7) 3 := ⟨star_rowIds 7, star_endpoints 7⟩
example : (buildGraph (star 7) (wVertices 3) 3).outEdges 0 = [0, 1, 2, 3, 4, 5, 6] := by decide +kernel
example : (buildGraph (star 7) (wVertices 3) 3).inEdges 0 = [0, 3, 6] := by decide +kernel
example : (buildGraph (star 7) (wVertices 3) 3).inEdges 1 = [1, 4] := by decide +kernel
example : (buildGraph (star 7) (wVertices 3) 3).getEdge 5 = .ok ⟨5, 0, 2, 6⟩ := by decide +kernel
example : (buildGraph (star 7) (wVertices 3) 3).incidentTripletIds 1 .reverse = .ok [(1, 1, 0), (1, 4, 0)] := by decide +kernel
example : (buildGraph (star 7) (wVertices 3) 3).edgeTriplet 5 = .ok (⟨0, 0, 0⟩, ⟨5, 0, 2, 6⟩, ⟨2, 20, 40⟩) := by decide +kernel
example : ∃ g, graphFromFiles ⟨true, 8, true, (star 7).map Row.ok⟩ ⟨true, 4, true, (wVertices 3).map Row.ok⟩ none none = .ok g ∧
    Describes g (star 7) (wVertices 3) :=
  listed_network_loads (star 7) (wVertices 3) 8 4 none none (Or.inr (by decide)) (Or.inr ⟨rfl, rfl⟩)
    (star_rowIds 7) (star_endpoints 7) (wVertices_rowIds 3)
-- the hypotheses of the rejection theorems are satisfiable
example : ¬ RowIds w1Edges := fun h => absurd (h 0 (by decide)) (by decide)
example : ¬ EndpointsBelow w2Edges 2 := fun h => absurd (h ⟨1, 1, 5, 9⟩ (by simp [w2Edges])).2 (by decide)
example : ¬ EndpointsBelow w8Edges (wVertices 2).length :=
  fun h => absurd (h ⟨1, 1, 2, 9⟩ (by simp [w8Edges])).2 (by decide)
-- a too-large declared count and a scan inflated by a blank line are harmless when no edge reaches
-- beyond the vertex rows: the load succeeds (so `loaded_network_is_listed` is not vacuous there)
example : ∃ g, graphFromFiles ⟨true, 3, true, w1Edges.reverse.map Row.ok⟩ ⟨true, 4, true, (wVertices 2).map Row.ok⟩ none (some 5) = .ok g ∧
    g.adj.length = 5 ∧ g.nVertices = 2 := ⟨_, rfl, by decide +kernel, by decide +kernel⟩
example : ¬ VertexRowIds ([⟨1, 10, 20⟩, ⟨0, 30, 40⟩] : List (Vertex Nat)) := fun h => absurd (h 0 (by decide)) (by decide)
-- a duplicated id at one vertex overwrites in place (the general theorems' `outFold`), it does not append
example : adjKeys (outFold 0 ([⟨0, 0, 1, 7⟩, ⟨0, 0, 2, 9⟩] : List (Edge Nat)) []) = [0] := by decide +kernel
-- the error theorems are not vacuous
example : graphFromFiles (α := Nat) ⟨false, 0, false, []⟩ ⟨true, 1, true, []⟩ none none = .error .io := rfl
example : graphFromFiles (α := Nat) ⟨true, 0, false, []⟩ ⟨true, 1, true, []⟩ none none = .error .dataset := rfl
example : graphFromFiles (α := Nat) ⟨true, 2, true, [.bad]⟩ ⟨true, 1, true, []⟩ none none = .error .csv := rfl

-- the theorems on the decoder, the builder, the tables and the allocation are not vacuous either
-- (1) a vertex row with its columns in the order z, y, vertex_id, name, x
def exRow : List (String × Cell Nat) :=
  [("z", ⟨none, none⟩), ("y", ⟨some 40, some 40⟩), ("vertex_id", ⟨some 3, some 3⟩), ("name", ⟨none, none⟩),
    ("x", ⟨some 12, some 12⟩)]
example : decodeVertex (some (exRow.map some)) false = .ok ⟨3, 12, 40⟩ :=
  decode_vertex_any_column_order exRow 3 12 40
    ⟨[("z", ⟨none, none⟩), ("y", ⟨some 40, some 40⟩)], ⟨some 3, some 3⟩, [("name", ⟨none, none⟩), ("x", ⟨some 12, some 12⟩)],
      rfl, rfl, by decide +kernel, by decide +kernel⟩
    ⟨[("z", ⟨none, none⟩), ("y", ⟨some 40, some 40⟩), ("vertex_id", ⟨some 3, some 3⟩), ("name", ⟨none, none⟩)],
      ⟨some 12, some 12⟩, [], rfl, rfl, by decide +kernel, by decide +kernel⟩
    ⟨[("z", ⟨none, none⟩)], ⟨some 40, some 40⟩,
      [("vertex_id", ⟨some 3, some 3⟩), ("name", ⟨none, none⟩), ("x", ⟨some 12, some 12⟩)], rfl, rfl, by decide +kernel, by decide +kernel⟩
example : decodeVertex (some ((exRow.take 4).map some)) false = .error .incomplete := by decide +kernel
example : decodeVertex (some [some ("vertex_id", (⟨none, some 1⟩ : Cell Nat))]) false = .error .parseId := by decide +kernel
example : decodeVertex (none : Option (List (Option (String × Cell Nat)))) false = .error .notMap := rfl
-- (2) a gzip file cut short / an empty file, with explicit counts
example : graphFromFiles ⟨false, 41, true, (star 7).map Row.ok⟩ ⟨true, 4, true, (wVertices 3).map Row.ok⟩ (some 7) (some 3) =
    .error .csv := rfl
example : graphFromFiles ⟨true, 0, false, ([] : List (Row (Edge Nat)))⟩ ⟨true, 4, true, (wVertices 3).map Row.ok⟩ (some 7) (some 3) =
    .error .csv := rfl
-- a file that is nothing but a header row WITHOUT the required column names (flag false, no records),
-- scanned counts: a load error, not an empty network (W17); WITH them it is an empty network
example : graphFromFiles ⟨true, 1, false, ([] : List (Row (Edge Nat)))⟩ ⟨true, 4, true, (wVertices 3).map Row.ok⟩ none none =
    .error .csv := rfl
example : ∃ g, graphFromFiles ⟨true, 1, true, ([] : List (Row (Edge Nat)))⟩ ⟨true, 4, true, (wVertices 3).map Row.ok⟩ none none =
    .ok g ∧ g.nEdges = 0 ∧ g.nVertices = 3 := ⟨_, rfl, rfl, rfl⟩
-- (3) a Graph value whose fields disagree: edge 0 ends at a vertex that is not there, an adjacency entry
-- names an edge that is not there
def exGraph : Graph Nat := { adj := [[(0, 1), (5, 1)]], rev := [], edges := [⟨0, 0, 4, 9⟩], vertices := [⟨0, 1, 2⟩] }
example : exGraph.edgeTriplet 0 = .error (.vertexNotFound 4) := by decide +kernel
example : exGraph.incidentTripletIds 0 .forward = .error (.edgeNotFound 5) := by decide +kernel
example : exGraph.incidentTripletAttributes 0 .forward = .error (.edgeNotFound 5) := by decide +kernel
example : exGraph.inEdges 0 = [] ∧ exGraph.outEdges 0 = [0, 5] := by decide +kernel
example : (buildGraph (star 7) (wVertices 3) 3).incidentTripletAttributes 1 .reverse =
    .ok [(⟨1, 10, 20⟩, ⟨1, 0, 1, 2⟩, ⟨0, 0, 0⟩), (⟨1, 10, 20⟩, ⟨4, 0, 1, 5⟩, ⟨0, 0, 0⟩)] := by decide +kernel
-- (4) a configuration section that builds, and three that do not
deriving instance DecidableEq for Graph
def exParams (extra : List (String × Json)) : Json :=
  .obj ([("vertex_list_input_file", .str "v.csv"), ("edge_list_input_file", .str "e.csv.gz")] ++ extra)
example : ∃ g, graphBuilderBuild (exParams [("verbose", .bool true), ("comment", .null)]) true true
    ⟨true, 8, true, (star 7).map Row.ok⟩ ⟨true, 4, true, (wVertices 3).map Row.ok⟩ = .ok g ∧ g.nEdges = 7 :=
  ⟨buildGraph (star 7) (wVertices 3) 3, by decide +kernel, rfl⟩
example : graphBuilderBuild (α := Nat) (exParams [("n_edges", .str "7")]) true true ⟨true, 8, true, []⟩ ⟨true, 4, true, []⟩ =
    .error .serde := by decide +kernel
example : graphBuilderBuild (α := Nat) (exParams []) true false ⟨true, 8, true, []⟩ ⟨true, 4, true, []⟩ =
    .error (.fileNotFound "v.csv" "vertex_list_input_file" "graph") := by decide +kernel
example : graphBuilderBuild (α := Nat) (.arr []) true true ⟨true, 8, true, []⟩ ⟨true, 4, true, []⟩ =
    .error (.expectedField "edge_list_input_file" "graph") := by decide +kernel
example : graphBuilderBuild (α := Nat) (exParams []) true true ⟨false, 0, false, []⟩ ⟨true, 4, true, []⟩ =
    .error (.graph .io) := by decide +kernel

-- (5) per-edge tables: the star network of 7 edges with a speed file of 7 lines — every hypothesis of
-- `loaded_network_table_lookup` instantiated — and with one of 5 lines
def exSpeedFile : List (Row Nat) := [.ok 30, .ok 50, .ok 50, .ok 90, .ok 110, .ok 30, .ok 70]
example : ∃ ed x, (buildGraph (star 7) (wVertices 3) 3).getEdge 4 = .ok ed ∧ ed.edgeId = 4 ∧
    ((star 7).map Row.ok)[4]? = some (.ok ed) ∧ tableGet [30, 50, 50, 90, 110, 30, 70] ed.edgeId = .ok x ∧
    exSpeedFile[4]? = some (.ok x) :=
  loaded_network_table_lookup ⟨true, 8, true, (star 7).map Row.ok⟩ ⟨true, 4, true, (wVertices 3).map Row.ok⟩ none none _
    star7_loads exSpeedFile [30, 50, 50, 90, 110, 30, 70] rfl rfl 4 (by decide)
example : ∃ ed, (buildGraph (star 7) (wVertices 3) 3).getEdge 5 = .ok ed ∧ ed.edgeId = 5 ∧
    tableGet [30, 50, 50, 90, 110] ed.edgeId = .error (.missing 5) :=
  table_shorter_than_network_lookup_fails ⟨true, 8, true, (star 7).map Row.ok⟩ ⟨true, 4, true, (wVertices 3).map Row.ok⟩ none none _
    star7_loads [30, 50, 50, 90, 110] (by decide)
-- (6) the same files under a scanned vertex count (3) and a declared one that is too large (5): both
-- load, the tables differ in length, the accessors do not
example : ∃ g1 g2, graphFromFiles ⟨true, 8, true, (star 7).map Row.ok⟩ ⟨true, 4, true, (wVertices 3).map Row.ok⟩ none none = .ok g1 ∧
    graphFromFiles ⟨true, 8, true, (star 7).map Row.ok⟩ ⟨true, 4, true, (wVertices 3).map Row.ok⟩ (some 99) (some 5) = .ok g2 ∧
    g1.adj.length = 3 ∧ g2.adj.length = 5 ∧ ∀ v, g1.outEdges v = g2.outEdges v ∧ g1.inEdges v = g2.inEdges v :=
  ⟨buildGraph (star 7) (wVertices 3) 3, buildGraph (star 7) (wVertices 3) 5, rfl, rfl, by decide +kernel, by decide +kernel,
    (counts_do_not_change_accessors ⟨true, 8, true, (star 7).map Row.ok⟩ ⟨true, 4, true, (wVertices 3).map Row.ok⟩
      none none (some 99) (some 5) _ _ rfl rfl).2.2⟩
-- (7) a declared vertex count beyond the allocation limit, and one below it
example : graphFromFilesAlloc (α := Nat) 128102389400760775 ⟨true, 8, true, (star 7).map Row.ok⟩ ⟨true, 4, true, (wVertices 3).map Row.ok⟩
    (some 7) (some 18446744073709551615) = .error .dataset :=
  (alloc_limit _ _ _ _ _ 7 18446744073709551615 rfl rfl).1 (by decide)
-- (8) a vertex file whose two records have different column orders and a bystander column
def exRecs : List (List (String × Cell Nat)) :=
  [[("y", ⟨some 0, some 0⟩), ("vertex_id", ⟨some 0, some 0⟩), ("x", ⟨some 0, some 0⟩)],
   [("vertex_id", ⟨some 1, some 1⟩), ("name", ⟨none, none⟩), ("x", ⟨some 10, some 10⟩), ("y", ⟨some 20, some 20⟩)]]
example : exRecs.map decodeVertexRow = (wVertices 2).map Row.ok :=
  vertex_file_any_column_order exRecs (wVertices 2) rfl (by
    intro k h1 h2
    match k, h1, h2 with
    | 0, _, _ =>
      exact ⟨⟨[("y", ⟨some 0, some 0⟩)], ⟨some 0, some 0⟩, [("x", ⟨some 0, some 0⟩)], rfl, rfl, by decide +kernel, by decide +kernel⟩,
        ⟨[("y", ⟨some 0, some 0⟩), ("vertex_id", ⟨some 0, some 0⟩)], ⟨some 0, some 0⟩, [], rfl, rfl, by decide +kernel, by decide +kernel⟩,
        ⟨[], ⟨some 0, some 0⟩, [("vertex_id", ⟨some 0, some 0⟩), ("x", ⟨some 0, some 0⟩)], rfl, rfl, by decide +kernel, by decide +kernel⟩⟩
    | 1, _, _ =>
      exact ⟨⟨[], ⟨some 1, some 1⟩, [("name", ⟨none, none⟩), ("x", ⟨some 10, some 10⟩), ("y", ⟨some 20, some 20⟩)], rfl, rfl, by decide +kernel, by decide +kernel⟩,
        ⟨[("vertex_id", ⟨some 1, some 1⟩), ("name", ⟨none, none⟩)], ⟨some 10, some 10⟩, [("y", ⟨some 20, some 20⟩)], rfl, rfl, by decide +kernel, by decide +kernel⟩,
        ⟨[("vertex_id", ⟨some 1, some 1⟩), ("name", ⟨none, none⟩), ("x", ⟨some 10, some 10⟩)], ⟨some 20, some 20⟩, [], rfl, rfl, by decide +kernel, by decide +kernel⟩⟩
    | k + 2, h1, _ => exact absurd h1 (by simp [exRecs]))

end C15
end Compass

namespace Compass
namespace C15
open Src

/-! ### Source decision ties

What these theorems are for is said in `Props/C01.lean` under the same heading. -/

theorem src_loader_endpoints_in_range {α : Type} (es : List (Edge α)) (n : Nat) :
    endpointsWithin es n =
      es.all (fun e => (loader_src_in_range.nat e.src n == some false) &&
                       (loader_dst_in_range.nat e.dst n == some false)) := by
  have hge : ∀ a : Nat, (some (decide (a ≥ n)) == some false) = decide (a < n) := fun a => by
    by_cases h : a < n
    · rw [decide_eq_true h, decide_eq_false (Nat.not_le.2 h)]; rfl
    · rw [decide_eq_false h, decide_eq_true (Nat.not_lt.1 h)]; rfl
  simp only [endpointsWithin, loader_src_in_range, loader_dst_in_range, Rel.nat, hge]

end C15
end Compass
