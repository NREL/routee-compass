/-
C06 — one response per query, independent of parallelism, order and schedule.

Model: `Model/Batch.lean` (`CompassApp::run` with chunking, `apply_input_plugins` over the grid-search plugin
of C17, the inject plugin, the load-balancer plugin and table plugins for the r-tree matchers, partition into
processed queries / error responses, `apply_load_balancing_policy`, per-bin execution, both persistence
policies, workers as interleavings of atomic steps), tied to the code by `harness/src/c06.rs`: the real
`app.run` on generated batches against `runO`, response by response, in the order returned.  The model follows
/repo with its repairs 93abeee (chunk size ≥ 1), 1eb0c7f (a weight estimate that is not a number), 6b89952 (a query
that is not an object), 755333a (an invariant error names the query), 80a5c9a (the discard policy propagates a
failed write).

The single-query function (`run_single_query`) is the parameter `respond`; the theorems hold for every
`respond`, every plugin list, every weight arithmetic `W` (in particular IEEE doubles), every batch.

What is proved in full: load balancing is a partition (`balance_partition`); chunking is invisible
(`chunking_invisible`); the responses of a batch are, as a multiset, the union of what each query gives on its
own (`run_multiset`, `run_equals_alone_runs`), hence independent of parallelism (configured or per run), of
the weights, of the batch order (`run_order_independent`), of the worker schedule (`sched_independent`); a
query that fails input processing contributes exactly its own error response and changes nothing else
(`failing_query_contributes_its_error`); both persistence policies (`run_multiset`, discard ⇒ exactly the
input-stage error responses).

Answering and echoing (the harness keeps witnesses under the oracle
keys `pipeline/request-not-echoed`, `pipeline/query-unanswered`): a query that is not a JSON object is answered
with an error response that echoes it (`non_object_query_echoed`); every query is answered
(`every_query_answered_partial`: for plugins that keep objects); every response carries the request it answers
(`response_carries_request`).

Where the code still deviates from the property (findings, each with a counterexample on the faithful model):
* `pipeline/sibling-responses-lost` — `json_array_op` stops at the first failing element: when grid search
  has expanded a query into n and a later plugin fails on one of them, the query yields ONE error response and
  its n−1 siblings are lost (`one_response_per_expanded_query_partial`, `answer_is_itemwise_partial`,
  `sibling_responses_lost_counterexample`); repairing it needs `json_array_op` to return several results
  (an API change);
  the same holds when a (user-defined) plugin breaks the invariant on one expanded query
  (`broken_child_takes_siblings_counterexample`) — the error response names the original query
  (`invariant_error_carries_query`, oracle key `pipeline/invariant-error-loses-request`);
* the prediction cache is the one piece of shared mutable state: transparent when no two inputs with different
  predictions share a rounded key (`cache_transparent`, `rounded_cache_transparent`), and not in general: one
  collision that changes the responses is `cache_collision_counterexample` (the collision on the real record is
  C08's finding `predict/cache-rounding-collision`).

Plugin configurations include user-defined plugins (`Plugin.userSplit`, `userFailOn`, `userBreaker`; the harness
pushes real implementations of them into `CompassApp.input_plugins`): a plugin that expands only SOME of the
queries leaves a state that mixes plain queries and nested arrays, which is de-nested element by element
(`flatten_denests_mixed_states`, `plugin_step_concatenates`).

Entry points (`Model/BatchEntry.lean`): `get_queries` (`get_queries_spec`, `call_value_spec`), the per-run
configuration (`run_config_without_keys`, `invalid_run_config_fails_call`), the call as `run`
(`call_is_run`, `call_multiset`), the response sink (`sink_transparent`, `sink_build_errors`,
`failing_sink_fails_call` — under both persistence policies; `discard_policy_with_failing_sink`),
`CompassAppBindings::run_queries` (`run_queries_spec`), the load-balancer builder
(`load_balancer_builder_spec`) and the order of the build stages (`build_reports_first_failing_stage`).

The command-line entry (`Model/Cli.lean`): chunking of the query file is a partition of its lines
(`cli_chunks_partition`, `cli_every_parsable_line_in_one_batch`, `cli_chunking_ignores_line_content`,
`cli_unparsable_line_in_chunk`), one run per chunk (`cli_newline_json_all_chunks_run`, `cli_run_json_spec`), and the
responses of all runs together are the per-query answers of the parsable lines (`cli_one_response_per_parsable_line`).

The theorems about answering and echoing take the hypothesis that every plugin maps an object to an object or
a non-empty array of objects (`ObjOp`): proved for grid search, inject, the load balancer and the user-defined
split / fail-on-marker plugins of the harness (`builtin_plugins_keep_objects`,
`user_split_and_fail_keep_objects`), false of the user-defined invariant breaker
(`user_breaker_does_not_keep_objects`); `error_echoes_request` needs no hypothesis; for a recorded table
plugin `ObjOp` is a property of the recorded data (true of the r-tree matchers and the haversine load balancer,
which only insert fields).

Not a finding (configuration, outside the quantifier `parallelism 1..#cores`): parallelism 0 makes
`apply_load_balancing_policy` fail the whole batch (`parallelism_zero_fails_batch`).

Assumptions of the batch-level theorems, named: (1) they are stated over `runO` — the per-run configuration
already parsed and `ResponseSink::None`; `call_is_run` extends them to any sink that can be built and whose
writes succeed, `call_multiset` restates `run_multiset` over the model with configuration parsing and sinks, and
with a sink whose writes fail the call is an `Err` under both policies (`failing_sink_fails_call`);
(2) `respond` is a total pure function — everything inside `run_single_query` is outside this model;
(3) "each response carries the request" for search-stage responses is the premise `hr` of
`response_carries_request`, derived in `single_query_echoes_request` from a model of the packaging of
`run_single_query` (`create_initial_output`, `package_error`, output plugins that write other keys) and checked
on every response of the differential run (oracle key `response/request-not-echoed-by-search`);
(4) `sched_independent` and `cache_transparent` hold by construction of the model (pure `respond`, atomic steps;
per-step transparency as the hypothesis).

Partial in this sense: real thread interleavings are only sampled by the harness; the model has atomic
"run the next query of my bin" steps; purity of `respond` rests on Rust's aliasing rules (trusted).
-/
import Compass.Proofs.Sched
import Compass.Proofs.BatchEntry
import Compass.Proofs.Cli

namespace Compass
namespace C06
open Batch
open MultiSet (Outcome)
open GridSearch (noRequest)

/-! ## chunking of the input stage -/

/-- `plugin_chunk_size ≥ 1` whatever the batch size and the configured parallelism (0 included): the
`.max(1)` guard -/
theorem chunk_size_positive (len selfPar : Nat) : 1 ≤ chunkSize len selfPar :=
  chunkSize_pos len selfPar

/-- the chunks, joined in order, are the batch: every query is in exactly one chunk -/
theorem chunks_partition {α : Type} (n : Nat) (hn : 1 ≤ n) (l : List α) : (chunks n l).flatten = l :=
  chunks_flatten n hn l

/-- **chunking is invisible**: `run` is the function of the whole batch that partitions it into processed
queries and error responses, whatever `self.parallelism` (which only sets the chunk size) is -/
theorem chunking_invisible {α : Type} (W : WOps α) (cfg : Config) (respond : Json → Json)
    (batch : List Json) (selfPar' : Nat) :
    runO W { cfg with selfPar := selfPar', runPar := some cfg.parallelism } respond batch
      = runO W cfg respond batch := by
  rw [runO_eq, runO_eq]
  rfl

example : chunks 2 [1, 2, 3, 4, 5] = [[1, 2], [3, 4], [5]] := by decide +kernel
example : chunkSize 5 2 = 3 ∧ chunkSize 0 2 = 1 ∧ chunkSize 5 16 = 1 ∧ chunkSize 0 0 = 1 := by decide +kernel

/-! ## load balancing -/

/-- **Load balancing is a partition.**  For every parallelism `p ≥ 1`, every weight arithmetic and every
weight estimates (numbers, other JSON, missing), `apply_load_balancing_policy` neither fails nor panics, makes
`min p n` bins for `n` queries (never more bins than queries: `parallelism.min(queries.len())`, so that a huge
`p` is not allocated), and the bins joined are a permutation of the queries: every query is in exactly one bin. -/
theorem balance_partition {α : Type} (W : WOps α) (p : Nat) (hp : 1 ≤ p) (qs : List Json) :
    ∃ bins, balanceO W p qs = .ok (.ok bins) ∧ bins.flatten.Perm qs ∧
      (qs ≠ [] → bins.length = min p qs.length) := by
  rcases balanceO_cases W p qs with ⟨h0, _⟩ | ⟨_, bins, h1, h2, _, h3⟩
  · omega
  · exact ⟨bins, h1, h2, h3⟩

/-- the bin chosen is always an existing one -/
theorem min_bin_in_range {α : Type} (W : WOps α) (totals : List α) (i : Nat)
    (h : minBin W totals = some i) : i < totals.length :=
  minBin_lt W h

/-- a weight estimate that is not a number counts as the default weight and does not fail the batch -/
theorem non_numeric_weight_is_default {α : Type} (W : WOps α) (kvs : List (String × Json)) (v : Json)
    (hv : v.isNumber = false) (h : Json.lookup kvs weightKey = some v) :
    weightOf W (.obj kvs) = W.default := by
  cases v <;> simp_all [weightOf, Json.get?, Json.isNumber]

/-- parallelism 0 (a configuration error, outside the property's quantifier): `Err` for the whole batch as
soon as one query passes input processing — never a panic -/
theorem parallelism_zero_fails_batch {α : Type} (W : WOps α) (cfg : Config) (respond : Json → Json)
    (batch : List Json) (h0 : cfg.parallelism = 0) (hq : processed cfg.plugins batch ≠ []) :
    runO W cfg respond batch = .ok (.error .minBinEmpty) :=
  (runO_error_iff W cfg respond batch _).mpr ⟨h0, hq⟩

-- weights as natural numbers, and a query `{"i": i, "query_weight_estimate": w}`, for the examples
def natOps : WOps Nat := { zero := 0, add := (· + ·), lt := fun a b => decide (a < b), ofBits := id, default := 1 }
def wq (i w : Nat) : Json := .obj [("i", .num "" i), (weightKey, .num "" w)]

-- non-vacuity: the repository's "cycling" example 1,4,1,2,… over 4 bins gives its documented layout
example : (match balanceO natOps 4 ((List.range 12).map fun i => wq i ([1, 4, 1, 2].getD (i % 4) 0)) with
    | .ok (.ok bins) => bins.map (fun b => b.map fun q => (q.get? "i").bind Json.asF64Bits?)
    | _ => [])
    = [[some 0, some 4, some 6, some 8, some 9], [some 1, some 10], [some 2, some 5],
       [some 3, some 7, some 11]] := by decide +kernel

/-! ## the batch as a multiset -/

/-- **The responses of a batch** (over `runO`: assumption (1) of the header).  For every batch, every plugin list, every parallelism `≥ 1` (configured or
per run), every weight arithmetic: `run` returns — never an `Err`, never a panic — a list that is a permutation
of the per-query answers `⨄_q answer q` (the answers to the expanded queries of `q`, or `q`'s error response);
under the discard policy exactly the input-stage error responses. -/
theorem run_multiset {α : Type} (W : WOps α) (cfg : Config) (respond : Json → Json) (batch : List Json)
    (hp : 1 ≤ cfg.parallelism) :
    ∃ out, runO W cfg respond batch = .ok (.ok out) ∧
      out.Perm (if cfg.persist then answers cfg.plugins respond batch
                else answersErr cfg.plugins batch) := by
  rcases runO_cases W cfg respond batch with ⟨h0, _⟩ | ⟨_, h⟩
  · omega
  · exact h

/-- **Independent of the parallelism setting and of the load-balancing assignment**: two runs of the same
batch under any two parallelisms `≥ 1` (configured, per run) and any two weight arithmetics return the same
multiset of responses -/
theorem run_parallelism_independent {α β : Type} (W : WOps α) (W' : WOps β) (cfg cfg' : Config)
    (respond : Json → Json) (batch : List Json) (hpl : cfg'.plugins = cfg.plugins)
    (hpe : cfg'.persist = cfg.persist) (hp : 1 ≤ cfg.parallelism) (hp' : 1 ≤ cfg'.parallelism) :
    ∃ out out', runO W cfg respond batch = .ok (.ok out) ∧ runO W' cfg' respond batch = .ok (.ok out') ∧
      out.Perm out' := by
  obtain ⟨out, h1, h2⟩ := run_multiset W cfg respond batch hp
  obtain ⟨out', h1', h2'⟩ := run_multiset W' cfg' respond batch hp'
  rw [hpl, hpe] at h2'
  exact ⟨out, out', h1, h1', h2.trans h2'.symm⟩

/-- **Independent of the order of the batch** -/
theorem run_order_independent {α : Type} (W : WOps α) (cfg : Config) (respond : Json → Json)
    (batch batch' : List Json) (hb : batch.Perm batch') (hp : 1 ≤ cfg.parallelism) :
    ∃ out out', runO W cfg respond batch = .ok (.ok out) ∧ runO W cfg respond batch' = .ok (.ok out') ∧
      out.Perm out' := by
  obtain ⟨out, h1, h2⟩ := run_multiset W cfg respond batch hp
  obtain ⟨out', h1', h2'⟩ := run_multiset W cfg respond batch' hp
  rw [ite_answers_eq_flatMap] at h2 h2'
  exact ⟨out, out', h1, h1', h2.trans ((hb.flatMap_right _).trans h2'.symm)⟩

/-- **Equal to what each query returns when run alone**: there is a function `alone` giving the result of
`run` on each single-query batch, and the batch's responses are a permutation of `⨄_q alone q` -/
theorem run_equals_alone_runs {α : Type} (W : WOps α) (cfg : Config) (respond : Json → Json)
    (batch : List Json) (hp : 1 ≤ cfg.parallelism) :
    ∃ (alone : Json → List Json) (out : List Json),
      (∀ q, runO W cfg respond [q] = .ok (.ok (alone q))) ∧
      runO W cfg respond batch = .ok (.ok out) ∧ out.Perm (batch.flatMap alone) := by
  choose alone ha using fun q => run_multiset W cfg respond [q] hp
  obtain ⟨out, h1, h2⟩ := run_multiset W cfg respond batch hp
  refine ⟨alone, out, fun q => (ha q).1, h1, h2.trans ?_⟩
  rw [ite_answers_eq_flatMap]
  refine List.Perm.flatMap_left _ fun q _ => ?_
  have := (ha q).2
  rw [ite_answers_eq_flatMap, List.flatMap_cons, List.flatMap_nil, List.append_nil] at this
  exact this.symm

/-- **A failing query becomes its own error response and changes no other response**: the per-query answers
of `pre ++ q :: post` are those of `pre`, then `q`'s error response, then those of `post` -/
theorem failing_query_contributes_its_error (plugins : List Plugin) (respond : Json → Json)
    (pre post : List Json) (q e : Json) (h : prepT plugins q = .error e) :
    answers plugins respond (pre ++ q :: post)
      = answers plugins respond pre ++ e :: answers plugins respond post := by
  rw [answers_append, answers_cons, answer_of_error respond h]
  rfl

/-! ## answering and echoing: every query gets a response, every response carries its request -/

/-- every `wellBehaved` plugin — grid search, inject (both modes), the custom load balancers, the user-defined
split and fail-on-marker plugins; not a recorded table, not the invariant breaker — maps an object to an object or
to a non-empty array of objects -/
theorem builtin_plugins_keep_objects (p : Plugin) (hp : p.wellBehaved = true) : ObjOp (processT p) :=
  processT_objOp p hp

/-- … in particular the user-defined split plugin (a query with a non-empty array under `key` becomes its
children, any other query is left alone) and the user-defined plugin that fails on a marker key -/
theorem user_split_and_fail_keep_objects (key : String) :
    ObjOp (processT (.userSplit key)) ∧ ObjOp (processT (.userFailOn key)) :=
  ⟨builtin_plugins_keep_objects _ rfl, builtin_plugins_keep_objects _ rfl⟩

/-- the hypothesis is not empty talk: the user-defined invariant breaker does **not** satisfy it (a scalar, an
empty array, an array nested two levels deep) -/
theorem user_breaker_does_not_keep_objects (key : String) : ¬ ObjOp (processT (.userBreaker key)) := by
  intro h
  have := h (.obj [(key, .str "scalar")]) seven rfl (by simp [processT, userT, Json.get?, Json.lookup])
  rcases this with h1 | ⟨xs, h1, _⟩
  · simp [seven, Json.isObject] at h1
  · simp [seven] at h1

/-- **A query that is not a JSON object is answered with an error response that echoes it**, whatever the
plugins: an array is not split into several queries, `[]` is not left without a response, and the
request is the query, not the placeholder -/
theorem non_object_query_echoed (plugins : List Plugin) (respond : Json → Json) (q : Json)
    (h : q.isObject = false) :
    prepT plugins q = .error (.obj [("request", q), ("error", .str "UnexpectedQueryStructure")]) ∧
    answer plugins respond q = [.obj [("request", q), ("error", .str "UnexpectedQueryStructure")]] := by
  have := prepT_non_object plugins q h
  exact ⟨this, answer_of_error respond this⟩

/-- **Every query is answered** (`_partial`: hypothesis `hw`, every plugin maps an object to an object or a
non-empty array of objects — false of a plugin that answers `[]`, `C12.table_plugin_can_erase_a_query_counterexample`):
whatever JSON value is offered as a query, it gets at least one response
(its expanded queries' responses, or one error response) -/
theorem every_query_answered_partial (plugins : List Plugin) (hw : ∀ p ∈ plugins, ObjOp (processT p))
    (respond : Json → Json) (q : Json) : answer plugins respond q ≠ [] := by
  cases h : prepT plugins q with
  | error e => rw [answer_of_error respond h]; exact List.cons_ne_nil _ _
  | ok qs => rw [answer_of_ok respond h]; simpa using (prepT_ok_objects hw h).1

/-- **What an error response of the input stage carries** — for every plugin list, user-defined and
invariant-breaking plugins included.  Either the query is not an object and is echoed verbatim; or some plugin
`p` failed on a query `x` of the state the plugins before it produced from `q` (`q` itself for the first plugin;
an expanded / augmented query later) and the request is `x` as `p` left it (or the original query, should that
be the literal placeholder object); or a plugin left something that is not an object and the request is the
original query, not the placeholder `{"error":"unable to display query"}`. -/
theorem error_echoes_request (plugins : List Plugin) (q e : Json) (h : prepT plugins q = .error e) :
    (q.isObject = false ∧ e = .obj [("request", q), ("error", .str "UnexpectedQueryStructure")]) ∨
    (∃ pre p post xs x pe req, plugins = pre ++ p :: post ∧
      GridSearch.applyOps (pre.map processT) (.arr [q]) = .ok (.arr xs) ∧ x ∈ xs ∧
      processT p x = .error pe ∧
      e = .obj [("request", req), ("error", .str pe.kind)] ∧ (req = pe.left.getD x ∨ req = q)) ∨
    (q.isObject = true ∧ e = .obj [("request", q), ("error", .str invariantKind)]) := by
  rcases prepT_cases plugins q with ⟨ho, h'⟩ | ⟨_, _, _, _, h'⟩ | ⟨ho, _, _, _, h'⟩ | ⟨_, pe, ha, h'⟩
  · rw [h'] at h; cases h; exact Or.inl ⟨ho, rfl⟩
  · rw [h'] at h; cases h
  · rw [h'] at h; cases h; exact Or.inr (Or.inr ⟨ho, rfl⟩)
  · rw [h'] at h
    cases h
    -- the plugin stage failed: on some query `x` of the state the plugins before `p` made
    obtain ⟨pre', op, post', xs, x, pe', h1, h2, h3, h4, rfl⟩ := applyOps_error _ _ pe ha
    obtain ⟨pre, rest, rfl, rfl, hrest⟩ := List.map_eq_append_iff.mp h1
    obtain ⟨p, post, rfl, rfl, _⟩ := List.map_eq_cons_iff.mp hrest
    obtain ⟨req, hreq, hor⟩ := fixRequest_plugin_error q x pe'
    exact Or.inr (Or.inl ⟨pre, p, post, xs, x, pe', req, rfl, h2, h3, h4, hreq, hor⟩)

/-- an error response has the shape `{"request": …, "error": <kind>}` -/
theorem error_response_shape (plugins : List Plugin) (q e : Json) (h : prepT plugins q = .error e) :
    ∃ req kind, e = .obj [("request", req), ("error", .str kind)] := by
  rcases error_echoes_request plugins q e h with
    ⟨_, rfl⟩ | ⟨_, _, _, _, _, _, _, _, _, _, _, rfl, _⟩ | ⟨_, rfl⟩
  · exact ⟨_, _, rfl⟩
  · exact ⟨_, _, rfl⟩
  · exact ⟨_, _, rfl⟩

/-- **Each response carries the request it answers**, under the PREMISE `hr` that the single-query function
echoes its argument (`single_query_echoes_request` derives it from the packaging of `run_single_query`; it is
an assumption about `respond`, not a consequence of the batch model): a response is the answer to an expanded
query `e` and carries `e`, or it is the error response characterised by `error_echoes_request` -/
theorem response_carries_request (plugins : List Plugin) (respond : Json → Json)
    (hr : ∀ q, (respond q).get? "request" = some q) (q r : Json)
    (h : r ∈ answer plugins respond q) :
    (∃ qs e, prepT plugins q = .ok qs ∧ e ∈ qs ∧ r = respond e ∧ r.get? "request" = some e) ∨
    (prepT plugins q = .error r ∧ ∃ req kind, r = .obj [("request", req), ("error", .str kind)] ∧
      r.get? "request" = some req) := by
  cases hp : prepT plugins q with
  | ok qs =>
    rw [answer_of_ok respond hp, List.mem_map] at h
    obtain ⟨e, he, rfl⟩ := h
    exact Or.inl ⟨qs, e, rfl, he, rfl, hr e⟩
  | error e =>
    rw [answer_of_error respond hp, List.mem_singleton] at h
    subst h
    obtain ⟨req, kind, rfl⟩ := error_response_shape plugins q r hp
    exact Or.inr ⟨rfl, req, kind, rfl, by simp [Json.get?, Json.lookup]⟩

/-- **The search-stage responses carry their request — from the packaging of `run_single_query`**:
`create_initial_output` puts the request under `request` (a failed search: `package_error(request, e)`), every
output plugin either fails — `package_error(request, e)` again — or returns the next output, and the response
carries the request provided no output plugin removes or replaces the `request` field (`KeepsRequest`; writing
any other key does: `output_plugin_writing_another_key_keeps_request` — which is all the summary, traversal and
uuid plugins do).  This discharges the premise `hr` of `response_carries_request` for the modelled packaging;
that the real plugins only write other keys is read off the code and checked on every response of the
differential run (oracle key `response/request-not-echoed-by-search`). -/
theorem single_query_echoes_request (search : Json → Option String)
    (outPlugins : List (Json → Json → Except String Json)) (hk : ∀ p ∈ outPlugins, KeepsRequest p)
    (q : Json) : (singleQuery search outPlugins q).get? "request" = some q := by
  unfold singleQuery
  cases search q with
  | some e => simp [Json.get?, Json.lookup]
  | none => exact applyOut_request outPlugins q hk _ rfl

theorem output_plugin_writing_another_key_keeps_request (key : String) (hk : key ≠ "request")
    (f : Json → Json → Json) :
    KeepsRequest (fun q out => match out with
      | .obj kvs => .ok (.obj (Json.insertKv kvs key (f q out)))
      | _ => .error "output is not an object") := by
  intro q out out' h hr
  cases out with
  | obj kvs =>
    simp only [Except.ok.injEq] at h
    subst h
    simp only [Json.get?] at hr ⊢
    rw [Json.lookup_insertKv]
    simp [Ne.symm hk, hr]
  | _ => simp at h

/-- … hence, with `respond` the packaged single-query function, the same conclusion without any premise on
`respond` (the premise left is `hk`: every output plugin keeps the `request` key): the response answers an
expanded query `e` of `q` and carries exactly `e`, or it is the error response of `q` -/
theorem response_carries_request_packaged (plugins : List Plugin) (search : Json → Option String)
    (outPlugins : List (Json → Json → Except String Json)) (hk : ∀ p ∈ outPlugins, KeepsRequest p)
    (q r : Json) (h : r ∈ answer plugins (singleQuery search outPlugins) q) :
    (∃ qs e, prepT plugins q = .ok qs ∧ e ∈ qs ∧ r = singleQuery search outPlugins e ∧
      r.get? "request" = some e) ∨
    (prepT plugins q = .error r ∧ ∃ req kind, r = .obj [("request", req), ("error", .str kind)] ∧
      r.get? "request" = some req) :=
  response_carries_request plugins (singleQuery search outPlugins)
    (single_query_echoes_request search outPlugins hk) q r h

-- non-vacuity: the empty array is echoed, under any plugins
example (respond : Json → Json) : answer [.gridSearch] respond (.arr [])
    = [.obj [("request", .arr []), ("error", .str "UnexpectedQueryStructure")]] :=
  (non_object_query_echoed _ respond _ rfl).2

/-! ### mixed query states, and plugins that break the invariant -/

/-- **A query state that mixes plain queries and nested arrays is de-nested element by element**
(`json_array_flatten_in_place`): `[a, [b₁, b₂], c]` becomes `[a, b₁, b₂, c]`.  This is the state a plugin
leaves that expands only SOME of the queries an earlier plugin produced. -/
theorem flatten_denests_mixed_states {ε : Type} (rs : List Json) :
    (GridSearch.flattenInPlace (.arr rs) : Except (GridSearch.PipeErr ε) Json)
      = .ok (.arr (rs.flatMap expand1)) := by
  rw [GridSearch.flattenInPlace_arr, flatten1_eq_flatMap]

/-- every plugin step: the new state is the concatenation, in order, of what each query became (its children
if it became an array, itself otherwise) -/
theorem plugin_step_concatenates {ε : Type} (op : Json → Except ε Json) (items rs : List Json)
    (h : GridSearch.mapOp op items = .ok rs) :
    GridSearch.jsonArrayOp op (.arr items) = .ok (.arr (rs.flatMap expand1)) := by
  rw [GridSearch.jsonArrayOp_of_mapOp_ok h, flatten1_eq_flatMap]

def mixQuery : Json :=
  .obj [("o", .num "0" 0),
        ("alts", .arr [.obj [("n", .str "a")],
                       .obj [("n", .str "b"), ("more", .arr [.obj [("d", .num "1" 0)], .obj [("d", .num "2" 0)]])],
                       .obj [("n", .str "c")]])]

-- non-vacuity: a first split makes three children, the second split expands only the middle one — a mixed
-- state `[a, [b₁, b₂], c]` — and all four expanded queries are answered, in order
example (respond : Json → Json) :
    answer [.userSplit "alts", .userSplit "more"] respond mixQuery
      = [respond (.obj [("o", .num "0" 0), ("n", .str "a")]),
         respond (.obj [("o", .num "0" 0), ("n", .str "b"), ("d", .num "1" 0)]),
         respond (.obj [("o", .num "0" 0), ("n", .str "b"), ("d", .num "2" 0)]),
         respond (.obj [("o", .num "0" 0), ("n", .str "c")])] := by
  rfl

/-- **A plugin-broken invariant is answered with the original query as its request** (oracle key
`pipeline/invariant-error-loses-request`): whenever the plugin stage succeeds but
leaves something that is not an object, the query gets exactly one response, `{"request": q, "error":
<invariant>}` -/
theorem invariant_error_carries_query (plugins : List Plugin) (respond : Json → Json) (q : Json)
    (final : List Json) (ho : q.isObject = true)
    (hs : GridSearch.applyOps (plugins.map processT) (.arr [q]) = .ok (.arr final))
    (hb : final.all Json.isObject = false) :
    answer plugins respond q = [.obj [("request", q), ("error", .str invariantKind)]] := by
  rw [answer_of_error respond ((prepT_of_applyOps_ok ho hs).trans (by rw [hb]; rfl))]

theorem breaker_scalar_names_the_query (respond : Json → Json) :
    answer [.userBreaker "break"] respond (.obj [("break", .str "scalar")])
      = [.obj [("request", .obj [("break", .str "scalar")]), ("error", .str invariantKind)]] :=
  invariant_error_carries_query _ respond _ [seven] rfl (by rfl) (by rfl)

-- non-vacuity: the user-defined breaker leaves the scalar 7; the response names the query
example (respond : Json → Json) :
    answer [.userBreaker "break"] respond (.obj [("break", .str "scalar")])
      = [.obj [("request", .obj [("break", .str "scalar")]), ("error", .str invariantKind)]] :=
  breaker_scalar_names_the_query respond

/-- … but the queries next to the broken one are still lost with it (part of finding
`pipeline/sibling-responses-lost`: one result per original query): the split makes two children, the breaker
turns the first into `7`, and the second — which was fine — is never served -/
theorem broken_child_takes_siblings_counterexample (respond : Json → Json) :
    let q : Json := .obj [("alts", .arr [.obj [("break", .str "scalar")], .obj [("fine", .null)]])]
    answer [.userSplit "alts", .userBreaker "break"] respond q
      = [.obj [("request", q), ("error", .str invariantKind)]] ∧
    (itemwiseAnswer [.userSplit "alts", .userBreaker "break"] respond q).length = 2 := by
  -- the plugin stage ends in `[7, {"fine": null}]`
  exact ⟨invariant_error_carries_query _ respond _ [seven, .obj [("fine", .null)]] rfl (by rfl) (by rfl),
    by rfl⟩

/-! ### one response per expanded query -/

/-- when no plugin fails on any expanded query, there is exactly one response per expanded query, in order -/
theorem one_response_per_expanded_query_partial (plugins : List Plugin) (respond : Json → Json)
    (q : Json) (qs : List Json) (h : prepT plugins q = .ok qs) :
    (answer plugins respond q).length = qs.length ∧
    ∀ i (hi : i < qs.length), (answer plugins respond q)[i]? = some (respond qs[i]) := by
  simp only [answer_of_ok respond h, List.length_map, true_and]
  intro i hi
  simp [List.getElem?_map, List.getElem?_eq_getElem hi]

/-- … and then the code computes exactly the item-by-item semantics the property asks for (`itemwise`: every
plugin applied to every expanded query on its own, a failing one becoming its own error response) -/
theorem answer_is_itemwise_partial (plugins : List Plugin) (respond : Json → Json) (q : Json)
    (qs : List Json) (h : prepT plugins q = .ok qs) :
    answer plugins respond q = itemwiseAnswer plugins respond q := by
  simp [answer_of_ok respond h, itemwiseAnswer, (prepT_ok_iff.mp h).1, prepT_ok_itemwise plugins q qs h,
    List.map_map, Function.comp_def]

/-- … as it does on every query that is not an object -/
theorem answer_is_itemwise_non_object (plugins : List Plugin) (respond : Json → Json) (q : Json)
    (h : q.isObject = false) : answer plugins respond q = itemwiseAnswer plugins respond q := by
  simp [answer_of_error respond (prepT_non_object plugins q h), itemwiseAnswer, h, errorResponse]

/-- `json_array_op` stops at the first failing element: the error response of that element is all that is
left of the whole array -/
theorem first_failing_element_ends_the_query {ε : Type} (op : Json → Except ε Json)
    (pre post : List Json) (pre' : List Json) (x : Json) (e : ε)
    (hpre : GridSearch.mapOp op pre = .ok pre') (hx : op x = .error e) :
    GridSearch.jsonArrayOp op (.arr (pre ++ x :: post)) = .error (.plugin x e) := by
  rw [GridSearch.jsonArrayOp, GridSearch.mapOp_append_error hx post pre pre' hpre]

/- Full statement (false of the code): for every plugin list and every query,
`(answer plugins respond q).Perm (itemwiseAnswer plugins respond q)` — one response per expanded query, a
failing expanded query being answered by its own error response while its siblings are served.  Proved above
when no plugin fails (`answer_is_itemwise_partial`); refuted below when one does. -/

-- the witness: a query that grid search expands into two children (`s1Child1`, `s1Child2`), and a no-overwrite
-- inject plugin of `x` that fails on the first child only (it already has an `x`)
def s1Sec : List (String × Json) :=
  [("_o", .arr [.obj [("x", .num "1" 0), ("destination_vertex", .num "3" 0)],
                .obj [("destination_vertex", .num "4" 0)]])]
def s1Kvs : List (String × Json) := [("origin_vertex", .num "0" 0), ("grid_search", .obj s1Sec)]
/-- `{"origin_vertex":0,"grid_search":{"_o":[{"x":1,"destination_vertex":3},{"destination_vertex":4}]}}` -/
def s1Query : Json := .obj s1Kvs
def s1Inject : Plugin := .inject "x" (.num "7" 0) false
def s1Child1 : Json :=
  .obj [("origin_vertex", .num "0" 0), ("x", .num "1" 0), ("destination_vertex", .num "3" 0)]
def s1Child2 : Json := .obj [("origin_vertex", .num "0" 0), ("destination_vertex", .num "4" 0)]

theorem s1_grid_expands : processT .gridSearch s1Query = .ok (.arr [s1Child1, s1Child2]) := by
  have hg : GridSearch.GridQuery (.obj s1Kvs) s1Kvs s1Sec :=
    .of_eval (by rfl) (by decide +kernel) (by decide +kernel)
  have he : GridSearch.expand (Json.swapRemoveKv s1Kvs GridSearch.gridKey) (GridSearch.axes s1Sec)
      = [s1Child1, s1Child2] := by rfl
  rw [s1Query, processT, GridSearch.process_grid hg, he]

theorem s1_first_child_fails :
    processT s1Inject s1Child1 = .error { kind := "InputPluginFailed" } := by rfl

theorem s1_second_child_passes :
    processT s1Inject s1Child2
      = .ok (.obj [("origin_vertex", .num "0" 0), ("destination_vertex", .num "4" 0), ("x", .num "7" 0)]) := by
  rfl

/-- **Finding `pipeline/sibling-responses-lost`**: grid search expands the query into two; the no-overwrite
inject plugin fails on the first child only (the second child alone passes); the whole query is answered by
ONE error response (for the first child) and the second child is never served, where the item-by-item
semantics gives two responses -/
theorem sibling_responses_lost_counterexample (respond : Json → Json) :
    processT .gridSearch s1Query = .ok (.arr [s1Child1, s1Child2]) ∧
    (∃ e, processT s1Inject s1Child1 = .error e) ∧
    (∃ c, processT s1Inject s1Child2 = .ok c) ∧
    answer [.gridSearch, s1Inject] respond s1Query
      = [.obj [("request", s1Child1), ("error", .str "InputPluginFailed")]] ∧
    (itemwiseAnswer [.gridSearch, s1Inject] respond s1Query).length = 2 := by
  have ho : s1Query.isObject = true := rfl
  refine ⟨s1_grid_expands, ⟨_, s1_first_child_fails⟩, ⟨_, s1_second_child_passes⟩, ?_, ?_⟩
  · have h3 : GridSearch.applyOps ([Plugin.gridSearch, s1Inject].map processT) (.arr [s1Query])
        = .error (.plugin s1Child1 { kind := "InputPluginFailed" }) :=
      (GridSearch.applyOps_cons_of_mapOp_ok (GridSearch.mapOp_singleton_ok s1_grid_expands)).trans
        (GridSearch.applyOps_cons_of_mapOp_error
          (GridSearch.mapOp_append_error s1_first_child_fails [s1Child2] [] [] rfl))
    rw [answer_of_error respond (prepT_of_applyOps_error ho h3)]
    rfl
  · -- not `rfl`: that would run the grid-search plugin (its text test) on the query once more; the three
    -- evaluated facts `s1_*` are rewritten in instead
    rw [itemwiseAnswer, if_pos ho, List.length_map, List.map_cons, List.map_cons, List.map_nil,
      itemwise, List.flatMap_cons, List.flatMap_nil, s1_grid_expands]
    show (itemwise [processT s1Inject] [s1Child1, s1Child2] ++ []).length = 2
    rw [itemwise, List.flatMap_cons, List.flatMap_cons, s1_first_child_fails, s1_second_child_passes]
    rfl

/-! ## worker threads -/

/-- **Schedule independence.**  Workers are an arbitrary interleaving of atomic steps "run the next query of
my bin".  Whatever the schedule — any order, any unfairness, steps of idle or unknown workers — once every bin
is drained the collected responses are exactly those of running the bins one after the other.
(By construction of the model: `respond` is a pure function and a step touches one worker only, so this
is a statement about the bookkeeping — done ++ map respond todo is constant per worker — not about real
threads; that the real single-query function is pure rests on Rust's aliasing rules and on `cache_transparent`.) -/
theorem sched_independent (respond : Json → Json) (bins : List (List Json)) (sched : Sched)
    (h : finished (exec respond sched (initWorkers bins)) = true) :
    collected (exec respond sched (initWorkers bins)) = (bins.map (fun b => b.map respond)).flatten := by
  unfold collected
  rw [← finished_total respond _ h, exec_total, initWorkers_total]

/-- before the end, too: no schedule changes what a worker will have produced when it is done -/
theorem sched_invariant (respond : Json → Json) (bins : List (List Json)) (sched : Sched) :
    (exec respond sched (initWorkers bins)).map (fun w => w.done ++ w.todo.map respond)
      = bins.map (fun b => b.map respond) := by
  have := exec_total respond sched (initWorkers bins)
  rw [initWorkers_total] at this
  exact this

/-- finishing schedules exist (so the theorem above is not vacuous), and any two agree -/
theorem sched_exists_and_agree (respond : Json → Json) (bins : List (List Json)) :
    (∃ sched, finished (exec respond sched (initWorkers bins)) = true) ∧
    ∀ s₁ s₂, finished (exec respond s₁ (initWorkers bins)) = true →
      finished (exec respond s₂ (initWorkers bins)) = true →
      collected (exec respond s₁ (initWorkers bins)) = collected (exec respond s₂ (initWorkers bins)) := by
  constructor
  · obtain ⟨sched, hs⟩ := exists_draining_sched respond (initWorkers bins) []
    exact ⟨sched, by
      simp only [List.nil_append] at hs
      rw [hs]; exact finished_drain respond _⟩
  · intro s₁ s₂ h₁ h₂
    rw [sched_independent respond bins s₁ h₁, sched_independent respond bins s₂ h₂]

/-- `run` with the bins executed by scheduled workers returns what `run` returns -/
theorem run_sched_independent (persist : Bool) (respond : Json → Json) (bins : List (List Json))
    (errors : List Json) (sched : Sched) (h : finished (exec respond sched (initWorkers bins)) = true) :
    assembleSched persist respond sched bins errors = assemble persist respond bins errors := by
  unfold assembleSched assemble
  rw [sched_independent respond bins sched h]

example : collected (exec (fun q => .arr [q]) [1, 0, 1, 0, 7, 0] (initWorkers [[.null, .bool true], [.str "a", .str "b"]]))
    = [.arr [.null], .arr [.bool true], .arr [.str "a"], .arr [.str "b"]] := by rfl

/-! ## shared mutable state: the prediction cache -/

/-- **A transparent cache changes nothing.**  If, on every state reachable under an invariant `I`, the
stateful single-query function answers what the pure `respond` answers, then under every schedule the workers
end up exactly as with `respond` — the theorems above apply unchanged.
(The hypothesis `h` IS transparency, step by step; the theorem lifts it from one step to every schedule.  It
is discharged only for the modelled rounded cache, `rounded_cache_transparent`, under the no-collision condition;
for the real `PredictionModelRecord` it is C08's business.) -/
theorem cache_transparent {σ : Type} (respondS : RespondS σ) (respond : Json → Json) (I : σ → Prop)
    (h : ∀ s q, I s → (respondS s q).1 = respond q ∧ I (respondS s q).2) (s₀ : σ) (h₀ : I s₀)
    (sched : Sched) (bins : List (List Json)) :
    (execS respondS sched (s₀, initWorkers bins)).2 = exec respond sched (initWorkers bins) :=
  execS_snd respondS respond I h sched _ s₀ h₀

/-- the float cache *is* transparent when inputs that share a rounded key have the same prediction -/
theorem rounded_cache_transparent (round f : Nat → Nat) (hinj : ∀ x y, round x = round y → f x = f y)
    (sched : Sched) (bins : List (List Json)) :
    (execS (cacheRespond round f) sched ([], initWorkers bins)).2
      = exec (fun q => (cacheRespond round f [] q).1) sched (initWorkers bins) := by
  refine cache_transparent (cacheRespond round f) _ (CacheOk round f) ?_ [] (by intro p hp; cases hp) sched bins
  intro s q hs
  cases q with
  | num l x =>
    obtain ⟨h1, h2⟩ := cachedPredict_ok round f hinj s hs x
    obtain ⟨h1', _⟩ := cachedPredict_ok round f hinj [] (by intro p hp; cases hp) x
    simp only [cacheRespond]
    exact ⟨by rw [h1, h1'], h2⟩
  | _ => exact ⟨rfl, hs⟩

/-- **… and one collision — two inputs with different predictions sharing a rounded key — breaks it**: two workers, one
query each, keys rounded to tens; the two schedules give different responses (30, 30 versus 34, 34) —
the result depends on which query ran first.  (On the real `PredictionModelRecord` this is C08's finding
`predict/cache-rounding-collision`.) -/
theorem cache_collision_counterexample :
    let bins : List (List Json) := [[.num "30" 30], [.num "34" 34]]
    let run := fun sched => (collected (execS (cacheRespond (· / 10) id) sched ([], initWorkers bins)).2).map
      Json.asF64Bits?
    run [0, 1] = [some 30, some 30] ∧ run [1, 0] = [some 34, some 34] ∧
    ¬ (run [0, 1]).Perm (run [1, 0]) := by
  intro bins run
  have h1 : run [0, 1] = [some 30, some 30] := by rfl
  have h2 : run [1, 0] = [some 34, some 34] := by rfl
  refine ⟨h1, h2, ?_⟩
  rw [h1, h2]
  decide +kernel

/-! ## entry points: `get_queries`, the per-run configuration, the response sink, `run_queries` -/

/-- **`get_queries`**: an array is the batch; an object without a `queries` field is a batch of itself; an object
with a `queries` array is that array; an object whose `queries` is anything else, and every other value, is
refused (`Err(CompassFailure)` for the call — nothing is run).  (A RESTATEMENT of the definition `getQueries`,
case by case — what ties it to the code is the differential check of the `gq` cases.) -/
theorem get_queries_spec :
    (∀ qs, getQueries (.arr qs) = some qs) ∧
    (∀ kvs, Json.lookup kvs queriesKey = none → getQueries (.obj kvs) = some [.obj kvs]) ∧
    (∀ kvs qs, Json.lookup kvs queriesKey = some (.arr qs) → getQueries (.obj kvs) = some qs) ∧
    (∀ kvs v, Json.lookup kvs queriesKey = some v → v.isArray = false → getQueries (.obj kvs) = none) ∧
    (∀ v, v.isArray = false → v.isObject = false → getQueries v = none) := by
  refine ⟨fun _ => rfl, ?_, ?_, ?_, ?_⟩
  · intro kvs h; simp [getQueries, h]
  · intro kvs qs h; simp [getQueries, h]
  · intro kvs v h hv; cases v <;> simp_all [getQueries, Json.isArray]
  · intro v ha ho; cases v <;> simp_all [getQueries, Json.isArray, Json.isObject]

/-- `run` offered a JSON value is `run` on the batch `get_queries` makes of it (a RESTATEMENT of the definition
`callValueO`, proved by unfolding) -/
theorem call_value_spec {α : Type} (W : WOps α) (env : String → Bool × Bool) (app : App)
    (runCfg : Option Json) (respond : Json → Json) (v : Json) :
    callValueO W env app runCfg respond v
      = match getQueries v with
        | some batch => callO W env app runCfg respond batch
        | none => .ok (.error .notABatch) := by
  unfold callValueO; cases getQueries v <;> rfl

/-- a per-run configuration that is absent, or is not a JSON object, overrides nothing -/
theorem run_config_without_keys (env : String → Bool × Bool) (cfg : Option Json)
    (h : ∀ c, cfg = some c → c.isObject = false) :
    ∃ o, parseRunConfig env cfg = some o ∧ o.par = none ∧ o.persist = none ∧ o.policy.isNone = true := by
  cases cfg with
  | none => exact ⟨_, rfl, rfl, rfl, rfl⟩
  | some c =>
    have hg : ∀ k, c.get? k = none := fun k => by
      cases c with
      | obj kvs => cases h _ rfl
      | _ => rfl
    exact ⟨{ par := none, persist := none, policy := none },
      by simp only [parseRunConfig, runConfigKey, hg], rfl, rfl, rfl⟩

/-- a per-run value that is present and does not deserialize fails the whole call, before anything is run:
`parallelism` that is not a non-negative integer, an unknown persistence policy, an output policy that is none
of serde's accepted shapes (`decodePolicy`: object or sequence, tag by name; the `Combined` policy and a file
policy with the CSV format are accepted by the code and are not modelled — `decodePolicy` answers `none` for
them, which is not the code's answer — hence `isCombined v = false` and `isCsvFile v = false`) -/
theorem invalid_run_config_fails_call {α : Type} (W : WOps α) (env : String → Bool × Bool) (app : App)
    (c : Json) (respond : Json → Json) (batch : List Json)
    (h : (∃ v, c.get? "parallelism" = some v ∧ decodeUsize v = none) ∨
         (∃ v, c.get? "response_persistence_policy" = some v ∧ decodePersist v = none) ∨
         (∃ v, c.get? "response_output_policy" = some v ∧ decodePolicy env v = none ∧ isCombined v = false ∧
           isCsvFile v = false)) :
    callO W env app (some c) respond batch = .ok (.error .runConfig) := by
  have hp : parseRunConfig env (some c) = none := by
    unfold parseRunConfig
    rcases h with ⟨v, h1, h2⟩ | ⟨v, h1, h2⟩ | ⟨v, h1, h2, _, _⟩
    · simp [runConfigKey, h1, h2]
    · cases hq : runConfigKey (some c) "parallelism" decodeUsize with
      | none => rfl
      | some p => simp [runConfigKey, h1, h2]
    · cases hq : runConfigKey (some c) "parallelism" decodeUsize with
      | none => rfl
      | some p =>
        cases hr : runConfigKey (some c) "response_persistence_policy" decodePersist with
        | none => rfl
        | some q => simp [runConfigKey, h1, h2]
  simp [callO, hp]

/-- **The call is `run`**: with a valid per-run configuration and — the only sinks of the model — no sink or a
JSON file sink that can be built and written (an `OutPolicy` is `none | file`; a CSV file sink and the `Combined`
policy are not modelled, and `parseRunConfig` answers `none` for them, so `hp` excludes them), the call returns
exactly what `run` returns under the overridden parallelism and persistence policy —
so all of the theorems above apply to it -/
theorem call_is_run {α : Type} (W : WOps α) (env : String → Bool × Bool) (app : App)
    (runCfg : Option Json) (respond : Json → Json) (batch : List Json) (o : RunOverrides)
    (hp : parseRunConfig env runCfg = some o) (hb : buildSink (o.policy.getD app.policy) = .ok ())
    (hw : sinkFails (o.policy.getD app.policy) = false) :
    callO W env app runCfg respond batch = liftRun (runO W (app.config o) respond batch) := by
  simp only [callO, hp, hb]
  exact callCoreO_of_sink_ok W _ _ respond batch hw

/-- a file sink whose file opens, whose flush rate is absent or positive and whose writes succeed changes
nothing of what is returned -/
theorem sink_transparent {α : Type} (W : WOps α) (cfg : Config) (s : SinkSpec) (respond : Json → Json)
    (batch : List Json) (hw : s.writeOk = true) :
    callCoreO W cfg (.file s) respond batch = callCoreO W cfg .none respond batch := by
  rw [callCoreO_of_sink_ok W cfg (.file s) respond batch (by simp [sinkFails, hw]),
    callCoreO_of_sink_ok W cfg .none respond batch rfl]

/-- the sink is built before anything runs: a file that cannot be opened, then a flush rate `≤ 0`, fail the
call (a RESTATEMENT of the definition `buildSink`, case by case) -/
theorem sink_build_errors (s : SinkSpec) :
    (s.openOk = false → buildSink (.file s) = .error .sinkOpen) ∧
    (s.openOk = true → ∀ r, s.flushRate = some r → r ≤ 0 → buildSink (.file s) = .error .flushRate) ∧
    (s.openOk = true → (∀ r, s.flushRate = some r → 0 < r) → buildSink (.file s) = .ok ()) := by
  refine ⟨?_, ?_, ?_⟩
  · intro h; simp [buildSink, h]
  · intro h r hr hle; simp [buildSink, h, hr, hle]
  · intro h hr
    cases hf : s.flushRate with
    | none => simp [buildSink, h, hf]
    | some r =>
      have := hr r hf
      simp [buildSink, h, hf]; omega

/-- **A sink whose writes fail fails the call — under both persistence policies**
(`run_batch_without_responses` propagates the result of its fold, as `run_batch_with_responses` does): for
parallelism `≥ 1`, as soon as there is one response to write — an error response of the input stage or one query
to run — the call is `Err`; with nothing to write it returns `[]` -/
theorem failing_sink_fails_call {α : Type} (W : WOps α) (cfg : Config) (s : SinkSpec)
    (respond : Json → Json) (batch : List Json) (hp : 1 ≤ cfg.parallelism) (hw : s.writeOk = false) :
    (errs cfg.plugins batch ≠ [] ∨ processed cfg.plugins batch ≠ [] →
      callCoreO W cfg (.file s) respond batch = .ok (.error .sinkWrite)) ∧
    (errs cfg.plugins batch = [] → processed cfg.plugins batch = [] →
      callCoreO W cfg (.file s) respond batch = .ok (.ok [])) := by
  refine ⟨fun hne => ?_, callCoreO_nothing_to_write W cfg _ respond batch⟩
  obtain ⟨out, h, _⟩ := run_multiset W cfg respond batch hp
  have hf : sinkFails (.file s) = true := by simp [sinkFails, hw]
  rw [callCoreO_eq_run, h]
  simp [hf, hne]

/-- in particular under the discard policy, whose responses exist nowhere but in the sink -/
theorem discard_policy_with_failing_sink {α : Type} (W : WOps α) (plugins : List Plugin)
    (selfPar : Nat) (par : Nat) (s : SinkSpec) (respond : Json → Json) (batch : List Json)
    (hp : 1 ≤ par) (hw : s.writeOk = false) (hq : processed plugins batch ≠ []) :
    callCoreO W { plugins := plugins, selfPar := selfPar, runPar := some par, persist := false } (.file s)
      respond batch = .ok (.error .sinkWrite) :=
  (failing_sink_fails_call W
    { plugins := plugins, selfPar := selfPar, runPar := some par, persist := false } s respond batch
    (by simpa [Config.parallelism] using hp) hw).1 (Or.inr hq)

/-- `CompassAppBindings::run_queries`: when every text is JSON it is the call on the parsed values; one text
that is not JSON — a query or the configuration — fails the whole call (the texts are made by
`json.dumps` on the Python side; a malformed text is outside the property's quantifier "JSON value") -/
theorem run_queries_spec {α : Type} (W : WOps α) (env : String → Bool × Bool) (app : App)
    (respond : Json → Json) :
    (∀ (cfg : Option Json) (qs : List Json),
      runQueriesO W env app (cfg.map some) respond (qs.map some) = callO W env app cfg respond qs) ∧
    (∀ cfg texts, none ∈ texts → runQueriesO W env app cfg respond texts = .ok (.error .notJson)) ∧
    (∀ texts, runQueriesO W env app (some none) respond texts = .ok (.error .notJson)) := by
  refine ⟨?_, ?_, fun _ => rfl⟩
  · intro cfg qs
    have h1 : (qs.map some).any Option.isNone = false := by simp
    have h2 : (qs.map (some : Json → Option Json)).filterMap id = qs := by simp
    cases cfg with
    | none => simp [runQueriesO, h1]
    | some c => simp [runQueriesO, h1]
  · intro cfg texts h
    have : texts.any Option.isNone = true := List.any_eq_true.mpr ⟨none, h, rfl⟩
    cases cfg with
    | none => simp [runQueriesO, this]
    | some c => cases c <;> simp [runQueriesO, this]

/-- the call's responses as a multiset: the per-query answers, whatever the entry and the (working) sink -/
theorem call_multiset {α : Type} (W : WOps α) (env : String → Bool × Bool) (app : App)
    (runCfg : Option Json) (respond : Json → Json) (batch : List Json) (o : RunOverrides)
    (hp : parseRunConfig env runCfg = some o) (hb : buildSink (o.policy.getD app.policy) = .ok ())
    (hw : sinkFails (o.policy.getD app.policy) = false) (hpar : 1 ≤ (app.config o).parallelism) :
    ∃ out, callO W env app runCfg respond batch = .ok (.ok out) ∧
      out.Perm (if (app.config o).persist then answers app.plugins respond batch
                else answersErr app.plugins batch) := by
  obtain ⟨out, h1, h2⟩ := run_multiset W (app.config o) respond batch hpar
  exact ⟨out, by rw [call_is_run W env app runCfg respond batch o hp hb hw, h1]; rfl, h2⟩

-- non-vacuity: per-run values that are accepted and refused
example : decodeUsize (.str "3") = none ∧ decodeUsize .null = none ∧ decodeUsize (.bool true) = none :=
  ⟨rfl, rfl, rfl⟩
-- serde's shapes of the output policy: object, sequence, nested index; the tag of the policy itself by name only
example (env : String → Bool × Bool) :
    (decodePolicy env (.arr [.str "none"])).isSome = true ∧
    (decodePolicy env (.arr [.str "none", .null])).isSome = false ∧
    (decodePolicy env (.arr [.str "file", .str "f", .arr [.str "json", .bool true], .null])).isSome = true ∧
    (∀ l b, (Json.num l b).asU64? = some 0 →
      (decodePolicy env (.obj [("type", .str "file"), ("filename", .str "f"),
        ("format", .obj [("type", .num l b), ("newline_delimited", .bool true)])])).isSome = true) ∧
    (decodePolicy env (.obj [("type", .num "0" 0)])).isSome = false ∧
    (decodePolicy env (.str "none")).isSome = false := by
  refine ⟨by rfl, by rfl, by rfl, ?_, by rfl, by rfl⟩
  intro l b h0
  simp [decodePolicy, tagged, tagName, Tagged.arity, Tagged.req, Tagged.opt, Json.lookup, isJsonFormat, h0,
    decodeOptI64]
-- the two policies the code accepts and the model does not: the model answers `none` (so `callO` answers
-- `runConfig`, which is NOT what the code does) and the predicates that exclude them from the statements are true
example (env : String → Bool × Bool) :
    decodePolicy env (.obj [("type", .str "file"), ("filename", .str "f"),
        ("format", .obj [("type", .str "csv")])]) = none ∧
    isCsvFile (.obj [("type", .str "file"), ("filename", .str "f"),
        ("format", .obj [("type", .str "csv")])]) = true ∧
    isCsvFile (.arr [.str "file", .str "f", .arr [.str "csv"], .null]) = true ∧
    isCsvFile (.obj [("type", .str "file"), ("filename", .str "f"),
        ("format", .obj [("type", .str "json"), ("newline_delimited", .bool true)])]) = false ∧
    decodePolicy env (.obj [("type", .str "combined"), ("policies", .arr [])]) = none ∧
    isCombined (.obj [("type", .str "combined"), ("policies", .arr [])]) = true := by
  refine ⟨by rfl, by rfl, by rfl, by rfl, by rfl, by rfl⟩
example : decodePersist (.str "discard_response_from_memory") = some false ∧
    decodePersist (.obj [("persist_response_in_memory", .null)]) = some true ∧
    decodePersist (.str "Persist") = none := by decide +kernel

/-! ## the load-balancer builder, the build stages -/

/-- `LoadBalancerBuilder::build`: without `weight_heuristic` a missing-field error; a heuristic that is neither an
object nor a sequence (serde's two shapes of an internally tagged enum) a deserialization error; the sequence
shape `["haversine"]` builds the haversine heuristic and takes no further element; a numeric custom weight may
be given as `{"type":"numeric",…}`, positionally as `["numeric", "w"]`, or — nested values are buffered — with
the variant's index `{"type":0,"column_name":"w"}`; without `column_name` it reads `query_weight_estimate` -/
theorem load_balancer_builder_spec (fmt : Nat → String) :
    (∀ params, params.get? "weight_heuristic" = none → buildLoadBalancer fmt params = .error .missingField) ∧
    (∀ params v, params.get? "weight_heuristic" = some v → v.isObject = false → v.isArray = false →
      buildLoadBalancer fmt params = .error .serde) ∧
    (∀ params, params.get? "weight_heuristic" = some (.arr [.str "haversine"]) →
      ∃ b, buildLoadBalancer fmt params = .ok b) ∧
    (∀ params x, params.get? "weight_heuristic" = some (.arr [.str "haversine", x]) →
      buildLoadBalancer fmt params = .error .serde) ∧
    decodeCustomWeight fmt (.obj [("type", .str "numeric")]) = some (.lbNumeric weightKey fmt) ∧
    decodeCustomWeight fmt (.arr [.str "numeric", .str "w"]) = some (.lbNumeric "w" fmt) ∧
    (∀ l b, (Json.num l b).asU64? = some 0 →
      decodeCustomWeight fmt (.obj [("type", .num l b), ("column_name", .str "w")])
        = some (.lbNumeric "w" fmt)) ∧
    decodeCustomWeight fmt (.arr [.str "numeric"]) = none := by
  refine ⟨?_, ?_, ?_, ?_, by rfl, by rfl, ?_, by rfl⟩
  rotate_left 4
  · intro l b h0
    simp [decodeCustomWeight, tagged, tagName, Tagged.arity, Tagged.opt, Json.lookup, h0, decodeOptString]
  · intro params h; simp [buildLoadBalancer, h]
  · intro params v h ho ha
    cases v <;> simp_all [buildLoadBalancer, tagged, Json.isObject, Json.isArray]
  · intro params h
    refine ⟨.haversine, ?_⟩
    simp only [buildLoadBalancer, h]
    rfl
  · intro params x h
    simp only [buildLoadBalancer, h]
    rfl

/-- `CompassApp::try_from`: the error reported is the one of the first stage — in the order configuration,
algorithm, state, traversal, access, cost, frontier, termination, graph, input plugins, output plugins,
parallelism, search orientation, persistence policy, output policy — that fails; the build succeeds exactly
when no stage fails.  (A RESTATEMENT of the definition `firstFailure` = `List.find?` over the list
`buildStages`: the ORDER of the stages is a transcription of `try_from`, tied to the code only by the
differential check of the `stages` cases, not proved of it.) -/
theorem build_reports_first_failing_stage (fails : String → Bool) :
    (firstFailure fails = none ↔ ∀ s ∈ buildStages, fails s = false) ∧
    (∀ s, firstFailure fails = some s → fails s = true ∧
      ∃ pre post, buildStages = pre ++ s :: post ∧ ∀ t ∈ pre, fails t = false) := by
  refine ⟨by simp [firstFailure, List.find?_eq_none], fun s h => ?_⟩
  obtain ⟨h1, pre, post, h2, h3⟩ := List.find?_eq_some_iff_append.mp h
  exact ⟨h1, pre, post, h2, fun t ht => by simpa using h3 t ht⟩

example : firstFailure (fun s => s == "input_plugins" || s == "parallelism") = some "input_plugins" := by
  decide +kernel

/-! ## the command-line entry (`app/cli/run.rs`): how batches reach `CompassApp::run`

`run_newline_json` cuts the lines of the query file into chunks of `chunksize` lines (`itertools::chunks`) and
hands the lines of a chunk that parse to one `CompassApp::run`; `run_json` reads the file as ONE document and hands
`get_queries` of it to one `run`.  Model: `Model/Cli.lean`; the batch runner is a parameter, instantiated with
`callO`.  Run against the real `command_line_runner` by the `cli` stream of harness/src/c06/cli.rs. -/

/-- **Chunking is a partition of the lines**, for every chunk size `n ≥ 1` (what `validate` lets through) and
every file: the chunks joined are the lines in file order, no chunk is empty, none is longer than `n`, and every
chunk but the last holds exactly `n` lines -/
theorem cli_chunks_partition {α : Type} (n : Nat) (hn : 1 ≤ n) (l : List α) :
    (chunks n l).flatten = l ∧
    (∀ c ∈ chunks n l, c ≠ [] ∧ c.length ≤ n) ∧
    (∀ i, i + 1 < (chunks n l).length → ∃ c, (chunks n l)[i]? = some c ∧ c.length = n) :=
  ⟨chunks_flatten n hn l, chunks_mem n hn l, chunks_full n hn l⟩

/-- … so every line that parses is handed to exactly one `run`, in file order: the batches of the chunks,
joined, are the parsable lines of the file -/
theorem cli_every_parsable_line_in_one_batch (n : Nat) (hn : 1 ≤ n) (lines : List (Option Json)) :
    ((chunks n lines).map Cli.chunkBatch).flatten = lines.filterMap id := by
  exact filterMap_chunks id hn lines

/-- **Which chunk a line is in depends on its position alone**: chunking commutes with every map over the
lines — whether a line parses, and to what, moves no other line into another chunk -/
theorem cli_chunking_ignores_line_content {α β : Type} (f : α → β) (n : Nat) (l : List α) :
    chunks n (l.map f) = (chunks n l).map (List.map f) :=
  chunks_map f n l

/-- … and inside its chunk a line that does not parse changes nothing but the count of reported lines: the
chunk's batch is the batch without it, it is counted once; a line that parses is never counted -/
theorem cli_unparsable_line_in_chunk (pre post : List (Option Json)) :
    Cli.chunkBatch (pre ++ none :: post) = Cli.chunkBatch (pre ++ post) ∧
    Cli.chunkBad (pre ++ none :: post) = Cli.chunkBad (pre ++ post) + 1 ∧
    (∀ v, Cli.chunkBad (pre ++ some v :: post) = Cli.chunkBad (pre ++ post) ∧
          Cli.chunkBatch (pre ++ some v :: post) = Cli.chunkBatch pre ++ v :: Cli.chunkBatch post) := by
  refine ⟨?_, ?_, ?_⟩
  · simp [Cli.chunkBatch, List.filterMap_append]
  · simp [Cli.chunkBad, List.filter_append]; omega
  · intro v
    constructor
    · simp [Cli.chunkBad, List.filter_append]
    · simp [Cli.chunkBatch, List.filterMap_append]

/-- **`run_newline_json` when every run succeeds** (any batch runner): one run per chunk, in order, on the chunk's
parsable lines; the call is `Ok`; **every unparsable line is reported exactly once** — the reports add up to the
number of lines that do not parse -/
theorem cli_newline_json_all_chunks_run {ε ρ : Type} (run : List Json → MultiSet.Outcome (Except ε ρ))
    (r : List (Option Json) → ρ) (n : Nat) (hn : 1 ≤ n) (doc : Option Json) (lines : List (Option Json))
    (hok : ∀ c ∈ chunks n lines, run (Cli.chunkBatch c) = .ok (.ok (r c))) :
    ∃ o, Cli.runNewlineJsonO run (some n) (.content doc lines) = .ok o ∧
      o.result = .ok () ∧
      o.log.map (·.served) = (chunks n lines).map r ∧
      (o.log.map (·.parseErrors)).sum = (lines.filter Option.isNone).length := by
  refine ⟨_, Cli.runNewlineJsonO_all_ok run r hn doc lines hok, rfl, ?_, ?_⟩
  · simp [List.map_map, Function.comp_def]
  · have := Cli.chunkBad_sum (chunks n lines)
    rw [chunks_flatten n hn] at this
    simp only [List.map_map]
    exact this

/-- **One response for every parsable line, through the command line** (`--chunksize n --newline-delimited`, the
application persisting its responses, a per-run configuration that parses, a sink that works, parallelism `≥ 1`):
whatever the chunk size and whichever lines do not parse, the call is `Ok`, makes one run per chunk, and the
responses of all runs together are — as a multiset — the per-query answers of the parsable lines: chunking and
unparsable neighbours lose, duplicate and alter nothing -/
theorem cli_one_response_per_parsable_line {α : Type} (W : WOps α) (env : String → Bool × Bool) (app : App)
    (runCfg : Option Json) (respond : Json → Json) (o : RunOverrides)
    (hp : parseRunConfig env runCfg = some o) (hb : buildSink (o.policy.getD app.policy) = .ok ())
    (hw : sinkFails (o.policy.getD app.policy) = false) (hpar : 1 ≤ (app.config o).parallelism)
    (hpersist : (app.config o).persist = true)
    (n : Nat) (hn : 1 ≤ n) (doc : Option Json) (lines : List (Option Json)) :
    ∃ out, Cli.runNewlineJsonO (callO W env app runCfg respond) (some n) (.content doc lines) = .ok out ∧
      out.result = .ok () ∧
      out.log.length = (chunks n lines).length ∧
      (out.log.map (·.served)).flatten.Perm (answers app.plugins respond (lines.filterMap id)) := by
  have hcall : ∀ batch, ∃ out, callO W env app runCfg respond batch = .ok (.ok out) ∧
      out.Perm (answers app.plugins respond batch) := by
    intro batch
    have := call_multiset W env app runCfg respond batch o hp hb hw hpar
    rw [hpersist] at this
    simpa using this
  choose r hr using fun c => hcall (Cli.chunkBatch c)
  obtain ⟨out, h1, h2, h3, _⟩ := cli_newline_json_all_chunks_run (callO W env app runCfg respond) r n hn doc lines
    (fun c _ => (hr c).1)
  refine ⟨out, h1, h2, by simpa using congrArg List.length h3, ?_⟩
  rw [h3, ← cli_every_parsable_line_in_one_batch n hn lines]
  generalize chunks n lines = cs
  induction cs with
  | nil => exact List.Perm.refl _
  | cons c cs ih =>
    rw [List.map_cons, List.map_cons, List.flatten_cons, List.flatten_cons, answers_append]
    exact List.Perm.append (hr c).2 ih

/-- `run_json`: the document is the batch — `get_queries` of it is handed to ONE run, whose result is the call's -/
theorem cli_run_json_spec {ε ρ : Type} (run : List Json → MultiSet.Outcome (Except ε ρ)) (v : Json)
    (lines : List (Option Json)) :
    (getQueries v = none →
      Cli.runJsonO run (.content (some v) lines) = .ok { log := [], result := .error .notABatch }) ∧
    (∀ batch res, getQueries v = some batch → run batch = .ok (.ok res) →
      Cli.runJsonO run (.content (some v) lines)
        = .ok { log := [{ served := res, parseErrors := 0 }], result := .ok () }) ∧
    (∀ batch e, getQueries v = some batch → run batch = .ok (.error e) →
      Cli.runJsonO run (.content (some v) lines) = .ok { log := [], result := .error (.run e) }) := by
  refine ⟨?_, ?_, ?_⟩
  · intro h; simp only [Cli.runJsonO, h]
  · intro batch res h hr; simp only [Cli.runJsonO, h, hr]
  · intro batch e h hr; simp only [Cli.runJsonO, h, hr]

-- non-vacuity: seven lines in chunks of three — two full chunks and a rest; the second and the fifth line do not
-- parse: the batches are the other lines in file order, each chunk reports its own unparsable lines
example : chunks 3 [1, 2, 3, 4, 5, 6, 7] = [[1, 2, 3], [4, 5, 6], [7]] := by decide +kernel
example :
    (chunks 3 [some Json.null, none, some (.bool true), some (.bool false), none, some .null, some .null]).map
      (fun c => ((Cli.chunkBatch c).length, Cli.chunkBad c)) = [(2, 1), (2, 1), (1, 0)] := by decide +kernel

end C06
end Compass
