/-
C17 — grid search expands a query into exactly the Cartesian product of its options.

Model: `Model/MultiSet.lean` (the mixed-radix counter of `util/multiset.rs`, /repo ae1b946: total; every
indexing explicit, the run fuelled), `Model/GridSearch.lean`
(`GridSearchPlugin::process` as the code, `processO`, and as the total function it computes, `process`;
every function of `input_plugin_ops.rs`; `apply_input_plugins`; the builder from configuration).  All
are tied to the Rust code by the correspondence run (`harness/src/c17.rs`), key order included.

**Which reading of "one for each combination and none twice" is proved.**  A *combination* is an index
tuple (one option index per axis).  Proved, for every query that passes the guards
(`grid_one_per_combination`, `grid_count`): the generated list is the image, in counter order, of a list
of index tuples that has no repetition and contains exactly the in-range tuples — every combination is
served exactly once, none is served twice, and there are exactly `n₁ × … × n_m` queries.  That is the
whole of the clause, and it holds without restriction (scalars, objects, mixtures, any keys).

The stronger *value-level* reading — "no two generated queries are equal" — is **not** what the
property can mean and is false of the code (and of any code that satisfies the count clause): the
options `1` and `{"x":1}` of the axis `x` are different JSON values but spell the same assignment, so
`{"grid_search":{"x":[1,{"x":1}]}}` has two combinations with one and the same query `{"x":1}`; emitting
it once would break "exactly n₁ × … × n_m queries, one for each combination".  Equal queries arise
exactly when the user's options are not observably different after the merge:
* one axis, pairwise different options, an object option hitting its own axis name
  (`grid_outputs_distinct_counterexample`);
* options of different axes writing the same key, the later axis overriding
  (`grid_outputs_distinct_counterexample_across_axes`);
* an object option repeating a value the original query already holds
  (`grid_outputs_distinct_counterexample_original_field`).
All three are reproduced against the real plugin by the corpus of `harness/src/c17.rs`
(`corpus_equal_queries`); the oracle there checks the index-level reading (the generated queries are, as
a multiset, exactly one per index tuple), which they satisfy, so no finding is recorded.
What *is* proved at value level is `grid_outputs_distinct_partial`: when different axes write different
keys and the options of each axis are observably different on top of the original query, different
combinations give queries that differ **as maps** (hence also as `serde_json` values, whose equality
ignores key order); the condition on the options is also necessary
(`observably_equal_options_yield_equal_queries`).  `grid_outputs_distinct_scalar_axes_partial` is the
instance "every option a non-object, options of an axis pairwise different".

Likewise "keeps all other fields" holds for the fields no chosen option writes
(`output_keeps_other_fields`); the complete statement is `output_last_writer_wins`.

Hypotheses that are invariants of the *input* (`serde_json::Map` has unique keys), assumed where needed:
top level of the query (`output_keeps_other_fields`, `output_has_no_grid_key`, `output_keys_unique`,
`repeated_grid_search_is_idempotent`), an object option (`output_object_merged`), the grid section
(`grid_outputs_distinct_scalar_axes_partial`).  That the generated queries have unique keys again is
`output_keys_unique`.

Modelled rather than verified (outside every theorem):
* `serde_json::to_string(section)` failing (`JsonError` arm) — cannot fail for a `Value`; the arm is not
  in the model;
* memory: the plugin collects all `Πn` queries eagerly; exhaustion for astronomically large products is
  not modelled;
* `mapOp` (the loop of `json_array_op`) takes the plugin as a total `Except` function that leaves the
  query untouched when it fails — true of grid search (read off the code: it builds the result aside and only
  swaps it in at the very end; no theorem says so), an assumption for other plugins;
* error *messages* are not modelled (`errorText`); the harness checks their shape independently;
* `serde_json` itself (`preserve_order`: `remove` = `swap_remove`, `value[k] = v` keeps the slot of an
  existing key) is modelled by `swapRemoveKv` / `insertKv` and evidenced by the textual correspondence
  run only.
-/
import Compass.Proofs.GridSearch

namespace Compass
namespace C17
open MultiSet GridSearch
open Json (lookup insertKv swapRemoveKv)

/-! ## MultiSet: the mixed-radix counter -/

/-- `val` (first digit least significant) is a bijection between the index vectors for sizes `ns`
and `range (Π ns)`; `digits` is its inverse -/
theorem multiset_val_bijection (ns : List Nat) :
    (∀ p q, inRange ns p = true → inRange ns q = true → val ns p = val ns q → p = q) ∧
    (∀ p, inRange ns p = true → val ns p < prod ns ∧ digits ns (val ns p) = p) ∧
    (∀ k, k < prod ns → inRange ns (digits ns k) = true ∧ val ns (digits ns k) = k) :=
  ⟨fun p q hp hq h => by rw [← digits_val ns p hp, ← digits_val ns q hq, h],
   fun p h => ⟨val_lt ns p h, digits_val ns p h⟩,
   fun k h => ⟨inRange_digits ns k ((prod_pos_iff ns).mp (by omega)), val_digits ns k h⟩⟩

/-- One `next` of the code at an index vector `p` (at least one set): no panic; it hands out the
items at `p`; the successor is again an index vector whose mixed-radix value is **one more**; and the
iterator is finished exactly when `p` was the last combination, `val p = Πn − 1`. -/
theorem multiset_next_increments {α : Type} (sets : List (List α)) (hne : sets ≠ []) (p : List Nat)
    (hr : inRange (sizesOf sets) p = true) :
    ∃ pos', next (at_ sets (some p)) = .ok (some (pick sets p), at_ sets pos') ∧
      (∀ p', pos' = some p' → inRange (sizesOf sets) p' = true ∧
        val (sizesOf sets) p' = val (sizesOf sets) p + 1) ∧
      (pos' = none ↔ val (sizesOf sets) p + 1 = prod (sizesOf sets)) := by
  refine ⟨incr p (finals (sizesOf sets)), next_at sets p hr, ?_, ?_⟩
  · intro p' hp'; exact incr_some _ p p' hr hp'
  · exact incr_eq_none_iff _ p hr

/-- **Enumeration, every input.**  The iterator terminates within fuel `Πn + 1`, never panics, and
yields the combinations of `combos` — the `k`-th item is the digit vector of `k` — in that order.  No
hypothesis is needed: no set gives the single empty combination, an empty set gives none. -/
theorem multiset_enumeration {α : Type} (sets : List (List α)) :
    toList sets = .ok ((combos (sizesOf sets)).map (pick sets)) :=
  toList_eq sets

/-- fuel `Πn + 1` suffices, and any larger fuel gives the same list -/
theorem multiset_fuel_suffices {α : Type} (sets : List (List α)) (fuel : Nat)
    (h : prod (sizesOf sets) + 1 ≤ fuel) :
    collect fuel (MultiSet.from sets) = .ok ((combos (sizesOf sets)).map (pick sets)) := by
  obtain ⟨k, rfl⟩ : ∃ k, fuel = fuelFor (sizesOf sets) + k := ⟨fuel - (prod (sizesOf sets) + 1), by
    simp only [fuelFor]; omega⟩
  exact collectMap_fuel_mono _ _ _ _ (toList_eq sets) k

/-- the number of combinations is the product of the sizes -/
theorem multiset_length {α : Type} (sets : List (List α)) :
    ∃ l, toList sets = .ok l ∧ l.length = prod (sizesOf sets) :=
  ⟨_, toList_eq sets, by simp [combos_length]⟩

/-- a run cut off after `k` calls of `next` (`take(k)`): the first `k` combinations, and the end is
seen exactly when the product has fewer than `k` elements -/
theorem multiset_bounded_run {α : Type} (sets : List (List α)) (k : Nat) :
    takeN k (MultiSet.from sets)
      = .ok (((combos (sizesOf sets)).map (pick sets)).take k, decide (prod (sizesOf sets) < k)) := by
  have := takeN_of_collect _ _ _ (toList_eq sets) k
  simpa [combos_length] using this

/-- **Index sets** (what the plugin iterates): for axes of sizes `nᵢ` (any number, any sizes) the
enumeration has length `Πnᵢ`, no index vector twice, every in-range index vector, and the `k`-th one has value `k`. -/
theorem multiset_index_sets (ns : List Nat) :
    ∃ l, toList (ns.map List.range) = .ok l ∧ l.length = prod ns ∧ l.Nodup ∧
      (∀ c, c ∈ l ↔ inRange ns c = true) ∧
      (∀ k, k < prod ns → ∃ c, l[k]? = some c ∧ val ns c = k) := by
  refine ⟨combos ns, toList_ranges ns, combos_length ns, combos_nodup ns, mem_combos ns, ?_⟩
  intro k hk
  exact ⟨digits ns k, combos_getElem? ns k hk, val_digits ns k hk⟩

/-- the order is little-endian: the first axis runs fastest -/
theorem multiset_first_axis_fastest (n : Nat) (ns : List Nat) (k : Nat) (hk : k < prod (n :: ns)) :
    (combos (n :: ns))[k]? = some (k % n :: digits ns (k / n)) :=
  combos_getElem? (n :: ns) k hk

/-- no set at all: the single empty combination (`finished` starts as `sets.is_empty()`) -/
theorem multiset_no_sets_single_empty_combination {α : Type} :
    toList ([] : List (List α)) = .ok [[]] := by
  simpa [combos, prod, digits] using toList_eq ([] : List (List α))

/-- an empty set: no combination (`pos` is `None` from the start and `len − 1` saturates) -/
theorem multiset_empty_set_no_combination {α : Type} (sets : List (List α)) (h : [] ∈ sets) :
    toList sets = .ok [] := by
  simpa [combos, prod_sizesOf_eq_zero h] using toList_eq sets

-- non-vacuity: the repository's own 2×1×3 example, a single-option axis in the middle, the two
-- boundary cases, a run cut off
example : toList [[1, 3], [2], [5, 7, 9]]
    = .ok [[1, 2, 5], [3, 2, 5], [1, 2, 7], [3, 2, 7], [1, 2, 9], [3, 2, 9]] := rfl
example : combos [2, 1, 3] = [[0, 0, 0], [1, 0, 0], [0, 0, 1], [1, 0, 1], [0, 0, 2], [1, 0, 2]] := by
  decide +kernel
example : ∃ l, toList ([3, 1, 2].map List.range) = .ok l ∧ l.length = 6 ∧ [2, 0, 1] ∈ l :=
  ⟨_, rfl, rfl, by decide +kernel⟩
example : toList ([] : List (List Nat)) = .ok [[]] := rfl
example : toList [[1, 2], ([] : List Nat)] = .ok [] := rfl
example : takeN 2 (MultiSet.from [[7, 8, 9]]) = .ok ([[7], [8]], false) := rfl
example : takeN 5 (MultiSet.from [[7, 8, 9]]) = .ok ([[7], [8], [9]], true) := rfl

/-! ## The plugin -/

/-! That the code is a total function — on every JSON value `GridSearchPlugin::process`, with every indexing
explicit and the iteration fuelled, neither panics nor diverges and returns `process q` — is
`GridSearch.processO_eq`; `process` case by case is `process_of_no_section`, `process_of_plan_error`,
`process_grid` (`Proofs/GridSearch.lean`). -/

/-- What the guard against degenerate sections is for, `MultiSet` being total: *without* it a section
without array-valued field would yield the query once, minus its grid section, … -/
theorem unguarded_no_axis_yields_the_query_once (initial : Json) :
    expandO { keys := [], options := [], initial := initial } = .ok [initial] :=
  collectMap_from_all [] _ (fun _ => initial) fun c hc => by
    rw [(inRange_nil_iff c).mp hc]
    rfl

/-- … and a section with an empty array would yield no query at all: the query would vanish without
a response.  The guard answers both with an error instead. -/
theorem unguarded_empty_axis_yields_nothing (p : Plan) (h : [] ∈ p.options) :
    expandO p = .ok [] := by
  have : ([] : List Nat) ∈ p.indices := List.mem_map.mpr ⟨[], h, rfl⟩
  exact collectMap_empty_set _ _ this _

/-- a value that is not an object has no grid section: it passes through unchanged -/
theorem passthrough_non_object (q : Json) (h : q.isObject = false) : process q = .ok q := by
  apply process_of_no_section
  cases q with
  | obj kvs => cases h
  | _ => rfl

/-- the number of generated queries is `n₁ × … × n_m` -/
theorem grid_count {q : Json} {kvs sec : List (String × Json)} (h : GridQuery q kvs sec) :
    ∃ outs, process q = .ok (.arr outs) ∧ outs.length = prod ((axes sec).map (·.2.length)) :=
  ⟨_, process_grid h, by simp [expand, combos_length]⟩

/-- **One query per combination, none twice, none missing**: the generated list is the image of a
list of index combinations that has no repetition and contains exactly the in-range index vectors;
the `k`-th query belongs to the combination of mixed-radix value `k` (first axis fastest). -/
theorem grid_one_per_combination {q : Json} {kvs sec : List (String × Json)}
    (h : GridQuery q kvs sec) :
    ∃ cs : List (List Nat), cs.Nodup ∧ cs.length = prod ((axes sec).map (·.2.length)) ∧
      (∀ c, c ∈ cs ↔ inRange ((axes sec).map (·.2.length)) c = true) ∧
      (∀ k, k < cs.length → ∃ c, cs[k]? = some c ∧ val ((axes sec).map (·.2.length)) c = k) ∧
      process q = .ok (.arr (cs.map fun c =>
        .obj (overlay (swapRemoveKv kvs gridKey) (choice (axes sec) c)))) := by
  refine ⟨combos _, combos_nodup _, combos_length _, mem_combos _, ?_, process_grid h⟩
  intro k hk
  rw [combos_length] at hk
  exact ⟨_, combos_getElem? _ k hk, val_digits _ k hk⟩

/-- the option taken on axis `i` under combination `c` is `(keyᵢ, optionsᵢ[cᵢ])` -/
theorem chosen_options (ax : List (String × List Json)) (c : List Nat)
    (h : inRange (ax.map (·.2.length)) c = true) :
    (choice ax c).length = ax.length ∧
    ∀ (i : Nat) (hi : i < ax.length),
      ∃ j v, c[i]? = some j ∧ ax[i].2[j]? = some v ∧ (choice ax c)[i]? = some (ax[i].1, v) :=
  ⟨choice_length ax c h, choice_getElem ax c h⟩

/-- the grid axes are the array-valued fields of the section (other fields are ignored) -/
theorem axes_are_array_fields (sec : List (String × Json)) (k : String) (opts : List Json) :
    (k, opts) ∈ axes sec ↔ (k, Json.arr opts) ∈ sec :=
  mem_axes sec k opts

-- non-vacuity: a query with fields before and after the grid key, a 2-option scalar axis, an ignored
-- non-array field and a 3-option mixed axis passes the guards, and expands into 2 × 3 queries
def exSection : List (String × Json) :=
  [("x", .arr [.num "1" 0, .num "2" 0]), ("note", .str "n"),
   ("y", .arr [.str "p", .obj [("a", .null), ("w", .bool true)], .str "r"])]
def exQuery : List (String × Json) :=
  [("a", .num "1" 0), ("grid_search", .obj exSection), ("m", .bool false), ("z", .null)]

theorem exQuery_is_grid_query : GridQuery (.obj exQuery) exQuery exSection :=
  .of_eval (by rfl) (by decide +kernel) (by decide +kernel)

example : ∃ outs, process (.obj exQuery) = .ok (.arr outs) ∧ outs.length = 2 * 3 := by
  obtain ⟨outs, h1, h2⟩ := grid_count exQuery_is_grid_query
  exact ⟨outs, h1, by rw [h2]; decide +kernel⟩
example : processO (.obj exQuery)
    = .ok (.ok (.arr (expand (swapRemoveKv exQuery gridKey) (axes exSection)))) := by
  rw [processO_eq, process_grid exQuery_is_grid_query]
example : inRange ((axes exSection).map (·.2.length)) [1, 2] = true := by decide +kernel

/-! ### each generated query, as a map -/

/-- **Overlay = last writer wins.**  A generated query holds under key `k` the value of the last
write to `k` among the chosen options in axis order (an object option writes its entries one by one,
any other option writes itself under the field's name), else what the original held. -/
theorem output_last_writer_wins (initial ch : List (String × Json)) (k : String) :
    lookup (overlay initial ch) k
      = match lookup (writes ch).reverse k with
        | some v => some v
        | none => lookup initial k := by
  rw [lookup_overlay]
  cases lookup (writes ch).reverse k <;> rfl

/-- every field of the original that no chosen option writes is kept, with its value -/
theorem output_keeps_other_fields (kvs : List (String × Json)) (hn : (kvs.map (·.1)).Nodup)
    (ch : List (String × Json)) (k : String) (hk : k ≠ gridKey)
    (hw : k ∉ (writes ch).map (·.1)) :
    lookup (overlay (swapRemoveKv kvs gridKey) ch) k = lookup kvs k := by
  rw [lookup_overlay, Json.lookup_reverse_eq_none _ k hw, Json.lookup_swapRemoveKv kvs hn, if_neg hk]
  rfl

/-- a scalar (non-object) choice sits under the grid field's name — unless a later axis writes there -/
theorem output_scalar_under_field_name (initial pre post : List (String × Json)) (key : String)
    (v : Json) (hv : v.isObject = false) (hpost : key ∉ (writes post).map (·.1)) :
    lookup (overlay initial (pre ++ (key, v) :: post)) key = some v := by
  rw [lookup_overlay, writes_append, writes, writesOf_of_not_object hv, List.reverse_append,
    List.reverse_append, Json.lookup_append, Json.lookup_append, Json.lookup_reverse_eq_none _ key hpost,
    List.reverse_singleton, Json.lookup_cons, if_pos rfl]
  rfl

/-- an object choice is merged into the top level entry by entry — unless a later axis overrides -/
theorem output_object_merged (initial pre post : List (String × Json)) (key : String)
    (o : List (String × Json)) (ho : (o.map (·.1)).Nodup) (k : String) (v : Json)
    (hkv : (k, v) ∈ o) (hpost : k ∉ (writes post).map (·.1)) :
    lookup (overlay initial (pre ++ (key, .obj o) :: post)) k = some v := by
  have ho' : (o.reverse.map (·.1)).Nodup := by
    rw [List.map_reverse]; exact List.nodup_reverse.mpr ho
  have hl : lookup o.reverse k = some v :=
    (Json.lookup_eq_some_iff_mem _ ho' k v).mpr (List.mem_reverse.mpr hkv)
  rw [lookup_overlay, writes_append, writes, writesOf_obj, List.reverse_append, List.reverse_append,
    Json.lookup_append, Json.lookup_append, Json.lookup_reverse_eq_none _ k hpost, hl]
  rfl

/-- **No generated query has a grid section**: the removal deletes it and, thanks to the recursion
guard, no option can re-introduce the key. -/
theorem output_has_no_grid_key {q : Json} {kvs sec : List (String × Json)} (h : GridQuery q kvs sec)
    (hn : (kvs.map (·.1)).Nodup) (c : List Nat) :
    lookup (overlay (swapRemoveKv kvs gridKey) (choice (axes sec) c)) gridKey = none := by
  rw [lookup_overlay, Json.lookup_reverse_eq_none _ _ (gridKey_not_written h.notRecursive c),
    Json.lookup_swapRemoveKv kvs hn, if_pos rfl]
  rfl

/-- a passing section has no field and no object option with a key called `grid_search` -/
theorem recursion_guard_excludes_grid_keys {sec : List (String × Json)}
    (h : recurses (.obj sec) = false) :
    (∀ k v, (k, v) ∈ sec → k ≠ gridKey) ∧
    (∀ k opts o k' v', (k, Json.arr opts) ∈ sec → Json.obj o ∈ opts → (k', v') ∈ o → k' ≠ gridKey) :=
  ⟨fun k v hk => no_grid_field_key h k v hk,
   fun k opts o k' v' hk ho hk' => no_grid_option_key h k opts hk o ho k' v' hk'⟩

/-- the options chosen on the example query by the combination x = 2 (index 1), y = the object option
(index 1) … -/
theorem exChoice11 : choice (axes exSection) [1, 1]
    = [("x", Json.num "2" 0), ("y", .obj [("a", .null), ("w", .bool true)])] := by rfl

/-- … and the query generated for it, evaluated: `z` has taken the slot of the removed grid key
(`swap_remove`), the scalar sits under `x`, the object's entries are merged — `a` overrides the original
`a`, `w` is new and goes last -/
theorem exInstance11 : overlay (swapRemoveKv exQuery gridKey) (choice (axes exSection) [1, 1])
    = [("a", .null), ("z", .null), ("m", .bool false), ("x", .num "2" 0), ("w", .bool true)] := by rfl

-- non-vacuity, read off that query: the scalar under `x`, the merged entries, untouched fields keep their
-- values, the grid key is gone
example : lookup (overlay (swapRemoveKv exQuery gridKey) (choice (axes exSection) [1, 1])) "x"
    = some (.num "2" 0) := by rw [exInstance11]; rfl
example : lookup (overlay (swapRemoveKv exQuery gridKey) (choice (axes exSection) [1, 1])) "a"
    = some .null := by rw [exInstance11]; rfl
example : lookup (overlay (swapRemoveKv exQuery gridKey) (choice (axes exSection) [1, 1])) "w"
    = some (.bool true) := by rw [exInstance11]; rfl
example : lookup (overlay (swapRemoveKv exQuery gridKey) (choice (axes exSection) [1, 1])) "m"
    = lookup exQuery "m" :=
  output_keeps_other_fields exQuery (by decide +kernel) _ "m" (by decide +kernel) (by decide +kernel)
example : lookup (overlay (swapRemoveKv exQuery gridKey) (choice (axes exSection) [1, 1])) gridKey
    = none :=
  output_has_no_grid_key exQuery_is_grid_query (by decide +kernel) _

/-- a generated query is a well-formed object again: its keys are unique -/
theorem output_keys_unique (kvs : List (String × Json)) (hn : (kvs.map (·.1)).Nodup)
    (ch : List (String × Json)) :
    ((overlay (swapRemoveKv kvs gridKey) ch).map (·.1)).Nodup := by
  rw [overlay_eq_mergeKv]
  exact nodup_keys_mergeKv _ _ (Json.nodup_keys_swapRemoveKv kvs hn gridKey)

-- the two clause theorems instantiated on the real choice list of the example query, combination
-- [1, 1]: `x = 2` is a scalar under its field's name, `w` comes from the merged object option
example : lookup (overlay (swapRemoveKv exQuery gridKey) (choice (axes exSection) [1, 1])) "x"
    = some (.num "2" 0) := by
  rw [exChoice11]
  exact output_scalar_under_field_name _ [] [("y", .obj [("a", .null), ("w", .bool true)])] "x" _ rfl
    (by decide +kernel)
example : lookup (overlay (swapRemoveKv exQuery gridKey) (choice (axes exSection) [1, 1])) "w"
    = some (.bool true) := by
  rw [exChoice11]
  exact output_object_merged _ [("x", Json.num "2" 0)] [] "y" _ (by decide +kernel) "w" _ (by simp)
    (by simp [writes])
example : ((overlay (swapRemoveKv exQuery gridKey) (choice (axes exSection) [1, 1])).map (·.1)).Nodup :=
  output_keys_unique exQuery (by decide +kernel) _

/-! ### "none twice" at the level of values: what holds, what does not -/

-- the witnesses of the three counterexamples below, as real inputs of `process`
def dupSingleAxisSection : List (String × Json) := [("x", .arr [.num "1" 0, .obj [("x", .num "1" 0)]])]
def dupSingleAxisQuery : List (String × Json) := [("grid_search", .obj dupSingleAxisSection)]
def dupAcrossAxesSection : List (String × Json) :=
  [("a", .arr [.obj [("x", .num "1" 0)], .obj [("x", .num "2" 0)]]), ("b", .arr [.obj [("x", .num "3" 0)]])]
def dupAcrossAxesQuery : List (String × Json) := [("grid_search", .obj dupAcrossAxesSection)]
def dupOriginalFieldSection : List (String × Json) :=
  [("a", .arr [.obj [("p", .num "1" 0)], .obj [("p", .num "1" 0), ("q", .num "2" 0)]])]
def dupOriginalFieldQuery : List (String × Json) :=
  [("q", .num "2" 0), ("grid_search", .obj dupOriginalFieldSection)]

/-- **The value-level statement "no two generated queries are equal" is false**, already for ONE axis
whose options are pairwise different JSON values: `{"grid_search":{"x":[1,{"x":1}]}}` passes both
guards and the plugin returns `[{"x":1},{"x":1}]` — the scalar `1` goes under the field's name `x`, the
object `{"x":1}` is merged, both spell `x = 1`.  (Two combinations, two queries: the index-level
property holds, `grid_one_per_combination`.) -/
theorem grid_outputs_distinct_counterexample :
    GridQuery (.obj dupSingleAxisQuery) dupSingleAxisQuery dupSingleAxisSection ∧
    (∀ a ∈ axes dupSingleAxisSection, a.2.Nodup) ∧
    process (.obj dupSingleAxisQuery)
      = .ok (.arr [.obj [("x", .num "1" 0)], .obj [("x", .num "1" 0)]]) := by
  have hg : GridQuery (.obj dupSingleAxisQuery) dupSingleAxisQuery dupSingleAxisSection :=
    .of_eval (by rfl) (by decide +kernel) (by decide +kernel)
  refine ⟨hg, by simp [axes, dupSingleAxisSection], ?_⟩
  rw [process_grid hg]; rfl

/-- … for options of different axes that write the same key (the later axis overrides):
`{"grid_search":{"a":[{"x":1},{"x":2}],"b":[{"x":3}]}}` gives `[{"x":3},{"x":3}]` … -/
theorem grid_outputs_distinct_counterexample_across_axes :
    GridQuery (.obj dupAcrossAxesQuery) dupAcrossAxesQuery dupAcrossAxesSection ∧
    (∀ a ∈ axes dupAcrossAxesSection, a.2.Nodup) ∧
    process (.obj dupAcrossAxesQuery)
      = .ok (.arr [.obj [("x", .num "3" 0)], .obj [("x", .num "3" 0)]]) := by
  have hg : GridQuery (.obj dupAcrossAxesQuery) dupAcrossAxesQuery dupAcrossAxesSection :=
    .of_eval (by rfl) (by decide +kernel) (by decide +kernel)
  refine ⟨hg, by simp [axes, dupAcrossAxesSection], ?_⟩
  rw [process_grid hg]; rfl

/-- … and for object options with different key sets, no key shared with another axis, when the
original query already holds the value one of them adds:
`{"q":2,"grid_search":{"a":[{"p":1},{"p":1,"q":2}]}}` gives `[{"q":2,"p":1},{"q":2,"p":1}]`
("disjoint key sets" alone is therefore not a sufficient condition). -/
theorem grid_outputs_distinct_counterexample_original_field :
    GridQuery (.obj dupOriginalFieldQuery) dupOriginalFieldQuery dupOriginalFieldSection ∧
    (∀ a ∈ axes dupOriginalFieldSection, a.2.Nodup) ∧
    process (.obj dupOriginalFieldQuery)
      = .ok (.arr [.obj [("q", .num "2" 0), ("p", .num "1" 0)],
                   .obj [("q", .num "2" 0), ("p", .num "1" 0)]]) := by
  have hg : GridQuery (.obj dupOriginalFieldQuery) dupOriginalFieldQuery dupOriginalFieldSection :=
    .of_eval (by rfl) (by decide +kernel) (by decide +kernel)
  refine ⟨hg, by simp [axes, dupOriginalFieldSection], ?_⟩
  rw [process_grid hg]; rfl

/-- **None twice, as values — the part that holds** (`_partial`: the full statement "for every grid
query whose options are pairwise different per axis, the generated queries are pairwise different" is
false, see the three `grid_outputs_distinct_counterexample*` above).  Scalars, objects and mixtures:
if different axes never write the same key (`AxesDisjoint`: an axis writes its own name for a
non-object option and the option's keys for an object option) and, on each axis, two options that are
observably the same on top of the query-minus-grid-key are the same option
(`OptionsObservablyDistinct`), then two different combinations give queries that differ **as maps** —
some key holds different values — so they are different for `serde_json` (key order ignored) and a
fortiori as ordered objects (`Nodup`).  Excluded, exactly: an axis with two observably equal options
(then equal queries do arise, `observably_equal_options_yield_equal_queries`), and axes sharing a
written key (then they may or may not, depending on which axis comes last). -/
theorem grid_outputs_distinct_partial {q : Json} {kvs sec : List (String × Json)}
    (h : GridQuery q kvs sec) (hdis : AxesDisjoint (axes sec))
    (hobs : ∀ a ∈ axes sec, OptionsObservablyDistinct (swapRemoveKv kvs gridKey) a) :
    (∀ c c', inRange ((axes sec).map (·.2.length)) c = true →
      inRange ((axes sec).map (·.2.length)) c' = true → c ≠ c' →
      ∃ k, lookup (overlay (swapRemoveKv kvs gridKey) (choice (axes sec) c)) k
         ≠ lookup (overlay (swapRemoveKv kvs gridKey) (choice (axes sec) c')) k) ∧
    ∃ outs, process q = .ok (.arr outs) ∧ outs.Nodup := by
  have key : ∀ c c', inRange ((axes sec).map (·.2.length)) c = true →
      inRange ((axes sec).map (·.2.length)) c' = true →
      (∀ k, lookup (overlay (swapRemoveKv kvs gridKey) (choice (axes sec) c)) k
          = lookup (overlay (swapRemoveKv kvs gridKey) (choice (axes sec) c')) k) → c = c' :=
    fun c c' hc hc' he => choice_inj_of_observable _ _ c c' hdis hobs hc hc' he
  refine ⟨?_, _, process_grid h, ?_⟩
  · intro c c' hc hc' hne
    by_contra hcon
    exact hne (key c c' hc hc' (fun k => by
      by_contra hk; exact hcon ⟨k, hk⟩))
  · unfold expand
    refine List.Nodup.map_on ?_ (combos_nodup _)
    intro c hc c' hc' heq
    have e : instanceKv (swapRemoveKv kvs gridKey) (axes sec) c
        = instanceKv (swapRemoveKv kvs gridKey) (axes sec) c' := Json.obj.inj heq
    exact key c c' ((mem_combos _ _).mp hc) ((mem_combos _ _).mp hc') (fun k => by
      simp only [instanceKv] at e; rw [e])

/-- the condition on the options is necessary: if two options of an axis are observably the same
on top of `initial` and no earlier axis writes a key of theirs, the two queries are the same map,
whatever the other axes choose -/
theorem observably_equal_options_yield_equal_queries (initial pre post : List (String × Json))
    (key : String) (o o' : Json)
    (hobs : ∀ k, observe initial key o k = observe initial key o' k)
    (hpre : ∀ k, k ∈ (writesOf key o).map (·.1) ∨ k ∈ (writesOf key o').map (·.1) →
      k ∉ (writes pre).map (·.1)) (k : String) :
    lookup (overlay initial (pre ++ (key, o) :: post)) k
      = lookup (overlay initial (pre ++ (key, o') :: post)) k := by
  simp only [lookup_overlay, writes_append, writes, List.reverse_append, Json.lookup_append,
    Option.or_assoc]
  refine congrArg _ ?_
  by_cases hw : k ∈ (writesOf key o).map (·.1) ∨ k ∈ (writesOf key o').map (·.1)
  · have := hobs k
    rwa [Json.lookup_reverse_eq_none _ k (hpre k hw), Option.none_or, ← observe_eq, ← observe_eq]
  · rw [Json.lookup_reverse_eq_none _ k fun h => hw (Or.inl h),
      Json.lookup_reverse_eq_none _ k fun h => hw (Or.inr h)]

/-- the scalar instance (`_partial` for the same reason): every option a non-object, the options of
each axis pairwise different, the section's keys unique (a `serde_json::Map` invariant).  Then the
hypotheses of `grid_outputs_distinct_partial` hold, so the queries differ as maps and as ordered
objects.  Excluded: every grid with an object option anywhere. -/
theorem grid_outputs_distinct_scalar_axes_partial {q : Json} {kvs sec : List (String × Json)}
    (h : GridQuery q kvs sec) (hk : (sec.map (·.1)).Nodup)
    (hs : ∀ a ∈ axes sec, ∀ v ∈ a.2, v.isObject = false) (ho : ∀ a ∈ axes sec, a.2.Nodup) :
    (∀ c c', inRange ((axes sec).map (·.2.length)) c = true →
      inRange ((axes sec).map (·.2.length)) c' = true → c ≠ c' →
      ∃ k, lookup (overlay (swapRemoveKv kvs gridKey) (choice (axes sec) c)) k
         ≠ lookup (overlay (swapRemoveKv kvs gridKey) (choice (axes sec) c')) k) ∧
    ∃ outs, process q = .ok (.arr outs) ∧ outs.Nodup :=
  grid_outputs_distinct_partial h (axesDisjoint_of_scalar ((axes_keys_sublist sec).nodup hk) hs)
    fun a ha => observablyDistinct_of_scalar _ (hs a ha) (ho a ha)

def exScalarSection : List (String × Json) :=
  [("x", .arr [.num "1" 0, .num "2" 0]), ("y", .arr [.str "p", .str "q", .str "r"])]
def exScalarQuery : List (String × Json) := [("k", .null), ("grid_search", .obj exScalarSection)]

-- non-vacuity, scalar instance: a 2 × 3 scalar grid
example : ∃ outs, process (.obj exScalarQuery) = .ok (.arr outs) ∧ outs.Nodup ∧ outs.length = 6 := by
  have hg : GridQuery (.obj exScalarQuery) exScalarQuery exScalarSection :=
    .of_eval (by rfl) (by decide +kernel) (by decide +kernel)
  obtain ⟨_, outs, h1, h2⟩ := grid_outputs_distinct_scalar_axes_partial hg (by decide +kernel)
    (by decide +kernel) (by simp [axes, exScalarSection])
  obtain ⟨outs', h3, h4⟩ := grid_count hg
  rw [h1] at h3
  cases h3
  exact ⟨outs, h1, h2, by rw [h4]; decide +kernel⟩

/-- the repository's own `test_grid_search_using_objects`: a scalar axis and an axis of objects -/
def exObjectSection : List (String × Json) :=
  [("a", .arr [.num "1" 0, .num "2" 0]),
   ("ignored_inner_key", .arr [.obj [("x", .num "0" 0), ("y", .num "0" 0)],
                               .obj [("x", .num "1" 0), ("y", .num "1" 0)]])]
def exObjectQuery : List (String × Json) :=
  [("ignored_key", .str "ignored_value"), ("grid_search", .obj exObjectSection)]

-- non-vacuity, general theorem: object options (outside the scalar instance) satisfy its hypotheses
example : ∃ outs, process (.obj exObjectQuery) = .ok (.arr outs) ∧ outs.Nodup := by
  have hg : GridQuery (.obj exObjectQuery) exObjectQuery exObjectSection :=
    .of_eval (by rfl) (by decide +kernel) (by decide +kernel)
  refine (grid_outputs_distinct_partial hg ?_ ?_).2
  · -- axis `a` writes `a`; axis `ignored_inner_key` writes `x`, `y`
    simp only [AxesDisjoint, axes, exObjectSection, List.pairwise_cons, List.mem_singleton,
      List.not_mem_nil, forall_eq, List.Pairwise.nil, and_true, false_imp_iff, implies_true]
    decide +kernel
  · intro a ha
    simp only [axes, exObjectSection, List.mem_cons, List.not_mem_nil, or_false] at ha
    rcases ha with rfl | rfl
    · -- options 1, 2 differ under `a`
      exact observablyDistinct_of_key _ _ "a" (by simp [observe, writesOf, Json.lookup_cons])
    · -- the two objects differ under `x`
      exact observablyDistinct_of_key _ _ "x" (by simp [observe, writesOf, Json.lookup_cons])

/-! ### key order (the correspondence run compares it textually) -/

/-- removal of the grid key is `swap_remove`: the last field takes its slot … -/
theorem removal_moves_last_field (a b : List (String × Json)) (x : Json) (l : String × Json)
    (h : gridKey ∉ a.map (·.1)) :
    swapRemoveKv (a ++ (gridKey, x) :: (b ++ [l])) gridKey = a ++ l :: b :=
  Json.swapRemoveKv_middle a b gridKey x l h

/-- … unless the grid key was last -/
theorem removal_of_last_field (a : List (String × Json)) (x : Json) (h : gridKey ∉ a.map (·.1)) :
    swapRemoveKv (a ++ [(gridKey, x)]) gridKey = a :=
  Json.swapRemoveKv_last a gridKey x h

/-- a write keeps the place of an existing key and appends a new one -/
theorem write_key_order (kvs : List (String × Json)) (k : String) (v : Json) :
    (insertKv kvs k v).map (·.1)
      = if k ∈ kvs.map (·.1) then kvs.map (·.1) else kvs.map (·.1) ++ [k] :=
  Json.keys_insertKv kvs k v

/-! ### the guards -/

/-- the guard rejects exactly the degenerate sections: no array-valued field, or an empty array -/
theorem guard_rejects_exactly_degenerate (kvs sec : List (String × Json))
    (hs : lookup kvs gridKey = some (.obj sec)) (hr : recurses (.obj sec) = false) :
    process (.obj kvs) = .error .degenerate ↔ (axes sec = [] ∨ ∃ a ∈ axes sec, a.2 = []) := by
  by_cases hd : degenerate (axes sec) = true
  · simp only [process_of_plan_error (plan_of_degenerate hs hr hd), true_iff]
    simp only [degenerate, Bool.or_eq_true, List.isEmpty_iff, List.any_eq_true,
      List.isEmpty_iff] at hd
    exact hd
  · have hd' : degenerate (axes sec) = false := Bool.eq_false_iff.mpr hd
    rw [process_grid ⟨rfl, hs, hr, hd'⟩]
    obtain ⟨h1, h2⟩ := degenerate_eq_false_iff.mp hd'
    simp only [reduceCtorEq, false_iff, not_or, not_exists, not_and]
    exact ⟨h1, fun a ha => h2 a ha⟩

/-- the recursion guard is a **text** test: a section whose compact serialization contains the text
`grid_search` anywhere — a key, a nested key, or merely a string value — is rejected … -/
theorem guard_rejects_text (q s : Json) (hs : q.get? gridKey = some s)
    (ht : gridKey.toList <:+: s.toCompact.toList) : process q = .error .recursion := by
  exact process_of_plan_error (plan_of_recursion hs (Json.strContains_of_infix _ _ ht))

/-- … and only then: the recursion error is given **exactly** when the text occurs (`Json.strContains`
is proved to be the substring test, both directions) -/
theorem guard_rejects_text_iff (q s : Json) (hs : q.get? gridKey = some s) :
    process q = .error .recursion ↔ gridKey.toList <:+: s.toCompact.toList := by
  constructor
  · intro h
    rcases GridSearch.process_cases q with ⟨h', _⟩ | ⟨_, h1, h2, _⟩ | ⟨_, _, _, _, h'⟩ |
      ⟨_, _, _, _, _, _, h'⟩ | ⟨_, _, _, h'⟩
    · rw [hs] at h'; cases h'
    · rw [hs] at h1; cases h1; exact (Json.strContains_iff_infix _ _).mp h2
    · rw [h'] at h; cases h
    · rw [h'] at h; cases h
    · rw [h'] at h; cases h
  · exact guard_rejects_text q s hs

/-- … in particular whenever any field of the section, at top level, is a string mentioning it -/
theorem guard_rejects_string_value (kvs sec : List (String × Json))
    (hs : lookup kvs gridKey = some (.obj sec)) (k : String) (str : String)
    (hk : (k, Json.str str) ∈ sec) (hm : gridKey.toList <:+: (Json.escapeStr str).toList) :
    process (.obj kvs) = .error .recursion :=
  guard_rejects_text _ _ (by simpa [Json.get?] using hs)
    (hm.trans (by simpa [Json.toCompact] using Json.infix_obj_val sec k (.str str) hk))

/-- a grid section that is not an object is rejected (after the text test) -/
theorem guard_rejects_non_object_section (q s : Json) (hs : q.get? gridKey = some s)
    (hr : recurses s = false) (ho : s.isObject = false) : process q = .error .sectionNotObject :=
  process_of_plan_error (plan_of_section_not_object hs hr ho)

/-- every answer of the plugin: unchanged, an array of objects, or one of three errors
(`queryNotObject` is unreachable) -/
theorem process_cases (q : Json) :
    process q = .ok q ∨
    (∃ outs, process q = .ok (.arr outs) ∧ outs.all Json.isObject = true) ∨
    process q = .error .recursion ∨ process q = .error .sectionNotObject ∨
    process q = .error .degenerate := by
  rcases GridSearch.process_cases q with ⟨_, h⟩ | ⟨_, _, _, h⟩ | ⟨_, _, _, _, h⟩ | ⟨_, _, _, _, _, _, h⟩ |
    ⟨kvs, sec, hg, h⟩
  · exact Or.inl h
  · exact Or.inr (Or.inr (Or.inl h))
  · exact Or.inr (Or.inr (Or.inr (Or.inl h)))
  · exact Or.inr (Or.inr (Or.inr (Or.inr h)))
  · exact Or.inr (Or.inl ⟨_, h, (expand_nonempty_objects hg.notDegenerate _).2⟩)

-- non-vacuity: an empty axis, no field and no array-valued field are rejected as degenerate; a string value mentioning
-- the key trips the (textual) recursion guard; a query without the key passes through
example : process (.obj [("grid_search", .obj [("x", .arr [])])]) = .error .degenerate :=
  (guard_rejects_exactly_degenerate _ [("x", .arr [])] (by rfl) (by rw [recurses_eq]; decide +kernel)).mpr
    (Or.inr ⟨("x", []), by simp [axes], rfl⟩)
example : process (.obj [("grid_search", .obj [])]) = .error .degenerate :=
  (guard_rejects_exactly_degenerate _ [] (by rfl) (by rw [recurses_eq]; decide +kernel)).mpr (Or.inl rfl)
example : process (.obj [("grid_search", .obj [("a", .num "1" 0)])]) = .error .degenerate :=
  (guard_rejects_exactly_degenerate _ [("a", .num "1" 0)] (by rfl) (by rw [recurses_eq]; decide +kernel)).mpr
    (Or.inl rfl)
example : process (.obj [("grid_search", .obj [("a", .arr [.num "1" 0]), ("note", .str "see grid_search")])])
    = .error .recursion :=
  guard_rejects_string_value _ [("a", .arr [.num "1" 0]), ("note", .str "see grid_search")] (by rfl)
    "note" "see grid_search" (by simp) (by rw [Json.toList_escapeStr]; decide +kernel)
example : process (.obj [("a", .num "1" 0)]) = .ok (.obj [("a", .num "1" 0)]) :=
  process_of_no_section (by rfl)
example : process (.str "grid_search") = .ok (.str "grid_search") :=
  passthrough_non_object _ rfl

/-! ### the plugin pipeline (`apply_input_plugins` with the grid-search plugin) -/

/-- the nested array produced by the plugin is flattened into exactly the generated queries -/
theorem pipeline_yields_the_expansion {q : Json} {kvs sec : List (String × Json)}
    (h : GridQuery q kvs sec) :
    applyInputPlugins [process] q = .ok (expand (swapRemoveKv kvs gridKey) (axes sec)) := by
  have ho : q.isObject = true := by rw [h.isObj]; rfl
  rw [applyInputPlugins_of_ok ho ((applyOps_process_grid h []).trans rfl),
    if_pos (expand_nonempty_objects h.notDegenerate _).2]

/-- a query object without grid section comes back alone and unchanged -/
theorem pipeline_passthrough (kvs : List (String × Json)) (h : lookup kvs gridKey = none) :
    applyInputPlugins [process] (.obj kvs) = .ok [.obj kvs] := by
  rw [applyInputPlugins_of_ok rfl
      ((applyOps_cons_of_mapOp_ok (mapOp_singleton_ok (process_of_no_section (q := .obj kvs) h))).trans rfl)]
  rfl

/-- a rejected query becomes an error response carrying the request -/
theorem pipeline_error_carries_request (q : Json) (e : ErrKind) (h : process q = .error e) :
    applyInputPlugins [process] q = .error (.plugin q e) := by
  have ho : q.isObject = true := by
    cases hq : q.isObject with
    | true => rfl
    | false => rw [passthrough_non_object q hq] at h; cases h
  rw [applyInputPlugins_of_error ho (applyOps_cons_of_mapOp_error (by rw [mapOp, h])),
    withRequest_plugin_self]

/-- a query that is not a JSON object never reaches the plugins: it is answered with an error response
that echoes it (the guard of `apply_input_plugins`, fix 6b89952: `[q₁, q₂]` is not flattened into two queries,
`[]` not into none) -/
theorem pipeline_rejects_non_object {ε : Type} (plugins : List (Json → Except ε Json)) (q : Json)
    (h : q.isObject = false) : applyInputPlugins plugins q = .error (.notObject q) :=
  applyInputPlugins_of_not_object plugins h

/-! ### a whole query state (`json_array_op` over several queries, as an earlier plugin leaves them) -/

/-- what one query of the state stands for after the plugin ran on it: the elements of an array
result, or the single result -/
def standsFor : Json → List Json
  | .arr sub => sub
  | v => [v]

theorem flatten1_eq_flatMap : ∀ rs : List Json, flatten1 rs = rs.flatMap standsFor :=
  flatten1_eq_flatMap_of fun v => by cases v <;> rfl

/-- **`json_array_op` flattens exactly one level, in order**: when the plugin succeeds on every query
of the state, the new state is the concatenation, in order, of what each query stands for — the
generated queries of a query with a grid section, the query itself otherwise; nothing is lost,
duplicated or left nested, whatever mixture of the two kinds the state holds. -/
theorem state_op_concatenates {ε : Type} (op : Json → Except ε Json) (qs rs : List Json)
    (h : qs.map op = rs.map Except.ok) :
    jsonArrayOp op (.arr qs) = .ok (.arr (rs.flatMap standsFor)) := by
  rw [jsonArrayOp_of_mapOp_ok (mapOp_ok op qs rs h), flatten1_eq_flatMap]

/-- a plain query next to the 2 × 3 example grid query: seven queries, the plain one first -/
example :
    jsonArrayOp process (.arr [.obj [("plain", .null)], .obj exQuery])
      = .ok (.arr (.obj [("plain", .null)] ::
          expand (swapRemoveKv exQuery gridKey) (axes exSection))) := by
  have h := state_op_concatenates process [.obj [("plain", .null)], .obj exQuery]
    [.obj [("plain", .null)], .arr (expand (swapRemoveKv exQuery gridKey) (axes exSection))]
    (by simp [process_grid exQuery_is_grid_query,
          process_of_no_section (q := .obj [("plain", .null)]) (by rfl)])
  simpa [standsFor] using h


/-! ### `input_plugin_ops.rs`, every function on every value -/

/-- an error response is exactly `{"request": …, "error": <text>}`, in that order, and carries the
request it is about.  (Holds by definition of the model `packageError`; that the real responses have
this shape is checked by the harness, oracle key `response/shape`.) -/
theorem error_response_shape (q : Json) :
    packageError q = .obj [("request", q), ("error", errorText)] ∧
    (packageError q).get? "request" = some q := ⟨rfl, rfl⟩

/-- the invariant error carries the query state when the caller still has it, else the placeholder
`{"error": "unable to display query"}`; the sub-section only goes into the message.  (A description of
the model function by cases, not a property derived from anything.) -/
theorem invariant_error_request (q sub : Option Json) :
    packageInvariantError q sub = packageError (q.getD noRequest) := by
  cases q <;> rfl

/-- every error of the pipeline answers with the request it names (by definition of `PipeErr.response`) -/
theorem pipe_error_response_carries_request {ε : Type} (e : PipeErr ε) :
    e.response.get? "request" = some e.request := rfl

/-- **`json_array_flatten_in_place`, every value**: an array becomes the concatenation, in order, of
what its elements stand for (an array element for its elements, anything else for itself) — exactly
one level; anything that is not an array is rejected, untouched, and echoed as the request -/
theorem flatten_in_place_spec {ε : Type} (v : Json) :
    (∀ xs, v = .arr xs →
      flattenInPlace (ε := ε) v = .ok (.arr (xs.flatMap standsFor))) ∧
    (v.isArray = false → flattenInPlace (ε := ε) v = .error (.invariant v)) := by
  constructor
  · rintro xs rfl
    rw [flattenInPlace_arr, flatten1_eq_flatMap]
  · intro h
    cases v <;> simp_all [flattenInPlace, Json.isArray]

/-- only one level is removed: `[[[a]]]` becomes `[[a]]` -/
example : flattenInPlace (ε := ErrKind) (.arr [.arr [.arr [.null]], .bool true])
    = .ok (.arr [.arr [.null], .bool true]) := rfl

/-- **`json_array_flatten`, every value**: it returns the elements of an array of objects, as they
are; an array holding anything else is an invariant error (without the state: it was consumed); a
value that is not an array is an invariant error that echoes it -/
theorem final_flatten_spec {ε : Type} (v : Json) :
    (∀ xs, v = .arr xs → xs.all Json.isObject = true →
      jsonArrayFlatten (ε := ε) v = .ok xs) ∧
    (∀ xs, v = .arr xs → xs.all Json.isObject = false →
      jsonArrayFlatten (ε := ε) v = .error (.invariant noRequest)) ∧
    (v.isArray = false → jsonArrayFlatten (ε := ε) v = .error (.invariant v)) := by
  refine ⟨?_, ?_, ?_⟩
  · rintro xs rfl h; simp [jsonArrayFlatten, h]
  · rintro xs rfl h; simp [jsonArrayFlatten, h]
  · intro h; cases v <;> simp_all [jsonArrayFlatten, Json.isArray]

/-- `json_array_op` on a state that is not an array: an invariant error with the placeholder -/
theorem state_op_rejects_non_array {ε : Type} (op : Json → Except ε Json) (v : Json)
    (h : v.isArray = false) : jsonArrayOp op v = .error (.invariant noRequest) := by
  cases v <;> simp_all [jsonArrayOp, Json.isArray]

/-- `json_array_op`: the first query the plugin rejects decides; the response names that query -/
theorem state_op_first_failure {ε : Type} (op : Json → Except ε Json) (pre post : List Json)
    (q : Json) (e : ε) (hpre : ∀ p ∈ pre, ∃ r, op p = .ok r) (hq : op q = .error e) :
    jsonArrayOp op (.arr (pre ++ q :: post)) = .error (.plugin q e) := by
  obtain ⟨pre', h⟩ := mapOp_ok_of_forall pre hpre
  rw [jsonArrayOp, mapOp_append_error hq post pre pre' h]

/-! ### plugins from configuration (`GridSearchBuilder`, `build_input_plugins`) -/

/-- the builder ignores its parameters and cannot fail (definitional: the model function is the
constant; the real builder is run on arbitrary parameters by the harness, key `builder/behaviour`) -/
theorem builder_ignores_parameters {ε : Type} (parameters : Json) :
    gridSearchBuilder (ε := ε) parameters = .ok process := rfl

/-- entries that name the grid-search plugin build one plugin each, and the loop goes on with the
entries after them -/
theorem buildEntries_grid_append (pre rest : List Json)
    (hpre : ∀ e ∈ pre, e.get? "type" = some (.str gridKey)) :
    buildEntries gridOnlyRegistry (pre ++ rest)
      = (buildEntries gridOnlyRegistry rest).map (List.replicate pre.length process ++ ·) := by
  induction pre with
  | nil => rw [List.nil_append]; cases buildEntries gridOnlyRegistry rest <;> rfl
  | cons e pre ih =>
    rw [List.cons_append, buildEntries, hpre e (List.mem_cons_self ..),
      ih fun x hx => hpre x (List.mem_cons_of_mem _ hx)]
    cases buildEntries gridOnlyRegistry rest <;> rfl

/-- a plugin section listing `n` grid-search entries — whatever else the entries hold — builds `n`
grid-search plugins -/
theorem build_grid_search_entries (cfg : List (String × Json)) (entries : List Json)
    (hc : lookup cfg "input_plugins" = some (.arr entries))
    (he : ∀ e ∈ entries, e.get? "type" = some (.str gridKey)) :
    buildInputPlugins gridOnlyRegistry (.obj cfg) = .ok (List.replicate entries.length process) := by
  have := buildEntries_grid_append entries [] he
  rw [List.append_nil] at this
  simp only [buildInputPlugins, Json.get?, hc, this, buildEntries, Except.map, List.append_nil]

/-- malformed sections: no `input_plugins` field, or one that is not an array -/
theorem build_rejects_malformed_section (config : Json) :
    (config.get? "input_plugins" = none →
      buildInputPlugins gridOnlyRegistry config = .error .expectedField) ∧
    (∀ v, config.get? "input_plugins" = some v → v.isArray = false →
      buildInputPlugins gridOnlyRegistry config = .error .expectedType) := by
  constructor
  · intro h; simp [buildInputPlugins, h]
  · intro v h hv; cases v <;> simp_all [buildInputPlugins, Json.isArray]

/-- the first malformed entry decides: no `type`, a `type` that is not a string, or an unregistered
name -/
theorem build_first_bad_entry (pre post : List Json) (bad : Json)
    (hpre : ∀ e ∈ pre, e.get? "type" = some (.str gridKey)) :
    (bad.get? "type" = none →
      buildEntries gridOnlyRegistry (pre ++ bad :: post) = .error .expectedField) ∧
    (∀ v, bad.get? "type" = some v → v.isString = false →
      buildEntries gridOnlyRegistry (pre ++ bad :: post) = .error .expectedType) ∧
    (∀ t, bad.get? "type" = some (.str t) → t ≠ gridKey →
      buildEntries gridOnlyRegistry (pre ++ bad :: post) = .error .unknownPlugin) := by
  rw [buildEntries_grid_append pre (bad :: post) hpre]
  refine ⟨?_, ?_, ?_⟩
  · intro h; rw [buildEntries, h]; rfl
  · intro v h hv
    cases v with
    | str s => cases hv
    | _ => rw [buildEntries, h]; rfl
  · intro t h ht; rw [buildEntries, h]; simp only [gridOnlyRegistry, ht, if_false]; rfl

/-! ### the plugin listed several times -/

/-- a state of queries the plugin leaves alone, none of them an array, is left alone -/
theorem state_op_identity {ε : Type} (op : Json → Except ε Json) (qs : List Json)
    (hop : ∀ q ∈ qs, op q = .ok q) (hna : qs.all (fun v => !v.isArray) = true) :
    jsonArrayOp op (.arr qs) = .ok (.arr qs) := by
  have h := state_op_concatenates op qs qs (List.map_congr_left hop)
  rwa [← flatten1_eq_flatMap, flatten1_of_no_array qs hna] at h

/-- **listing the plugin several times changes nothing**: a generated query has no grid section
left, so every further grid-search pass returns the state as it is -/
theorem repeated_grid_search_is_idempotent {q : Json} {kvs sec : List (String × Json)}
    (h : GridQuery q kvs sec) (hn : (kvs.map (·.1)).Nodup) (n : Nat) :
    applyInputPlugins (List.replicate (n + 1) process) q = applyInputPlugins [process] q := by
  have ho : q.isObject = true := by rw [h.isObj]; rfl
  let outs := expand (swapRemoveKv kvs gridKey) (axes sec)
  have hleave : ∀ o ∈ outs, process o = .ok o := by
    intro o hoo
    obtain ⟨c, _, rfl⟩ := List.mem_map.mp hoo
    exact process_of_no_section (output_has_no_grid_key h hn c)
  have hna : outs.all (fun v => !v.isArray) = true := List.all_eq_true.mpr fun o hoo => by
    obtain ⟨c, _, rfl⟩ := List.mem_map.mp hoo
    rfl
  have hrest : ∀ m, applyOps (List.replicate m process) (.arr outs) = .ok (.arr outs) := by
    intro m
    induction m with
    | zero => rfl
    | succ m ih => rw [List.replicate_succ, applyOps, state_op_identity process outs hleave hna]; exact ih
  rw [List.replicate_succ, applyInputPlugins_of_ok ho ((applyOps_process_grid h _).trans (hrest n)),
    applyInputPlugins_of_ok ho ((applyOps_process_grid h []).trans rfl)]

-- non-vacuity: the example query through the plugin listed three times; a section with two entries
-- and stray parameters; the malformed sections
example : applyInputPlugins [process, process, process] (.obj exQuery)
    = applyInputPlugins [process] (.obj exQuery) :=
  repeated_grid_search_is_idempotent exQuery_is_grid_query (by decide +kernel) 2
example : (buildInputPlugins gridOnlyRegistry (.obj [("output_plugins", .arr []), ("input_plugins",
      .arr [.obj [("type", .str "grid_search")],
            .obj [("anything", .num "1" 0), ("type", .str "grid_search")]])])).map List.length
    = .ok 2 := by
  rw [build_grid_search_entries _ _ (by rfl) (by
    intro e he
    simp only [List.mem_cons, List.not_mem_nil, or_false] at he
    rcases he with rfl | rfl <;> rfl)]
  rfl
example : buildInputPlugins gridOnlyRegistry (.obj []) = .error .expectedField :=
  (build_rejects_malformed_section _).1 rfl
example : buildInputPlugins gridOnlyRegistry (.obj [("input_plugins", .str "grid_search")])
    = .error .expectedType :=
  (build_rejects_malformed_section _).2 _ (by rfl) rfl
example : buildEntries gridOnlyRegistry [.obj [("type", .str "grid_search")], .obj [("type", .str "nope")]]
    = .error .unknownPlugin :=
  (build_first_bad_entry [.obj [("type", .str "grid_search")]] [] _ (by
    intro e he; simp only [List.mem_cons, List.not_mem_nil, or_false] at he; subst he; rfl)).2.2
    "nope" (by rfl) (by decide +kernel)

end C17
end Compass
