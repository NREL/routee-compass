/-
C19 — the output file holds one intact record per response under any parallelism.

Models.  `Model/Sink.lean`: CsvMapping, the two output formats, WriteMode, `ResponseSink::File` as a state
machine whose `write` is ONE step (the ATOMIC model), Combined sinks, the batch runners as schedules of worker
steps, `CompassApp::run`'s response assembly.  `Model/SinkFine.lean`: the SMALL-STEP model of `write_response`
— acquire the guards, format, one or several `write` calls, count, release — in which the lock is state and the
steps of different workers interleave.  `Model/SinkRead.lean`: readers (JSON, RFC 4180).

How the parts fit.  In the atomic model a record cannot be split or interleaved BY CONSTRUCTION (a step appends a
whole chunk); the sections about it — 5 (every schedule), 5a (Combined sinks, whose members have separate locks), 5b
(`CompassApp::run`), 5d (the whole CSV file), 6, 7 and 9 — prove "none lost, none duplicated, the counter, what is
handed back, for every schedule".  Section 5c (the guard) proves that the small-step model WITH the guard refines the
atomic model for every interleaving of the small steps (and that without the guard it does not): this is where "not
truncated, not interleaved" is a theorem about the mutex.

Trusted, not proved: `std::sync::Mutex` gives mutual exclusion (the small-step model's `lock` field behaves like
it); a `write` call on a handle opened in append mode lands whole at the end of the file (`O_APPEND`; used for
several sinks on one file and for other processes, section 5c); that the Rust code has the shape of the models
is checked differentially by the harness, with real threads only sampling the interleavings.

Modelled rather than verified (the theorems do not speak about these):
* one lock stands for the two guards (file, counter), which the code always takes in this order;
* the formatter's mapping-error messages are not modelled (empty strings) and the failed columns are listed in
  column order, while the code collects them in a `HashMap` (random order of two or more failed columns);
* numbers are lexemes plus abstract doubles (`NumOps`): the JSON round trip is about the text (`eraseBits`);
* `flushEvery = 0` is accepted by the theorems (`% 0` would panic in Rust; `build` never produces it);
* I/O failures are coarse: a record is written whole or not at all (a real `write_all` can stop half way), and
  after a failed write the batch model lets a worker go on (true of `run_batch_without_responses`; the
  persisting runner stops that worker — only "the run is an error" is modelled for it);
* creating the file is `create_new` then the header on the same handle: in the atomic model one step; the
  small-step model of section 5c shows the instant in between (a record before the header);
* every worker finishes (`Complete`, `finished`, `done` are hypotheses: no theorem about termination);
* an Append run on an existing file that lacks a final newline glues its first record to the last line, and on
  an existing EMPTY file writes no header (the theorems say `first ++ records`; "single header" means "written
  only when the file is created");
* a one-column CSV whose cell is empty is written as a blank line, which some CSV readers skip;
* `open_file_spec`, `header_text_spec`, `open_path_spec`, `open_path_on_files`, `close_spec` restate
  definitions of the model: the behaviour of paths, devices and modes is established by the differential run.
-/
import Compass.Proofs.Sink
import Compass.Proofs.SinkRead
import Compass.Proofs.SinkFine
import Compass.Proofs.SinkCombined

namespace Compass
namespace C19
open Sink

/-- numbers are abstract in the theorems; any `NumOps` will do for the witnesses -/
def anyNum : NumOps := { sum := fun _ => 0, finite := fun _ => true, fmt := fun _ => "0.0" }

/-! ## 1. Header and rows agree on the column order -/

/-- the columns a row is built from are, in order, the names the header lists — for the insertion-order
(`rev()`) orientation and for the sorted one -/
theorem csv_row_columns_follow_header (mapping : List (String × CsvMapping)) (sorted : Bool) :
    (rowColumns mapping sorted).map (·.1) = headerKeys mapping sorted := by
  unfold rowColumns headerKeys
  cases sorted with
  | false => simp
  | true =>
    simp only [if_true]
    exact map_sortBy (·.1) _ strLt (fun _ _ => rfl) mapping

/-- the header names every configured column exactly once (it is a permutation of the mapping's keys) -/
theorem csv_header_is_permutation_of_mapping (mapping : List (String × CsvMapping)) (sorted : Bool) :
    (headerKeys mapping sorted).Perm (mapping.map (·.1)) := by
  unfold headerKeys
  cases sorted with
  | false => simp
  | true => simpa using sortBy_perm strLt _

/-- a row is the comma-join of exactly one cell per header column, cell `i` being column `i`'s mapping
applied to the response (empty when the mapping fails) -/
theorem csv_row_is_join_of_header_cells (N : NumOps) (mapping : List (String × CsvMapping)) (sorted : Bool)
    (r : Json) (row : List Char) (r' : Json) (h : formatResponse N (.csv mapping sorted) r = .ok (row, r')) :
    row = joinWith [','] ((rowColumns mapping sorted).map fun c => cellText N c.2 r) ∧
    ((rowColumns mapping sorted).map fun c => cellText N c.2 r).length = (headerKeys mapping sorted).length := by
  refine ⟨(formatResponse_csv_cases N mapping sorted r row r' h).1, ?_⟩
  rw [← csv_row_columns_follow_header]
  simp

/-- Fields are RFC 4180 escaped and a string cell is written as its text, so every written CSV row reads back, under RFC 4180 rules (`SinkRead.readRow`: quoted fields, `""` for
a quote, commas and line breaks allowed inside quotes), into exactly as many fields as the header has, and
field `i` is the value of column `i`: a string's text, any other value's JSON text, empty when the mapping
failed — for every response, every mapping with at least one column (paths, sums, optional; with NO column the
header is an empty line and every row a blank line, which reads back as one empty field), both orientations. -/
theorem csv_row_reads_back (N : NumOps) (mapping : List (String × CsvMapping)) (sorted : Bool) (r : Json)
    (hne : mapping ≠ []) :
    SinkRead.readRow (csvRow N (rowColumns mapping sorted) r)
      = some ((rowColumns mapping sorted).map fun c => cellValue N c.2 r) ∧
    ((rowColumns mapping sorted).map fun c => cellValue N c.2 r).length = (headerKeys mapping sorted).length := by
  refine ⟨SinkRead.readRow_csvRow N _ r (rowColumns_ne_nil mapping sorted hne), ?_⟩
  rw [← csv_row_columns_follow_header]; simp

/-- the header line reads back into the column names, in the order the rows use -/
theorem csv_header_reads_back (mapping : List (String × CsvMapping)) (sorted : Bool) (hne : mapping ≠ []) :
    ∃ line, headerText (.csv mapping sorted) = line ++ ['\n'] ∧
      SinkRead.readRow line = some ((rowColumns mapping sorted).map fun c => c.1.toList) := by
  refine ⟨joinWith [','] (((headerKeys mapping sorted).map String.toList).map csvField), ?_, ?_⟩
  · exact headerText_csv mapping sorted
  · rw [SinkRead.readRow_join]
    · rw [← csv_row_columns_follow_header]; simp [List.map_map, Function.comp]
    · rw [← csv_row_columns_follow_header]
      simpa using rowColumns_ne_nil mapping sorted hne

/-- witnesses (the known-finding keys `sink/csv-nonscalar-cell-unquoted`, `sink/csv-string-cell-json-escaped`
fire if the code stops doing this): an array cell and a string holding a quote and a
comma each read back as ONE field with the cell's value -/
example :
    let f := Format.csv [("path", .path "route.path"), ("origin", .path "request.origin_vertex")] false
    let r := Json.obj [("request", .obj [("origin_vertex", .num "0" 0)]),
                       ("route", .obj [("path", .arr [.num "0" 0, .num "2" 0])])]
    rowOf anyNum f r = txt "0,\"[0,2]\"" ∧ SinkRead.readRow (rowOf anyNum f r) = some [txt "0", txt "[0,2]"] := by
  decide +kernel

example :
    let f := Format.csv [("name", .path "request.name")] false
    let r := Json.obj [("request", .obj [("name", .str "5\" nails, 2 boxes")])]
    rowOf anyNum f r = txt "\"5\"\" nails, 2 boxes\"" ∧
    SinkRead.readRow (rowOf anyNum f r) = some [txt "5\" nails, 2 boxes"] := by
  rw [txt_ofList, txt_ofList]
  decide +kernel

/-- DEFECT, known finding (keys `app/toml-mapping-keys-lowercased`, `app/toml-mapping-columns-merged`): "rows whose
columns follow the CONFIGURED mapping" fails for a mapping written in the application's TOML file: the `config`
crate lower-cases the column names, and names that then coincide are merged — `Time`, `time`, `Zeta` arrive as
the two columns `time` (with the mapping of the second) and `zeta`; no error is raised.  (A mapping given in the
per-run JSON configuration arrives as configured.) -/
theorem toml_mapping_columns_merged_counterexample :
    let configured := [("Time", CsvMapping.path "route.traversal_summary.time"), ("time", .path "request.time"),
                       ("Zeta", .path "request.origin_vertex")]
    (tomlMapping configured).map (·.1) = ["time", "zeta"] ∧
    headerKeys (tomlMapping configured) false = ["zeta", "time"] ∧
    (headerKeys (tomlMapping configured) false).length < configured.length ∧
    (match tomlMapping configured with | (_, .path p) :: _ => p == "request.time" | _ => false) = true := by
  decide +kernel

/-- what holds: names that are lower-case already and pairwise different arrive as configured, in order.
ASCII names only: `Sink.lowerName` lowers `A`–`Z`, while the `config` crate applies Unicode
`str::to_lowercase` (a configured `Ärger` meets `hlow` here and arrives as `ärger` in the code); the
harness draws ASCII names -/
theorem toml_mapping_keeps_distinct_lowercase_names_partial (configured : List (String × CsvMapping))
    (hlow : ∀ c ∈ configured, lowerName c.1 = c.1) (hnd : (configured.map (·.1)).Nodup) :
    tomlMapping configured = configured := by
  unfold tomlMapping
  simpa using foldl_insertColumn_of_nodup configured [] hlow (by simpa using hnd)

/-! ## 2. A record is intact text: one line (JSON), one RFC 4180 record (CSV) -/

/-- a newline-delimited JSON record holds no line break (they are escaped inside strings) -/
theorem json_record_is_one_line (N : NumOps) (r : Json) (h : numsOk r = true) :
    '\n' ∉ rowOf N (.json true) r := by
  rw [rowOf_json]
  exact compact_no_newline r h

/-- a CSV row may hold line breaks — inside quoted fields only (a string cell is written as its text): the
record splitter of a reader (`SinkRead.splitRecords`: a newline ends a record unless inside quotes) cuts any
sequence of written rows back into exactly those rows, nothing left over -/
theorem csv_rows_split_back (N : NumOps) (mapping : List (String × CsvMapping)) (sorted : Bool)
    (rs : List Json) :
    SinkRead.splitRecords ((rs.map fun r => record (csvRow N (rowColumns mapping sorted) r)).flatten)
      = (rs.map fun r => csvRow N (rowColumns mapping sorted) r, []) := by
  have := SinkRead.splitRecords_records (rs.map fun r => csvRow N (rowColumns mapping sorted) r) (by
    intro row hrow
    obtain ⟨r, _, rfl⟩ := List.mem_map.1 hrow
    exact SinkRead.balanced_csvRow N _ r)
  rw [List.map_map] at this
  exact this

example : ∃ r, numsOk r = true ∧ rowOf anyNum (.json true) r ≠ [] ∧ (compact r).contains '\\' :=
  ⟨.obj [("note", .str "line\nbreak")], rfl, by decide +kernel, by decide +kernel⟩

example :
    let f := Format.csv [("note", .path "note"), ("n", .path "n")] true
    let a := Json.obj [("note", .str "line\nbreak"), ("n", .num "1" 0)]
    let b := Json.obj [("note", .str "plain"), ("n", .num "2" 0)]
    (rowOf anyNum f a).contains '\n' = true ∧
    SinkRead.splitRecords (recordOf anyNum f a ++ recordOf anyNum f b) = ([rowOf anyNum f a, rowOf anyNum f b], []) := by
  decide +kernel

/-! ## 3. Writing never loses information of the response handed back -/

/-- JSON output leaves the response alone -/
theorem json_write_keeps_response (N : NumOps) (nd : Bool) (r : Json) :
    postOf N (.json nd) r = r :=
  postOf_json N nd r

/-- An earlier `csv_error` is never replaced: every key/value of the
response before the write is there, unchanged, after it — for all responses, formats and mappings.  The
mapping errors go under the first of `error`, `csv_error`, `csv_error_2`, … that is not in the response. -/
theorem write_never_loses_information (N : NumOps) (f : Format) (r : Json) (row : List Char) (r' : Json)
    (h : formatResponse N f r = .ok (row, r')) :
    ∀ k v, r.get? k = some v → r'.get? k = some v :=
  formatResponse_keeps N f r row r' h

/-- in particular a search error (the entry under `error`) survives a CSV write, whatever the mapping -/
theorem search_error_survives_csv_write (N : NumOps) (mapping : List (String × CsvMapping)) (sorted : Bool)
    (r : Json) (e : Json) (row : List Char) (r' : Json) (he : r.get? "error" = some e)
    (h : formatResponse N (.csv mapping sorted) r = .ok (row, r')) : r'.get? "error" = some e :=
  write_never_loses_information N _ r row r' h "error" e he

/-- the write changes nothing else: the response is returned as it was, or with exactly one entry added under
a key that was not there -/
theorem csv_write_adds_one_new_key (N : NumOps) (mapping : List (String × CsvMapping)) (sorted : Bool)
    (r : Json) (row : List Char) (r' : Json) (h : formatResponse N (.csv mapping sorted) r = .ok (row, r')) :
    r' = r ∨ ∃ key errs, errs ≠ [] ∧ r.get? key = none ∧
      Json.indexAssign r key (csvErrorValue errs) = some r' := by
  rcases (formatResponse_csv_cases N mapping sorted r row r' h).2 with e | ⟨key, hkey, hne, hassign⟩
  · exact Or.inl e
  · exact Or.inr ⟨key, _, hne, csvErrorKey_new r key hkey, hassign⟩

/-- the search for a free key always ends (an object with `n` entries cannot hold `n + 2` different names) -/
theorem error_key_search_terminates (r : Json) : ∃ k, csvErrorKey r = some k ∧ r.get? k = none := by
  obtain ⟨k, hk⟩ := freshErrorKey_terminates r
  exact ⟨k, hk, csvErrorKey_new r k hk⟩

/-- witness (the known-finding key `sink/csv-error-replaced` fires if the code stops doing this): a response that
already holds `error` and `csv_error` keeps both; the mapping errors go under `csv_error_2` -/
example :
    let f := Format.csv [("distance", .path "route.traversal_summary.distance")] false
    let r := Json.obj [("request", .obj []), ("error", .str "no path"), ("csv_error", .str "from an earlier sink")]
    ((postOf anyNum f r).get? "csv_error").bind Json.asStr? = some "from an earlier sink" ∧
    ((postOf anyNum f r).get? "error").bind Json.asStr? = some "no path" ∧
    ((postOf anyNum f r).get? "csv_error_2").isSome = true := by
  decide +kernel

/-- the same through a Combined policy of three CSV files and one failed query: every member's mapping errors
are in the response handed back -/
example :
    let mk := fun (f : Format) =>
      ({ format := f, flushEvery := 1, file := [[]], iterations := 0, flushes := 0, poisoned := false } : FileSink)
    let s1 := mk (.csv [("distance", .path "route.traversal_summary.distance")] false)
    let s2 := mk (.csv [("energy", .path "route.traversal_summary.energy")] false)
    let s3 := mk (.csv [("time", .path "route.traversal_summary.time")] false)
    let r := Json.obj [("request", .obj []), ("error", .str "no path")]
    (match writeCombined anyNum [s1, s2, s3] r with
      | .ok _ r' =>
        (((r'.get? "csv_error").bind (·.get? "csv")).bind (·.get? "distance")).isSome &&
        (((r'.get? "csv_error_2").bind (·.get? "csv")).bind (·.get? "energy")).isSome &&
        (((r'.get? "csv_error_3").bind (·.get? "csv")).bind (·.get? "time")).isSome &&
        ((r'.get? "error").bind Json.asStr? == some "no path")
      | _ => false) = true := by
  decide +kernel

/-- responses as the application produces them (objects) can always be written: the formatter returns; a
JSON value that is neither an object nor `null` makes the CSV formatter panic when a mapping fails
(modelled, not reachable from `CompassApp::run`, whose responses are objects) -/
theorem objects_are_writable (N : NumOps) (f : Format) (r : Json) (h : r.isObject = true ∨ r.isNull = true) :
    Writable N f r :=
  writable_of_obj_or_null N f r h

example : ¬ Writable anyNum (.csv [("a", .path "a")] false) (.num "3" 0) := by
  rintro ⟨p, hp⟩
  have : formatResponse anyNum (.csv [("a", .path "a")] false) (.num "3" 0) = .panic := rfl
  rw [this] at hp
  cases hp

/-! ## 4. Opening the file: append / overwrite / error-if-exists, header written once -/

/-- `WriteMode::Append` (the only mode `ResponseOutputPolicy::build` uses) leaves an existing file exactly as
it is — no second header — and starts a missing file with the header; `Overwrite` always starts over with
the header; `Error` refuses an existing file. -/
theorem open_file_spec (f : Format) (c : List Char) :
    openFile .append f (some c) = some c ∧
    openFile .append f none = some (headerText f) ∧
    openFile .overwrite f (some c) = some (headerText f) ∧
    openFile .overwrite f none = some (headerText f) ∧
    openFile .error f (some c) = none ∧
    openFile .error f none = some (headerText f) := by
  simp [openFile]

/-- the header of a CSV file is the comma-joined (CSV-escaped) column names and a newline; newline-delimited JSON has none. -/
theorem header_text_spec (mapping : List (String × CsvMapping)) (sorted : Bool) :
    headerText (.csv mapping sorted)
      = joinWith [','] ((headerKeys mapping sorted).map fun k => csvField k.toList) ++ ['\n'] ∧
    headerText (.json true) = [] := by
  simp [headerText, initialContents]

/-! ## 5. One record per response for every schedule -/

/-- In the atomic model a `write_response` is one step, so "whole" records are by construction (the guard that
makes this the right model is section 5c).  Workers own queues of responses; a schedule is ANY list of worker ids; a step lets the scheduled
worker write its next response (one atomic `write_response`).  Whatever the schedule, as long as the
responses are writable (objects are): the file is what it was at the start followed by exactly one whole
record per response written so far, in the order `trace` in which the lock was taken; the written
responses together with the still-queued ones are a permutation of the batch (none lost, none duplicated);
the counter counts them; nothing failed.  `persist` is the persistence policy: it changes `returned`
only, never the file. -/
theorem file_holds_one_record_per_written_response (N : NumOps) (persist : Bool) (sink : FileSink)
    (queues : List (List Json)) (schedule : List Nat) (hp : sink.Healthy)
    (hw : ∀ r ∈ queues.flatten, Writable N sink.format r) :
    ∃ trace : List Json,
      let final := (Run.init sink queues).exec N persist schedule
      final.sink.file = sink.file ++ trace.map (recordOf N sink.format) ∧
      (trace ++ final.queues.flatten).Perm queues.flatten ∧
      final.sink.iterations = sink.iterations + trace.length ∧
      final.failed = 0 ∧ final.sink.Healthy := by
  obtain ⟨t, h⟩ := exec_progress N persist schedule (Run.init sink queues) (ready_init hp hw)
  exact ⟨t, h.file, h.queues, h.iterations, h.failed, h.poisoned⟩

/-- when the batch is complete (every queue drained) the records appended to the file are, as a multiset,
exactly `{record r | r ∈ batch}`: one record per response, none lost, none duplicated, for every parallelism
(number of queues) and every schedule.  (That a record is not split or interleaved cannot be said in this model,
where a write is one step: that is section 5c.) -/
theorem complete_batch_file_is_multiset_of_records (N : NumOps) (persist : Bool) (sink : FileSink)
    (queues : List (List Json)) (schedule : List Nat) (hp : sink.Healthy)
    (hw : ∀ r ∈ queues.flatten, Writable N sink.format r)
    (hdone : ((Run.init sink queues).exec N persist schedule).done = true) :
    ∃ appended : List (List Char),
      ((Run.init sink queues).exec N persist schedule).sink.file = sink.file ++ appended ∧
      appended.Perm (queues.flatten.map (recordOf N sink.format)) ∧
      appended.length = queues.flatten.length ∧
      ((Run.init sink queues).exec N persist schedule).sink.iterations = sink.iterations + queues.flatten.length := by
  obtain ⟨t, hfile, hperm, hit, _, _⟩ :=
    file_holds_one_record_per_written_response N persist sink queues schedule hp hw
  rw [done_flatten_nil _ hdone, List.append_nil] at hperm
  exact ⟨t.map (recordOf N sink.format), hfile, hperm.map _, by simpa using hperm.length_eq,
    by rw [hit, hperm.length_eq]⟩

/-- the text of the file: opening contents, then the records one after the other — nothing in between -/
theorem file_text_is_concatenation (N : NumOps) (persist : Bool) (sink : FileSink)
    (queues : List (List Json)) (schedule : List Nat) (hp : sink.Healthy)
    (hw : ∀ r ∈ queues.flatten, Writable N sink.format r) :
    ∃ trace : List Json,
      ((Run.init sink queues).exec N persist schedule).sink.contents
        = sink.contents ++ (trace.map (recordOf N sink.format)).flatten := by
  obtain ⟨t, hfile, _⟩ := file_holds_one_record_per_written_response N persist sink queues schedule hp hw
  exact ⟨t, by simp only [FileSink.contents]; rw [hfile]; simp⟩

/-- a run on the sink that `build` hands out (`WriteMode::Append`, the mode it always uses): the file text is what
`open_file` left — the existing text, or the header of a new file — followed by one record per response written -/
theorem append_run (N : NumOps) (persist : Bool) (f : Format) (rate : Option Int) (existing : Option (List Char))
    (sink : FileSink) (queues : List (List Json)) (schedule : List Nat)
    (hb : build .append f rate existing = .ok sink) (hw : ∀ r ∈ queues.flatten, Writable N f r) :
    ∃ trace : List Json,
      ((Run.init sink queues).exec N persist schedule).sink.contents
        = existing.getD (headerText f) ++ (trace.map (recordOf N f)).flatten ∧
      (trace ++ ((Run.init sink queues).exec N persist schedule).queues.flatten).Perm queues.flatten := by
  obtain ⟨⟨c, hc, hfile⟩, hfmt, hpo, _⟩ := build_ok_spec .append f rate existing sink hb
  obtain ⟨t, h1, h2, _⟩ :=
    file_holds_one_record_per_written_response N persist sink queues schedule hpo (by rw [hfmt]; exact hw)
  refine ⟨t, ?_, h2⟩
  have : c = existing.getD (headerText f) := by
    cases existing <;> exact (Option.some.inj hc).symm
  simp only [FileSink.contents, h1, hfile, hfmt, this]
  simp

/-- line count: with one-line records the completed batch adds exactly one newline per response -/
theorem complete_batch_line_count (N : NumOps) (persist : Bool) (sink : FileSink)
    (queues : List (List Json)) (schedule : List Nat) (hp : sink.Healthy)
    (hw : ∀ r ∈ queues.flatten, Writable N sink.format r)
    (hline : ∀ r ∈ queues.flatten, '\n' ∉ rowOf N sink.format r)
    (hdone : ((Run.init sink queues).exec N persist schedule).done = true) :
    ((Run.init sink queues).exec N persist schedule).sink.contents.count '\n'
      = sink.contents.count '\n' + queues.flatten.length := by
  obtain ⟨app, hfile, hperm, _, _⟩ :=
    complete_batch_file_is_multiset_of_records N persist sink queues schedule hp hw hdone
  simp only [FileSink.contents, hfile, List.flatten_append, List.count_append]
  congr 1
  have : (app.flatten).count '\n' = ((queues.flatten.map (recordOf N sink.format)).flatten).count '\n' :=
    (List.Perm.flatten hperm).count_eq _
  rw [this, count_newline_records N sink.format _ hline]

/-- the persistence policy does not touch the file: both runners leave the same sink behind -/
theorem file_same_under_both_persistence_policies (N : NumOps) (s : Run) (schedule : List Nat) :
    (s.exec N true schedule).sink = (s.exec N false schedule).sink ∧
    (s.exec N true schedule).queues = (s.exec N false schedule).queues := by
  -- the two runs agree on everything `step` reads
  exact List.foldl_rel (r := fun a b : Run => a.sink = b.sink ∧ a.queues = b.queues) ⟨rfl, rfl⟩
    fun w _ a b h => step_persist_irrelevant N true false a b w h.1 h.2

/-- what the callers get back: under `PersistResponseInMemory` the responses handed back are, as a
multiset, the `format_response`-amended versions of the responses written (hence, by section 3, they keep
everything they held); under `DiscardResponseFromMemory` nothing is kept -/
theorem returned_responses (N : NumOps) (persist : Bool) (sink : FileSink)
    (queues : List (List Json)) (schedule : List Nat) (hp : sink.Healthy)
    (hw : ∀ r ∈ queues.flatten, Writable N sink.format r)
    (hdone : ((Run.init sink queues).exec N persist schedule).done = true) :
    ((Run.init sink queues).exec N persist schedule).returned.flatten.Perm
      (if persist then queues.flatten.map (postOf N sink.format) else []) := by
  obtain ⟨t, h⟩ := exec_progress N persist schedule (Run.init sink queues) (ready_init hp hw)
  have hq := h.queues
  rw [done_flatten_nil _ hdone, List.append_nil] at hq
  have hr := h.returned
  have hinit : (Run.init sink queues).returned.flatten = [] := flatten_map_eq_nil fun _ _ => rfl
  rw [hinit, List.nil_append] at hr
  cases persist with
  | false => simpa using hr
  | true =>
    have hq' : t.Perm queues.flatten := hq
    simpa [Run.init] using hr.trans (hq'.map _)

/-- what is handed back exactly, not only as a multiset: under `PersistResponseInMemory` worker `w` hands back, in the order
of its queue, the amended version of each of its responses — the same vectors for every schedule -/
theorem returned_in_query_order (N : NumOps) (sink : FileSink) (queues : List (List Json))
    (schedule : List Nat) (hp : sink.Healthy)
    (hw : ∀ r ∈ queues.flatten, Writable N sink.format r)
    (hdone : ((Run.init sink queues).exec N true schedule).done = true) :
    ((Run.init sink queues).exec N true schedule).returned
      = queues.map (fun q => q.map (postOf N sink.format)) := by
  have hinv := exec_handBack N schedule (Run.init sink queues) (ready_init hp hw)
  obtain ⟨t, h⟩ := exec_progress N true schedule (Run.init sink queues) (ready_init hp hw)
  have hnil := List.flatten_eq_nil_iff.1 (done_flatten_nil _ hdone)
  rw [handBack_of_all_nil N _ _ _ (by rw [h.retWidth, h.width]; simp [Run.init]) hnil] at hinv
  rw [hinv]
  exact handBack_init N sink.format queues

/-- non-vacuity: for this batch complete schedules exist, and different
schedules give different files with the same records -/
example :
    let f := Format.json true
    let sink : FileSink := { format := f, flushEvery := 1, file := [[]], iterations := 0, flushes := 0, poisoned := false }
    let a := Json.obj [("request", .num "1" 0)]
    let b := Json.obj [("request", .num "2" 0), ("error", .str "no path")]
    let c := Json.obj [("request", .num "3" 0)]
    let run := fun sch => (Run.init sink [[a, b], [c]]).exec anyNum true sch
    (run [0, 1, 0]).done = true ∧ (run [1, 0, 0, 1, 7]).done = true ∧ (run [0, 1]).done = false ∧
    (run [0, 1, 0]).sink.contents ≠ (run [1, 0, 0]).sink.contents ∧
    (run [0, 1, 0]).sink.contents.count '\n' = 3 := by
  decide +kernel

/-! ## 5a. Combined sinks -/

/-- what one Combined `write_response` does, exactly (a Combined policy is flattened depth-first): on healthy
members and an object response it succeeds; member `i` appends the record of the response AS MEMBERS `< i`
AMENDED IT and counts it; the response handed back is the response amended by every member in turn -/
theorem combined_write_spec (N : NumOps) (ss : List FileSink) (r : Json)
    (hp : ∀ s ∈ ss, s.Healthy) (hr : r.isObject = true) :
    ∃ ss', writeCombined N ss r = .ok ss' (amendBy N (ss.map (·.format)) r) ∧ ss'.length = ss.length ∧
      ∀ i s, ss[i]? = some s → ∃ s', ss'[i]? = some s' ∧
        s'.file = s.file ++ [recordOf N s.format (amendBy N ((ss.map (·.format)).take i) r)] ∧
        s'.iterations = s.iterations + 1 ∧ s'.format = s.format ∧ s'.Healthy :=
  writeCombined_spec N ss r hp hr

/-- a Combined write never removes or replaces anything in the response, whatever the members (any number of CSV
files, any mappings) -/
theorem combined_write_never_loses_information (N : NumOps) (ss : List FileSink) (r : Json)
    (ss' : List FileSink) (r' : Json) (h : writeCombined N ss r = .ok ss' r') :
    ∀ k v, r.get? k = some v → r'.get? k = some v :=
  writeCombined_never_loses N ss r ss' r' h

/-- A batch on a Combined sink, every schedule.  The members have separate locks: a worker is inside one member
at a time and holds nothing between two members, so workers overtake each other between members (`RunC`: a
step is one worker's next member write).  For every schedule and every member `i`: its file is what it was
followed by exactly one whole record per response that has reached it — the record of that response as members
`< i` amended it; written and not-yet-arrived responses together are a permutation of the batch; when the
batch is complete the records of member `i` are the multiset `{record_i (amend_{<i} r) | r ∈ batch}`.
Hypotheses: healthy members, object responses (what the application produces).  Each member write is one step
here; that this is right for each member is section 5c. -/
theorem combined_batch_member_file (N : NumOps) (persist : Bool) (sinks : List FileSink)
    (queues : List (List Json)) (schedule : List Nat) (i : Nat) (si : FileSink)
    (hh : ∀ s ∈ sinks, s.Healthy) (hobj : ∀ r ∈ queues.flatten, r.isObject = true)
    (hi : sinks[i]? = some si) :
    let fmts := sinks.map (·.format)
    let final := (RunC.init sinks queues).exec N persist schedule
    ∃ (si' : FileSink) (trace : List Json),
      final.sinks[i]? = some si' ∧
      si'.file = si.file ++ trace.map (recordOf N si.format) ∧
      si'.iterations = si.iterations + trace.length ∧
      (trace ++ (final.workers.map (projQueue N fmts i)).flatten).Perm
        (queues.flatten.map (amendBy N (fmts.take i))) ∧
      (final.done = true → trace.Perm (queues.flatten.map (amendBy N (fmts.take i)))) := by
  intro fmts final
  -- member `i` alone, on the responses as members `< i` will leave them
  let A0 : Run := Run.init si (queues.map fun q => q.map (amendBy N (fmts.take i)))
  obtain ⟨as, _, hsim⟩ := execC_sim N persist fmts i schedule _ A0 (initC_good hh hobj) (initC_sim N queues hi)
  have hbatch : A0.queues.flatten = queues.flatten.map (amendBy N (fmts.take i)) := List.map_flatten.symm
  have hwA : ∀ r ∈ A0.queues.flatten, Writable N A0.sink.format r := by
    intro r hr
    rw [hbatch] at hr
    obtain ⟨r0, hr0, rfl⟩ := List.mem_map.1 hr
    exact writable_of_obj_or_null N _ _ (.inl (isObject_amendBy N _ r0 (hobj r0 hr0)))
  obtain ⟨t, hprog⟩ := exec_progress N false as A0 (ready_init (hh si (List.mem_of_getElem? hi)) hwA)
  have hperm := hprog.queues
  rw [hsim.queues, hbatch] at hperm
  refine ⟨_, t, hsim.sink, hprog.file, hprog.iterations, hperm, fun hdone => ?_⟩
  rw [doneC_projQueue_nil N fmts i hdone, List.append_nil] at hperm
  exact hperm

example :
    let mk := fun (f : Format) =>
      ({ format := f, flushEvery := 1, file := [[]], iterations := 0, flushes := 0, poisoned := false } : FileSink)
    let csv1 := mk (.csv [("distance", .path "route.distance")] false)
    let json := mk (.json true)
    let a := Json.obj [("request", .num "1" 0), ("error", .str "no path")]
    let b := Json.obj [("request", .num "2" 0), ("route", .obj [("distance", .num "3.5" 0)])]
    -- two workers overtaking each other between the members: b reaches the JSON member before a
    let final := (RunC.init [csv1, json] [[a], [b]]).exec anyNum true [0, 0, 1, 1, 1, 0, 0, 1]
    final.done = true ∧
    (final.sinks.map FileSink.contents) = [txt "\n3.5\n",
      txt "{\"request\":2,\"route\":{\"distance\":3.5}}\n{\"request\":1,\"error\":\"no path\",\"csv_error\":{\"csv\":{\"distance\":\"\"}}}\n"] := by
  rw [txt_ofList, txt_ofList]
  decide +kernel

/-! ## 5b. `CompassApp::run`: every response of the batch has its record -/

/-- `CompassApp::run` hands the error responses of queries that failed input
processing to the sink before the searches start.  For every batch — responses of searched queries
spread over any number of workers, plus any number of input-processing error responses — every complete
schedule and both persistence policies: `run` returns; the file is what it was followed by exactly one
record per response of the batch (the error responses' records first, in order); the caller gets back the
amended error responses under both policies and, under `PersistResponseInMemory`, the amended search
responses too — then as many responses as records were written. -/
theorem app_file_has_one_record_per_response (N : NumOps) (persist : Bool) (sink : FileSink)
    (queues : List (List Json)) (inputErrors : List Json) (schedule : List Nat)
    (hp : sink.Healthy)
    (hw : ∀ r ∈ inputErrors ++ queues.flatten, Writable N sink.format r)
    (hdone : Complete queues schedule) :
    ∃ (sink' : FileSink) (returned : List Json) (appended : List (List Char)),
      appRun N persist sink queues inputErrors schedule = some (sink', returned) ∧
      sink'.file = sink.file ++ inputErrors.map (recordOf N sink.format) ++ appended ∧
      appended.Perm (queues.flatten.map (recordOf N sink.format)) ∧
      (inputErrors.map (recordOf N sink.format) ++ appended).length = inputErrors.length + queues.flatten.length ∧
      sink'.iterations = sink.iterations + (inputErrors.length + queues.flatten.length) ∧
      returned.Perm ((if persist then queues.flatten.map (postOf N sink.format) else [])
        ++ inputErrors.map (postOf N sink.format)) ∧
      (persist = true → returned.length = inputErrors.length + queues.flatten.length) := by
  obtain ⟨s₁, hs₁, hfile₁, hit₁, hfmt₁, hpo₁⟩ :=
    writeSeq_spec N inputErrors sink hp (fun r hr => hw r (List.mem_append_left _ hr))
  have hw₁ : ∀ r ∈ queues.flatten, Writable N s₁.format r := by
    intro r hr; rw [hfmt₁]; exact hw r (List.mem_append_right _ hr)
  have hd := done_of_complete N persist s₁ queues schedule hdone
  obtain ⟨app, hfile, hperm, hlen, hit⟩ :=
    complete_batch_file_is_multiset_of_records N persist s₁ queues schedule hpo₁ hw₁ hd
  have hret := returned_responses N persist s₁ queues schedule hpo₁ hw₁ hd
  obtain ⟨_, _, _, _, hfailed, _⟩ :=
    file_holds_one_record_per_written_response N persist s₁ queues schedule hpo₁ hw₁
  rw [hfmt₁] at hperm hret
  refine ⟨((Run.init s₁ queues).exec N persist schedule).sink, _, app, by simp [appRun, hs₁, hfailed],
    by rw [hfile, hfile₁], hperm, ?_, ?_,
    List.Perm.append_right _ hret, ?_⟩
  · rw [List.length_append, List.length_map, hlen]
  · rw [hit, hit₁]; omega
  · intro hpers
    subst hpers
    simp only [if_true] at hret
    rw [List.length_append, hret.length_eq, List.length_map, List.length_map]
    omega

/-- witness: one good query and one that fails input processing give two responses AND two records, under both persistence policies -/
example :
    let sink : FileSink := { format := .json true, flushEvery := 1, file := [[]], iterations := 0, flushes := 0, poisoned := false }
    let good := Json.obj [("request", .obj [("origin_vertex", .num "0" 0)]), ("route", .null)]
    let bad := Json.obj [("request", .obj [("error", .str "unable to display query")]), ("error", .str "input plugin error")]
    ((appRun anyNum true sink [[good]] [bad] [0]).map fun p => (p.2.length, p.1.file.length)) = some (2, 1 + 2) ∧
    ((appRun anyNum false sink [[good]] [bad] [0]).map fun p => (p.2.length, p.1.file.length)) = some (1, 1 + 2) ∧
    ((appRun anyNum true sink [] [bad] []).map fun p => (p.2.length, p.1.file.length)) = some (1, 1 + 1) := by
  decide +kernel

/-- for this batch complete schedules exist: finishing the workers one after the other is one -/
example : Complete [[Json.null, .null], [], [.null]] (sequentialSchedule [[Json.null, .null], [], [.null]]) ∧
    Complete [[Json.null, .null], [], [.null]] [2, 0, 5, 0, 1] ∧ ¬ Complete [[Json.null, .null], [], [.null]] [0, 2] := by
  unfold Complete; decide +kernel

/-! ## 5c. The guard: "not truncated, not interleaved" as a theorem about the lock -/

open SinkFine in
/-- In the small-step model (`Model/SinkFine.lean`: acquire, format, one or SEVERAL `write` calls
per record — any `split` whose pieces concatenate to the buffer —, count, release; any list of worker ids as
schedule; a worker that wants a taken lock does not move) WITH the guard, every interleaving of the small steps
is in step with a run of the atomic model under some schedule of its own — the order in which the lock was
released: same queues, same responses handed back, and the file text and counter equal as soon as nobody is
inside `write_response`.  Hypotheses: a healthy sink, writable responses (objects are). -/
theorem guarded_small_steps_refine_atomic (c : Config) (sink : FileSink) (queues : List (List Json))
    (schedule : List Nat) (hg : c.guard = true) (hsplit : ∀ t, (c.split t).flatten = t)
    (hf : sink.format = c.format) (hh : sink.Healthy)
    (hw : ∀ r ∈ queues.flatten, Writable c.N c.format r) :
    ∃ atomic : List Nat,
      let st := exec c (SinkFine.init sink.file sink.iterations queues) schedule
      let A := (Run.init sink queues).exec c.N c.persist atomic
      st.workers.map (·.queue) = A.queues ∧ st.workers.map (·.returned) = A.returned ∧
      st.failed = 0 ∧ st.poisoned = false ∧
      (st.lock = none → st.contents = A.sink.contents ∧ st.iterations = A.sink.iterations) := by
  have h0 := init_sim c sink queues hf hh
  obtain ⟨as, hsim⟩ := exec_sim c hg hsplit schedule _ _ h0 hw
  exact ⟨as, hsim.queues.symm, hsim.returned.symm, hsim.failed.1, hsim.notPoisoned,
    fun hl => sim_unlocked c _ _ hsim hl⟩

open SinkFine in
/-- ("not truncated, not interleaved" of the property.)  With the guard, for every interleaving of the small steps of any number of workers
and however the OS cuts the buffers: once every worker has finished, the file TEXT is what it was followed by
whole records, one per response — the records of a permutation of the batch, none truncated, none interleaved,
none lost, none duplicated — the counter has counted them, and (persist) each worker got back its amended
responses in queue order. -/
theorem guarded_finished_file_is_whole_records (c : Config) (sink : FileSink) (queues : List (List Json))
    (schedule : List Nat) (hg : c.guard = true) (hsplit : ∀ t, (c.split t).flatten = t)
    (hf : sink.format = c.format) (hh : sink.Healthy)
    (hw : ∀ r ∈ queues.flatten, Writable c.N c.format r)
    (hfin : (exec c (SinkFine.init sink.file sink.iterations queues) schedule).finished = true) :
    ∃ written : List Json,
      written.Perm queues.flatten ∧
      (exec c (SinkFine.init sink.file sink.iterations queues) schedule).contents
        = sink.contents ++ (written.map (recordOf c.N c.format)).flatten ∧
      (exec c (SinkFine.init sink.file sink.iterations queues) schedule).iterations
        = sink.iterations + queues.flatten.length ∧
      (c.persist = true →
        (exec c (SinkFine.init sink.file sink.iterations queues) schedule).workers.map (·.returned)
          = queues.map (fun q => q.map (postOf c.N c.format))) := by
  have h0 := init_sim c sink queues hf hh
  obtain ⟨as, hsim⟩ := exec_sim c hg hsplit schedule _ _ h0 hw
  obtain ⟨hlock, hdone⟩ := finished_unlocked c _ _ hsim hfin
  obtain ⟨hcont, hiter⟩ := sim_unlocked c _ _ hsim hlock
  have hwA : ∀ r ∈ queues.flatten, Writable c.N sink.format r := by rw [hf]; exact hw
  obtain ⟨t, hprog⟩ := exec_progress c.N c.persist as (Run.init sink queues) (ready_init hh hwA)
  have hq := hprog.queues
  rw [done_flatten_nil _ hdone, List.append_nil] at hq
  refine ⟨t, hq, ?_, ?_, ?_⟩
  · rw [hcont]
    simp only [FileSink.contents, hprog.file, List.flatten_append]
    rw [← hf]; rfl
  · rw [hiter, hprog.iterations, hq.length_eq]; rfl
  · intro hper
    rw [← hsim.returned, ← hf]
    rw [hper] at hdone ⊢
    exact returned_in_query_order c.N sink queues as hh hwA hdone

open SinkFine in
/-- the guard is what does it: the same code WITHOUT the mutex, the buffer going out in two `write` calls (row,
line break — as `writeln!` on an unbuffered file does; or any partial write), two workers: the two rows land
before the two line breaks — a glued record and a blank one; with the guard the same schedule gives whole
records -/
theorem unguarded_two_call_write_interleaves_counterexample :
    let a := Json.obj [("a", .num "1" 0)]
    let b := Json.obj [("b", .num "2" 0)]
    let cfg := fun g => ({ N := anyNum, format := .json true, persist := true, guard := g, split := rowThenNewline } : Config)
    let sch := [0, 1, 0, 1, 0, 1, 0, 1, 0, 1, 0, 1, 0, 1, 1, 1, 1, 1, 1]
    (exec (cfg false) (SinkFine.init [[]] 0 [[a], [b]]) sch).contents = txt "{\"a\":1}{\"b\":2}\n\n" ∧
    (exec (cfg false) (SinkFine.init [[]] 0 [[a], [b]]) sch).finished = true ∧
    (exec (cfg true) (SinkFine.init [[]] 0 [[a], [b]]) sch).contents = txt "{\"a\":1}\n{\"b\":2}\n" ∧
    (exec (cfg true) (SinkFine.init [[]] 0 [[a], [b]]) sch).finished = true := by
  rw [txt_ofList, txt_ofList]
  decide +kernel

open SinkFine in
/-- Several sinks on one file (two members of a Combined policy with the same filename, two `run` calls at the
same time, another process): each sink has its own mutex, so there is no common lock — covered by `guard`
arbitrary.  The code sends a record out
in one `write` call (`split = oneCall`), and then for EVERY interleaving of the small steps, with or without
lock: the file is what it was followed by whole records, one per record written; written and unwritten
responses are a permutation of the batch; when all have finished the records are those of a permutation of the
batch.  Rests on: a `write` on an append-mode handle lands whole at the end of the file (trusted, `O_APPEND`);
`write_all` not being cut into several calls (true of regular files; otherwise only the guarded theorem
holds). -/
theorem one_call_records_whole_without_common_lock (c : Config) (file : List (List Char)) (iterations : Nat)
    (queues : List (List Json)) (schedule : List Nat) (hone : c.split = oneCall)
    (hw : ∀ r ∈ queues.flatten, Writable c.N c.format r) :
    ∃ written : List Json,
      (exec c (SinkFine.init file iterations queues) schedule).file
        = file ++ written.map (recordOf c.N c.format) ∧
      (written ++ ((exec c (SinkFine.init file iterations queues) schedule).workers.map pendingOf).flatten).Perm
        queues.flatten ∧
      ((exec c (SinkFine.init file iterations queues) schedule).finished = true → written.Perm queues.flatten) := by
  -- the atomic run starts on a sink that holds the same file
  let sink : FileSink :=
    { format := c.format, flushEvery := 1, file := file, iterations := iterations, flushes := 0, poisoned := false }
  obtain ⟨as, hsim⟩ := execW_sim c hone schedule _ _ (init_simW c sink queues rfl ⟨rfl, rfl⟩ hw)
  obtain ⟨t, hprog⟩ := exec_progress c.N false as (Run.init sink queues) (ready_init ⟨rfl, rfl⟩ hw)
  have hp : (t ++ ((exec c (SinkFine.init file iterations queues) schedule).workers.map pendingOf).flatten).Perm
      queues.flatten := by
    have := hprog.queues
    rwa [hsim.queues] at this
  refine ⟨t, hsim.file.symm.trans hprog.file, hp, fun hfin => ?_⟩
  rwa [finished_pending_nil _ hfin, List.append_nil] at hp

open SinkFine in
/-- witness (known-finding key `sink/aliased-handles-interleave`): with a two-call write and no common lock the
records interleave; with the one-call write they are whole under the same schedule -/
example :
    let a := Json.obj [("a", .num "1" 0)]
    let b := Json.obj [("b", .num "2" 0)]
    let cfg := fun sp => ({ N := anyNum, format := .json true, persist := false, guard := false, split := sp } : Config)
    let sch := [0, 1, 0, 1, 0, 1, 0, 1, 0, 1, 0, 1, 0, 1]
    (exec (cfg rowThenNewline) (SinkFine.init [txt "h\n"] 0 [[a], [b]]) sch).contents = txt "h\n{\"a\":1}{\"b\":2}\n\n" ∧
    (exec (cfg oneCall) (SinkFine.init [txt "h\n"] 0 [[a], [b]]) sch).contents = txt "h\n{\"a\":1}\n{\"b\":2}\n" := by
  rw [txt_ofList, txt_ofList, txt_ofList]
  decide +kernel

open SinkFine in
/-- Creating the file (`WriteMode::Append` creates a missing output file with create-new
semantics): any number of sinks opening one path at the same time and appending, any interleaving of their
steps — nothing that is in the file is ever removed: the file only grows, piece after piece.  (`create_new` being
one step — it fails when the file is there — is the OS's, trusted.) -/
theorem create_new_never_truncates (header : List Char) (st : OpenState) (schedule : List Nat) :
    ∀ pieces, st.file = some pieces →
      ∃ extra, (openExec false header st schedule).file = some (pieces ++ extra) :=
  openExec_extends header schedule st

open SinkFine in
/-- witness (known-finding key `sink/concurrent-build-truncates`): with check-then-write (`checkThenWrite = true`)
two sinks that both saw the path missing both write the header, the second truncating the record the first had
appended; with `create_new` the record is kept.  The last line shows what the model of `create_new` still allows:
a record of the sink that lost the race to create may land before the header (nothing is lost). -/
theorem check_then_write_truncates_counterexample :
    let st : OpenState := { file := none, openers := [{ records := [txt "a\n"] }, { records := [txt "b\n"] }] }
    let sch := [0, 1, 0, 0, 1, 1]
    (openExec true (txt "h\n") st sch).file = some [txt "h\n", txt "b\n"] ∧
    (openExec false (txt "h\n") st sch).file = some [txt "h\n", txt "a\n", txt "b\n"] ∧
    (openExec false (txt "h\n") st [0, 1, 1, 0, 0]).file = some [txt "b\n", txt "h\n", txt "a\n"] := by
  decide +kernel

/-! ## 5d. The whole CSV file, as a reader cuts it -/

/-- a first run on a missing path, any schedule: the reader's record splitter cuts the WHOLE file — header and
all — into the header line followed by exactly the rows of the responses written, nothing left over.
(`csv_rows_split_back` is the same for a bare sequence of rows.) -/
theorem whole_csv_file_splits (N : NumOps) (persist : Bool) (m : List (String × CsvMapping)) (s : Bool)
    (rate : Option Int) (sink : FileSink) (queues : List (List Json)) (schedule : List Nat)
    (hb : build .append (.csv m s) rate none = .ok sink)
    (hw : ∀ r ∈ queues.flatten, Writable N (.csv m s) r) :
    ∃ trace : List Json, (trace ++ ((Run.init sink queues).exec N persist schedule).queues.flatten).Perm queues.flatten ∧
      SinkRead.splitRecords ((Run.init sink queues).exec N persist schedule).sink.contents
        = (joinWith [','] (((headerKeys m s).map String.toList).map csvField)
            :: trace.map (fun r => csvRow N (rowColumns m s) r), []) := by
  obtain ⟨t, h1, h2⟩ := append_run N persist (.csv m s) rate none sink queues schedule hb hw
  refine ⟨t, h2, ?_⟩
  have hrows : t.map (recordOf N (.csv m s)) = (t.map (fun r => csvRow N (rowColumns m s) r)).map record := by
    rw [List.map_map]
    apply List.map_congr_left
    intro r hr
    simp only [Function.comp, recordOf, rowOf_csv (hw r (h2.subset (List.mem_append_left _ hr)))]
  have := SinkRead.splitRecords_records
    (joinWith [','] (((headerKeys m s).map String.toList).map csvField) :: t.map (fun r => csvRow N (rowColumns m s) r))
    (by
      intro row hrow
      rcases List.mem_cons.1 hrow with rfl | hrow
      · exact SinkRead.balanced_join _
      · obtain ⟨r, _, rfl⟩ := List.mem_map.1 hrow
        exact SinkRead.balanced_csvRow N _ r)
  rw [← this, h1, hrows, headerText_csv]
  rfl

/-! ## 6. Repeated runs append -/

/-- a second run on the file a first run left (`WriteMode::Append`, the mode `build` always uses) keeps every
byte of the first run — header included, not repeated — and adds its own records after it -/
theorem repeated_runs_append (N : NumOps) (persist : Bool) (f : Format) (rate : Option Int)
    (first : List Char) (sink : FileSink) (queues : List (List Json)) (schedule : List Nat)
    (hb : build .append f rate (some first) = .ok sink)
    (hw : ∀ r ∈ queues.flatten, Writable N f r) :
    ∃ trace : List Json,
      ((Run.init sink queues).exec N persist schedule).sink.contents
        = first ++ (trace.map (recordOf N f)).flatten ∧
      (trace ++ ((Run.init sink queues).exec N persist schedule).queues.flatten).Perm queues.flatten :=
  append_run N persist f rate (some first) sink queues schedule hb hw

/-- a first run on a missing file starts with exactly one header, followed by its records -/
theorem first_run_starts_with_header (N : NumOps) (persist : Bool) (f : Format) (rate : Option Int)
    (sink : FileSink) (queues : List (List Json)) (schedule : List Nat)
    (hb : build .append f rate none = .ok sink)
    (hw : ∀ r ∈ queues.flatten, Writable N f r) :
    ∃ trace : List Json,
      ((Run.init sink queues).exec N persist schedule).sink.contents
        = headerText f ++ (trace.map (recordOf N f)).flatten :=
  (append_run N persist f rate none sink queues schedule hb hw).imp fun _ h => h.1

/-! ## 7. A JSON line determines the response -/

/-- The round trip of the text (structure, key order, strings with every escape, number lexemes), proved for the
model's serializer (`Sink.compact`, = `serde_json::to_string` by the correspondence run) and the reader of
`Model/SinkRead.lean`: a record parses back to the response that produced it.  Numbers come back as their lexemes
(`eraseBits`: the doubles behind the lexemes are outside the model, a double is a function of its lexeme); `numsOk`
says that the model's numbers are written with number characters, as `serde_json`'s are. -/
theorem json_record_parses_back (r : Json) (h : numsOk r = true) :
    SinkRead.parse (rowOf anyNum (.json true) r) = some (SinkRead.eraseBits r) := by
  rw [rowOf_json]
  exact SinkRead.parse_compact r h

/-- The restriction of "each JSON record parses back" when the reader is `serde_json::from_str` with its default
recursion limit: the record of a response whose arrays/objects are nested 128 deep or deeper (a query is echoed
in its response, so the nesting is the caller's) is written — valid JSON, whole — but `from_str` refuses it; up
to 127 levels it reads back.  (`SinkRead.parse` itself has no limit.) -/
theorem json_record_readable_by_serde_iff_depth_below_128 (r : Json) (h : numsOk r = true) :
    SinkRead.parseSerde (rowOf anyNum (.json true) r)
      = if SinkRead.depth r ≤ SinkRead.serdeDepthLimit then some (SinkRead.eraseBits r) else none := by
  rw [rowOf_json]
  exact SinkRead.parseSerde_compact r h

/-- the line determines the response: two responses with the same record are the same response (up to
`eraseBits`), because the record parses back -/
theorem json_record_determines_response (a b : Json) (ha : numsOk a = true) (hb : numsOk b = true)
    (h : compact a = compact b) : SinkRead.eraseBits a = SinkRead.eraseBits b := by
  have h1 := SinkRead.parse_compact a ha
  have h2 := SinkRead.parse_compact b hb
  rw [h] at h1
  rw [h1] at h2
  exact Option.some.inj h2

/-- for ANY reader that gives back what was written (up to a normal form `norm`), the records of a completed
batch read back, as a multiset, to the batch — for every schedule and both persistence policies -/
theorem json_lines_read_back_by (N : NumOps) (persist : Bool) (sink : FileSink) (queues : List (List Json))
    (schedule : List Nat) (hp : sink.Healthy) (hf : sink.format = .json true)
    (parse : List Char → Option Json) (norm : Json → Json)
    (hparse : ∀ j ∈ queues.flatten, parse (compact j) = some (norm j))
    (hdone : ((Run.init sink queues).exec N persist schedule).done = true) :
    ∃ rows : List (List Char),
      ((Run.init sink queues).exec N persist schedule).sink.file = sink.file ++ rows.map record ∧
      (rows.map parse).Perm (queues.flatten.map (fun j => some (norm j))) := by
  have hw : ∀ r ∈ queues.flatten, Writable N sink.format r := by
    intro r _; rw [hf]; exact writable_json N true r
  obtain ⟨t, hfile, hperm, _⟩ :=
    file_holds_one_record_per_written_response N persist sink queues schedule hp hw
  rw [done_flatten_nil _ hdone, List.append_nil] at hperm
  refine ⟨t.map (rowOf N sink.format), by rw [hfile]; simp [recordOf], ?_⟩
  have : (t.map (rowOf N sink.format)).map parse = t.map (fun j => some (norm j)) := by
    simp only [List.map_map]
    apply List.map_congr_left
    intro r hr
    simp only [Function.comp, hf, rowOf_json]
    exact hparse r (hperm.subset hr)
  rw [this]
  exact hperm.map _

/-- instantiated with the proved reader: no assumption left on the model side (what remains trusted is that
`serde_json::from_str` agrees with it, which the harness checks on every generated record) -/
theorem json_lines_read_back (N : NumOps) (persist : Bool) (sink : FileSink) (queues : List (List Json))
    (schedule : List Nat) (hp : sink.Healthy) (hf : sink.format = .json true)
    (hnum : ∀ r ∈ queues.flatten, numsOk r = true)
    (hdone : ((Run.init sink queues).exec N persist schedule).done = true) :
    ∃ rows : List (List Char),
      ((Run.init sink queues).exec N persist schedule).sink.file = sink.file ++ rows.map record ∧
      (rows.map SinkRead.parse).Perm (queues.flatten.map (fun j => some (SinkRead.eraseBits j))) :=
  json_lines_read_back_by N persist sink queues schedule hp hf SinkRead.parse SinkRead.eraseBits
    (fun j hj => SinkRead.parse_compact j (hnum j hj)) hdone

example : SinkRead.parse (compact (.obj [("error", .str "no \"path\"\n"), ("n", .arr [.num "-1.5e+3" 0, .null])]))
    = some (.obj [("error", .str "no \"path\"\n"), ("n", .arr [.num "-1.5e+3" 0, .null])]) :=
  SinkRead.parse_compact _ (by decide +kernel)

/-! ## 8. What the non-newline-delimited JSON form does (outside the property, recorded) -/

/-- the "ECMA-404" form: `[` and a newline when the file is created, every record pretty-printed and followed
by a newline only — the `,\n` delimiter is stored in the sink and never written — and `close()` (which
`CompassApp::run` never calls) appends `\n]\n`.  Two records therefore give `[\n{…}\n{…}\n\n]\n`, which is
not JSON; a second appending run lands after the closing bracket. -/
theorem json_array_form_contents (N : NumOps) (a b : Json) :
    ∀ sink, build .append (.json false) none none = .ok sink →
    (match sink.write N a with
      | .ok s1 _ => (match s1.write N b with
        | .ok s2 _ => s2.close.contents
        | _ => [])
      | _ => [])
    = txt "[\n" ++ pretty 0 a ++ ['\n'] ++ pretty 0 b ++ ['\n'] ++ txt "\n]" ++ ['\n'] := by
  intro sink h
  simp only [build, openFile, flushEvery, headerText, initialContents, BuildResult.ok.injEq] at h
  subst h
  simp [FileSink.write, formatResponse, FileSink.close, FileSink.contents, record, finalContents, txt]

/-! ## 9. Paths of every kind, failing devices, close, Combined build (what the code does when things go wrong) -/

/-- `WriteMode::open_file` at every kind of path.  A missing path is created with the header in every mode; a
file: Append keeps it (no second header), Overwrite starts over with the header, Error refuses; a directory
and a path without parent directory cannot be opened (Error refuses the directory: it exists); a device that
refuses writes opens in Append mode (it exists: no header is written) and fails every later write. -/
theorem open_path_spec (f : Format) (c : List Char) :
    (∀ mode, openPath mode f .missing = .ok (headerText f) false) ∧
    openPath .append f (.file c) = .ok c false ∧
    openPath .overwrite f (.file c) = .ok (headerText f) false ∧
    openPath .error f (.file c) = .refused ∧
    openPath .append f .directory = .ioError ∧ openPath .overwrite f .directory = .ioError ∧
    openPath .error f .directory = .refused ∧
    (∀ mode, openPath mode f .noParent = .ioError) ∧
    openPath .append f .full = .ok [] true ∧ openPath .error f .full = .refused := by
  refine ⟨fun mode => rfl, rfl, rfl, rfl, rfl, rfl, rfl, fun mode => rfl, rfl, rfl⟩

/-- on files and missing paths `openPath` is `openFile` (sections 4–6 speak about these). -/
theorem open_path_on_files (mode : WriteMode) (f : Format) (c : List Char) :
    openPath mode f (.file c) = (match openFile mode f (some c) with | some c' => .ok c' false | none => .refused) ∧
    openPath mode f .missing = (match openFile mode f none with | some c' => .ok c' false | none => .refused) := by
  cases mode <;> exact ⟨rfl, rfl⟩

/-- an open that is refused or fails leaves whatever is at the path alone -/
theorem failed_open_leaves_path_alone (mode : WriteMode) (f : Format) (st : PathState)
    (h : openPath mode f st = .refused ∨ openPath mode f st = .ioError) : pathAfterOpen mode f st = st := by
  unfold pathAfterOpen
  cases st with
  | full => rfl
  | missing => rcases h with h | h <;> cases h
  | noParent => rfl
  | file c =>
    cases mode with
    | error => rfl
    | append => rcases h with h | h <;> cases h
    | overwrite => rcases h with h | h <;> cases h
  | directory => cases mode <;> rfl

/-- `build` at a path: the sink is healthy exactly when the path is not a write-refusing device; it carries
the configured name and starts on what `open_file` left -/
theorem build_at_spec (mode : WriteMode) (name : String) (f : Format) (rate : Option Int) (st : PathState)
    (s : FileSink) (h : buildAt mode name f rate st = .ok s) :
    ∃ c failing, openPath mode f st = .ok c failing ∧ s.file = [c] ∧ s.failing = failing ∧ s.poisoned = false ∧
      s.name = name ∧ s.format = f ∧ s.iterations = 0 := by
  unfold buildAt at h
  split at h
  · simp at h
  · simp at h
  · rename_i c failing hc
    split at h
    · simp at h
    · simp only [BuildAtResult.ok.injEq] at h
      subst h
      exact ⟨c, failing, hc, rfl, rfl, rfl, rfl, rfl, rfl⟩

/-- A device that refuses writes fails the run under both persistence policies: with at least one
response to write, `run` is an error whether the responses are kept in memory or discarded (both batch
loops propagate the failed write). -/
theorem failing_device_fails_the_run_under_both_policies (N : NumOps) (sink : FileSink)
    (queues : List (List Json)) (schedule : List Nat) (hp : sink.poisoned = false)
    (hf : sink.failing = true) (hw : ∀ r ∈ queues.flatten, Writable N sink.format r)
    (hdone : Complete queues schedule) (hne : queues.flatten ≠ []) (persist : Bool) :
    appRun N persist sink queues [] schedule = none := by
  obtain ⟨_, _, h3⟩ := failing_device_run N persist (Run.init sink queues) schedule hp hf hw
  rw [done_flatten_nil _ (done_of_complete N persist sink queues schedule hdone)] at h3
  have hpos : 0 < queues.flatten.length := List.length_pos_iff.2 hne
  have : ((Run.init sink queues).exec N persist schedule).failed > 0 := by
    simp only [Run.init, List.length_nil] at h3 ⊢
    omega
  simp [appRun, writeSeq, this]

/-- `close` on a healthy sink appends exactly the closing record (empty for CSV and newline-delimited JSON,
the bracket for the JSON array form) and reports the file name; on a poisoned or failing sink it is an
error and changes nothing.  Nothing else ever writes the closing record: there is no `Drop`. -/
theorem close_spec (s : FileSink) :
    (s.Healthy → s.close.file = s.file ++ [record ((finalContents s.format).getD [])] ∧
      s.closeName = some s.name) ∧
    (¬ s.Healthy → s.close = s ∧ s.closeName = none) := by
  unfold FileSink.Healthy FileSink.close FileSink.closeName
  cases hp : s.poisoned <;> cases hf : s.failing <;> simp

/-- closing a Combined sink whose members are all healthy closes every member and reports the non-empty
names in order -/
theorem close_combined_healthy (ss : List FileSink) (h : ∀ s ∈ ss, s.Healthy) :
    closeCombined ss = (ss.map FileSink.close, some ((ss.map (·.name)).filter (fun n => !n.isEmpty))) := by
  induction ss with
  | nil => rfl
  | cons s ss ih =>
    have hs := ((close_spec s).1 (h s (List.mem_cons_self ..))).2
    simp only [closeCombined, hs, ih (fun x hx => h x (List.mem_cons_of_mem _ hx)), List.map_cons,
      List.filter_cons]
    cases s.name.isEmpty <;> simp

/-- building a Combined policy stops at the first member that cannot be built; the members before it have
been built — their files exist by then — and the members after it are untouched -/
theorem build_all_stops_at_first_failure (before : List Member) (bad : Member) (after : List Member)
    (hgood : ∀ m ∈ before, ∃ s, buildAt .append m.name m.format m.rate m.path = .ok s)
    (hbad : ∀ s, buildAt .append bad.name bad.format bad.rate bad.path ≠ .ok s) :
    buildAll (before ++ bad :: after)
      = (before.map (fun m => pathAfterOpen .append m.format m.path)
          ++ pathAfterOpen .append bad.format bad.path :: after.map (·.path), none) := by
  induction before with
  | nil =>
    cases hb : buildAt .append bad.name bad.format bad.rate bad.path with
    | ok s => exact absurd hb (hbad s)
    | _ => simp [buildAll, hb]
  | cons m ms ih =>
    obtain ⟨s, hs⟩ := hgood m (List.mem_cons_self ..)
    simp only [List.cons_append, buildAll, hs, ih (fun x hx => hgood x (List.mem_cons_of_mem _ hx)),
      List.map_cons]

example :
    let ok : Member := { name := "a.csv", format := .csv [("x", .path "x")] false, rate := none, path := .missing }
    let bad : Member := { name := "nodir/b.json", format := .json true, rate := none, path := .noParent }
    let rate0 : Member := { name := "c.json", format := .json false, rate := some 0, path := .missing }
    (buildAll [ok, bad, ok]).2.isNone = true ∧
    (match (buildAll [ok, bad, ok]).1 with | [.file h, .noParent, .missing] => h == txt "x\n" | _ => false) = true ∧
    (match (buildAll [rate0]).1 with | [.file h] => h == txt "[\n" | _ => false) = true ∧
    (buildAll [ok, ok]).2.isSome = true := by
  decide +kernel

end C19
end Compass
