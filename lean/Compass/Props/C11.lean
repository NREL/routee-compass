/-
C11 — every state feature owns exactly one state-vector slot, at any feature count.

Part A: the ordered key-value container (`CompactOrderedHashMap`, Model/Container.lean) refines an
insertion-ordered association list, for every history of inserts and overwrites from `empty`, `new`
(every entry list, repeated keys included) and `from_iter`, at every size and in each of its five
representations.
`Container.abs` is the abstraction function, `Container.Inv` the representation invariant (keys
distinct; stored indices are exactly `0 … len-1`), `Spec.insert / Spec.get / Spec.indexOf` the
association-list specification (Proofs/Container.lean).

Part B: the state model (`StateModel`, Model/StateModel.lean): slots are `0 … n-1` bijectively, the
initial state has the declared values in slot order, setters touch only their own slot, getters read
only their own slot, get-after-set round-trips through the unit tables (C09's bound), add accumulates
in the feature's own unit, extension keeps existing slots.

Part C: the minimal state layer of the search model (`Model/Instance.lean`: `featIndex`, `initialState`,
`addDistance`, `addTime` over a feature list, used by C01–C05, C10, C13) is a refinement of this state
model whenever the feature names are pairwise distinct (`Proofs/StateRefine.lean`): same slots, same
initial state, `add_distance` / `add_time` agree on every input with the minimal layer's `none` being
exactly the full model's errors, positional reads are `get_state_variable` / `get_delta` /
`get_distance` / `get_time`, and a whole search step is the step written against the `StateModel` API.
With a repeated name the layers disagree (`search_state_layer_duplicate_name_counterexample`); the
full model is the one that follows the Rust constructors there.

Part D: the remaining arms of the anchor files — wrong-kind getters and codecs of
`state_feature.rs` / `custom_feature_format.rs`, the serde derives and `TryFrom<&Value> for StateModel`
(`Model/StateJson.lean`), `collect_features` in declaration order on the raw query,
`SearchApp::build_search_instance`, and the two arms shown unreachable.

What the theorems do NOT say:
* Success is characterised, not assumed: `extend_ok_iff` / `extend_succeeds` / `extend_refuses_kind_change`,
  `set_*_ok_iff`, `get_*_ok_iff`, `add_*_ok_iff` (distance / time / energy), `set_custom_ok_iff` and
  `set_custom_{f64,i64,u64,bool}_ok_iff`, `get_custom_{f64,i64,bool}_ok_iff`, `get_custom_u64_ok_iff`
  (depends on the slot's value: `get_custom_u64_negative_slot_counterexample`), `get_delta_ok_iff`,
  `collect_features_ok_iff`; `initial_state` never fails (`initial_state_declared`).  The theorems that take
  `(h : … = .ok …)` describe the result of a call that succeeded.
* Exact arithmetic: the 0.1 % round-trip bound (`get_after_set_*_roundtrip`) and `add_distance_repeated`
  are statements over an ordered field, not over IEEE doubles; `add_*_accumulates`, `*_own_slot` and
  `get_after_set_*_same_unit` use no arithmetic law and hold for doubles as they stand.
* Integer codecs: exact only where the number type's casts invert each other (`|x| ≤ 2^53` for
  doubles): `custom_i64_roundtrip_partial`, `custom_u64_roundtrip_partial`,
  `custom_i64_roundtrip_counterexample` (finding `codec/integer-precision`).
* Serde: `parse_serialized_feature_partial` excludes non-finite initial values, which `serde_json`
  writes as `null` (`parse_serialized_feature_counterexample`, finding `feature/serde-nonfinite`).
* Restatements of the model's definitions (one per arm of the code; the claim does not rest on them):
  `try_from_ok_iff`, `get_*_unit_ok_iff`, `get_custom_feature_format_ok_iff`, `encode_*_ok_iff`,
  `decode_*_ok_iff`, `get_feature_format_eq`, `build_search_instance_error_order`,
  `build_search_instance_ok_iff`, `query_state_features_cases`.

Modelled rather than verified:
* error payloads, `Display` texts and message strings (errors are compared by variant only);
* the order in which the query's `state_features` come out of their `HashMap` (list order in the model;
  the result of `extend` and the ok-iff do not depend on it; which of several offending entries is
  reported does);
* the path from a TOML file to the JSON object handed to `StateModel::try_from` (the `config` crate):
  the model starts at that JSON object, in declaration order; that the application delivers it in
  declaration order (as /repo 4baa6be does, finding `state/config-order`) is evidenced by the
  `tomlstate` stream of the harness only;
* `f64` rounding, the `as` casts (class `IntCodec`, instantiated by Lean's `Float` in the driver) and
  decimal float lexemes (numbers cross the protocol as bit patterns).

`CompactOrderedHashMap::new` is that of /repo 6da9498 (finding `container/new-duplicate-key`):
on a list with a repeated key it inserts the entries one by one, like `from_iter`.  `new_refines` holds
for EVERY entry list; `new_duplicate_key_repaired`, `new_duplicate_key_then_insert_repaired` and
`new_duplicate_name_repaired` are instances with a repeated key.
-/
import Compass.Gen.Decisions
import Compass.Proofs.StateRefine
import Compass.Proofs.StateJson
import Compass.Props.C09

namespace Compass
namespace C11

open List Container

set_option linter.unusedSectionVars false

/-! ## Part A — the container is an insertion-ordered map -/

section container
variable {K V : Type} [DecidableEq K]

/-! ### the specification means what it says -/

theorem spec_insert_new_key_appends (l : List (K × V)) (k : K) (v : V) (h : k ∉ l.map (·.1)) :
    Spec.insert l k v = l ++ [(k, v)] := Spec.insert_of_not_mem v h

/-- a key that is present keeps its place (the key sequence is unchanged) and gets the new value;
    no other key's value changes -/
theorem spec_insert_existing_overwrites_in_place (l : List (K × V)) (k : K) (v : V)
    (h : k ∈ l.map (·.1)) :
    (Spec.insert l k v).map (·.1) = l.map (·.1) ∧ Spec.get (Spec.insert l k v) k = some v ∧
      ∀ k₂, k₂ ≠ k → Spec.get (Spec.insert l k v) k₂ = Spec.get l k₂ :=
  ⟨Spec.keys_insert_of_mem v h, Spec.get_insert_self l k v, fun _ hne => Spec.get_insert_of_ne l v hne⟩

theorem spec_indexOf_is_position (l : List (K × V)) (nd : (l.map (·.1)).Nodup) (k : K) (i : Nat) :
    Spec.indexOf l k = some i ↔ (l.map (·.1))[i]? = some k :=
  Spec.indexOf_eq_some_iff nd

/-- `insert`, in every representation and at every size: the invariant is preserved, a new key is
    appended at the end, an existing key is overwritten in place, the previous value is returned -/
theorem insert_refines (c : Container K V) (h : Inv c) (k : K) (v : V) :
    Inv (c.insert k v).1 ∧ Container.abs (c.insert k v).1 = Spec.insert (Container.abs c) k v ∧
      (c.insert k v).2 = Spec.get (Container.abs c) k := Container.insert_refines h k v

theorem empty_refines : Inv (empty : Container K V) ∧ Container.abs (empty : Container K V) = [] :=
  ⟨inv_empty, abs_empty⟩

/-- `new` on EVERY entry list, at every length, repeated keys included: the invariant holds and the
    container stands for the insertion-ordered association list of the entries (a repeated key keeps
    its first position and its last value) — exactly what `from_iter` builds -/
theorem new_refines (entries : List (K × V)) :
    Inv (new entries) ∧ Container.abs (new entries) = Spec.insertAll [] entries ∧
      Container.abs (new entries) = Container.abs (fromIter entries) :=
  ⟨(Container.new_refines entries).1, (Container.new_refines entries).2,
    by rw [(Container.new_refines entries).2, (fromIter_refines entries).2]⟩

/-- with pairwise distinct keys that list is the entry list itself -/
theorem new_refines_distinct (entries : List (K × V)) (nd : (entries.map (·.1)).Nodup) :
    Container.abs (new entries) = entries := by
  rw [(Container.new_refines entries).2, Spec.insertAll_nil_of_nodup entries nd]

/-- a repeated key, `new [(1,10),(1,20)]`: one entry at position 0 holding the last value -/
theorem new_duplicate_key_repaired :
    let c : Container Nat Nat := new [(1, 10), (1, 20)]
    c.len = 1 ∧ c.iter = [(1, 20)] ∧ c.toVec = [(1, ⟨20, 0⟩)] ∧ c.getPair 0 = some (1, 20) ∧
      c.getPair 1 = none ∧ c.getIndex 1 = some 0 ∧ c.keys = [1] ∧ Inv c := by
  decide

/-- a repeated key followed by an insert: three entries in three slots, no stored index shared -/
theorem new_duplicate_key_then_insert_repaired :
    let c : Container Nat Nat := ((new [(0, 10), (0, 20), (1, 30)]).insert 2 40).1
    c.len = 3 ∧ c.getIndex 0 = some 0 ∧ c.getIndex 1 = some 1 ∧ c.getIndex 2 = some 2 ∧
      c.iter = [(0, 20), (1, 30), (2, 40)] := by
  decide

/-- `from_iter` on any list (repeated keys included: the later value wins, the first position stays) -/
theorem from_iter_refines (entries : List (K × V)) :
    Inv (fromIter entries) ∧ Container.abs (fromIter entries) = Spec.insertAll [] entries :=
  fromIter_refines entries

/-! ### every history -/

/-- the three ways a history can start -/
inductive Start (K V : Type) where
  | empty
  | new (entries : List (K × V))
  | fromIter (entries : List (K × V))

def Start.build : Start K V → Container K V
  | .empty => Container.empty
  | .new es => Container.new es
  | .fromIter es => Container.fromIter es

def Start.spec : Start K V → List (K × V)
  | .empty => []
  | .new es => Spec.insertAll [] es
  | .fromIter es => Spec.insertAll [] es

/-- every history of inserts and overwrites, from every start, at every size: the container stands
    for exactly the association list the same history produces, and the invariant holds -/
theorem history_refines (s : Start K V) (ops : List (K × V)) :
    Inv (insertAll s.build ops) ∧ Container.abs (insertAll s.build ops) = Spec.insertAll s.spec ops := by
  have h0 : Inv s.build ∧ Container.abs s.build = s.spec := by
    cases s with
    | empty => exact ⟨inv_empty, abs_empty⟩
    | new es => exact Container.new_refines es
    | fromIter es => exact fromIter_refines es
  have := insertAll_refines h0.1 ops
  rw [h0.2] at this
  exact this

theorem len_refines (c : Container K V) (h : Inv c) : c.len = (Container.abs c).length := len_abs c

theorem is_empty_refines (c : Container K V) (h : Inv c) : c.isEmpty = (Container.abs c).isEmpty := isEmpty_abs c

theorem get_refines (c : Container K V) (h : Inv c) (k : K) : c.get k = Spec.get (Container.abs c) k := get_abs h k

theorem contains_key_refines (c : Container K V) (h : Inv c) (k : K) :
    c.containsKey k = (Spec.get (Container.abs c) k).isSome := containsKey_abs h k

theorem get_index_refines (c : Container K V) (h : Inv c) (k : K) :
    c.getIndex k = Spec.indexOf (Container.abs c) k := getIndex_abs h k

/-- `get_pair i` is the `i`-th pair, `None` from `len` on (the code's guard is `index > len`, which is
    harmless only because no stored index equals `len` under the invariant) -/
theorem get_pair_refines (c : Container K V) (h : Inv c) (i : Nat) : c.getPair i = (Container.abs c)[i]? :=
  getPair_abs h i

/-- the code's guard in the `NEntries` arm is `index > len` rather than `≥`; this cannot be observed:
    in every reachable container (any start, any history) `get_pair` answers `None` at every index
    from `len` on, `len` itself included -/
theorem get_pair_out_of_range (s : Start K V) (ops : List (K × V)) (i : Nat)
    (hi : (insertAll s.build ops).len ≤ i) : (insertAll s.build ops).getPair i = none :=
  getPair_out_of_range (history_refines s ops).1 hi

theorem keys_refines (c : Container K V) : c.keys = (Container.abs c).map (·.1) := keys_abs c

/-- iteration yields every entry, once, in insertion order -/
theorem iter_refines (c : Container K V) (h : Inv c) : c.iter = Container.abs c := iter_abs h

theorem indexed_iter_refines (c : Container K V) (h : Inv c) :
    c.indexedIter = (Container.abs c).zipIdx.map (fun p => (p.2, p.1)) := indexedIter_abs h

theorem to_vec_refines (c : Container K V) (h : Inv c) : c.toVec = reindex (Container.abs c) := toVec_abs h

theorem into_iter_refines (c : Container K V) (h : Inv c) : c.intoIter = reindex (Container.abs c) := intoIter_abs h

/-- positions handed out by `to_vec` / `into_iter` are `0, 1, …` -/
theorem reindex_positions (a : List (K × V)) :
    (reindex a).map (·.2.index) = List.range a.length ∧ (reindex a).map kv = a :=
  ⟨reindex_index a, reindex_kv a⟩

/-! ### the invariant says: stored indices are exactly `0 … len-1`, keys are distinct -/

theorem invariant_indices_exact (m : HMap K (IndexedEntry V)) (h : Inv (.n m)) (i : Nat) :
    i < m.length ↔ ∃ e ∈ m, e.2.index = i := by
  have := h.2.mem_iff (a := i)
  simp only [mem_map, mem_range] at this
  exact this.symm

theorem invariant_indices_unique (m : HMap K (IndexedEntry V)) (h : Inv (.n m))
    (a b : K × IndexedEntry V) (ha : a ∈ m) (hb : b ∈ m) (hab : a.2.index = b.2.index) : a = b :=
  (sortedForm_of_inv h.2).inj ha hb hab

theorem invariant_keys_distinct (c : Container K V) (h : Inv c) : ((Container.abs c).map (·.1)).Nodup :=
  abs_keys_nodup h

/-- the unspecified iteration order of the `HashMap` cannot be observed: two `HashMap`s with the same
    entries in different order stand for the same association list (and every accessor above is a
    function of that list) -/
theorem hashmap_order_unobservable (m m' : HMap K (IndexedEntry V)) (p : m' ~ m) (h : Inv (.n m)) :
    Inv (.n m') ∧ Container.abs (.n m') = Container.abs (.n m) := by
  have sf := sortedForm_of_inv h.2
  have sf' := sf.of_perm p
  have nd' : (m'.map (·.1)).Nodup := (p.map _).nodup_iff.mpr h.1
  exact ⟨inv_of_sortedForm nd' sf', by rw [abs_n_of_sortedForm sf', abs_n_of_sortedForm sf]⟩

end container

/-- non-vacuity: ten inserts (eight new keys, two overwrites, one of them at size ≥ 6) — the history
    is well past every small representation, satisfies the invariant and is the expected list -/
example :
    let c : Container Nat Nat := insertAll empty
      [(7, 0), (3, 1), (9, 2), (1, 3), (4, 4), (8, 5), (3, 6), (2, 7), (6, 8), (8, 9)]
    Inv c ∧ c.len = 8 ∧ c.iter = [(7, 0), (3, 6), (9, 2), (1, 3), (4, 4), (8, 9), (2, 7), (6, 8)] ∧
      c.getIndex 6 = some 7 ∧ c.getPair 7 = some (6, 8) ∧ c.getPair 8 = none := by
  refine ⟨(history_refines Start.empty _).1, ?_⟩
  decide +kernel

example : Inv (new [(5, 0), (4, 1), (3, 2), (2, 3), (1, 4), (0, 5), (5, 7), (9, 6)] : Container Nat Nat) :=
  (new_refines _).1

/-! ## Part B — the state model -/

section state
variable {α : Type}

open StateModel

/-- EVERY feature list — any length, any kinds, repeated names included — yields a well-formed
    model whose ordered feature list is the insertion-ordered association list of the declarations
    (a repeated name keeps its first slot and its last declaration) -/
theorem new_wf (fs : List (String × StateFeature α)) :
    WF (StateModel.new fs) ∧ feats (StateModel.new fs) = Spec.insertAll [] fs := StateModel.new_refines fs

/-- with pairwise distinct names the ordered feature list is the declaration list itself -/
theorem new_wf_distinct (fs : List (String × StateFeature α)) (nd : (fs.map (·.1)).Nodup) :
    feats (StateModel.new fs) = fs := (StateModel.new_refines_of_nodup fs nd).2

theorem empty_wf : WF (StateModel.empty : StateModel α) ∧ feats (StateModel.empty : StateModel α) = [] :=
  StateModel.empty_refines

/-! ### slots are 0 … n-1, one per feature -/

/-- the slot of a name is its position in the ordered feature list -/
theorem slot_is_position (m : StateModel α) (h : WF m) (name : String) (i : Nat) :
    m.getIndex name = some i ↔ ((feats m).map (·.1))[i]? = some name := by
  rw [getIndex_eq h]
  exact Spec.indexOf_eq_some_iff (feats_nodup h)

/-- a name has a slot exactly when it is a feature of the model -/
theorem slot_iff_feature (m : StateModel α) (h : WF m) (name : String) :
    (m.getIndex name).isSome ↔ m.containsKey name = true := by
  rw [getIndex_eq h, StateModel.containsKey, Container.containsKey_abs h]
  exact Spec.indexOf_isSome_iff_get

/-- every slot is in range -/
theorem slot_in_range (m : StateModel α) (h : WF m) (name : String) (i : Nat)
    (hi : m.getIndex name = some i) : i < m.len := by
  rw [getIndex_eq h] at hi
  rw [len_eq m]
  exact Spec.indexOf_lt hi

/-- no slot is shared -/
theorem slot_injective (m : StateModel α) (h : WF m) (a b : String) (i : Nat)
    (ha : m.getIndex a = some i) (hb : m.getIndex b = some i) : a = b := by
  rw [getIndex_eq h] at ha hb
  exact Spec.indexOf_inj ha hb

/-- no slot is skipped -/
theorem slot_surjective (m : StateModel α) (h : WF m) (i : Nat) (hi : i < m.len) :
    ∃ name, m.getIndex name = some i := by
  rw [len_eq m] at hi
  exact ⟨((feats m)[i]).1, by rw [getIndex_eq h]; exact Spec.indexOf_key_getElem (feats_nodup h) hi⟩

/-- the `i`-th declared feature gets slot `i` -/
theorem new_slot (fs : List (String × StateFeature α)) (nd : (fs.map (·.1)).Nodup) (i : Nat)
    (hi : i < fs.length) : (StateModel.new fs).getIndex (fs[i]).1 = some i := by
  have h := StateModel.new_refines_of_nodup fs nd
  rw [getIndex_eq h.1]
  simp only [h.2]
  exact Spec.indexOf_key_getElem nd hi

theorem len_is_feature_count (m : StateModel α) (h : WF m) : m.len = (feats m).length := len_eq m

theorem iter_is_slot_order (m : StateModel α) (h : WF m) :
    m.iter = feats m ∧ m.indexedIter = (feats m).zipIdx.map (fun p => (p.2, p.1)) :=
  ⟨iter_eq h, Container.indexedIter_abs h⟩

/-! ### initial state -/

section initial
variable [Lit α] [IntCodec α] [LT α] [DecidableLT α] [BEq α]

/-- the initial state never fails, has exactly `n` entries, and slot `i` holds the initial value
    declared by the feature that owns slot `i` -/
theorem initial_state_declared (m : StateModel α) (h : WF m) :
    ∃ st, m.initialState = .ok st ∧ st.length = m.len ∧
      ∀ name i, m.getIndex name = some i →
        ∃ f, m.map.get name = some f ∧ st[i]? = some (declaredInitial f) := by
  refine ⟨_, initialState_eq_declared h, by simp [len_eq m], ?_⟩
  intro name i hi
  rw [getIndex_eq h] at hi
  obtain ⟨f, h1, h2⟩ := Spec.indexOf_get hi
  refine ⟨f, by rw [get_eq h]; exact h2, ?_⟩
  simp [h1]

end initial

/-! ### extension (configuration ⊕ model features ⊕ query overrides) -/

/-- a successful `extend` keeps the model well-formed, keeps every existing feature in its slot,
    appends new names after the existing ones (so slots stay `0 … n'-1`), and gives every name the
    feature of the last entry that mentions it (else the old feature) -/
theorem extend_keeps_slots (m m' : StateModel α) (h : WF m) (entries : List (String × StateFeature α))
    (he : m.extend entries = .ok m') :
    WF m' ∧ (∀ name i, m.getIndex name = some i → m'.getIndex name = some i) ∧
      (∃ t, m'.names = m.names ++ t) ∧
      ∀ name, m'.map.get name =
        ((entries.reverse.find? (fun e => e.1 = name)).map (·.2)).or (m.map.get name) := by
  obtain ⟨hw, hf⟩ := extend_ok h he
  refine ⟨hw, ?_, ?_, ?_⟩
  · intro name i hi
    rw [getIndex_eq h] at hi
    rw [getIndex_eq hw, hf]
    have hm := (getIndex_isSome_iff_mem h name).mp (by rw [getIndex_eq h, hi]; rfl)
    rw [Spec.indexOf_insertAll_of_mem _ _ hm]
    exact hi
  · rw [names_eq_keys h, names_eq_keys hw, hf]
    exact Spec.keys_insertAll_prefix _ _
  · intro name
    rw [get_eq hw, hf, get_eq h]
    exact Spec.get_insertAll (feats m) entries name

/-- the per-query state model of `SearchApp::build_search_instance`: the configured model extended
    by `collect_features` (traversal-model, access-model and query features).  Whenever both steps
    succeed the result is well-formed (so every slot theorem above applies to it), configured features
    keep their slots, and the features that have a slot are exactly the configured ones plus every
    feature named by the traversal model, the access model or the query -/
theorem per_query_model (m m' : StateModel α) (h : WF m)
    (traversal access : List (String × StateFeature α)) (user : Option (List (String × StateFeature α)))
    (fs : List (String × StateFeature α)) (hc : collectFeatures traversal access user = .ok fs)
    (he : m.extend fs = .ok m') :
    WF m' ∧ (∀ name i, m.getIndex name = some i → m'.getIndex name = some i) ∧
      ∀ name, (m'.getIndex name).isSome ↔
        ((m.getIndex name).isSome ∨ name ∈ (traversal ++ access).map (·.1) ∨
          name ∈ (user.getD []).map (·.1)) := by
  obtain ⟨hw, hkeep, _, _⟩ := extend_keeps_slots m m' h fs he
  refine ⟨hw, hkeep, ?_⟩
  intro name
  have hfs := ((collectFeatures_ok traversal access user fs).mp hc).2
  have hf := (extend_ok h he).2
  rw [getIndex_isSome_iff_mem hw, getIndex_isSome_iff_mem h, hf, Spec.mem_keys_insertAll, hfs]
  simp only [map_append, mem_append, Spec.mem_keys_insertAll, map_nil, not_mem_nil, false_or]

/-- WHEN `extend` succeeds: exactly when every entry's name is either new, or held — by the model or
    by an earlier entry of the same call — by a feature that is `==` the entry's (same kind; for custom
    features same type name, unit name and format name).  Otherwise it is refused (`BuildError`). -/
theorem extend_ok_iff (m : StateModel α) (h : WF m) (entries : List (String × StateFeature α)) :
    (∃ m', m.extend entries = .ok m') ↔
      ∀ j (hj : j < entries.length), ∀ o,
        Spec.get (Spec.insertAll (feats m) (entries.take j)) (entries[j]).1 = some o →
          o.eqv (entries[j]).2 = true := by
  rw [extend_ok_iff_kindChanges h, kindChanges_eq_nil_iff]

theorem extend_error_is_build (m : StateModel α) (entries : List (String × StateFeature α)) (e : StateErr)
    (he : m.extend entries = .error e) : e = .build := by
  simp only [StateModel.extend] at he
  split_ifs at he
  cases he; rfl

/-- in particular `extend` succeeds whenever every entry is `==` the feature the model holds under its
    name (if any) and entries that share a name are `==` each other: new names, and overrides of
    unit / initial value by a feature of the same kind, are always accepted -/
theorem extend_succeeds (m : StateModel α) (h : WF m) (entries : List (String × StateFeature α))
    (hold : ∀ e ∈ entries, ∀ o, Spec.get (feats m) e.1 = some o → o.eqv e.2 = true)
    (hnew : ∀ e ∈ entries, ∀ e' ∈ entries, e.1 = e'.1 → e.2.eqv e'.2 = true) :
    ∃ m', m.extend entries = .ok m' :=
  (extend_ok_iff_kindsAgree h entries).mpr (KindsAgree.of_eqv hold hnew)

/-- `extend` is refused (`BuildError`) as soon as ANY entry replaces a feature of the model by one of
    another kind; the entry may stand anywhere in the list -/
theorem extend_refuses_kind_change (m : StateModel α) (h : WF m)
    (entries : List (String × StateFeature α)) (e : String × StateFeature α) (hm : e ∈ entries)
    (o : StateFeature α) (ho : Spec.get (feats m) e.1 = some o) (hk : o.eqv e.2 = false) :
    m.extend entries = .error .build := by
  cases hx : m.extend entries with
  | error err => rw [extend_error_is_build m _ err hx]
  | ok m' =>
    -- were `extend` to succeed, the model's feature and the entry would be of the one kind of that name
    obtain ⟨κ, h1, h2⟩ := (extend_ok_iff_kindsAgree h entries).mp ⟨m', hx⟩
    rw [(StateFeature.eqv_iff_eqvKey o e.2).mpr ((h1 _ o ho).trans (h2 e hm).symm)] at hk
    cases hk

/-! ### setters touch only their own slot -/

section numeric
variable [Mul α] [Div α] [Lit α]

/-- `set_distance name`: the vector keeps its length and changes at most in the slot of `name` -/
theorem set_distance_own_slot (m : StateModel α) (st st' : List α) (name : String) (x : α)
    (u : DistanceUnit) (h : m.setDistance st name x u = .ok st') :
    ∃ i, m.getIndex name = some i ∧ i < st.length ∧ st'.length = st.length ∧
      ∀ j, j ≠ i → st'[j]? = st[j]? := by
  rw [setDistance_eq] at h
  exact writeWith_own_slot h

theorem set_time_own_slot (m : StateModel α) (st st' : List α) (name : String) (x : α)
    (u : TimeUnit) (h : m.setTime st name x u = .ok st') :
    ∃ i, m.getIndex name = some i ∧ i < st.length ∧ st'.length = st.length ∧
      ∀ j, j ≠ i → st'[j]? = st[j]? := by
  rw [setTime_eq] at h
  exact writeWith_own_slot h

theorem set_energy_own_slot (m : StateModel α) (st st' : List α) (name : String) (x : α)
    (u : EnergyUnit) (h : m.setEnergy st name x u = .ok st') :
    ∃ i, m.getIndex name = some i ∧ i < st.length ∧ st'.length = st.length ∧
      ∀ j, j ≠ i → st'[j]? = st[j]? := by
  rw [setEnergy_eq] at h
  exact writeWith_own_slot h

/-- a succeeding `set_distance` needs a distance feature under that name -/
theorem set_distance_needs_distance_feature (m : StateModel α) (st st' : List α) (name : String)
    (x : α) (u : DistanceUnit) (h : m.setDistance st name x u = .ok st') :
    ∃ fu init, m.map.get name = some (.distance fu init) := by
  rw [setDistance_eq] at h
  obtain ⟨f, fu, _, _, hg, hb, _⟩ := writeWith_ok.mp h
  exact (exists_accepted_feature_iff StateFeature.getDistanceUnit_ok m name).mp ⟨f, fu, hg, hb⟩

/-! WHEN the setter, adder and getter of a kind (distance, time, energy) succeed, on a well-formed
model and a state vector of the model's length: exactly when the name is a feature of that kind. -/

theorem set_distance_ok_iff (m : StateModel α) (h : WF m) (st : List α) (hl : st.length = m.len)
    (name : String) (x : α) (u : DistanceUnit) :
    (∃ st', m.setDistance st name x u = .ok st') ↔ ∃ fu init, m.map.get name = some (.distance fu init) := by
  rw [setDistance_eq, writeWith_ok_iff_of_total h hl fun _ _ _ => ⟨_, rfl⟩]
  exact exists_accepted_feature_iff StateFeature.getDistanceUnit_ok m name

theorem get_distance_ok_iff (m : StateModel α) (h : WF m) (st : List α) (hl : st.length = m.len)
    (name : String) (u : DistanceUnit) :
    (∃ y, m.getDistance st name u = .ok y) ↔ ∃ fu init, m.map.get name = some (.distance fu init) := by
  rw [getDistance_eq, readWith_ok_iff h hl]
  exact exists_accepted_feature_iff StateFeature.getDistanceUnit_ok m name

theorem add_distance_ok_iff [Add α] (m : StateModel α) (h : WF m) (st : List α) (hl : st.length = m.len)
    (name : String) (x : α) (u : DistanceUnit) :
    (∃ st', m.addDistance st name x u = .ok st') ↔ ∃ fu init, m.map.get name = some (.distance fu init) := by
  rw [addDistance_eq, writeWith_ok_iff_of_total h hl (bump_total h hl _)]
  exact exists_accepted_feature_iff StateFeature.getDistanceUnit_ok m name

theorem set_time_ok_iff (m : StateModel α) (h : WF m) (st : List α) (hl : st.length = m.len)
    (name : String) (x : α) (u : TimeUnit) :
    (∃ st', m.setTime st name x u = .ok st') ↔ ∃ fu init, m.map.get name = some (.time fu init) := by
  rw [setTime_eq, writeWith_ok_iff_of_total h hl fun _ _ _ => ⟨_, rfl⟩]
  exact exists_accepted_feature_iff StateFeature.getTimeUnit_ok m name

theorem get_time_ok_iff (m : StateModel α) (h : WF m) (st : List α) (hl : st.length = m.len)
    (name : String) (u : TimeUnit) :
    (∃ y, m.getTime st name u = .ok y) ↔ ∃ fu init, m.map.get name = some (.time fu init) := by
  rw [getTime_eq, readWith_ok_iff h hl]
  exact exists_accepted_feature_iff StateFeature.getTimeUnit_ok m name

theorem add_time_ok_iff [Add α] (m : StateModel α) (h : WF m) (st : List α) (hl : st.length = m.len)
    (name : String) (x : α) (u : TimeUnit) :
    (∃ st', m.addTime st name x u = .ok st') ↔ ∃ fu init, m.map.get name = some (.time fu init) := by
  rw [addTime_eq, writeWith_ok_iff_of_total h hl (bump_total h hl _)]
  exact exists_accepted_feature_iff StateFeature.getTimeUnit_ok m name

theorem set_energy_ok_iff (m : StateModel α) (h : WF m) (st : List α) (hl : st.length = m.len)
    (name : String) (x : α) (u : EnergyUnit) :
    (∃ st', m.setEnergy st name x u = .ok st') ↔ ∃ fu init, m.map.get name = some (.energy fu init) := by
  rw [setEnergy_eq, writeWith_ok_iff_of_total h hl fun _ _ _ => ⟨_, rfl⟩]
  exact exists_accepted_feature_iff StateFeature.getEnergyUnit_ok m name

theorem get_energy_ok_iff (m : StateModel α) (h : WF m) (st : List α) (hl : st.length = m.len)
    (name : String) (u : EnergyUnit) :
    (∃ y, m.getEnergy st name u = .ok y) ↔ ∃ fu init, m.map.get name = some (.energy fu init) := by
  rw [getEnergy_eq, readWith_ok_iff h hl]
  exact exists_accepted_feature_iff StateFeature.getEnergyUnit_ok m name

theorem add_energy_ok_iff [Add α] (m : StateModel α) (h : WF m) (st : List α) (hl : st.length = m.len)
    (name : String) (x : α) (u : EnergyUnit) :
    (∃ st', m.addEnergy st name x u = .ok st') ↔ ∃ fu init, m.map.get name = some (.energy fu init) := by
  rw [addEnergy_eq, writeWith_ok_iff_of_total h hl (bump_total h hl _)]
  exact exists_accepted_feature_iff StateFeature.getEnergyUnit_ok m name

/-- the private `update_state` (through which every setter and add writes) keeps the length of the
    vector; together with the `*_ok_iff` theorems this lets single steps be chained -/
theorem update_keeps_length (m : StateModel α) (st st' : List α) (name : String) (v : α)
    (h : m.updateState st name v = .ok st') : st'.length = st.length := by
  obtain ⟨i, _, _, rfl⟩ := updateState_ok.mp h
  simp

/-! ### getters read only their own slot -/

theorem get_distance_own_slot (m : StateModel α) (st st₂ : List α) (name : String) (u : DistanceUnit)
    (i : Nat) (hi : m.getIndex name = some i) (hs : st₂[i]? = st[i]?) :
    m.getDistance st₂ name u = m.getDistance st name u := by
  rw [getDistance_eq, getDistance_eq]
  exact readWith_congr_slot hi hs _ _

theorem get_time_own_slot (m : StateModel α) (st st₂ : List α) (name : String) (u : TimeUnit)
    (i : Nat) (hi : m.getIndex name = some i) (hs : st₂[i]? = st[i]?) :
    m.getTime st₂ name u = m.getTime st name u := by
  rw [getTime_eq, getTime_eq]
  exact readWith_congr_slot hi hs _ _

theorem get_energy_own_slot (m : StateModel α) (st st₂ : List α) (name : String) (u : EnergyUnit)
    (i : Nat) (hi : m.getIndex name = some i) (hs : st₂[i]? = st[i]?) :
    m.getEnergy st₂ name u = m.getEnergy st name u := by
  rw [getEnergy_eq, getEnergy_eq]
  exact readWith_congr_slot hi hs _ _

/-- updating one feature leaves the value read for any other feature unchanged -/
theorem set_distance_other_feature_unchanged (m : StateModel α) (hw : WF m) (st st' : List α)
    (a b : String) (hab : a ≠ b) (x : α) (u : DistanceUnit)
    (h : m.setDistance st a x u = .ok st') :
    m.getStateVariable st' b = m.getStateVariable st b := by
  obtain ⟨i, hi, _, _, hs⟩ := set_distance_own_slot m st st' a x u h
  exact getStateVariable_congr fun j hj => hs j fun hji => hab (slot_injective m hw a b i hi (hji ▸ hj))

/-! ### get after set -/

/-- reading back what was just written goes through `convert` there and back -/
theorem get_after_set_distance (m : StateModel α) (st st' : List α) (name : String) (x : α)
    (u : DistanceUnit) (h : m.setDistance st name x u = .ok st') :
    ∃ fu init, m.map.get name = some (.distance fu init) ∧
      m.getDistance st' name u = .ok (fu.convert u (u.convert fu x)) := by
  rw [setDistance_eq] at h
  simp only [getDistance_eq]
  exact readWith_after_writeWith StateFeature.getDistanceUnit_ok h

theorem get_after_set_time (m : StateModel α) (st st' : List α) (name : String) (x : α)
    (u : TimeUnit) (h : m.setTime st name x u = .ok st') :
    ∃ fu init, m.map.get name = some (.time fu init) ∧
      m.getTime st' name u = .ok (fu.convert u (u.convert fu x)) := by
  rw [setTime_eq] at h
  simp only [getTime_eq]
  exact readWith_after_writeWith StateFeature.getTimeUnit_ok h

theorem get_after_set_energy (m : StateModel α) (st st' : List α) (name : String) (x : α)
    (u : EnergyUnit) (h : m.setEnergy st name x u = .ok st') :
    ∃ fu init, m.map.get name = some (.energy fu init) ∧
      m.getEnergy st' name u = .ok (fu.convert u (u.convert fu x)) := by
  rw [setEnergy_eq] at h
  simp only [getEnergy_eq]
  exact readWith_after_writeWith StateFeature.getEnergyUnit_ok h

/-! ### add accumulates in the feature's own unit -/

variable [Add α]

/-- `add_distance`: the slot of `name` becomes old value + increment converted into the feature's
    unit; nothing else changes -/
theorem add_distance_accumulates (m : StateModel α) (st st' : List α) (name : String) (x : α)
    (u : DistanceUnit) (h : m.addDistance st name x u = .ok st') :
    ∃ fu init i v, m.map.get name = some (.distance fu init) ∧ m.getIndex name = some i ∧
      st[i]? = some v ∧ st'[i]? = some (v + u.convert fu x) ∧ st'.length = st.length ∧
      ∀ j, j ≠ i → st'[j]? = st[j]? := by
  rw [addDistance_eq] at h
  exact writeWith_bump_accumulates StateFeature.getDistanceUnit_ok h

theorem add_time_accumulates (m : StateModel α) (st st' : List α) (name : String) (x : α)
    (u : TimeUnit) (h : m.addTime st name x u = .ok st') :
    ∃ fu init i v, m.map.get name = some (.time fu init) ∧ m.getIndex name = some i ∧
      st[i]? = some v ∧ st'[i]? = some (v + u.convert fu x) ∧ st'.length = st.length ∧
      ∀ j, j ≠ i → st'[j]? = st[j]? := by
  rw [addTime_eq] at h
  exact writeWith_bump_accumulates StateFeature.getTimeUnit_ok h

theorem add_energy_accumulates (m : StateModel α) (st st' : List α) (name : String) (x : α)
    (u : EnergyUnit) (h : m.addEnergy st name x u = .ok st') :
    ∃ fu init i v, m.map.get name = some (.energy fu init) ∧ m.getIndex name = some i ∧
      st[i]? = some v ∧ st'[i]? = some (v + u.convert fu x) ∧ st'.length = st.length ∧
      ∀ j, j ≠ i → st'[j]? = st[j]? := by
  rw [addEnergy_eq] at h
  exact writeWith_bump_accumulates StateFeature.getEnergyUnit_ok h

end numeric

theorem get_delta_own_slot [Sub α] (m : StateModel α) (prev next : List α) (name : String) (d : α)
    (h : m.getDelta prev next name = .ok d) :
    ∃ i p n, m.getIndex name = some i ∧ prev[i]? = some p ∧ next[i]? = some n ∧ d = n - p :=
  getDelta_ok.mp h

open StateModel in
/-- WHEN `get_delta` succeeds (both vectors of the model's length): exactly when the name is a feature,
    of any kind -/
theorem get_delta_ok_iff {α : Type} [Sub α] (m : StateModel α) (h : WF m) (prev next : List α)
    (hp : prev.length = m.len) (hn : next.length = m.len) (name : String) :
    (∃ d, m.getDelta prev next name = .ok d) ↔ m.containsKey name = true := by
  constructor
  · rintro ⟨d, hd⟩
    obtain ⟨i, _, _, hi, _⟩ := getDelta_ok.mp hd
    rw [← slot_iff_feature m h, hi]; rfl
  · intro hs
    obtain ⟨i, hi⟩ := Option.isSome_iff_exists.mp ((slot_iff_feature m h name).mpr hs)
    have hlt := slot_in_range m h name i hi
    have h1 : i < prev.length := by rw [hp]; exact hlt
    have h2 : i < next.length := by rw [hn]; exact hlt
    exact ⟨_, getDelta_ok.mpr ⟨i, prev[i], next[i], hi, getElem?_eq_getElem h1,
      getElem?_eq_getElem h2, rfl⟩⟩

/-! ### custom features: codecs -/

section custom
variable [Lit α] [IntCodec α] [LT α] [DecidableLT α] [BEq α]

theorem set_custom_own_slot (m : StateModel α) (st st' : List α) (name : String)
    (encode : CustomFeatureFormat α → Except StateErr α)
    (h : m.setCustomWith st name encode = .ok st') :
    ∃ i, m.getIndex name = some i ∧ i < st.length ∧ st'.length = st.length ∧
      ∀ j, j ≠ i → st'[j]? = st[j]? := by
  rw [setCustomWith_eq] at h
  exact writeWith_own_slot h

/-- the four custom getters read only the feature's own slot -/
theorem get_custom_own_slot (m : StateModel α) (st st₂ : List α) (name : String)
    (i : Nat) (hi : m.getIndex name = some i) (hs : st₂[i]? = st[i]?) :
    m.getCustomF64 st₂ name = m.getCustomF64 st name ∧ m.getCustomI64 st₂ name = m.getCustomI64 st name ∧
      m.getCustomU64 st₂ name = m.getCustomU64 st name ∧ m.getCustomBool st₂ name = m.getCustomBool st name := by
  simp only [getCustomF64_eq, getCustomI64_eq, getCustomU64_eq, getCustomBool_eq,
    decodeWith_congr_slot hi hs, and_self]

/-- WHEN a custom setter succeeds (well-formed model, vector of the model's length): exactly when the
    name is a custom feature whose format the encoder accepts -/
theorem set_custom_ok_iff (m : StateModel α) (h : WF m) (st : List α) (hl : st.length = m.len)
    (name : String) (encode : CustomFeatureFormat α → Except StateErr α) :
    (∃ st', m.setCustomWith st name encode = .ok st') ↔
      ∃ ty un fmt x, m.map.get name = some (.custom ty un fmt) ∧ encode fmt = .ok x := by
  rw [setCustomWith_eq, writeWith_ok_iff h hl]
  constructor
  · rintro ⟨f, fmt, x, hg, hb, hx⟩
    obtain ⟨ty, un, rfl⟩ := StateFeature.getCustomFeatureFormat_ok.mp hb
    exact ⟨ty, un, fmt, x, hg, hx⟩
  · rintro ⟨ty, un, fmt, x, hg, hx⟩
    exact ⟨_, fmt, x, hg, rfl, hx⟩

/-- for an encoder that accepts exactly the formats `mk i`: on a custom feature of such a format -/
theorem set_custom_ok_iff_of_enc {ι : Type} (m : StateModel α) (h : WF m) (st : List α)
    (hl : st.length = m.len) (name : String) {encode : CustomFeatureFormat α → Except StateErr α}
    {mk : ι → CustomFeatureFormat α} {c : α}
    (henc : ∀ {fmt y}, encode fmt = .ok y ↔ (∃ i, fmt = mk i) ∧ y = c) :
    (∃ st', m.setCustomWith st name encode = .ok st') ↔
      ∃ ty un i, m.map.get name = some (.custom ty un (mk i)) := by
  rw [set_custom_ok_iff m h st hl]
  constructor
  · rintro ⟨ty, un, fmt, y, hg, he⟩
    obtain ⟨⟨i, rfl⟩, -⟩ := henc.mp he
    exact ⟨ty, un, i, hg⟩
  · rintro ⟨ty, un, i, hg⟩
    exact ⟨ty, un, _, c, hg, henc.mpr ⟨⟨i, rfl⟩, rfl⟩⟩

/-- WHEN `get_custom_f64` succeeds: exactly on a floating-point custom feature -/
theorem get_custom_f64_ok_iff (m : StateModel α) (h : WF m) (st : List α) (hl : st.length = m.len)
    (name : String) :
    (∃ y, m.getCustomF64 st name = .ok y) ↔
      ∃ ty un init, m.map.get name = some (.custom ty un (.floatingPoint init)) := by
  rw [getCustomF64_eq]
  exact decodeWith_ok_iff h hl CustomFeatureFormat.decodeF64_ok

/-- WHEN `get_custom_i64` succeeds: exactly on a signed-integer custom feature -/
theorem get_custom_i64_ok_iff (m : StateModel α) (h : WF m) (st : List α) (hl : st.length = m.len)
    (name : String) :
    (∃ y, m.getCustomI64 st name = .ok y) ↔
      ∃ ty un init, m.map.get name = some (.custom ty un (.signedInteger init)) := by
  rw [getCustomI64_eq]
  exact decodeWith_ok_iff h hl CustomFeatureFormat.decodeI64_ok

/-- WHEN `get_custom_u64` succeeds: on an unsigned-integer custom feature whose slot holds a value that
    is not negative — success depends on the VALUE in the slot (`decode_u64` answers `ValueError` for a
    negative one), not on the kind alone: see `get_custom_u64_negative_slot_counterexample` -/
theorem get_custom_u64_ok_iff (m : StateModel α) (h : WF m) (st : List α) (hl : st.length = m.len)
    (name : String) :
    (∃ y, m.getCustomU64 st name = .ok y) ↔
      ∃ ty un init i v, m.map.get name = some (.custom ty un (.unsignedInteger init)) ∧
        m.getIndex name = some i ∧ st[i]? = some v ∧ ¬ v < zero := by
  rw [getCustomU64_eq]
  exact decodeWith_ok_iff_of_dec CustomFeatureFormat.decodeU64_ok

/-! WHEN a public custom setter succeeds: exactly on a custom feature of its own format. -/

theorem set_custom_i64_ok_iff (m : StateModel α) (h : WF m) (st : List α) (hl : st.length = m.len)
    (name : String) (x : Int) :
    (∃ st', m.setCustomI64 st name x = .ok st') ↔
      ∃ ty un init, m.map.get name = some (.custom ty un (.signedInteger init)) :=
  set_custom_ok_iff_of_enc m h st hl name CustomFeatureFormat.encodeI64_ok

theorem set_custom_f64_ok_iff (m : StateModel α) (h : WF m) (st : List α) (hl : st.length = m.len)
    (name : String) (x : α) :
    (∃ st', m.setCustomF64 st name x = .ok st') ↔
      ∃ ty un init, m.map.get name = some (.custom ty un (.floatingPoint init)) :=
  set_custom_ok_iff_of_enc m h st hl name CustomFeatureFormat.encodeF64_ok

theorem set_custom_u64_ok_iff (m : StateModel α) (h : WF m) (st : List α) (hl : st.length = m.len)
    (name : String) (x : Nat) :
    (∃ st', m.setCustomU64 st name x = .ok st') ↔
      ∃ ty un init, m.map.get name = some (.custom ty un (.unsignedInteger init)) :=
  set_custom_ok_iff_of_enc m h st hl name CustomFeatureFormat.encodeU64_ok

theorem set_custom_bool_ok_iff (m : StateModel α) (h : WF m) (st : List α) (hl : st.length = m.len)
    (name : String) (x : Bool) :
    (∃ st', m.setCustomBool st name x = .ok st') ↔
      ∃ ty un init, m.map.get name = some (.custom ty un (.boolean init)) :=
  set_custom_ok_iff_of_enc m h st hl name CustomFeatureFormat.encodeBool_ok

/-- WHEN `get_custom_bool` succeeds: exactly on a boolean custom feature -/
theorem get_custom_bool_ok_iff (m : StateModel α) (h : WF m) (st : List α) (hl : st.length = m.len)
    (name : String) :
    (∃ y, m.getCustomBool st name = .ok y) ↔
      ∃ ty un init, m.map.get name = some (.custom ty un (.boolean init)) := by
  rw [getCustomBool_eq]
  exact decodeWith_ok_iff h hl CustomFeatureFormat.decodeBool_ok

/-- a floating-point custom feature returns exactly what was stored -/
theorem custom_f64_roundtrip (m : StateModel α) (st st' : List α) (name : String) (x : α)
    (h : m.setCustomF64 st name x = .ok st') : m.getCustomF64 st' name = .ok x := by
  obtain ⟨fmt, y, he, hd⟩ := decodeWith_after_setCustomWith (dec := CustomFeatureFormat.decodeF64) h
  obtain ⟨⟨init, rfl⟩, rfl⟩ := CustomFeatureFormat.encodeF64_ok.mp he
  rw [getCustomF64_eq, hd]; rfl

/-- Full statement (false of the code, see `custom_i64_roundtrip_counterexample`): every `i64` written
   by `set_custom_i64` is read back by `get_custom_i64`.  Proved under the hypothesis that the number
   type's two casts invert each other on that integer — for IEEE doubles exactly the integers with
   `|x| ≤ 2^53` (and some larger ones); excluded: the other integers, which `i64 as f64` rounds. -/
theorem custom_i64_roundtrip_partial (m : StateModel α) (st st' : List α) (name : String) (x : Int)
    (hc : IntCodec.toI64 (IntCodec.ofInt x : α) = x)
    (h : m.setCustomI64 st name x = .ok st') : m.getCustomI64 st' name = .ok x := by
  obtain ⟨fmt, y, he, hd⟩ := decodeWith_after_setCustomWith (dec := CustomFeatureFormat.decodeI64) h
  obtain ⟨⟨init, rfl⟩, rfl⟩ := CustomFeatureFormat.encodeI64_ok.mp he
  rw [getCustomI64_eq, hd]
  exact CustomFeatureFormat.decodeI64_ok.mpr ⟨⟨init, rfl⟩, hc.symm⟩

/-- Full statement (false of the code for the same reason): every `u64` written by `set_custom_u64` is
   read back.  Proved under the cast-inversion hypothesis (`|x| ≤ 2^53` for doubles) and `¬ (x as f64) < 0`. -/
theorem custom_u64_roundtrip_partial (m : StateModel α) (st st' : List α) (name : String) (x : Nat)
    (hc : IntCodec.toU64 (IntCodec.ofInt (x : Int) : α) = x)
    (hneg : ¬ (IntCodec.ofInt (x : Int) : α) < zero)
    (h : m.setCustomU64 st name x = .ok st') : m.getCustomU64 st' name = .ok x := by
  obtain ⟨fmt, y, he, hd⟩ := decodeWith_after_setCustomWith (dec := CustomFeatureFormat.decodeU64) h
  obtain ⟨⟨init, rfl⟩, rfl⟩ := CustomFeatureFormat.encodeU64_ok.mp he
  rw [getCustomU64_eq, hd]
  exact CustomFeatureFormat.decodeU64_ok.mpr ⟨⟨init, rfl⟩, hneg, hc.symm⟩

/-- a boolean custom feature returns what was stored as soon as `1 ≠ 0` in the number type -/
theorem custom_bool_roundtrip (m : StateModel α) (st st' : List α) (name : String) (x : Bool)
    (h10 : ((one : α) == (zero : α)) = false) (h00 : ((zero : α) == (zero : α)) = true)
    (h : m.setCustomBool st name x = .ok st') : m.getCustomBool st' name = .ok x := by
  obtain ⟨fmt, y, he, hd⟩ := decodeWith_after_setCustomWith (dec := CustomFeatureFormat.decodeBool) h
  obtain ⟨⟨init, rfl⟩, rfl⟩ := CustomFeatureFormat.encodeBool_ok.mp he
  rw [getCustomBool_eq, hd]
  refine CustomFeatureFormat.decodeBool_ok.mpr ⟨⟨init, rfl⟩, ?_⟩
  cases x
  · show false = !((zero : α) == zero); rw [h00]; rfl
  · show true = !((one : α) == zero); rw [h10]; rfl

end custom

end state

/-! ### round trip through the unit tables: C09's bound

Exact arithmetic over a linearly ordered field (as in C09), not IEEE doubles: the 0.1 % bound and
`add_distance_repeated` are field facts; the `_same_unit` theorems hold for doubles as well (the
identity factor returns its argument). -/

section roundtrip
variable {α : Type} [Field α] [LinearOrder α] [IsStrictOrderedRing α] [Lit α] [LawfulLit α]

open StateModel

/-- set then get in the same unit `u`: within 0.1 % of the value written, for every pair of units
    (feature unit, caller unit), every magnitude and sign -/
theorem get_after_set_distance_roundtrip (m : StateModel α) (st st' : List α) (name : String) (x : α)
    (u : DistanceUnit) (h : m.setDistance st name x u = .ok st') :
    ∃ y, m.getDistance st' name u = .ok y ∧ |y - x| ≤ |x| * (C09.tol : α) := by
  obtain ⟨fu, init, _, hget⟩ := get_after_set_distance m st st' name x u h
  exact ⟨_, hget, C09.distance_roundtrip u fu x⟩

theorem get_after_set_time_roundtrip (m : StateModel α) (st st' : List α) (name : String) (x : α)
    (u : TimeUnit) (h : m.setTime st name x u = .ok st') :
    ∃ y, m.getTime st' name u = .ok y ∧ |y - x| ≤ |x| * (C09.tol : α) := by
  obtain ⟨fu, init, _, hget⟩ := get_after_set_time m st st' name x u h
  exact ⟨_, hget, C09.time_roundtrip u fu x⟩

theorem get_after_set_energy_roundtrip (m : StateModel α) (st st' : List α) (name : String) (x : α)
    (u : EnergyUnit) (h : m.setEnergy st name x u = .ok st') :
    ∃ y, m.getEnergy st' name u = .ok y ∧ |y - x| ≤ |x| * (C09.tol : α) := by
  obtain ⟨fu, init, _, hget⟩ := get_after_set_energy m st st' name x u h
  exact ⟨_, hget, C09.energy_roundtrip u fu x⟩

/-- in the feature's own unit the round trip is exact -/
theorem get_after_set_distance_same_unit (m : StateModel α) (st st' : List α) (name : String) (x : α)
    (u : DistanceUnit) (init : α) (hf : m.map.get name = some (.distance u init))
    (h : m.setDistance st name x u = .ok st') : m.getDistance st' name u = .ok x := by
  obtain ⟨fu, init', hg, hget⟩ := get_after_set_distance m st st' name x u h
  rw [hf] at hg
  simp only [Option.some.injEq, StateFeature.distance.injEq] at hg
  obtain ⟨rfl, _⟩ := hg
  rw [hget, C09.distance_convert_id, C09.distance_convert_id]

theorem get_after_set_time_same_unit (m : StateModel α) (st st' : List α) (name : String) (x : α)
    (u : TimeUnit) (init : α) (hf : m.map.get name = some (.time u init))
    (h : m.setTime st name x u = .ok st') : m.getTime st' name u = .ok x := by
  obtain ⟨fu, init', hg, hget⟩ := get_after_set_time m st st' name x u h
  rw [hf] at hg
  simp only [Option.some.injEq, StateFeature.time.injEq] at hg
  obtain ⟨rfl, _⟩ := hg
  rw [hget, C09.time_convert_id, C09.time_convert_id]

theorem get_after_set_energy_same_unit (m : StateModel α) (st st' : List α) (name : String) (x : α)
    (u : EnergyUnit) (init : α) (hf : m.map.get name = some (.energy u init))
    (h : m.setEnergy st name x u = .ok st') : m.getEnergy st' name u = .ok x := by
  obtain ⟨fu, init', hg, hget⟩ := get_after_set_energy m st st' name x u h
  rw [hf] at hg
  simp only [Option.some.injEq, StateFeature.energy.injEq] at hg
  obtain ⟨rfl, _⟩ := hg
  rw [hget, C09.energy_convert_id, C09.energy_convert_id]

/-- `k` times the same fallible step, stopping at the first error: a caller's loop of `?` -/
def iterate (step : List α → Except StateErr (List α)) : Nat → List α → Except StateErr (List α)
  | 0, st => .ok st
  | k + 1, st =>
    match step st with
    | .ok s => iterate step k s
    | .error e => .error e

/-- `k` additions of `x` (given in unit `u`) into a feature kept in unit `fu` leave exactly
    `v + k · convert(u→fu)(x)` in its slot: no drift, whatever the unit pair -/
theorem add_distance_repeated (m : StateModel α) (name : String) (x : α) (u : DistanceUnit) (k : Nat)
    (st st' : List α) (h : iterate (fun s => m.addDistance s name x u) k st = .ok st')
    (fu : DistanceUnit) (init : α) (hf : m.map.get name = some (.distance fu init))
    (i : Nat) (hi : m.getIndex name = some i) (v : α) (hv : st[i]? = some v) :
    st'[i]? = some (v + (k : α) * u.convert fu x) := by
  induction k generalizing st v with
  | zero =>
    simp only [iterate, Except.ok.injEq] at h
    subst h; simp [hv]
  | succ k ih =>
    simp only [iterate] at h
    cases hs : m.addDistance st name x u with
    | error e => rw [hs] at h; cases h
    | ok s =>
      rw [hs] at h
      simp only at h
      obtain ⟨fu', init', i', v', hg', hi', hv', hs', _⟩ := add_distance_accumulates m st s name x u hs
      rw [hf] at hg'; rw [hi] at hi'
      simp only [Option.some.injEq, StateFeature.distance.injEq] at hg' hi'
      obtain ⟨rfl, _⟩ := hg'; subst hi'
      rw [hv] at hv'
      simp only [Option.some.injEq] at hv'
      subst hv'
      rw [ih s h (v + u.convert fu x) hs']
      congr 1
      push_cast
      ring

end roundtrip

/-! ### non-vacuity: a seven-feature model of every kind, and the repeated-name finding -/

section examples

instance : IntCodec ℚ where
  ofInt i := (i : ℚ)
  toI64 q := q.num.tdiv q.den
  toU64 q := (q.num.tdiv q.den).toNat

def seven : List (String × StateFeature ℚ) :=
  [("trip_distance", .distance .miles 0), ("trip_time", .time .minutes 0),
   ("trip_energy", .energy .kilowattHours 0), ("soc", .custom "soc" "percent" (.floatingPoint 100)),
   ("stops", .custom "count" "n" (.signedInteger 0)), ("charges", .custom "count" "n" (.unsignedInteger 0)),
   ("charging", .custom "flag" "bool" (.boolean false))]

def m7 : StateModel ℚ := StateModel.new seven
def s7 : List ℚ := [0, 0, 0, 100, 0, 0, 0]

/-! The seven-feature model is well-formed and stands for the list `seven`, so its accessors are read
off that list (`get_eq`, `getIndex_eq`, `len_eq`): where the examples below apply a theorem, what is
evaluated is a lookup in the list. -/

-- as a proof's expected type, `WF m7` would be unfolded to the container's invariant and evaluated
seal StateModel.WF

theorem seven_nodup : (seven.map (·.1)).Nodup := by decide +kernel

theorem m7_wf : StateModel.WF m7 := (new_wf seven).1

theorem m7_feats : StateModel.feats m7 = seven := new_wf_distinct seven seven_nodup

theorem m7_len : s7.length = m7.len := by
  rw [StateModel.len_eq m7, m7_feats]
  rfl

theorem m7_get (name : String) : m7.map.get name = Spec.get seven name := by
  rw [StateModel.get_eq m7_wf, m7_feats]

theorem m7_getIndex (name : String) : m7.getIndex name = Spec.indexOf seven name := by
  rw [StateModel.getIndex_eq m7_wf, m7_feats]

/-- the hypotheses of Part B are satisfiable well past five features: the model is well-formed, and
    its sixth and seventh features own slots 5 and 6 -/
example : StateModel.WF (StateModel.new seven) ∧ (StateModel.new seven).len = seven.length ∧
    (StateModel.new seven).getIndex "charges" = some 5 ∧
    (StateModel.new seven).getIndex "charging" = some 6 ∧
    (StateModel.new seven).getIndex "nope" = none :=
  ⟨m7_wf, m7_len.symm, (m7_getIndex _).trans (by decide +kernel), (m7_getIndex _).trans (by decide +kernel),
    (m7_getIndex _).trans (by decide +kernel)⟩

/-- extension of a four-feature configuration by three model features succeeds and keeps slots -/
example : ∃ m', (StateModel.new (seven.take 4)).extend (seven.drop 4) = .ok m' ∧
    m'.getIndex "trip_distance" = some 0 ∧ m'.getIndex "charging" = some 6 ∧ m'.len = 7 := by
  have h4 := StateModel.new_refines_of_nodup (seven.take 4) (by decide +kernel)
  obtain ⟨m', he⟩ := (StateModel.extend_ok_iff_kindChanges h4.1 (seven.drop 4)).mpr
    (by rw [h4.2]; decide +kernel)
  obtain ⟨hw, hf⟩ := StateModel.extend_ok h4.1 he
  -- all names are distinct, so every entry is appended and the model stands for `seven` again
  rw [h4.2, Spec.insertAll_append_of_nodup _ _ (by rw [take_append_drop]; exact seven_nodup),
    take_append_drop] at hf
  exact ⟨m', he, by rw [StateModel.getIndex_eq hw, hf]; decide +kernel,
    by rw [StateModel.getIndex_eq hw, hf]; decide +kernel, by rw [StateModel.len_eq m', hf]; rfl⟩

/-- a repeated name handed to `StateModel::new`: one feature in slot 0 with the last declaration, and
    an initial state of one entry -/
theorem new_duplicate_name_repaired :
    let m : StateModel ℚ := StateModel.new [("d", .distance .miles 1), ("d", .distance .meters 2)]
    StateModel.WF m ∧ m.len = 1 ∧ m.getIndex "d" = some 0 ∧ m.iter.length = 1 ∧
      (m.initialState.toOption.map List.length) = some 1 := by
  decide

end examples

/-- "a getter succeeds exactly on a feature of the right kind" is FALSE for `get_custom_u64`: a
    well-formed model, an unsigned-integer feature, a vector of the right length holding `-1` —
    `ValueError` -/
theorem get_custom_u64_negative_slot_counterexample :
    let mu : StateModel ℚ := StateModel.new [("n", .custom "count" "n" (.unsignedInteger 0))]
    StateModel.WF mu ∧ ([-1] : List ℚ).length = mu.len ∧
      mu.map.get "n" = some (.custom "count" "n" (.unsignedInteger 0)) ∧
      mu.getCustomU64 [-1] "n" = .error .value := by
  refine ⟨(new_wf _).1, by decide, rfl, ?_⟩
  decide +kernel

/-! ## Part C — the state layer of the search model is this state model

`StateRefine.toStateModel fs` is `StateModel::new` of the feature list `fs` of `Model/Instance.lean`;
`StateRefine.Represents m fs` says `m` is well-formed with feature list `fs` (`Proofs/StateRefine.lean`).

Hypothesis: the feature names are pairwise distinct.  It is sufficient for both constructors
(`search_state_layer_represented`), necessary (`search_state_layer_needs_distinct_names`), and
without it the model built from `fs` is the model of `StateRefine.normalize fs` — a repeated name keeps
its first slot and takes its last declaration — which differs from `fs`
(`search_state_layer_without_distinct_names`, `search_state_layer_duplicate_name_counterexample`).
Under it the layers agree on EVERY state vector (shorter or longer than the feature list), name, value
and unit; nothing else is assumed. -/

section searchlayer
open StateRefine
variable {α : Type}

/-- pairwise distinct names: `StateModel::new` and `StateModel::empty().extend(..)` (which succeeds)
    both build a state model represented by the feature list -/
theorem search_state_layer_represented (fs : List (Feat α)) (nd : (fs.map (·.name)).Nodup) :
    Represents (toStateModel fs) fs ∧
      ∃ m, (StateModel.empty : StateModel α).extend (toEntries fs) = .ok m ∧ Represents m fs :=
  ⟨represents_new fs nd, represents_extend fs nd⟩

/-- the hypothesis is necessary: a represented feature list has pairwise distinct names -/
theorem search_state_layer_needs_distinct_names (m : StateModel α) (fs : List (Feat α))
    (h : Represents m fs) : (fs.map (·.name)).Nodup := h.nodup

/-- without the hypothesis: `StateModel::new` of ANY feature list is the model of the normalised list
    (later duplicate overwrites in place), which is the list itself iff the names are distinct -/
theorem search_state_layer_without_distinct_names (fs : List (Feat α)) :
    Represents (toStateModel fs) (normalize fs) ∧
      (normalize fs = fs ↔ (fs.map (·.name)).Nodup) :=
  ⟨represents_new_normalize fs, normalize_eq_self_iff fs⟩

/-- `featIndex` is `get_index`; `len` is the number of features -/
theorem search_state_layer_refines_state_model_index (m : StateModel α) (fs : List (Feat α))
    (hm : Represents m fs) (name : String) :
    featIndex fs name = m.getIndex name ∧ m.len = fs.length :=
  ⟨(getIndex_eq_featIndex hm name).symm, StateRefine.len_eq_length hm⟩

/-- `initial_state` succeeds and is the minimal layer's `initialState` -/
theorem search_state_layer_refines_state_model_initial_state [Lit α] [IntCodec α] [LT α]
    [DecidableLT α] [BEq α] (m : StateModel α) (fs : List (Feat α)) (hm : Represents m fs) :
    m.initialState = .ok (initialState fs) := initialState_eq hm

section arith
variable [Add α] [Mul α] [Div α] [Lit α]

/-- `add_distance`: the minimal layer is the full model with the error forgotten; they agree on
    success in both directions; the minimal layer's `none` is exactly an error of the full model, and
    that error is one of: unknown name — wrong feature kind (reported whatever the state vector) —
    distance feature whose slot is beyond the state vector (`RuntimeError` of `get_state_variable`;
    `InvalidStateVariableIndex` cannot occur) -/
theorem search_state_layer_refines_state_model_add_distance (m : StateModel α) (fs : List (Feat α))
    (hm : Represents m fs) (state : List α) (name : String) (d : α) (u : DistanceUnit) :
    addDistance fs state name d u = (m.addDistance state name d u).toOption ∧
    (∀ s', addDistance fs state name d u = some s' ↔ m.addDistance state name d u = .ok s') ∧
    (addDistance fs state name d u = none ↔ ∃ e, m.addDistance state name d u = .error e) ∧
    ∀ e, m.addDistance state name d u = .error e →
      (e = .unknownName ∧ featIndex fs name = none) ∨
      (e = .unexpectedFeatureUnit ∧ ∃ i f, featIndex fs name = some i ∧ fs[i]? = some f ∧
          ∀ fu, f.kind ≠ .dist fu) ∨
      (e = .runtime ∧ ∃ i f fu, featIndex fs name = some i ∧ fs[i]? = some f ∧
          f.kind = .dist fu ∧ state.length ≤ i) := by
  refine ⟨addDistance_toOption hm state name d u, addDistance_some_iff hm state name d u, ?_,
    fun e h => add_error_cases distKind hm state name _ e (StateModel.addDistance_eq m state name d u ▸ h)⟩
  rw [addDistance_full hm]
  cases addDistance fs state name d u <;> simp [lift]

/-- `add_time`: likewise -/
theorem search_state_layer_refines_state_model_add_time (m : StateModel α) (fs : List (Feat α))
    (hm : Represents m fs) (state : List α) (name : String) (t : α) (u : TimeUnit) :
    addTime fs state name t u = (m.addTime state name t u).toOption ∧
    (∀ s', addTime fs state name t u = some s' ↔ m.addTime state name t u = .ok s') ∧
    (addTime fs state name t u = none ↔ ∃ e, m.addTime state name t u = .error e) ∧
    ∀ e, m.addTime state name t u = .error e →
      (e = .unknownName ∧ featIndex fs name = none) ∨
      (e = .unexpectedFeatureUnit ∧ ∃ i f, featIndex fs name = some i ∧ fs[i]? = some f ∧
          ∀ fu, f.kind ≠ .time fu) ∨
      (e = .runtime ∧ ∃ i f fu, featIndex fs name = some i ∧ fs[i]? = some f ∧
          f.kind = .time fu ∧ state.length ≤ i) := by
  refine ⟨addTime_toOption hm state name t u, addTime_some_iff hm state name t u, ?_,
    fun e h => add_error_cases timeKind hm state name _ e (StateModel.addTime_eq m state name t u ▸ h)⟩
  rw [addTime_full hm]
  cases addTime fs state name t u <;> simp [lift]

/-- the statement in the form "for every feature list with pairwise distinct names", for
    `StateModel::new`: slots, initial state, `add_distance`, `add_time` -/
theorem search_state_layer_refines_state_model [IntCodec α] [LT α] [DecidableLT α] [BEq α]
    (fs : List (Feat α)) (nd : (fs.map (·.name)).Nodup) :
    (∀ name, featIndex fs name = (toStateModel fs).getIndex name) ∧
    (toStateModel fs).initialState = .ok (initialState fs) ∧
    (∀ state name d u, addDistance fs state name d u =
        ((toStateModel fs).addDistance state name d u).toOption) ∧
    (∀ state name t u, addTime fs state name t u =
        ((toStateModel fs).addTime state name t u).toOption) := by
  have hm := represents_new fs nd
  exact ⟨fun name => (getIndex_eq_featIndex hm name).symm, initialState_eq hm,
    addDistance_toOption hm, addTime_toOption hm⟩

end arith

/-! ### reads: every positional read of the search model is a `StateModel` accessor -/

/-- `state[i]?` is `get_state_variable` of the feature in slot `i`; `next[i] − prev[i]` — what one item
    of `cost_ops::calculate_vehicle_costs` (`CostModel.vehicleTerm`) feeds into the vehicle rate — is
    `get_delta` of that feature -/
theorem search_state_layer_reads_are_state_model_reads [Add α] [Sub α] [Mul α] [Lit α]
    (m : StateModel α) (fs : List (Feat α)) (hm : Represents m fs) (cm : CostModel α)
    (prev next : List α) (i : Nat) (f : Feat α) (hf : fs[i]? = some f) :
    prev[i]? = (m.getStateVariable prev f.name).toOption ∧
    cm.vehicleTerm prev next i =
      (match (m.getDelta prev next f.name).toOption, cm.vehicleRates[i]?, cm.weights[i]? with
        | some d, some r, some w => some (r.mapValue d * w)
        | _, _, _ => none) :=
  ⟨slot_read hm prev hf, vehicleTerm_getDelta hm cm prev next hf⟩

/-- the slot hypotheses of the route theorems of C03 (`featIndex fs name = some i`, the entry there is
    a distance in unit `fu`) are statements about the state model (`get_index`, `get_feature`), and
    under them the value the route theorems speak about, `state[i]?`, is `get_distance` in the
    feature's own unit (identity conversion, exact in any arithmetic) -/
theorem search_state_layer_distance_slot_is_get_distance [Mul α] [Div α] [Lit α]
    (m : StateModel α) (fs : List (Feat α)) (hm : Represents m fs) (name : String) (i : Nat)
    (fu : DistanceUnit) :
    ((featIndex fs name = some i ∧ (fs[i]?).map (·.kind) = some (FeatKind.dist fu)) ↔
      (m.getIndex name = some i ∧ ∃ init, m.getFeature name = .ok (.distance fu init))) ∧
    ((featIndex fs name = some i ∧ (fs[i]?).map (·.kind) = some (FeatKind.dist fu)) →
      ∀ (state : List α) (x : α), state[i]? = some x ↔ m.getDistance state name fu = .ok x) := by
  refine ⟨kindSlot_iff distKind hm name i fu, ?_⟩
  rintro ⟨hi, hk⟩ state x
  rw [getDistance_slot hm hi hk]
  cases state[i]? <;> simp [DistanceUnit.convert, C09.distance_id, Factor.apply]

/-- the same for the time slot and `get_time` -/
theorem search_state_layer_time_slot_is_get_time [Mul α] [Div α] [Lit α]
    (m : StateModel α) (fs : List (Feat α)) (hm : Represents m fs) (name : String) (i : Nat)
    (fu : TimeUnit) :
    ((featIndex fs name = some i ∧ (fs[i]?).map (·.kind) = some (FeatKind.time fu)) ↔
      (m.getIndex name = some i ∧ ∃ init, m.getFeature name = .ok (.time fu init))) ∧
    ((featIndex fs name = some i ∧ (fs[i]?).map (·.kind) = some (FeatKind.time fu)) →
      ∀ (state : List α) (x : α), state[i]? = some x ↔ m.getTime state name fu = .ok x) := by
  refine ⟨kindSlot_iff timeKind hm name i fu, ?_⟩
  rintro ⟨hi, hk⟩ state x
  rw [getTime_slot hm hi hk]
  cases state[i]? <;> simp [TimeUnit.convert, C09.time_id, Factor.apply]

/-- the traversal model, the access model, one whole search step (`EdgeTraversal::forward_traversal /
    reverse_traversal`, the `trav` field of the configured search instance), the A* estimate (the `h`
    field) and the initial state (the `init` field) of `Model/Instance.lean` are the same functions
    written against the `StateModel` API (`StateRefine.traverseSM`, `accessSM`, `edgeTraversalSM`,
    `modelEstimateSM`: `state_model.add_distance(..)` / `add_time(..)` with the error forgotten) -/
theorem search_step_is_state_model_step [Add α] [Sub α] [Mul α] [Div α] [LT α] [LE α]
    [DecidableLT α] [DecidableLE α] [BEq α] [Lit α] [IntCodec α]
    (c : Config α) (m : StateModel α) (hm : Represents m c.feats) :
    (∀ e st, c.trav.traverse c.feats c.edges e st = traverseSM c.trav m c.edges e st) ∧
    (∀ pe ne st, c.access.access c.feats pe ne st = accessSM c.access m pe ne st) ∧
    (∀ e last st, c.inst.trav e last st = edgeTraversalSM c m e last st) ∧
    (∀ v st, c.inst.h v st = modelEstimateSM c m v st) ∧
    m.initialState = .ok c.inst.init :=
  ⟨fun e st => traverse_eq hm c.trav c.edges e st, fun pe ne st => access_eq hm c.access pe ne st,
    fun e last st => edgeTraversal_eq hm e last st, fun v st => modelEstimate_eq hm v st,
    initialState_eq hm⟩

end searchlayer

/-! ### non-vacuity of Part C, and the repeated-name disagreement -/

section searchexamples
open StateRefine

/-- time in minutes, an unrelated custom slot, distance in miles (the features of
    `RouteSums.speedExample`) -/
def searchFeats : List (Feat ℚ) :=
  [⟨"time", .time .minutes, 5⟩, ⟨"spare", .other, 7⟩, ⟨"distance", .dist .miles, 1⟩]

/-- the hypothesis holds, both layers compute the same concrete states (a distance given in
    kilometres lands in the miles slot, a time given in seconds in the minutes slot), and each `none`
    of the minimal layer is the error of the full model that the theorems name: unknown name, wrong
    kind (also when the slot is beyond the state vector: the kind is checked first), state vector too
    short -/
example : (searchFeats.map (·.name)).Nodup ∧ Represents (toStateModel searchFeats) searchFeats ∧
    (toStateModel searchFeats).initialState = .ok (initialState searchFeats) ∧
    initialState searchFeats = [5, 7, 1] ∧
    (∃ s, addDistance searchFeats [5, 7, 1] "distance" 3 .kilometers = some s ∧
      (toStateModel searchFeats).addDistance [5, 7, 1] "distance" 3 .kilometers = .ok s ∧
      s = [5, 7, 1 + DistanceUnit.kilometers.convert .miles 3] ∧ s ≠ [5, 7, 1] ∧ s ≠ [5, 7, 4]) ∧
    (∃ s, addTime searchFeats [5, 7, 1] "time" 90 .seconds = some s ∧
      (toStateModel searchFeats).addTime [5, 7, 1] "time" 90 .seconds = .ok s ∧
      s = [5 + TimeUnit.seconds.convert .minutes 90, 7, 1] ∧ s ≠ [5, 7, 1] ∧ s ≠ [95, 7, 1]) ∧
    (addDistance searchFeats [5, 7, 1] "nope" 3 .miles = none ∧
      (toStateModel searchFeats).addDistance [5, 7, 1] "nope" 3 .miles = .error .unknownName) ∧
    (addDistance searchFeats [5, 7, 1] "time" 3 .miles = none ∧
      (toStateModel searchFeats).addDistance [5, 7, 1] "time" 3 .miles = .error .unexpectedFeatureUnit) ∧
    (addDistance searchFeats [5] "spare" 3 .miles = none ∧
      (toStateModel searchFeats).addDistance [5] "spare" 3 .miles = .error .unexpectedFeatureUnit) ∧
    (addDistance searchFeats [5, 7] "distance" 3 .miles = none ∧
      (toStateModel searchFeats).addDistance [5, 7] "distance" 3 .miles = .error .runtime) ∧
    (toStateModel searchFeats).getDistance [5, 7, 1, 9] "distance" .miles = .ok 1 := by
  have nd : (searchFeats.map (·.name)).Nodup := by decide
  refine ⟨nd, represents_new _ nd, by decide +kernel, by decide +kernel,
    ⟨_, rfl, by decide +kernel, by decide +kernel, by decide +kernel, by decide +kernel⟩,
    ⟨_, rfl, by decide +kernel, by decide +kernel, by decide +kernel, by decide +kernel⟩,
    by decide +kernel, by decide +kernel, by decide +kernel, by decide +kernel, by decide +kernel⟩

/-- three edges under the speed-table model with turn delays (`RouteSums.speedExample`, weight
    factor and cost model as there) -/
def searchConfig : Config ℚ where
  nV := 4
  edges := [⟨0, 1, 1000⟩, ⟨1, 2, 500⟩, ⟨2, 3, 2000⟩]
  outAdj := [[0], [1], [2], []]
  inAdj := [[], [0], [1], [2]]
  feats := searchFeats
  trav := .speed .kilometersPerHour .kilometers .hours 120 [36, 18, 72]
  access := .turnDelay .seconds [(0, none), (90, none), (90, some 90)]
    [some 1, some 2, some 3, some 4, some 5, some 6, some 7, some 8]
  cost := { indices := [0, 2], weights := [1, 1, 1], vehicleRates := [.raw, .raw, .raw],
            networkRates := [.zero, .zero, .zero], agg := .sum }
  frontier := []
  term := .combined []
  reverse := false
  gc := []
  wf := some 0

/-- the state after a step, when both formulations succeed with the same answer and the state moved -/
def sameProgress (a b : Except ErrKind (ℚ × ℚ × List ℚ)) (s0 : List ℚ) : Option (List ℚ) :=
  match a, b with
  | .ok x, .ok y => if x.1 = y.1 ∧ x.2.1 = y.2.1 ∧ x.2.2 = y.2.2 ∧ x.2.2 ≠ s0 then some x.2.2 else none
  | _, _ => none

/-- a whole search step succeeds, changes the state, and is the step over `StateModel::new` of the
    features: the first edge from the initial state, then the second edge with the turn from the first
    (an instance of `search_step_is_state_model_step`, evaluated on both sides) -/
example : Represents (toStateModel searchFeats) searchConfig.feats ∧
    ((sameProgress (edgeTraversal searchConfig 0 none (initialState searchFeats))
        (edgeTraversalSM searchConfig (toStateModel searchFeats) 0 none (initialState searchFeats))
        (initialState searchFeats)).bind fun s1 =>
      sameProgress (edgeTraversal searchConfig 1 (some 0) s1)
        (edgeTraversalSM searchConfig (toStateModel searchFeats) 1 (some 0) s1) s1).isSome = true :=
  ⟨represents_new _ (by decide), by decide +kernel⟩

/-- feature names repeated: the two layers genuinely disagree (and the full model is the one that
    follows `StateModel::new`: first position, last declaration, one slot).  The minimal layer keeps
    two slots, initial state `[1, 2]`, and accumulates `"d"` in miles; the full model has one slot,
    initial state `[2]`, and accumulates in metres. -/
theorem search_state_layer_duplicate_name_counterexample :
    let fs : List (Feat ℚ) := [⟨"d", .dist .miles, 1⟩, ⟨"d", .dist .meters, 2⟩]
    initialState fs = [1, 2] ∧ (toStateModel fs).initialState = .ok [2] ∧
    addDistance fs [0] "d" 5 .meters = some [DistanceUnit.meters.convert .miles 5] ∧
    (toStateModel fs).addDistance [0] "d" 5 .meters = .ok [5] ∧
    addDistance fs [0] "d" 5 .meters ≠ ((toStateModel fs).addDistance [0] "d" 5 .meters).toOption := by
  decide +kernel

end searchexamples

/-! ## Part D — the remaining arms of the anchor files

Every function and arm of `compact_ordered_hash_map.rs`, `state_model.rs`, `state_feature.rs`,
`custom_feature_format.rs`, `search_app_ops.rs` and `SearchApp::build_search_instance` is reached by a
case stream of `harness/src/c11.rs`, except two arms that the theorems below show unreachable:
the `else { None }` of `CompactOrderedHashMapIter::next` (`iter_never_stops_early`) and the
unknown-name closure of the private `StateModel::update_state` (`update_state_unknown_name_unreachable`). -/

section partD
variable {K V : Type} [DecidableEq K]

/-- `CompactOrderedHashMapIter::next`: under the invariant `get_pair(index)` is `Some` for every
    `index < len`, so the iterator only ever stops through its first test (`index >= len`) -/
theorem iter_never_stops_early (c : Container K V) (h : Inv c) (i : Nat) (hi : i < c.len) :
    (c.getPair i).isSome = true := by
  rw [getPair_abs h, len_abs c] at *
  simp [hi]

end partD

section partDstate
variable {α : Type}
open StateModel

/-- the unknown-name arm of the private `update_state` cannot be taken: all its callers first obtained
    the feature by the same name (`get_feature(name)?`), and a name that has a feature has a slot -/
theorem update_state_unknown_name_unreachable (m : StateModel α) (name : String) (f : StateFeature α)
    (hf : m.getFeature name = .ok f) (st : List α) (v : α) :
    m.updateState st name v ≠ .error .unknownName := by
  have hg : m.map.get name = some f := getFeature_ok.mp hf
  have hs := Container.getIndex_isSome m.map name
  rw [hg] at hs
  simp only [StateModel.updateState]
  cases hi : m.map.getIndex name with
  | none => rw [hi] at hs; cases hs
  | some i => cases hq : st[i]? <;> simp [hq]

/-! ### `state_feature.rs`: every getter answers exactly for its own kind -/

theorem get_distance_unit_ok_iff (f : StateFeature α) (u : DistanceUnit) :
    f.getDistanceUnit = .ok u ↔ ∃ i, f = .distance u i :=
  StateFeature.getDistanceUnit_ok

theorem get_time_unit_ok_iff (f : StateFeature α) (u : TimeUnit) :
    f.getTimeUnit = .ok u ↔ ∃ i, f = .time u i :=
  StateFeature.getTimeUnit_ok

theorem get_energy_unit_ok_iff (f : StateFeature α) (u : EnergyUnit) :
    f.getEnergyUnit = .ok u ↔ ∃ i, f = .energy u i :=
  StateFeature.getEnergyUnit_ok

theorem get_custom_feature_format_ok_iff (f : StateFeature α) (fmt : CustomFeatureFormat α) :
    f.getCustomFeatureFormat = .ok fmt ↔ ∃ t u, f = .custom t u fmt :=
  StateFeature.getCustomFeatureFormat_ok

/-- the only error of the four getters is `UnexpectedFeatureUnit` -/
theorem getter_wrong_kind_error (f : StateFeature α) :
    (∀ e, f.getDistanceUnit = .error e → e = .unexpectedFeatureUnit) ∧
      (∀ e, f.getTimeUnit = .error e → e = .unexpectedFeatureUnit) ∧
      (∀ e, f.getEnergyUnit = .error e → e = .unexpectedFeatureUnit) ∧
      (∀ e, f.getCustomFeatureFormat = .error e → e = .unexpectedFeatureUnit) := by
  refine ⟨?_, ?_, ?_, ?_⟩ <;> (intro e h; cases f <;> cases h <;> rfl)

/-- a custom feature of another format is another kind (`PartialEq` of /repo 2a35432 compares type,
unit and the name of the format), so by `extend_refuses_kind_change` an override that turns the floating-point
`battery_state` into an integer or boolean feature of the same type and unit is refused -/
theorem custom_format_change_is_kind_change (t u : String) (x : α) (i : Int) (n : Nat) (b : Bool) :
    (StateFeature.custom t u (.floatingPoint x)).eqv (.custom t u (.signedInteger i)) = false
      ∧ (StateFeature.custom t u (.floatingPoint x)).eqv (.custom t u (.unsignedInteger n)) = false
      ∧ (StateFeature.custom t u (.floatingPoint x)).eqv (.custom t u (.boolean b)) = false
      ∧ (StateFeature.custom t u (.floatingPoint x)).eqv (.custom t u (.floatingPoint x)) = true := by
  simp [StateFeature.eqv, CustomFeatureFormat.name]

/-- `==` on features is an equivalence that only sees the kind (and a custom feature's two names
and the name of its format) -/
theorem feature_eq_is_equivalence (f g h : StateFeature α) :
    f.eqv f = true ∧ (f.eqv g = g.eqv f) ∧ (f.eqv g = true → g.eqv h = true → f.eqv h = true) := by
  refine ⟨(StateFeature.eqv_iff_eqvKey f f).mpr rfl, Bool.eq_iff_iff.mpr ?_, ?_⟩
  · rw [StateFeature.eqv_iff_eqvKey, StateFeature.eqv_iff_eqvKey]; exact eq_comm
  · rw [StateFeature.eqv_iff_eqvKey, StateFeature.eqv_iff_eqvKey, StateFeature.eqv_iff_eqvKey]
    exact Eq.trans

section codec
variable [Lit α] [IntCodec α] [LT α] [DecidableLT α] [BEq α]

theorem get_feature_format_eq (f : StateFeature α) :
    f.getFeatureFormat = match f with
      | .custom _ _ fmt => fmt
      | _ => .floatingPoint zero := by
  cases f <;> rfl

/-! ### `custom_feature_format.rs`: every encoder / decoder accepts exactly its own format -/

theorem encode_f64_ok_iff (fmt : CustomFeatureFormat α) (x y : α) :
    fmt.encodeF64 x = .ok y ↔ (∃ i, fmt = .floatingPoint i) ∧ y = x :=
  CustomFeatureFormat.encodeF64_ok

theorem encode_i64_ok_iff (fmt : CustomFeatureFormat α) (x : Int) (y : α) :
    fmt.encodeI64 x = .ok y ↔ (∃ i, fmt = .signedInteger i) ∧ y = IntCodec.ofInt x :=
  CustomFeatureFormat.encodeI64_ok

theorem encode_u64_ok_iff (fmt : CustomFeatureFormat α) (x : Nat) (y : α) :
    fmt.encodeU64 x = .ok y ↔ (∃ i, fmt = .unsignedInteger i) ∧ y = IntCodec.ofInt (Int.ofNat x) :=
  CustomFeatureFormat.encodeU64_ok

theorem encode_bool_ok_iff (fmt : CustomFeatureFormat α) (x : Bool) (y : α) :
    fmt.encodeBool x = .ok y ↔ (∃ i, fmt = .boolean i) ∧ y = (if x then one else zero) :=
  CustomFeatureFormat.encodeBool_ok

/-- a wrong-format encoder reports `EncodeError`, a wrong-format decoder `DecodeError`; the only other
    error is the `ValueError` of `decode_u64` on a negative value -/
theorem codec_errors (fmt : CustomFeatureFormat α) (x : α) (i : Int) (n : Nat) (b : Bool) (e : StateErr) :
    (fmt.encodeF64 x = .error e → e = .encode) ∧ (fmt.encodeI64 i = .error e → e = .encode) ∧
      (fmt.encodeU64 n = .error e → e = .encode) ∧ (fmt.encodeBool b = .error e → e = .encode) ∧
      (fmt.decodeF64 x = .error e → e = .decode) ∧ (fmt.decodeI64 x = .error e → e = .decode) ∧
      (fmt.decodeBool x = .error e → e = .decode) ∧
      (fmt.decodeU64 x = .error e → e = .decode ∨ (e = .value ∧ x < zero)) := by
  refine ⟨?_, ?_, ?_, ?_, ?_, ?_, ?_, ?_⟩
  iterate 7 (intro h; cases fmt <;> cases h <;> rfl)
  -- `decode_u64`: on its own format the error, if any, is the `ValueError` of a negative value
  intro h
  cases fmt with
  | unsignedInteger k =>
    rw [CustomFeatureFormat.decodeU64] at h
    by_cases hx : x < zero
    · rw [if_pos hx] at h; cases h; exact Or.inr ⟨rfl, hx⟩
    · rw [if_neg hx] at h; cases h
  | _ => cases h; exact Or.inl rfl

theorem decode_f64_ok_iff (fmt : CustomFeatureFormat α) (x y : α) :
    fmt.decodeF64 x = .ok y ↔ (∃ i, fmt = .floatingPoint i) ∧ y = x :=
  CustomFeatureFormat.decodeF64_ok

theorem decode_i64_ok_iff (fmt : CustomFeatureFormat α) (x : α) (y : Int) :
    fmt.decodeI64 x = .ok y ↔ (∃ i, fmt = .signedInteger i) ∧ y = IntCodec.toI64 x :=
  CustomFeatureFormat.decodeI64_ok

theorem decode_u64_ok_iff (fmt : CustomFeatureFormat α) (x : α) (y : Nat) :
    fmt.decodeU64 x = .ok y ↔ (∃ i, fmt = .unsignedInteger i) ∧ ¬ x < zero ∧ y = IntCodec.toU64 x :=
  CustomFeatureFormat.decodeU64_ok

theorem decode_bool_ok_iff (fmt : CustomFeatureFormat α) (x : α) (y : Bool) :
    fmt.decodeBool x = .ok y ↔ (∃ i, fmt = .boolean i) ∧ y = !(x == zero) :=
  CustomFeatureFormat.decodeBool_ok

/-- `initial()` never fails: every format encodes its own initial value -/
theorem format_initial_ok (fmt : CustomFeatureFormat α) : ∃ y, fmt.initial = .ok y := by
  cases fmt <;> exact ⟨_, rfl⟩

end codec

/-! ### `collect_features`: declaration order -/

/-- the collected list is the model features in declaration order (traversal model first, then access
    model; a later feature replaces an earlier one of the same name in place: names pairwise distinct,
    each with its last declaration) followed by the query's features -/
theorem collect_features_declaration_order (traversal access : List (String × StateFeature α))
    (user : Option (List (String × StateFeature α))) (fs : List (String × StateFeature α))
    (hc : collectFeatures traversal access user = .ok fs) :
    fs = Spec.insertAll [] (traversal ++ access) ++ user.getD [] ∧
      ((Spec.insertAll [] (traversal ++ access)).map (·.1)).Nodup ∧
      (∀ name, Spec.get (Spec.insertAll [] (traversal ++ access)) name =
        ((traversal ++ access).reverse.find? (fun e => e.1 = name)).map (·.2)) ∧
      (∀ k, k ≤ (traversal ++ access).length → ∃ t,
        (Spec.insertAll [] (traversal ++ access)).map (·.1) =
          (Spec.insertAll [] ((traversal ++ access).take k)).map (·.1) ++ t) := by
  have hfs := ((collectFeatures_ok traversal access user fs).mp hc).2
  refine ⟨hfs, ?_, ?_, ?_⟩
  · exact Spec.nodup_keys_insertAll (l := []) nodup_nil _
  · intro name
    have := Spec.get_insertAll ([] : List (String × StateFeature α)) (traversal ++ access) name
    rw [this]
    cases (find? (fun e => decide (e.1 = name)) (traversal ++ access).reverse) <;> simp [Spec.get]
  · intro k _
    have hsplit := Spec.insertAll_append [] ((traversal ++ access).take k) ((traversal ++ access).drop k)
    rw [List.take_append_drop] at hsplit
    rw [hsplit]
    exact Spec.keys_insertAll_prefix _ _

/-- `collect_features` fails exactly when an entry of the query names no model feature
    (`UnknownStateVariableName`) or one of another `get_feature_type` (`UnexpectedFeatureType`) -/
theorem collect_features_ok_iff (traversal access : List (String × StateFeature α))
    (user : Option (List (String × StateFeature α))) :
    (∃ fs, collectFeatures traversal access user = .ok fs) ↔
      ∀ e ∈ user.getD [], ∃ existing, Spec.get (Spec.insertAll [] (traversal ++ access)) e.1 = some existing ∧
        existing.featureType = e.2.featureType := by
  simp only [collectFeatures_ok, ← collectFeatures_check_ok, exists_and_left, exists_eq, and_true]

end partDstate

section partDjson
variable {α : Type}
open StateModel StateJson

/-! ### `TryFrom<&serde_json::Value> for StateModel` and the serde derives -/

/-- `try_from` succeeds exactly on a JSON object all of whose rows are state features, and then is
    `StateModel::new` of the rows in object order; its only error is `BuildError` -/
theorem try_from_ok_iff (ofBits : Nat → α) (j : Json) (m : StateModel α) :
    tryFrom ofBits j = .ok m ↔
      ∃ kvs fs, j = .obj kvs ∧ parseFeatures ofBits kvs = some fs ∧ m = StateModel.new fs := by
  cases j with
  | obj kvs =>
    rw [tryFrom]
    cases h : parseFeatures ofBits kvs with
    | none =>
      refine ⟨nofun, ?_⟩
      rintro ⟨_, _, hj, hp, -⟩
      cases hj; rw [h] at hp; cases hp
    | some fs =>
      constructor
      · intro hm; cases hm; exact ⟨kvs, fs, rfl, h, rfl⟩
      · rintro ⟨_, _, hj, hp, rfl⟩
        cases hj; rw [h] at hp; cases hp; rfl
  | _ => exact ⟨nofun, fun ⟨_, _, h, _⟩ => nomatch h⟩

theorem try_from_error_is_build (ofBits : Nat → α) (j : Json) (e : StateErr)
    (h : tryFrom ofBits j = .error e) : e = .build := by
  cases j with
  | obj kvs =>
    simp only [tryFrom] at h
    cases hp : parseFeatures ofBits kvs with
    | none => rw [hp] at h; cases h; rfl
    | some fs => rw [hp] at h; cases h
  | _ => simp only [tryFrom] at h; cases h; rfl

/-- a configured `[state]` table: the model is well-formed whatever the table, and (keys of a JSON
    object being pairwise distinct) the `i`-th row owns slot `i` -/
theorem try_from_slots_in_key_order (ofBits : Nat → α) (kvs : List (String × Json)) (m : StateModel α)
    (h : tryFrom ofBits (.obj kvs) = .ok m) :
    WF m ∧ ((kvs.map (·.1)).Nodup → m.names = kvs.map (·.1) ∧ m.len = kvs.length ∧
      ∀ i (hi : i < kvs.length), m.getIndex (kvs[i]).1 = some i) := by
  obtain ⟨kvs', fs, hj, hp, rfl⟩ := (try_from_ok_iff ofBits _ m).mp h
  simp only [Json.obj.injEq] at hj
  subst hj
  have hn := parseFeatures_names ofBits kvs fs hp
  refine ⟨(StateModel.new_refines fs).1, ?_⟩
  intro nd
  have nd' : (fs.map (·.1)).Nodup := by rw [hn]; exact nd
  have hw := StateModel.new_refines_of_nodup fs nd'
  have hl : fs.length = kvs.length := by
    have := congrArg List.length hn
    simpa using this
  refine ⟨by rw [names_eq_keys hw.1, hw.2, hn], by rw [len_eq _, hw.2, hl], ?_⟩
  intro i hi
  have hi' : i < fs.length := by rw [hl]; exact hi
  have hk : (kvs[i]).1 = (fs[i]).1 := by
    have := congrArg (fun l => l[i]?) hn
    simp only [getElem?_map, getElem?_eq_getElem hi, getElem?_eq_getElem hi', Option.map_some,
      Option.some.injEq] at this
    exact this.symm
  rw [hk]
  exact new_slot fs nd' i hi'

/-! ### `SearchApp::build_search_instance` -/

/-- the steps fail in the code's order, each with its own error -/
theorem build_search_instance_error_order (ofBits : Nat → α) (cfg : StateModel α)
    (tr ac : List (String × StateFeature α)) (query : Json) (costOk frontierOk : StateModel α → Bool) :
    buildSearchInstanceState ofBits cfg none (some ac) query costOk frontierOk = .error .traversal ∧
      buildSearchInstanceState ofBits cfg none none query costOk frontierOk = .error .traversal ∧
      buildSearchInstanceState ofBits cfg (some tr) none query costOk frontierOk = .error .access :=
  ⟨rfl, rfl, rfl⟩

/-- WHEN `build_search_instance` succeeds (the model's definition read step by step, each step
    characterised by the theorem named next to it; `costOk` / `frontierOk` stay opaque): exactly when
    both services build, the query's
    `state_features` is absent or well-formed (`query_state_features_cases`), every override names a
    model feature of its type (`collect_features_ok_iff`), the extension changes no kind
    (`extend_ok_iff`), and the cost and frontier services accept the resulting model -/
theorem build_search_instance_ok_iff (ofBits : Nat → α) (cfg m' : StateModel α)
    (tr ac : Option (List (String × StateFeature α))) (query : Json)
    (costOk frontierOk : StateModel α → Bool) :
    buildSearchInstanceState ofBits cfg tr ac query costOk frontierOk = .ok m' ↔
      ∃ trf acf user fs, tr = some trf ∧ ac = some acf ∧ queryStateFeatures ofBits query = .ok user ∧
        collectFeatures trf acf user = .ok fs ∧ cfg.extend fs = .ok m' ∧
        costOk m' = true ∧ frontierOk m' = true := by
  constructor
  · intro hb
    simp only [buildSearchInstanceState] at hb
    cases tr with
    | none => cases hb
    | some trf =>
      cases ac with
      | none => cases hb
      | some acf =>
        simp only [collectFeaturesQuery] at hb
        cases hq : queryStateFeatures ofBits query with
        | error e => rw [hq] at hb; cases hb
        | ok user =>
          rw [hq] at hb
          simp only at hb
          cases hc : collectFeatures trf acf user with
          | error e => rw [hc] at hb; cases hb
          | ok fs =>
            rw [hc] at hb
            simp only at hb
            cases he : cfg.extend fs with
            | error e => rw [he] at hb; cases hb
            | ok m =>
              rw [he] at hb
              simp only at hb
              split_ifs at hb with h1 h2
              simp only [Except.ok.injEq] at hb
              subst hb
              exact ⟨trf, acf, user, fs, rfl, rfl, rfl, hc, he, by simpa using h1, by simpa using h2⟩
  · rintro ⟨trf, acf, user, fs, rfl, rfl, hq, hc, he, h1, h2⟩
    simp [buildSearchInstanceState, collectFeaturesQuery, hq, hc, he, h1, h2]

/-- a successful `build_search_instance`: the per-query model is the configured model extended by the
    collected features; it is well-formed (every slot theorem of Part B applies), configured features
    keep their slots, new names are appended, and the cost and frontier services accepted it.  The
    configured model is an argument that is only read: nothing of one query reaches the next. -/
theorem build_search_instance_state (ofBits : Nat → α) (cfg m' : StateModel α) (h : WF cfg)
    (tr ac : Option (List (String × StateFeature α))) (query : Json)
    (costOk frontierOk : StateModel α → Bool)
    (hb : buildSearchInstanceState ofBits cfg tr ac query costOk frontierOk = .ok m') :
    WF m' ∧ (∀ name i, cfg.getIndex name = some i → m'.getIndex name = some i) ∧
      (∃ t, m'.names = cfg.names ++ t) ∧ costOk m' = true ∧ frontierOk m' = true ∧
      ∃ trf acf user fs, tr = some trf ∧ ac = some acf ∧ queryStateFeatures ofBits query = .ok user ∧
        collectFeatures trf acf user = .ok fs ∧ cfg.extend fs = .ok m' := by
  obtain ⟨trf, acf, user, fs, rfl, rfl, hq, hc, he, h1, h2⟩ :=
    (build_search_instance_ok_iff ofBits cfg m' _ _ query costOk frontierOk).mp hb
  obtain ⟨hw, hkeep, hnames, _⟩ := extend_keeps_slots cfg m' h fs he
  exact ⟨hw, hkeep, hnames, h1, h2, trf, acf, user, fs, rfl, rfl, hq, hc, he⟩

/-- a malformed `state_features` (present, but not an object of state features) is a `BuildError`;
    an absent one — or a query that is no JSON object — is no override -/
theorem query_state_features_cases (ofBits : Nat → α) (query : Json) :
    (Json.get? query "state_features" = none →
      queryStateFeatures ofBits query = (.ok none : Except StateErr (Option (List (String × StateFeature α))))) ∧
    (∀ v, Json.get? query "state_features" = some v → (∀ kvs, v ≠ .obj kvs) →
      queryStateFeatures ofBits query = (.error .build : Except StateErr (Option (List (String × StateFeature α))))) ∧
    (∀ kvs, Json.get? query "state_features" = some (.obj kvs) →
      queryStateFeatures ofBits query =
        match parseFeatures ofBits kvs with
        | some fs => .ok (some fs)
        | none => .error .build) := by
  refine ⟨?_, ?_, ?_⟩
  · intro h; simp [queryStateFeatures, h]
  · intro v h hv
    cases v with
    | obj kvs => exact absurd rfl (hv kvs)
    | _ => simp only [queryStateFeatures, h]
  · intro kvs h
    simp only [queryStateFeatures, h]
    cases parseFeatures ofBits kvs <;> rfl

end partDjson

section partDserde
variable {α : Type} [IntCodec α]
open StateJson

/-- integers a custom format can hold in the code (`i64`, `u64`) -/
def FormatInRange : StateFeature α → Prop
  | .custom _ _ (.signedInteger i) => -(2 ^ 63 : Int) ≤ i ∧ i < 2 ^ 63
  | .custom _ _ (.unsignedInteger k) => k < 2 ^ 64
  | _ => True

/-- the numbers a feature holds are written as JSON numbers (and, for a float, read back as the same
    value).  `serde_json` does this for every finite double; it writes `null` for NaN and ±∞. -/
def NumbersWritten (ofBits : Nat → α) (toNum : α → Json) : StateFeature α → Prop
  | .distance _ i => ∃ l b, toNum i = .num l b ∧ ofBits b = i
  | .time _ i => ∃ l b, toNum i = .num l b ∧ ofBits b = i
  | .energy _ i => ∃ l b, toNum i = .num l b ∧ ofBits b = i
  | .custom _ _ (.floatingPoint i) => ∃ l b, toNum i = .num l b ∧ ofBits b = i
  | .custom _ _ (.signedInteger i) => ∃ l b, toNum (IntCodec.ofInt i) = .num l b
  | .custom _ _ (.unsignedInteger k) => ∃ l b, toNum (IntCodec.ofInt (Int.ofNat k)) = .num l b
  | .custom _ _ (.boolean _) => True

/-- Full statement (false of the code, see `parse_serialized_feature_counterexample`): `Deserialize`
   inverts `Serialize` on EVERY state feature.  Proved for the features whose numbers are written as
   JSON numbers (`NumbersWritten`: for doubles, every finite initial value) and whose integers are in
   the `i64` / `u64` range (`FormatInRange`: every value the Rust types can hold).  Excluded: a feature
   with a NaN or infinite initial value, which `serde_json` serialises as `null` (such a feature can
   only be declared programmatically by a traversal / access model, not in TOML / JSON).
   The decimal print / parse of integers is proved (`Json.asI64_toString`, `Json.asU64_toString`). -/
theorem parse_serialized_feature_partial (ofBits : Nat → α) (toNum : α → Json)
    (f : StateFeature α) (hn : NumbersWritten ofBits toNum f) (hr : FormatInRange f) :
    parseFeature ofBits (featureToJson toNum f) = some f := by
  cases f with
  | distance u i =>
    obtain ⟨l, b, h1, h2⟩ := hn
    rw [featureToJson, h1, parseFeature, parseDistance_obj (u := .str u.name) (i := .num l b)]
    · simp only [parseUnit, parseF64, C09.distance_unit_of_name_name, h2]
    all_goals simp only [field_cons, String.reduceEq, if_true, if_false]
  | time u i =>
    obtain ⟨l, b, h1, h2⟩ := hn
    rw [featureToJson, h1, parseFeature, parseDistance_of_no_unit,
      parseTime_obj (u := .str u.name) (i := .num l b)]
    · simp only [parseUnit, parseF64, C09.time_unit_of_name_name, h2]
    all_goals simp only [field_cons, field_nil, String.reduceEq, if_true, if_false]
  | energy u i =>
    obtain ⟨l, b, h1, h2⟩ := hn
    rw [featureToJson, h1, parseFeature, parseDistance_of_no_unit, parseTime_of_no_unit,
      parseEnergy_obj (u := .str u.name) (i := .num l b)]
    · simp only [parseUnit, parseF64, C09.energy_unit_of_name_name, h2]
    all_goals simp only [field_cons, field_nil, String.reduceEq, if_true, if_false]
  | custom t un fmt =>
    rw [parseFeature_custom_written]
    cases fmt with
    | floatingPoint i =>
      obtain ⟨l, b, h1, h2⟩ := hn
      simp only [formatToJson, parseFormat_tag, if_true, parseInitial_obj, h1, parseF64, h2, Option.map_some]
    | signedInteger i =>
      obtain ⟨l, b, h1⟩ := hn
      simp only [formatToJson, parseFormat_tag, String.reduceEq, if_true, if_false, parseInitial_obj,
        intNum, h1, parseI64, Json.asI64_toString i b hr.1 hr.2, Option.map_some]
    | unsignedInteger k =>
      obtain ⟨l, b, h1⟩ := hn
      simp only [formatToJson, parseFormat_tag, String.reduceEq, if_true, if_false, parseInitial_obj,
        intNum, h1, parseU64, Json.asU64_toString k b hr, Option.map_some]
    | boolean i =>
      simp only [formatToJson, parseFormat_tag, String.reduceEq, if_true, if_false, parseInitial_obj,
        Json.asBool?, Option.map_some]

/-- a feature whose initial value is written as `null` (what `serde_json` does with NaN and ±∞) does
    not read back: `Deserialize` does not invert `Serialize` there -/
theorem parse_serialized_feature_counterexample (ofBits : Nat → α) (toNum : α → Json)
    (u : DistanceUnit) (i : α) (hnull : toNum i = .null) :
    parseFeature ofBits (featureToJson toNum (.distance u i)) = none := by
  rw [featureToJson, hnull, parseFeature,
    parseDistance_obj (u := .str u.name) (i := .null), parseTime_of_no_unit, parseEnergy_of_no_unit,
    parseCustom_of_no_type]
  · simp only [parseF64]
    cases parseUnit DistanceUnit.ofName? (Json.str u.name) <;> rfl
  all_goals simp only [field_cons, field_nil, String.reduceEq, if_true, if_false]

end partDserde

/-! ### non-vacuity of Part D -/

section partDexamples
open StateJson

def sixRows : Json := .obj
  [("f2", .obj [("distance_unit", .str "kilometers"), ("initial", .num "0.0" 0)]),
   ("f0", .obj [("time_unit", .str "minutes"), ("initial", .num "3" 3)]),
   ("f1", .obj [("type", .str "soc"), ("unit", .str "percent"),
      ("format", .obj [("floating_point", .obj [("initial", .num "0.0" 0)])])]),
   ("f5", .obj [("energy_unit", .obj [("kilowatt_hours", .null)]), ("initial", .num "1" 1), ("note", .str "x")]),
   ("f4", .obj [("type", .str "count"), ("unit", .str "n"), ("format", .obj [("floating_point", .arr [.num "-4" 0])])]),
   ("f3", .obj [("type", .str "flag"), ("unit", .str "b"), ("format", .obj [("boolean", .obj [("initial", .bool true)])])])]

/-- a six-row `[state]` table in the shapes serde accepts: accepted, the sixth row owns slot 5 -/
example : ∃ m, tryFrom (fun b => (b : ℚ)) sixRows = .ok m ∧ m.len = 6 ∧ m.getIndex "f3" = some 5 ∧
    m.getIndex "f2" = some 0 := by
  obtain ⟨fs, hfs⟩ : ∃ fs, parseFeatures (fun b => (b : ℚ))
      (match sixRows with | .obj kvs => kvs | _ => []) = some fs :=
    Option.isSome_iff_exists.mp (by decide +kernel)
  have h : tryFrom (fun b => (b : ℚ)) sixRows = .ok (StateModel.new fs) :=
    (try_from_ok_iff _ _ _).mpr ⟨_, fs, rfl, hfs, rfl⟩
  obtain ⟨-, hl, hi⟩ := (try_from_slots_in_key_order _ _ _ h).2 (by decide +kernel)
  exact ⟨_, h, hl, hi 5 (by decide), hi 0 (by decide)⟩

/-- rejected rows: the custom-feature shape shown in the doc comments of `state_model.rs` /
    `state_feature.rs` (`name` / internally tagged `format`), a sequence, a number for a boolean -/
example :
    parseFeature (fun b => (b : ℚ)) (.obj [("name", .str "soc"), ("unit", .str "percent"),
      ("format", .obj [("type", .str "floating_point"), ("initial", .num "0.0" 0)])]) = none ∧
    parseFeature (fun b => (b : ℚ)) (.arr [.str "miles", .num "1.0" 1]) = none ∧
    parseFeature (fun b => (b : ℚ)) (.obj [("type", .str "c"), ("unit", .str "n"),
      ("format", .obj [("boolean", .obj [("initial", .num "1" 1)])])]) = none ∧
    (∃ e, tryFrom (fun b => (b : ℚ)) (.arr [sixRows]) = .error e) := by
  refine ⟨by decide +kernel, by decide +kernel, by decide +kernel, ⟨_, rfl⟩⟩

/-- declaration order with a repeated name: the access model's `a` replaces the traversal model's in
    place, the new name `c` goes last -/
example :
    (collectFeatures (α := ℚ) [("a", .distance .miles 0), ("b", .time .hours 0)]
      [("a", .distance .feet 5), ("c", .energy .kilowattHours 0)] none).toOption.map
        (fun fs => fs.map (fun p => (p.1, p.2.featureUnitName))) =
    some [("a", "feet"), ("b", "hours"), ("c", "kilowatt_hours")] := by
  decide +kernel

end partDexamples

/-! ### non-vacuity of the set / get / add / codec / per-query theorems, and the counterexample for
    integers a double cannot hold -/

section applications
open StateModel StateJson

-- as in the section of `seven`
seal StateModel.WF

example : m7.initialState = .ok s7 := by decide +kernel

/-- every hypothesis of the totality theorems holds on the seven-feature model and its initial state -/
example : ∃ st', m7.setDistance s7 "trip_distance" 3 .kilometers = .ok st' :=
  (set_distance_ok_iff m7 m7_wf s7 m7_len "trip_distance" 3 .kilometers).mpr ⟨.miles, 0, m7_get _⟩

example : ¬ ∃ st', m7.setDistance s7 "trip_time" 3 .kilometers = .ok st' := by
  rw [set_distance_ok_iff m7 m7_wf s7 m7_len, m7_get]
  rintro ⟨fu, init, h⟩
  cases h

/-- the round-trip theorem applied: written in kilometres into a feature kept in miles -/
example : ∃ st' y, m7.setDistance s7 "trip_distance" 3 .kilometers = .ok st' ∧
    m7.getDistance st' "trip_distance" .kilometers = .ok y ∧ |y - 3| ≤ |(3 : ℚ)| * (C09.tol : ℚ) := by
  obtain ⟨st', hs⟩ := (set_distance_ok_iff m7 m7_wf s7 m7_len "trip_distance" 3 .kilometers).mpr
    ⟨.miles, 0, m7_get _⟩
  obtain ⟨y, hy, hb⟩ := get_after_set_distance_roundtrip m7 s7 st' "trip_distance" 3 .kilometers hs
  exact ⟨st', y, hs, hy, hb⟩

example : ∃ st', m7.setCustomI64 s7 "stops" (-4) = .ok st' ∧ m7.getCustomI64 st' "stops" = .ok (-4) := by
  obtain ⟨st', hs⟩ := (set_custom_i64_ok_iff m7 m7_wf s7 m7_len "stops" (-4)).mpr ⟨_, _, 0, m7_get _⟩
  exact ⟨st', hs, custom_i64_roundtrip_partial m7 s7 st' "stops" (-4) (by decide +kernel) hs⟩

example : ∃ st', m7.setCustomBool s7 "charging" true = .ok st' ∧ m7.getCustomBool st' "charging" = .ok true := by
  obtain ⟨st', hs⟩ := (set_custom_bool_ok_iff m7 m7_wf s7 m7_len "charging" true).mpr
    ⟨_, _, false, m7_get _⟩
  exact ⟨st', hs, custom_bool_roundtrip m7 s7 st' "charging" true (by decide +kernel) (by decide +kernel) hs⟩

example : ∃ st', m7.addEnergy s7 "trip_energy" 3 .kilowattHours = .ok st' :=
  (add_energy_ok_iff m7 m7_wf s7 m7_len "trip_energy" 3 .kilowattHours).mpr ⟨.kilowattHours, 0, m7_get _⟩

/-- `extend_succeeds` applied: an override of unit and initial value plus a new name -/
example : ∃ m', m7.extend [("trip_time", .time .hours 7), ("turns", .custom "count" "n" (.signedInteger 0))] = .ok m' := by
  apply extend_succeeds m7 m7_wf
  · intro e he o ho
    rw [m7_feats] at ho
    simp only [mem_cons, not_mem_nil, or_false] at he
    rcases he with rfl | rfl
    · have : Spec.get seven "trip_time" = some (.time .minutes 0) := rfl
      rw [this] at ho; cases ho; rfl
    · have : Spec.get seven "turns" = none := rfl
      rw [this] at ho; cases ho
  · intro e he e' he' hk
    simp only [mem_cons, not_mem_nil, or_false] at he he'
    rcases he with rfl | rfl <;> rcases he' with rfl | rfl <;> first | rfl | (revert hk; decide)

/-- `extend_refuses_kind_change` applied -/
example : m7.extend [("trip_time", .distance .miles 0)] = .error .build :=
  extend_refuses_kind_change m7 m7_wf _ ("trip_time", .distance .miles 0) (by simp) (.time .minutes 0)
    (by rw [m7_feats]; rfl) rfl

/-- the same when the offending entry is not the first one -/
example : m7.extend [("turns", .custom "count" "n" (.signedInteger 0)), ("trip_time", .distance .miles 0)] =
    .error .build :=
  extend_refuses_kind_change m7 m7_wf _ ("trip_time", .distance .miles 0) (by simp)
    (.time .minutes 0) (by rw [m7_feats]; rfl) rfl

/-- a per-query model: configuration, traversal and access features, and a query override that changes
    the unit and the initial value of `trip_time` (slot kept, value replaced) -/
def cfgOnly : StateModel ℚ := StateModel.new [("cfg_only", .distance .miles 0)]
def trF : List (String × StateFeature ℚ) := [("trip_distance", .distance .miles 0), ("trip_time", .time .minutes 0)]
def acF : List (String × StateFeature ℚ) := [("turns", .custom "count" "n" (.floatingPoint 0))]
def qOverride : Json :=
  .obj [("state_features", .obj [("trip_time", .obj [("time_unit", .str "hours"), ("initial", .num "7" 7)])])]

example : ∃ m', buildSearchInstanceState (fun b => (b : ℚ)) cfgOnly (some trF) (some acF) qOverride
      (fun _ => true) (fun _ => true) = .ok m' ∧
    m'.names = ["cfg_only", "trip_distance", "trip_time", "turns"] ∧ m'.getIndex "trip_time" = some 2 ∧
    m'.initialState = .ok [0, 0, 7, 0] := by
  refine ⟨_, rfl, ?_⟩
  decide +kernel

/-- `parse_serialized_feature_partial` applied (numbers written by bit pattern = value) -/
example : parseFeature (fun b => (b : ℚ)) (featureToJson (fun q : ℚ => .num "" q.num.toNat)
    (.custom "count" "n" (.signedInteger (-9223372036854775808)) : StateFeature ℚ)) =
    some (.custom "count" "n" (.signedInteger (-9223372036854775808))) :=
  parse_serialized_feature_partial _ _ _ ⟨_, _, rfl⟩ ⟨by decide, by decide⟩

example : parseFeature (fun b => (b : ℚ)) (featureToJson (fun q : ℚ => .num "" q.num.toNat)
    (.energy .kilowattHours 60 : StateFeature ℚ)) = some (.energy .kilowattHours 60) :=
  parse_serialized_feature_partial _ _ _ ⟨_, _, rfl, by decide +kernel⟩ trivial

end applications

section integerprecision
open StateModel

/-- casts that behave like IEEE doubles on integers: exact up to `2^53`, to the nearest even integer
    in the next binade (enough for the witness `2^53 + 1`) -/
local instance (priority := 2000) doubleLikeCodec : IntCodec ℚ where
  ofInt i := if i.natAbs ≤ 2 ^ 53 then (i : ℚ) else ((2 * (i / 2) : Int) : ℚ)
  toI64 q := q.num.tdiv q.den
  toU64 q := (q.num.tdiv q.den).toNat

/-- `set_custom_i64(2^53 + 1)` followed by `get_custom_i64` returns `2^53`: an integer above `2^53` is
    not round-tripped by the `i64 as f64` / `f64 as i64` casts of `CustomFeatureFormat` -/
theorem custom_i64_roundtrip_counterexample :
    let m : StateModel ℚ := StateModel.new [("n", .custom "count" "n" (.signedInteger 0))]
    ∃ st', m.setCustomI64 [0] "n" (2 ^ 53 + 1) = .ok st' ∧
      m.getCustomI64 st' "n" = .ok (2 ^ 53) ∧ ((2 : Int) ^ 53 ≠ 2 ^ 53 + 1) := by
  refine ⟨_, rfl, ?_, by decide⟩
  decide +kernel

end integerprecision

end C11
end Compass

namespace Compass
namespace C11
open Src

/-! ### Source decision ties

What these theorems are for is said in `Props/C01.lean` under the same heading. -/

theorem src_custom_u64_negative {α : Type} [Field α] [LinearOrder α] [IsStrictOrderedRing α] [Lit α] [LawfulLit α] [IntCodec α] (c : Nat) (x : α) :
    some (CustomFeatureFormat.decodeU64 (.unsignedInteger c) x) =
      (custom_u64_negative.num x (zero : α)).map
        fun neg => if neg then .error .value else .ok (IntCodec.toU64 x) := by
  simp [CustomFeatureFormat.decodeU64, custom_u64_negative, Rel.num]

end C11
end Compass
