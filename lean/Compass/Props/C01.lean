/-
C01 — routes are contiguous origin→destination walks; trees are rooted trees.

Model: `Model/Search.lean` (`run_a_star`, `backtrack::vertex_oriented_route`), instances built by
`Model/Instance.lean`.  All statements are for every instance / configuration, every source and
target, and every schedule the priority queue may take (ties included), for any ordered field.
The hypotheses are (H1) the adjacency lists agree with the edge list (what the loader guarantees,
C15) and (H2) edge costs are strictly positive — which for concrete configurations is *proved*
from the cost model (`Config.inst_wf`, using C07's floor).

Scope:
* vertex-oriented searches (`run_vertex_oriented`): every theorem holds forward and reverse;
* edge-oriented searches (`search_algorithm::run_edge_oriented`): the *route* theorems are for the
  forward direction only (`…_forward`).  The application never runs an edge-oriented search in
  reverse (`SearchApp::run_edge_oriented` passes `Direction::Forward`; the harness forces
  `reverse = false` on edge-oriented cases for that reason), and the wrapper is wrong there: it takes
  the origin edge's head and the destination edge's tail in graph orientation whatever the direction
  (`edge_oriented_reverse_counterexample`).  The *tree* theorems say exactly what each of the three
  arms of the wrapper returns; the adjacent arm's two-entry map is not a rooted tree in general
  (`edge_oriented_adjacent_uturn_tree_counterexample`,
  `edge_oriented_adjacent_equal_heads_tree_counterexample`);
* the routes of the two k-shortest-path algorithms are not here: `Props/C13.lean` proves for every
  route they return that it is a contiguous loop-free origin–destination walk without repeated edge,
  and the C01 oracle judges every k-shortest-path route of the C01 run.
* **outside every theorem** (ordered fields have no +∞, NaN, overflow or underflow), tied by the
  correspondence run only — the oracles are silent on such cases: a tentative cost of +∞ (an
  overflowing sum) or NaN never improves on a *missing* label: the code tests
  `tentative < Cost::INFINITY`, the model `improves tent none = Lit.belowInf tent`, constantly true in
  an ordered field (`LawfulLit.belowInf_eq`) and the IEEE test at
  `Float`.  One generated case in six is pushed where the plain generator never goes (lengths,
  speeds, weights, rates, delays, initial values, weight factors, vehicle limits of 0, −0, negative,
  1e308, ±∞, NaN, subnormal; limits at the ends of `u64` / `usize`);
* **modelled rather than verified — the NaN-free domain**: the code orders `Cost`, `Distance`,
  `Weight`, `Speed` by `OrderedFloat`'s total order (NaN the greatest number, NaN = NaN), the model by
  IEEE `<` / `≤`.  They differ only on NaN operands (`push_increase` against a NaN priority; a NaN
  vehicle-restriction limit; `get_max_speed` of a table with a NaN), which no file or JSON document
  can supply — the readers refuse NaN — and which the extreme-value stream reaches only through
  values constructed in code, where model and code agreed on every generated case.
-/
import Compass.Gen.Decisions
import Compass.Proofs.Num
import Compass.Model.Search
import Compass.Proofs.SearchTree
import Compass.Proofs.Instance
import Compass.Proofs.SearchRoute
import Compass.Proofs.ConfigUniform

namespace Compass
namespace C01

open SearchTree

variable {α : Type} [Field α] [LinearOrder α] [IsStrictOrderedRing α] [Lit α] [LawfulLit α]

/-- Every entry of a returned search tree records an edge that joins the entry's parent vertex
(`terminal`) to the entry's own vertex in the search direction, and that edge is one of the
parent's incident edges. (Search with or without destination.) -/
theorem tree_entry_joins (I : Inst α) (hI : WF I) (source : Nat) (target : Option Nat)
    (sched : List Nat) (res : SearchResult α) (hts : target ≠ some source)
    (h : runVertexOriented I source target sched = .ok res) :
    ∀ v b, res.final.sol v = some b →
      I.termV b.edge = b.terminal ∧ I.keyV b.edge = v ∧ b.edge ∈ I.incident b.terminal := by
  intro v b hb
  have hinv : TreeInv I source res.final := runVertexOriented_treeInv hI hts h
  obtain ⟨h1, h2, h3, _⟩ := hinv.entry v b hb
  exact ⟨h2, h1, h3⟩

/-- Following parents from any tree entry reaches the search origin after at most `solSize` steps
without visiting a vertex twice; the origin itself never has an entry. -/
theorem tree_rooted (I : Inst α) (hI : WF I) (source : Nat) (target : Option Nat)
    (sched : List Nat) (res : SearchResult α) (hts : target ≠ some source)
    (h : runVertexOriented I source target sched = .ok res) :
    res.final.sol source = none ∧
    ∀ v, (res.final.sol v).isSome →
      ∃ n, 0 < n ∧ n ≤ res.final.solSize ∧ (parent res.final.sol)^[n] v = source ∧
        (∀ i j, i < j → j ≤ n → (parent res.final.sol)^[i] v ≠ (parent res.final.sol)^[j] v) := by
  have hinv : TreeInv I source res.final := runVertexOriented_treeInv hI hts h
  refine ⟨hinv.sol_source, ?_⟩
  intro v hv
  obtain ⟨n, hn0, hn, hsrc, _, _, hne⟩ := SearchTree.tree_rooted hinv hv
  exact ⟨n, hn0, hn, hsrc, hne⟩

/-- Whenever a search towards a destination other than the origin succeeds, the returned route is
a non-empty contiguous walk in the search direction: its first edge leaves the origin, every edge
starts where the previous one ended, its last edge arrives at the destination, every edge is an
incident edge of the vertex it leaves, and no edge (indeed no vertex) occurs twice. -/
theorem route_walk (I : Inst α) (hI : WF I) (source t : Nat) (sched : List Nat)
    (res : SearchResult α) (hts : t ≠ source)
    (h : runVertexOriented I source (some t) sched = .ok res) :
    ∃ route, res.route = some route ∧ route ≠ [] ∧
      (∀ b, route.head? = some b → I.termV b.edge = source) ∧
      (∀ b, route.getLast? = some b → I.keyV b.edge = t) ∧
      (∀ i (hi : i + 1 < route.length), I.keyV route[i].edge = I.termV route[i + 1].edge) ∧
      (∀ b ∈ route, b.edge ∈ I.incident (I.termV b.edge)) ∧
      (route.map (·.edge)).Nodup ∧
      (route.map (fun b => I.keyV b.edge)).Nodup := by
  obtain ⟨_, _, route, gt, hr, hne, hc, _, _⟩ := runVertexOriented_route hI source t sched res hts h
  refine ⟨route, hr, hne, ?_, hc.last_key, ?_, ?_, hc.edges_nodup, hc.keys_nodup⟩
  · intro b hb
    have hmem : b ∈ route := List.mem_of_mem_head? hb
    rw [(hc.term_eq b hmem).1]
    exact hc.head_terminal b hb
  · intro i hi
    exact (hc.chain_getElem i hi).2
  · intro b hb
    have := hc.term_eq b hb
    rw [this.1]; exact this.2

/-- Building the route never fails on the tree the search returned: with a destination other
than the origin, `run_vertex_oriented` fails only where `run_a_star` itself fails (never with the
backtracker's "missing vertex" or "edge visited twice" errors). -/
theorem route_construction_never_fails (I : Inst α) (hI : WF I) (source t : Nat) (sched : List Nat)
    (k : ErrKind) (hts : t ≠ source)
    (h : runVertexOriented I source (some t) sched = .error k) :
    runAStar I source (some t) sched = .error k :=
  (runVertexOriented_error_iff hI).1 h

/-- `route_walk` for every concrete configuration (any network, traversal / access / cost / frontier /
termination configuration, forward or reverse), without its clauses on the incident lists and the
vertices: positivity of edge costs is discharged by the cost model's floor, so only the loader's
adjacency consistency remains as a hypothesis. -/
theorem config_route_walk (c : Config α) (hadj : c.AdjConsistent) (source t : Nat) (sched : List Nat)
    (r : AlgResult α) (hts : t ≠ source) (h : c.runVertex source (some t) sched = .ok r) :
    ∃ route, r.routes = [route] ∧ route ≠ [] ∧
      (∀ b, route.head? = some b → c.inst.termV b.edge = source) ∧
      (∀ b, route.getLast? = some b → c.inst.keyV b.edge = t) ∧
      (∀ i (hi : i + 1 < route.length), c.inst.keyV route[i].edge = c.inst.termV route[i + 1].edge) ∧
      (route.map (·.edge)).Nodup := by
  obtain ⟨res, hres, _, hroutes, _⟩ := runVertex_ok h
  obtain ⟨route, hr, hne, h1, h2, h3, _, h5, _⟩ :=
    route_walk c.inst (c.inst_wf hadj) source t sched res hts hres
  exact ⟨route, by rw [hroutes, hr]; rfl, hne, h1, h2, h3, h5⟩


/-! ### Edge-oriented queries (`search_algorithm::run_edge_oriented`) -/

/-- Edge-oriented queries (origin and destination given as edges), **forward direction** — the only
direction the application runs them in (`SearchApp::run_edge_oriented` passes
`Direction::Forward`): the returned route starts with the origin edge, ends with the destination
edge, is contiguous in graph orientation and uses no edge twice — for adjacent and non-adjacent
origin / destination edges alike, self loops included.  False in reverse:
`edge_oriented_reverse_counterexample`. -/
theorem edge_oriented_route_walk_forward (c : Config α) (hadj : c.AdjConsistent) (hfwd : c.reverse = false)
    (source tgt : Nat) (sched : List Nat) (r : AlgResult α) (hne : source ≠ tgt)
    (h : c.runEdge source (some tgt) sched = .ok r) :
    ∃ route, r.routes = [route] ∧ 2 ≤ route.length ∧
      (∃ b, route.head? = some b ∧ b.edge = source) ∧
      (∃ b, route.getLast? = some b ∧ b.edge = tgt) ∧
      (∀ i (hi : i + 1 < route.length), c.inst.keyV route[i].edge = c.inst.termV route[i + 1].edge) ∧
      (∀ b ∈ route, c.inst.termV b.edge = b.terminal) ∧
      (route.map (·.edge)).Nodup :=
  SearchRoute.edge_oriented_route_walk c hadj hfwd source tgt sched r hne h

/-- The hypothesis `c.reverse = false` is needed.  The wrapper takes the origin edge's head `e1.dst`
and the destination edge's tail `e2.src` in graph orientation whatever the direction; run in reverse
from edge 0 (0→1) to edge 2 (2→3) on `SearchRoute.Example.exConfig` it answers `[0, 4, 2, 2]`: the
destination edge twice, and no walk in either orientation (edge 4 is 3→1, edge 2 is 2→3). -/
theorem edge_oriented_reverse_counterexample :
    SearchRoute.Example.routeEdgesOf
      ({ SearchRoute.Example.exConfig with reverse := true }.runEdge 0 (some 2) [1, 3, 0, 2]) =
        some [[0, 4, 2, 2]] := by
  decide +kernel

/-- Destination-less edge-oriented search, forward: every tree entry's edge joins its parent to its
vertex in graph orientation (the origin edge's own entry, stored at the origin edge's head,
included). -/
theorem edge_oriented_tree_entry_joins_forward (c : Config α) (hadj : c.AdjConsistent) (hfwd : c.reverse = false)
    (source : Nat) (sched : List Nat) (r : AlgResult α)
    (h : c.runEdge source none sched = .ok r) :
    ∀ tree ∈ r.trees, ∀ v b, tree v = some b →
      c.inst.keyV b.edge = v ∧ c.inst.termV b.edge = b.terminal :=
  SearchRoute.runEdge_none_tree_joins c hadj hfwd source sched r h

/-- Destination-less edge-oriented search, rootedness (either direction): the single returned tree
stores the origin edge's entry under the origin edge's head `e1.dst` — that vertex is the search
origin, recognised by *being the origin edge's head*, not by having no entry; every other entry
records an edge listed at its parent that joins the parent to the entry's vertex (search direction),
and following parents from it reaches `e1.dst` after `n ≥ 1` steps without visiting a vertex twice.
(Following parents *through* the origin entry leads to the origin edge's tail, which may lie on the
chain: see `edge_oriented_tree_origin_entry_counterexample`.) -/
theorem edge_oriented_tree_rooted (c : Config α) (hadj : c.AdjConsistent) (source : Nat)
    (sched : List Nat) (r : AlgResult α) (e1 : EdgeRec α) (h1 : c.edges[source]? = some e1)
    (h : c.runEdge source none sched = .ok r) :
    ∃ tree, r.trees = [tree] ∧
      (∃ o, tree e1.dst = some o ∧ o.edge = source ∧ o.terminal = e1.src) ∧
      ∀ v b, v ≠ e1.dst → tree v = some b →
        (c.inst.keyV b.edge = v ∧ c.inst.termV b.edge = b.terminal ∧
          b.edge ∈ c.inst.incident b.terminal) ∧
        ∃ n, 0 < n ∧ (parent tree)^[n] v = e1.dst ∧
          ∀ i j, i < j → j ≤ n → (parent tree)^[i] v ≠ (parent tree)^[j] v := by
  obtain ⟨res, _, hinv, htrees, _⟩ := SearchRoute.runEdge_none c hadj source sched r e1 h1 h
  refine ⟨_, htrees, ⟨_, SearchTree.upd_same _ _ _, rfl, rfl⟩, ?_⟩
  intro v b hv hb
  rw [SearchTree.upd_other _ _ _ hv] at hb
  obtain ⟨hk, ht, hinc, _⟩ := hinv.entry v b hb
  refine ⟨⟨hk, ht, hinc⟩, ?_⟩
  obtain ⟨n, hn0, _, hsrc, hpass, _, hne⟩ := SearchTree.tree_rooted hinv (v := v) (by simp [hb])
  have hagree : ∀ m, m ≤ n →
      (parent (upd res.final.sol e1.dst (SearchRoute.originBranch c source e1)))^[m] v
        = (parent res.final.sol)^[m] v :=
    fun m hm => iterate_parent_upd m (fun i hi => (hpass i (by omega)).1)
  refine ⟨n, hn0, by rw [hagree n (le_refl _)]; exact hsrc, ?_⟩
  intro i j hij hj
  rw [hagree i (by omega), hagree j hj]
  exact hne i j hij hj

/-- the origin entry points *out of* the tree: origin edge 4 (3→1) on `exConfig`, whose tail 3 is
reachable from its head 1 — the parent pointers of the returned map form the cycle 1 → 3 → 2 → 1, so
"follow parents until a vertex without entry" never ends; the root must be recognised as the origin
edge's head (as `edge_oriented_tree_rooted` does). -/
theorem edge_oriented_tree_origin_entry_counterexample :
    SearchRoute.Example.treeEntriesOf (SearchRoute.Example.exConfig.runEdge 4 none [1, 2, 3]) [0, 1, 2, 3] =
      some [[none, some (3, 4), some (1, 1), some (2, 2)]] :=
  SearchRoute.Example.exConfig_run_4

/-- Edge-oriented search with a destination, origin and destination edges **not adjacent** (either
direction): the returned tree is the tree of the inner vertex-oriented search, rooted at the origin
edge's head `e1.dst` — no entry there, every entry joins its parent to its vertex by an edge listed
at the parent, following parents reaches `e1.dst` without visiting a vertex twice.  Neither the
origin nor the destination edge has an entry of its own. -/
theorem edge_oriented_nonadjacent_tree_rooted (c : Config α) (hadj : c.AdjConsistent)
    (source tgt : Nat) (sched : List Nat) (r : AlgResult α) (e1 e2 : EdgeRec α)
    (h1 : c.edges[source]? = some e1) (h2 : c.edges[tgt]? = some e2) (hne : source ≠ tgt)
    (hnadj : e1.dst ≠ e2.src) (h : c.runEdge source (some tgt) sched = .ok r) :
    ∃ tree, r.trees = [tree] ∧ tree e1.dst = none ∧
      ∀ v b, tree v = some b →
        (c.inst.keyV b.edge = v ∧ c.inst.termV b.edge = b.terminal ∧
          b.edge ∈ c.inst.incident b.terminal) ∧
        ∃ n, 0 < n ∧ (parent tree)^[n] v = e1.dst ∧
          ∀ i j, i < j → j ≤ n → (parent tree)^[i] v ≠ (parent tree)^[j] v := by
  obtain ⟨res, _, _, hres, _, _, htrees, _, _⟩ :=
    SearchRoute.runEdge_nonadjacent c source tgt sched r e1 e2 h1 h2 hne hnadj h
  obtain ⟨hinv, _⟩ := SearchTree.runVertexOriented_route (c.inst_wf hadj) e1.dst e2.src sched res
    (fun h => hnadj h.symm) hres
  refine ⟨_, htrees, hinv.sol_source, ?_⟩
  intro v b hb
  obtain ⟨hk, ht, hinc, _⟩ := hinv.entry v b hb
  obtain ⟨n, hn0, _, hsrc, _, _, hne'⟩ := SearchTree.tree_rooted hinv (v := v) (by simp [hb])
  exact ⟨⟨hk, ht, hinc⟩, n, hn0, hsrc, hne'⟩

/-- Edge-oriented search with a destination, **adjacent** edges (`e1.dst = e2.src`: no search, the
two edges are traversed and stored as `HashMap::from([(e2.dst, b2), (e1.dst, b1)])`), forward — what
holds exactly: the origin edge's entry `b1` is stored under the origin edge's head, the destination
edge's entry `b2` under the destination edge's head with the origin edge's head as its parent —
unless the two heads coincide, in which case `b1` has overwritten `b2` and no entry carries the
destination edge; nothing else is stored; both entries join their `terminal` to the vertex they are
stored under.  So from `b2` one parent step reaches the origin edge's head; but the map is not a
tree rooted at a vertex without entry when the tail of the origin edge is one of the two heads
(`…_uturn_tree_counterexample`), and it loses the destination edge for equal heads
(`…_equal_heads_tree_counterexample`). -/
theorem edge_oriented_adjacent_tree_forward (c : Config α) (hfwd : c.reverse = false)
    (source tgt : Nat) (sched : List Nat) (r : AlgResult α) (e1 e2 : EdgeRec α)
    (h1 : c.edges[source]? = some e1) (h2 : c.edges[tgt]? = some e2) (hne : source ≠ tgt)
    (hadj' : e1.dst = e2.src) (h : c.runEdge source (some tgt) sched = .ok r) :
    ∃ (tree : Nat → Option (Branch α)) (b1 b2 : Branch α), r.trees = [tree] ∧ r.routes = [[b1, b2]] ∧
      b1.edge = source ∧ b1.terminal = e1.src ∧ b2.edge = tgt ∧ b2.terminal = e1.dst ∧
      c.inst.keyV b1.edge = e1.dst ∧ c.inst.termV b1.edge = b1.terminal ∧
      c.inst.keyV b2.edge = e2.dst ∧ c.inst.termV b2.edge = b2.terminal ∧
      tree e1.dst = some b1 ∧
      (e2.dst ≠ e1.dst → tree e2.dst = some b2) ∧
      (e2.dst = e1.dst → ∀ v b, tree v = some b → b.edge ≠ tgt) ∧
      (∀ v, v ≠ e1.dst → v ≠ e2.dst → tree v = none) := by
  obtain ⟨b1, b2, hroutes, _, htrees, hb1, ht1, hb2, ht2, _, _, _, _, _, hj1, hj2⟩ :=
    SearchRoute.runEdge_adjacent_walk c hfwd source tgt sched r e1 e2 h1 h2 hne hadj' h
  refine ⟨_, b1, b2, htrees, hroutes, hb1, ht1, hb2, by rw [ht2, hadj'], ?_, hj1, ?_, hj2,
    SearchTree.upd_same _ _ _, ?_, ?_, ?_⟩
  · rw [hb1]; exact SearchRoute.inst_keyV_fwd hfwd h1
  · rw [hb2]; exact SearchRoute.inst_keyV_fwd hfwd h2
  · intro hd
    rw [SearchTree.upd_other _ _ _ hd, SearchTree.upd_same]
  · intro hd v b hb
    by_cases hv : v = e1.dst
    · subst hv
      rw [SearchTree.upd_same] at hb
      cases hb
      rw [hb1]; exact hne
    · rw [SearchTree.upd_other _ _ _ hv] at hb
      have hv' : v ≠ e2.dst := by rw [hd]; exact hv
      rw [SearchTree.upd_other _ _ _ hv'] at hb
      cases hb
  · intro v hv1 hv2
    rw [SearchTree.upd_other _ _ _ hv1, SearchTree.upd_other _ _ _ hv2]

/-- a u-turn pair: edge 0 (0→1) then edge 1 (1→0) -/
def uturnConfig : Config ℚ :=
  { SearchRoute.Example.exConfig with
    nV := 2, edges := [⟨0, 1, 1000⟩, ⟨1, 0, 2000⟩], outAdj := [[0], [1]], inAdj := [[1], [0]],
    gc := [0, 0] }

/-- adjacent arm, u-turn pair: the returned map is `{1 ↦ (parent 0, edge 0), 0 ↦ (parent 1, edge 1)}`
— a 2-cycle of parent pointers; no vertex is without entry, so it is not a tree rooted at "the
vertex without entry" (the route `[0, 1]` is fine) -/
theorem edge_oriented_adjacent_uturn_tree_counterexample :
    SearchRoute.Example.treeEntriesOf (uturnConfig.runEdge 0 (some 1) []) [0, 1] =
      some [[some (1, 1), some (0, 0)]] ∧
    SearchRoute.Example.routeEdgesOf (uturnConfig.runEdge 0 (some 1) []) = some [[0, 1]] := by
  decide +kernel

/-- adjacent arm, equal heads: origin edge 0 (0→1), destination edge 3 (the self loop 1→1) on
`exConfig`: the route is `[0, 3]`, the returned map has the single entry `1 ↦ (parent 0, edge 0)` —
the destination edge's entry, stored first under the same key, is gone -/
theorem edge_oriented_adjacent_equal_heads_tree_counterexample :
    SearchRoute.Example.treeEntriesOf (SearchRoute.Example.exConfig.runEdge 0 (some 3) []) [0, 1, 2, 3] =
      some [[none, some (0, 0), none, none]] ∧
    SearchRoute.Example.routeEdgesOf (SearchRoute.Example.exConfig.runEdge 0 (some 3) []) =
      some [[0, 3]] := by
  decide +kernel

/-! ### `a_star_algorithm::run_a_star_edge_oriented`, which `SearchAlgorithm` does not call

The wrapper inside `a_star_algorithm.rs` (still public; modelled by `Config.runAStarEdge` +
`Config.edgeOrientedRoute`, checked against the code by direct calls) stores the destination edge's
entry under the destination edge's head in the vertex-keyed tree — unless the inner search has
already labelled that vertex.  Then the route read back by `backtrack::edge_oriented_route` stops
short.  Witness (a corpus case of C01): origin edge 0 (0→1), destination edge
1 (2→3), the inner search 1 ⇝ 2 labels vertex 3 on its way (1→3→2). -/

def retiredWitness : Config ℚ where
  nV := 4
  edges := [⟨0, 1, 1⟩, ⟨2, 3, 1⟩, ⟨1, 3, 1⟩, ⟨3, 2, 5⟩, ⟨1, 2, 20⟩]
  outAdj := [[0], [2, 4], [1], [3]]
  inAdj := [[], [0], [3, 4], [1, 2]]
  feats := [{ name := "distance", kind := .dist .meters, init := 0 }]
  trav := .distance .meters
  access := .noAccess
  cost := { indices := [0], weights := [1], vehicleRates := [.raw], networkRates := [.zero], agg := .sum }
  frontier := []
  term := .combined []
  reverse := false
  gc := [0, 0, 0, 0]
  wf := some 0

/-- the route `edge_oriented_route` reads from the tree of `run_a_star_edge_oriented` is `[0, 2]`: it
ends at the destination edge's head without ever taking the destination edge, whereas
`search_algorithm::run_edge_oriented` (what every `SearchAlgorithm` runs) answers `[0, 2, 3, 1]` -/
theorem retired_edge_oriented_wrapper_counterexample :
    (match retiredWitness.runAStarEdge 0 (some 1) [1, 3, 2] with
     | .ok (tree, _) => (match retiredWitness.edgeOrientedRoute 0 1 tree 7 with
                         | .ok r => some (r.map (·.edge))
                         | .error _ => none)
     | .error _ => none) = some [0, 2] ∧
    (match retiredWitness.runEdge 0 (some 1) [1, 3, 2] with
     | .ok r => some (r.routes.map (·.map (·.edge)))
     | .error _ => none) = some [[0, 2, 3, 1]] := by
  decide +kernel

/-! ### Non-vacuity: a concrete instance with a parallel edge and a self loop meets the hypotheses,
and the theorem applies to an actual run (see `SearchTree.Example`). -/

example : WF SearchTree.Example.inst := SearchTree.Example.inst_wf

/-- the vertex-oriented theorems on an actual run: Dijkstra on `exC` (eight edges, two self loops, a
cycle, a forbidden shortcut) from 0 to 3 returns `[0, 7]`, and `config_route_walk` applies -/
example : ∃ r route, ConfigUniform.Example.exC.runVertex 0 (some 3) [0, 1, 2, 3] = .ok r ∧
    r.routes = [route] ∧ route.map (·.edge) = [0, 7] ∧ (route.map (·.edge)).Nodup := by
  obtain ⟨r, hr⟩ := SearchRoute.Example.ok_of_routeEdgesOf ConfigUniform.Example.exC_run
  obtain ⟨route, h1, _, _, _, _, h6⟩ := config_route_walk ConfigUniform.Example.exC
    ConfigUniform.Example.exC_edgeLocal.adj 0 3 [0, 1, 2, 3] r (by decide) hr
  have hobs := ConfigUniform.Example.exC_run
  rw [hr] at hobs
  simp only [SearchRoute.Example.routeEdgesOf, h1, List.map_cons, List.map_nil, Option.some.injEq,
    List.cons.injEq, and_true] at hobs
  exact ⟨r, route, hr, h1, hobs, h6⟩

/-- … and in reverse: the same network searched backwards from 3 to 0 returns `[7, 0]` (search
order), a walk of the reversed graph -/
example : ∃ r route, ConfigUniform.Example.exR.runVertex 3 (some 0) [3, 2, 1, 0] = .ok r ∧
    r.routes = [route] ∧
    (∀ i (hi : i + 1 < route.length),
      ConfigUniform.Example.exR.inst.keyV route[i].edge =
        ConfigUniform.Example.exR.inst.termV route[i + 1].edge) := by
  obtain ⟨r, hr⟩ := SearchRoute.Example.ok_of_routeEdgesOf ConfigUniform.Example.exR_run
  obtain ⟨route, h1, _, _, _, h5, _⟩ := config_route_walk ConfigUniform.Example.exR
    ConfigUniform.Example.exR_edgeLocal.adj 3 0 [3, 2, 1, 0] r (by decide) hr
  exact ⟨r, route, hr, h1, h5⟩

/-- the edge-oriented theorems on actual runs of `exConfig`: non-adjacent (origin edge 0, destination
edge 2: route `[0, 1, 2]`, the inner tree rooted at vertex 1) and, in the next example,
destination-less (origin edge 4) -/
example : ∃ r tree, SearchRoute.Example.exConfig.runEdge 0 (some 2) [1, 2] = .ok r ∧
    r.trees = [tree] ∧ tree 1 = none := by
  obtain ⟨r, hr⟩ := SearchRoute.Example.ok_of_routeEdgesOf SearchRoute.Example.exConfig_run_0_2.1
  obtain ⟨tree, h1, h2, _⟩ := edge_oriented_nonadjacent_tree_rooted SearchRoute.Example.exConfig
    SearchRoute.Example.exConfig_adj 0 2 [1, 2] r ⟨0, 1, 1000⟩ ⟨2, 3, 500⟩ rfl rfl (by decide)
    (by decide) hr
  exact ⟨r, tree, hr, h1, h2⟩

/-- … the destination-less one: from origin edge 4 (3→1) the tree holds the origin edge's entry under
the origin edge's head, vertex 1, the root (`edge_oriented_tree_rooted`) -/
example : ∃ r tree o, SearchRoute.Example.exConfig.runEdge 4 none [1, 2, 3] = .ok r ∧
    r.trees = [tree] ∧ tree 1 = some o ∧ o.edge = 4 := by
  obtain ⟨r, _, hr, _, _⟩ :=
    SearchRoute.Example.tree_of_treeEntriesOf SearchRoute.Example.exConfig_run_4
  obtain ⟨tree, h1, ⟨o, h2, h3, _⟩, _⟩ := edge_oriented_tree_rooted SearchRoute.Example.exConfig
    SearchRoute.Example.exConfig_adj 4 [1, 2, 3] r ⟨3, 1, 700⟩ rfl hr
  exact ⟨r, tree, o, hr, h1, h2, h3⟩

end C01
end Compass

namespace Compass
namespace C01
open Src

/-! ### Source decision ties

The relational operators at the named comparison sites of the Rust source are re-extracted on every run
by `tools/gen_model.py` into `Compass/Gen/Decisions.lean` (`Src.<site> : Src.Rel`).  Each theorem below
says that the hand-written model decides at that site by exactly the operator the source has there
(`Rel.nat` / `Rel.int` / `Rel.num` interpret the extracted operator; an unrecognised line is `none`).  A
source change that turns `<` into `<=`, `>` into `>=`, … at a site changes the generated constant and this
proof obligation stops checking, whether or not a generated case lands on the tie. -/

/-- shared by every search property: the label test of `run_a_star`'s relaxation (`improves`) is the
source's `tentative_gscore < existing_gscore`; with `<=` an equal-cost arrival re-labels an expanded vertex -/
theorem src_relax_improves {α : Type} [Field α] [LinearOrder α] [IsStrictOrderedRing α] [Lit α] [LawfulLit α] (tent ex : α) :
    some (improves tent (some ex)) = relax_improves.num tent ex := by
  simp [improves, relax_improves, Rel.num]

end C01
end Compass
