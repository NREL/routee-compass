/-
C08 — vehicle energy and battery state follow the powertrain model along a route.

Model: `Compass/Model/Energy.lean` (tied to the Rust code by the bit-exact correspondence run of
`harness/src/c08.rs` against `Drv/C08.lean`).  All theorems are over an arbitrary linearly ordered
field `α` (ℚ, ℝ): every edge sequence, every length / speed / grade (any sign), every vehicle type,
starting charge and unit configuration, and every *positive* battery capacity (see below).  The
prediction model is the parameter `PredRecord.rate`; the cache is the parameter `Caches` (any key
type, any key function).  The model follows /repo with f2c4b1e (the vehicle builders refuse a non-positive
battery capacity), 2aef62e (`best_case_energy_state` converts the energy to the battery's unit) and 428ce00
(`FloatCachePolicy::get` checks the length of the key).

Modelled rather than verified (the theorems do not speak about these):
* f64 arithmetic.  The theorems are exact arithmetic in an ordered field; rounding, overflow and
  NaN of the code's doubles are outside them (the direct oracle of the harness runs on doubles).
  One place where a field artefact would hide a real failure is division by the battery capacity:
  in a field `x / 0 = 0`, so `asSocPercent 0 0 = 0` and the clamp bounds would "hold" at capacity 0,
  while the code computes `(0.0 / 0.0) * 100 = NaN` and `NaN.clamp(0, 100) = NaN`
  (`soc_capacity_zero_artefact`).  Every charge-BOUNDS theorem (the ones carrying `CapacityPos`) is
  therefore stated for a positive capacity, which the vehicle builders guarantee (`battery_capacity_positive`,
  `battery_capacity_rejected`); `BEV::new` / `PHEV::new` called directly still take any capacity.
* the time model is the speed-table engine (`SpeedTraversalModel`), the only time model the energy
  service is configured with; the prediction model is an arbitrary function (parameter); the LRU
  order of the `lru` crate is modelled, not verified; the haversine value used by
  `estimate_traversal` is an input.
* table files: the configured path reads rows through `Speed::from_str` / `Grade::from_str`, which
  refuse NaN (speeds, grades), negative speeds and infinite grades (`bad_speed_row_rejected`,
  `bad_grade_row_rejected`); an infinite speed is accepted (edge time 0).  `get_max_speed` on a
  table that contains NaN (reachable only by constructing the engine directly) follows the
  `OrderedFloat` order in the code and is not modelled.
* a query that changes the *format* of `battery_state` is refused by `StateModel::extend`
  (`stateFeaturesAccepted`; the rule itself is C11's `StateFeature.eqv`).
* `PredRecord.predict` itself does not check the cache policy's length; the check
  (`FloatCachePolicy::get`) is modelled where `traverse_edge` reaches it (`cacheAccepts`).
-/
import Compass.Gen.Decisions
import Compass.Gen.FnsC08
import Compass.Proofs.Energy
import Compass.Props.C09

namespace Compass
namespace C08
open Compass.Energy

set_option linter.unusedSectionVars false

section
variable {K α : Type} [DecidableEq K] [Field α] [LinearOrder α] [IsStrictOrderedRing α] [Lit α] [LawfulLit α]

/-! ## Energy of one edge -/

/-- `predict` without a cache: rate at the given speed and grade (converted to the prediction
model's units) × real-world adjustment × distance in the rate's distance unit, tagged with the
rate's energy unit.  (`predict_energy_of_rate` at `c = none`; both read off `PredRecord.predict`'s definition.) -/
theorem predict_energy (r : PredRecord α) (speed : α) (su : SpeedUnit) (grade : α) (gu : GradeUnit)
    (d : α) (du : DistanceUnit) :
    (r.predict (none : Option (Cache K α)) speed su grade gu d du).1
      = (r.rate (su.convert r.speedUnit speed) (gu.convert r.gradeUnit grade) * r.adjustment
          * du.convert r.rateUnit.associatedDistanceUnit d,
         r.rateUnit.associatedEnergyUnit) := rfl

/-- with or without a cache, the energy is (the rate `lookupRate` settled on) × adjustment × distance -/
theorem predict_energy_of_rate (r : PredRecord α) (c : Option (Cache K α)) (speed : α) (su : SpeedUnit)
    (grade : α) (gu : GradeUnit) (d : α) (du : DistanceUnit) :
    (r.predict c speed su grade gu d du).1
      = ((r.lookupRate c speed su grade gu).1 * r.adjustment
          * du.convert r.rateUnit.associatedDistanceUnit d,
         r.rateUnit.associatedEnergyUnit) := rfl

/-- ICE: the edge's energy, converted to the feature's unit, is added to `energy_liquid`; nothing
else changes. -/
theorem ice_edge_energy (r : PredRecord α) (fu : FeatureUnits) (c : Caches K α)
    (speed : α) (su : SpeedUnit) (grade : α) (gu : GradeUnit) (d : α) (du : DistanceUnit) (s : VState α) :
    let s' := ((Vehicle.ice r).consumeEnergy fu c speed su grade gu d du s).1
    s'.liquid = s.liquid + r.rateUnit.associatedEnergyUnit.convert fu.liquid
                  (r.predict c.main speed su grade gu d du).1.1
      ∧ s'.electric = s.electric ∧ s'.soc = s.soc ∧ s'.time = s.time ∧ s'.distance = s.distance :=
  ⟨rfl, rfl, rfl, rfl, rfl⟩

/-- BEV: the edge's energy, converted to the feature's unit, is added to `energy_electric`. -/
theorem bev_edge_energy (r : PredRecord α) (b : Battery α) (fu : FeatureUnits) (c : Caches K α)
    (speed : α) (su : SpeedUnit) (grade : α) (gu : GradeUnit) (d : α) (du : DistanceUnit) (s : VState α) :
    let s' := ((Vehicle.bev r b).consumeEnergy fu c speed su grade gu d du s).1
    s'.electric = s.electric + r.rateUnit.associatedEnergyUnit.convert fu.electric
                    (r.predict c.main speed su grade gu d du).1.1
      ∧ s'.liquid = s.liquid ∧ s'.time = s.time ∧ s'.distance = s.distance := by
  rw [consumeEnergy_bev]
  simp [bevApply]

/-! ## State of charge -/

/-- BEV: the charge moves by exactly `-100 · E / capacity` (E = the edge's electric energy in the
battery's unit) and is then clamped to 0–100. -/
theorem bev_soc_step (r : PredRecord α) (b : Battery α) (fu : FeatureUnits) (c : Caches K α)
    (speed : α) (su : SpeedUnit) (grade : α) (gu : GradeUnit) (d : α) (du : DistanceUnit) (s : VState α)
    (hcap : b.capacity ≠ 0) :
    ((Vehicle.bev r b).consumeEnergy fu c speed su grade gu d du s).1.soc
      = clamp (s.soc - 100 * r.rateUnit.associatedEnergyUnit.convert b.unit
                  (r.predict c.main speed su grade gu d du).1.1 / b.capacity) 0 100 := by
  rw [consumeEnergy_bev, bevApply, updateSoc_soc _ _ _ hcap]
  rfl

/-- C08 `soc_unclamped_step` (BEV): whenever the new charge is strictly inside 0–100 it is the old
charge minus `100 · E / capacity`. -/
theorem bev_soc_unclamped_step (r : PredRecord α) (b : Battery α) (fu : FeatureUnits) (c : Caches K α)
    (speed : α) (su : SpeedUnit) (grade : α) (gu : GradeUnit) (d : α) (du : DistanceUnit) (s : VState α)
    (hcap : b.capacity ≠ 0)
    (h0 : 0 < ((Vehicle.bev r b).consumeEnergy fu c speed su grade gu d du s).1.soc)
    (h1 : ((Vehicle.bev r b).consumeEnergy fu c speed su grade gu d du s).1.soc < 100) :
    ((Vehicle.bev r b).consumeEnergy fu c speed su grade gu d du s).1.soc
      = s.soc - 100 * r.rateUnit.associatedEnergyUnit.convert b.unit
                  (r.predict c.main speed su grade gu d du).1.1 / b.capacity := by
  rw [bev_soc_step r b fu c speed su grade gu d du s hcap] at h0 h1 ⊢
  exact clamp_interior h0 h1

/-- … and when `old − 100·E/capacity` is itself within 0–100 nothing is clamped -/
theorem bev_soc_step_in_range (r : PredRecord α) (b : Battery α) (fu : FeatureUnits) (c : Caches K α)
    (speed : α) (su : SpeedUnit) (grade : α) (gu : GradeUnit) (d : α) (du : DistanceUnit) (s : VState α)
    (hcap : b.capacity ≠ 0)
    (h0 : 0 ≤ s.soc - 100 * r.rateUnit.associatedEnergyUnit.convert b.unit
                  (r.predict c.main speed su grade gu d du).1.1 / b.capacity)
    (h1 : s.soc - 100 * r.rateUnit.associatedEnergyUnit.convert b.unit
                  (r.predict c.main speed su grade gu d du).1.1 / b.capacity ≤ 100) :
    ((Vehicle.bev r b).consumeEnergy fu c speed su grade gu d du s).1.soc
      = s.soc - 100 * r.rateUnit.associatedEnergyUnit.convert b.unit
                  (r.predict c.main speed su grade gu d du).1.1 / b.capacity := by
  rw [bev_soc_step r b fu c speed su grade gu d du s hcap]
  exact clamp_of_mem h0 h1

/-! ## Plug-in hybrid: the charge at the start of the edge decides -/

/-- C08 `phev_switch`, charge remaining: an edge entered with `soc > 0` draws only electricity — the
charge-depleting model's energy goes to `energy_electric`, `energy_liquid` is unchanged — and the
charge moves by `-100 · E / capacity`, clamped. -/
theorem phev_switch_electric (sus dep : PredRecord α) (b : Battery α) (fu : FeatureUnits) (c : Caches K α)
    (speed : α) (su : SpeedUnit) (grade : α) (gu : GradeUnit) (d : α) (du : DistanceUnit) (s : VState α)
    (hcap : b.capacity ≠ 0) (hsoc : 0 < s.soc) :
    let s' := ((Vehicle.phev sus dep b).consumeEnergy fu c speed su grade gu d du s).1
    s'.liquid = s.liquid
      ∧ s'.electric = s.electric + dep.rateUnit.associatedEnergyUnit.convert fu.electric
                        (dep.predict c.main speed su grade gu d du).1.1
      ∧ s'.soc = clamp (s.soc - 100 * dep.rateUnit.associatedEnergyUnit.convert b.unit
                        (dep.predict c.main speed su grade gu d du).1.1 / b.capacity) 0 100 := by
  rw [consumeEnergy_phev_pos _ _ _ _ _ _ _ _ _ _ _ hsoc]
  refine ⟨?_, rfl, ?_⟩
  · rw [phevApply_liquid, energy_conv_zero, add_zero]
  · rw [phevApply, updateSoc_soc _ _ _ hcap]
    rfl

/-- C08 `phev_switch`, empty: an edge entered with `soc ≤ 0` (with `soc_bounds`: `soc = 0`) draws
only liquid fuel — the charge-sustaining model's energy goes to `energy_liquid`, `energy_electric`
is unchanged — and the battery stays where it is (clamped). -/
theorem phev_switch_liquid (sus dep : PredRecord α) (b : Battery α) (fu : FeatureUnits) (c : Caches K α)
    (speed : α) (su : SpeedUnit) (grade : α) (gu : GradeUnit) (d : α) (du : DistanceUnit) (s : VState α)
    (hcap : b.capacity ≠ 0) (hsoc : s.soc ≤ 0) :
    let s' := ((Vehicle.phev sus dep b).consumeEnergy fu c speed su grade gu d du s).1
    s'.electric = s.electric
      ∧ s'.liquid = s.liquid + sus.rateUnit.associatedEnergyUnit.convert fu.liquid
                      (sus.predict c.sustain speed su grade gu d du).1.1
      ∧ s'.soc = clamp s.soc 0 100 := by
  rw [consumeEnergy_phev_nonpos _ _ _ _ _ _ _ _ _ _ _ hsoc]
  refine ⟨?_, rfl, ?_⟩
  · rw [phevApply_electric, energy_conv_zero, add_zero]
  · rw [phevApply, updateSoc_soc _ _ _ hcap]
    simp only [addLiquid_soc, addElectric_soc, energy_conv_zero, mul_zero, zero_div, sub_zero]

/-- an empty plug-in hybrid stays empty whatever the edge (also downhill: regeneration is not
modelled once the charge-sustaining model is in use) -/
theorem phev_empty_stays_empty (sus dep : PredRecord α) (b : Battery α) (fu : FeatureUnits) (c : Caches K α)
    (speed : α) (su : SpeedUnit) (grade : α) (gu : GradeUnit) (d : α) (du : DistanceUnit) (s : VState α)
    (hcap : b.capacity ≠ 0) (hsoc : s.soc = 0) :
    ((Vehicle.phev sus dep b).consumeEnergy fu c speed su grade gu d du s).1.soc = 0 := by
  have h := (phev_switch_liquid sus dep b fu c speed su grade gu d du s hcap (le_of_eq hsoc)).2.2
  rw [h, hsoc]
  exact clamp_of_mem (le_refl _) (by norm_num)

/-- C08 `soc_unclamped_step` (PHEV) -/
theorem phev_soc_unclamped_step (sus dep : PredRecord α) (b : Battery α) (fu : FeatureUnits) (c : Caches K α)
    (speed : α) (su : SpeedUnit) (grade : α) (gu : GradeUnit) (d : α) (du : DistanceUnit) (s : VState α)
    (hcap : b.capacity ≠ 0) (hsoc : 0 < s.soc)
    (h0 : 0 < ((Vehicle.phev sus dep b).consumeEnergy fu c speed su grade gu d du s).1.soc)
    (h1 : ((Vehicle.phev sus dep b).consumeEnergy fu c speed su grade gu d du s).1.soc < 100) :
    ((Vehicle.phev sus dep b).consumeEnergy fu c speed su grade gu d du s).1.soc
      = s.soc - 100 * dep.rateUnit.associatedEnergyUnit.convert b.unit
                  (dep.predict c.main speed su grade gu d du).1.1 / b.capacity := by
  have h := (phev_switch_electric sus dep b fu c speed su grade gu d du s hcap hsoc).2.2
  rw [h] at h0 h1 ⊢
  exact clamp_interior h0 h1

/-! ## Bounds along every route -/

/-- C08 `soc_bounds`: for every vehicle with a positive battery capacity, every edge sequence and every
cache state, if the charge starts within 0–100 it is within 0–100 after the route (hence, the
statement being for every edge list, after every prefix of it).  No hypothesis on energies or
units.  The capacity hypothesis is not used by the field proof — the clamp alone gives the bounds
(`Energy.traverseEdge_socOk`) — but without it the statement would be false of the code (header, "f64
arithmetic").  Configured vehicles satisfy it: `battery_capacity_positive`, `soc_bounds_configured`. -/
theorem soc_bounds (svc : Service α) (eng : SpeedEngine α) (v : Vehicle α) (fu : FeatureUnits)
    (edges : List (Edge α)) (st st' : VState α × Caches K α) (_hcap : CapacityPos v)
    (h0 : 0 ≤ st.1.soc ∧ st.1.soc ≤ 100)
    (h : traverseRoute svc eng v fu edges st = .ok st') :
    0 ≤ st'.1.soc ∧ st'.1.soc ≤ 100 := by
  induction edges generalizing st with
  | nil => simp only [traverseRoute] at h; cases h; exact h0
  | cons e es ih =>
    obtain ⟨st1, h1, h⟩ := traverseRoute_cons_ok h
    exact ih st1 (traverseEdge_socOk h1 (.inl h0)) h

/-- for a battery vehicle one traversed edge is enough: whatever the charge before (even out of
range), it is within 0–100 after the edge -/
theorem soc_bounds_after_edge (svc : Service α) (eng : SpeedEngine α) (v : Vehicle α) (fu : FeatureUnits)
    (e : Edge α) (st st' : VState α × Caches K α) (hv : ∀ r, v ≠ .ice r) (_hcap : CapacityPos v)
    (h : traverseEdge svc eng v fu e st = .ok st') :
    0 ≤ st'.1.soc ∧ st'.1.soc ≤ 100 :=
  traverseEdge_socOk h (.inr hv)

/-- the initial state's charge is within 0–100 for every vehicle with a positive capacity (whatever
its start energy; same remark on the capacity as for `soc_bounds`) -/
theorem soc_initial_bounds (v : Vehicle α) (_hcap : CapacityPos v) :
    0 ≤ v.initialState.soc ∧ v.initialState.soc ≤ 100 := by
  cases v with
  | ice r => simp [Vehicle.initialState]
  | bev r b => exact asSoc_bounds _ _
  | phev s d b => exact asSoc_bounds _ _

/-! ## Starting charge -/

/-- C08 `soc_rejected`: a battery vehicle accepts a numeric starting charge exactly when it is
within 0–100 … -/
theorem soc_accepted_iff_bev (r : PredRecord α) (b : Battery α) (x : α) :
    (∃ v', (Vehicle.bev r b).updateFromQuery (.num x) = .ok v') ↔ (0 ≤ x ∧ x ≤ 100) :=
  withStartSoc_isOk_iff

theorem soc_accepted_iff_phev (sus dep : PredRecord α) (b : Battery α) (x : α) :
    (∃ v', (Vehicle.phev sus dep b).updateFromQuery (.num x) = .ok v') ↔ (0 ≤ x ∧ x ≤ 100) :=
  withStartSoc_isOk_iff

/-- … outside it is a build error, as is a non-numeric value -/
theorem soc_rejected (v : Vehicle α) (x : α) (hv : ∀ r, v ≠ .ice r) (hx : x < 0 ∨ 100 < x) :
    v.updateFromQuery (.num x) = .error .build := by
  have hn : ¬ (0 ≤ x ∧ x ≤ 100) := fun ⟨a, b⟩ => hx.elim (not_lt.mpr a) (not_lt.mpr b)
  cases v with
  | ice r => exact absurd rfl (hv r)
  | bev r b => exact (withStartSoc_match_eq b x _).trans (if_neg hn)
  | phev s d b => exact (withStartSoc_match_eq b x _).trans (if_neg hn)

theorem soc_rejected_non_numeric (v : Vehicle α) (hv : ∀ r, v ≠ .ice r) :
    v.updateFromQuery .nonNumeric = .error .build := by
  cases v with
  | ice r => exact absurd rfl (hv r)
  | bev r b => rfl
  | phev s d b => rfl

/-- C08 `soc_start`: the charge of the initial state is the query's starting value (capacity ≠ 0) -/
theorem soc_start (v v' : Vehicle α) (x : α) (hv : ∀ r, v ≠ .ice r)
    (hcap : ∀ r b, v = .bev r b → b.capacity ≠ 0) (hcap' : ∀ s d b, v = .phev s d b → b.capacity ≠ 0)
    (h : v.updateFromQuery (.num x) = .ok v') :
    v'.initialState.soc = x := by
  cases v with
  | ice r => exact absurd rfl (hv r)
  | bev r b => obtain ⟨hx, rfl⟩ := withStartSoc_ok h; exact asSoc_of_start _ _ (hcap r b rfl) hx
  | phev s d b => obtain ⟨hx, rfl⟩ := withStartSoc_ok h; exact asSoc_of_start _ _ (hcap' s d b rfl) hx

/-- a BEV query without `starting_soc_percent` starts full … -/
theorem soc_start_default (r : PredRecord α) (b : Battery α) (hcap : b.capacity ≠ 0) :
    ∃ v', (Vehicle.bev r b).updateFromQuery .absent = .ok v' ∧ v'.initialState.soc = 100 := by
  have h100 : (0 : α) ≤ 100 ∧ (100 : α) ≤ 100 := ⟨by norm_num, le_refl _⟩
  simp only [Vehicle.updateFromQuery, hundred_eq, withStartSoc_eq, if_pos h100]
  exact ⟨_, rfl, asSoc_of_start _ _ hcap h100⟩

/-- … a PHEV query without it is rejected (by `Vehicle.updateFromQuery`'s definition) -/
theorem phev_requires_start (sus dep : PredRecord α) (b : Battery α) :
    (Vehicle.phev sus dep b).updateFromQuery .absent = .error .build := rfl

/-! ## Best case -/

/-- the record whose ideal rate orders the search: the vehicle's own, the charge-depleting one for a PHEV -/
def bestRecord : Vehicle α → PredRecord α
  | .ice r => r
  | .bev r _ => r
  | .phev _ dep _ => dep

/-- C08 `best_case`: the best-case energy is the ideal rate × the distance expressed in the rate's
distance unit, in the rate's energy unit. -/
theorem best_case (v : Vehicle α) (d : α) (du : DistanceUnit) :
    v.bestCaseEnergy d du
      = ((bestRecord v).idealRate * du.convert (bestRecord v).rateUnit.associatedDistanceUnit d,
         (bestRecord v).rateUnit.associatedEnergyUnit) := by
  cases v <;> rfl

/-- ICE: `best_case_energy_state` adds exactly that energy, converted to the feature's unit (by
`Vehicle.bestCaseEnergyState`'s definition) -/
theorem best_case_state_ice (r : PredRecord α) (fu : FeatureUnits) (d : α) (du : DistanceUnit) (s : VState α) :
    ((Vehicle.ice r).bestCaseEnergyState fu d du s).liquid
      = s.liquid + r.rateUnit.associatedEnergyUnit.convert fu.liquid ((Vehicle.ice r).bestCaseEnergy d du).1 := rfl

/-- C08 `best_case` as recorded in the state (BEV, PHEV), every unit configuration:
`best_case_energy_state` adds the best-case energy E — a quantity in the rate's energy unit —
converted to the feature's unit to `energy_electric`, and moves the charge by
`-100 · E[battery unit] / capacity`, clamped.  (E keeps the rate's energy unit and is converted before it
meets the capacity; a battery configured in another unit than the rate's is the instance
`best_case_state_unit_mix_regression`.) -/
theorem best_case_state (v : Vehicle α) (b : Battery α) (fu : FeatureUnits) (d : α) (du : DistanceUnit)
    (s : VState α) (hv : (∃ r, v = .bev r b) ∨ (∃ sus dep, v = .phev sus dep b)) (hcap : b.capacity ≠ 0) :
    (v.bestCaseEnergyState fu d du s).electric
        = s.electric + (bestRecord v).rateUnit.associatedEnergyUnit.convert fu.electric (v.bestCaseEnergy d du).1
      ∧ (v.bestCaseEnergyState fu d du s).soc
        = clamp (s.soc - 100 * (bestRecord v).rateUnit.associatedEnergyUnit.convert b.unit (v.bestCaseEnergy d du).1
                  / b.capacity) 0 100 := by
  -- `bestCaseEnergyState` has the same arm for both battery vehicles
  rcases hv with ⟨r, rfl⟩ | ⟨sus, dep, rfl⟩ <;>
  · simp only [bestRecord, Vehicle.bestCaseEnergyState]
    rw [updateSoc_soc _ _ _ hcap]
    exact ⟨rfl, rfl⟩

/-- C08 `best_case` as the search sees it (ICE): the estimate adds ideal rate × great-circle
distance (in the rate's distance unit), converted to the feature's unit. -/
theorem estimate_energy_ice (svc : Service α) (eng : SpeedEngine α) (ms : α) (r : PredRecord α)
    (fu : FeatureUnits) (hm : α) (s s' : VState α)
    (h : estimateTraversal svc eng ms (.ice r) fu hm s = .ok s')
    (hz : isZero (DistanceUnit.meters.convert svc.distanceUnit hm) = false) :
    s'.liquid = s.liquid + r.rateUnit.associatedEnergyUnit.convert fu.liquid
      (r.idealRate * svc.distanceUnit.convert r.rateUnit.associatedDistanceUnit
        (DistanceUnit.meters.convert svc.distanceUnit hm)) := by
  rcases estimate_ok h with ⟨hz', _⟩ | ⟨_, s1, hl, _, _, rfl⟩
  · rw [hz] at hz'; cases hz'
  · rw [best_case_state_ice, hl]; rfl

/-- … and for a battery vehicle, whatever unit its battery capacity is configured in -/
theorem estimate_energy_battery (svc : Service α) (eng : SpeedEngine α) (ms : α) (v : Vehicle α)
    (b : Battery α) (fu : FeatureUnits) (hm : α) (s s' : VState α)
    (hv : (∃ r, v = .bev r b) ∨ (∃ sus dep, v = .phev sus dep b)) (hcap : b.capacity ≠ 0)
    (h : estimateTraversal svc eng ms v fu hm s = .ok s')
    (hz : isZero (DistanceUnit.meters.convert svc.distanceUnit hm) = false) :
    s'.electric = s.electric + (bestRecord v).rateUnit.associatedEnergyUnit.convert fu.electric
      ((bestRecord v).idealRate * svc.distanceUnit.convert (bestRecord v).rateUnit.associatedDistanceUnit
        (DistanceUnit.meters.convert svc.distanceUnit hm)) := by
  rcases estimate_ok h with ⟨hz', _⟩ | ⟨_, s1, _, hel, _, rfl⟩
  · rw [hz] at hz'; cases hz'
  · rw [(best_case_state v b fu _ svc.distanceUnit s1 hv hcap).1, hel, best_case]

/-- the estimate keeps the charge within 0–100 as well (positive capacity, as for `soc_bounds`) -/
theorem estimate_soc_bounds (svc : Service α) (eng : SpeedEngine α) (ms : α) (v : Vehicle α)
    (fu : FeatureUnits) (hm : α) (s s' : VState α) (_hcap : CapacityPos v)
    (h0 : 0 ≤ s.soc ∧ s.soc ≤ 100)
    (h : estimateTraversal svc eng ms v fu hm s = .ok s') : 0 ≤ s'.soc ∧ s'.soc ≤ 100 := by
  rcases estimate_ok h with ⟨_, rfl⟩ | ⟨_, s1, _, _, hs, rfl⟩
  · exact h0
  · cases v with
    | ice r => simp only [Vehicle.bestCaseEnergyState]; rw [addLiquid_soc, hs]; exact h0
    | bev r b => exact updateSoc_bounds _ _ _
    | phev sus dep b => exact updateSoc_bounds _ _ _

/-! ## The speed handed to the predictor -/

/-- the exact factor between the speed-table entry (in the time model's speed unit) and the speed
`traverse_edge` reconstructs from the time model's time delta (in `time_model_speed_unit`), for a
time model with units `esu, edu, etu`, a `time` feature kept in `ftu`, and service speed unit `tmsu` -/
def recK (esu : SpeedUnit) (edu : DistanceUnit) (etu ftu : TimeUnit) (tmsu : SpeedUnit) : ℚ :=
  (dK baseDistanceUnit tmsu.associatedDistanceUnit * sK esu baseSpeedUnit)
    / (dK baseDistanceUnit edu * dK edu baseDistanceUnit * tK baseTimeUnit etu * tK etu ftu
        * tK ftu tmsu.associatedTimeUnit)

/-- `recK` with `create_time`'s factor `C09.timeK` as one term: the form in which `C09.createTime_eq_some`
delivers the edge time -/
theorem recK_eq_timeK (esu : SpeedUnit) (edu : DistanceUnit) (etu ftu : TimeUnit) (tmsu : SpeedUnit) :
    recK esu edu etu ftu tmsu = dK baseDistanceUnit tmsu.associatedDistanceUnit
      / (dK baseDistanceUnit edu * (C09.timeK esu edu etu * (tK etu ftu * tK ftu tmsu.associatedTimeUnit))) := by
  unfold recK C09.timeK dK sK tK
  rw [div_mul_eq_mul_div, div_mul_eq_mul_div, mul_div_assoc', div_div_eq_mul_div]
  ring

/-- the edge length `x` cancels from `length / time` when the time is `length / speed` times a factor -/
theorem edge_length_cancels {x v A B M : α} (hx : x ≠ 0) : x * A / (x * B / v * M) = v * (A / (B * M)) := by
  rw [mul_div_assoc x B v, mul_assoc x, mul_div_mul_left _ _ hx, div_mul_eq_mul_div, div_div_eq_mul_div,
    mul_comm A v, mul_div_assoc]

/-- C08 (speed reconstruction): whenever the time model accepts the edge, the speed handed to the
vehicle is the speed-table entry times `recK` — for every accumulated time, edge length and unit
configuration; in particular it does not depend on the history. -/
theorem speed_reconstruction (svc : Service α) (eng : SpeedEngine α) (fu : FeatureUnits) (e : Edge α)
    (s s1 : VState α) (speed : α) (h : eng.traverse fu e s = .ok s1)
    (hs : eng.speedTable[e.id]? = some speed) :
    reconstructSpeed svc fu e s s1
      = speed * (recK eng.speedUnit eng.distanceUnit eng.timeUnit fu.time svc.timeModelSpeedUnit : α) := by
  obtain ⟨speed', t, hs', ht, rfl⟩ := traverse_ok h
  rw [hs] at hs'; cases hs'
  obtain ⟨_, hd, rfl⟩ := C09.createTime_eq_some ht
  rw [distance_conv_eq] at hd
  simp only [reconstructSpeed, getTime, addDistance_time, addTime_time, time_conv_eq, distance_conv_eq]
  -- the accumulated time drops out of the time delta, the edge length out of the quotient
  rw [add_mul, add_sub_cancel_left, mul_assoc, mul_assoc, edge_length_cancels (left_ne_zero_of_mul hd.ne'),
    recK_eq_timeK]
  simp only [Rat.cast_div, Rat.cast_mul]

/-- the factor is physically 1: the reconstructed speed, in `tmsu`, is the table speed, in `esu`,
within 0.1 percent — for all 720 unit configurations.  `recK` is a chain of table entries, each calibrated
(`C09.distance_cal`, `speed_cal`, `time_cal`): in the numerator metres → the distance unit of `tmsu` and `esu` →
metres per second; in the denominator the edge length there and back through `edu`, and the time units
seconds → `etu` → `ftu` → the time unit of `tmsu`. -/
theorem recK_physical : ∀ esu edu etu ftu tmsu,
    |recK esu edu etu ftu tmsu * C09.siSpeed tmsu / C09.siSpeed esu - 1| ≤ C09.tol := by
  intro esu edu etu ftu tmsu
  have h := (((C09.distance_cal baseDistanceUnit tmsu.associatedDistanceUnit).mul (C09.speed_cal esu baseSpeedUnit)).div
    (((C09.distance_cal baseDistanceUnit edu).comp (C09.distance_cal edu baseDistanceUnit)).mul
      (((C09.time_cal baseTimeUnit etu).comp (C09.time_cal etu ftu)).comp
        (C09.time_cal ftu tmsu.associatedTimeUnit)))).abs_sub_one_le (ε := C09.tol) (by norm_num [C09.tol])
  simp only [C09.si_base.1, C09.si_base.2.1, C09.si_base.2.2, one_mul, mul_one, div_one] at h
  rw [← C09.speed_assoc_consistent] at h
  rwa [recK, mul_assoc (dK _ _ * dK _ _) (tK _ _) (tK _ _), mul_assoc (dK _ _ * dK _ _), dK, dK, dK, sK, tK, tK, tK]

/-- the edge length the energy is computed from (metres → the service's distance unit → the rate's
distance unit) is physically the edge length within 0.1 percent, for all 25 unit pairs -/
theorem edge_length_physical : ∀ sdu rd : DistanceUnit,
    |dK baseDistanceUnit sdu * dK sdu rd * C09.siDistance rd / C09.siDistance baseDistanceUnit - 1| ≤ C09.tol :=
  fun sdu rd => ((C09.distance_cal baseDistanceUnit sdu).comp (C09.distance_cal sdu rd)).abs_sub_one_le
    (by norm_num [C09.tol])

/-! ## The prediction cache -/

/-- every cached rate is the prediction for every input that maps to its key (for the fixed units
`su`, `gu` the traversal model calls `predict` with) -/
def CacheSound (r : PredRecord α) (su : SpeedUnit) (gu : GradeUnit) (c : Cache K α) : Prop :=
  ∀ kv ∈ c.entries, ∀ s g, c.keyOf s g = kv.1 → kv.2 = r.rateOf s su g gu

/-- the key determines the prediction — true of a key that keeps its inputs exactly -/
def KeyDetermines (r : PredRecord α) (su : SpeedUnit) (gu : GradeUnit) (keyOf : α → α → K) : Prop :=
  ∀ s g s' g', keyOf s g = keyOf s' g' → r.rateOf s su g gu = r.rateOf s' su g' gu

/-- a sound cache stays sound when the prediction for a speed and grade is `put` under their key … -/
theorem CacheSound.put {r : PredRecord α} {su : SpeedUnit} {gu : GradeUnit} {c : Cache K α}
    (hs : CacheSound r su gu c) (hk : KeyDetermines r su gu c.keyOf) (speed grade : α) :
    CacheSound r su gu (c.put (c.keyOf speed grade) (r.rateOf speed su grade gu)) := by
  intro kv hkv s g hkey
  simp only [Cache.put] at hkv hkey
  rcases List.mem_cons.mp (List.mem_of_mem_take hkv) with h | h
  · subst h
    exact hk _ _ _ _ hkey.symm
  · exact hs kv (Cache.mem_of_mem_remove h) s g hkey

/-- … and on a hit, which finds an entry of the cache and moves it to the front -/
theorem CacheSound.get {r : PredRecord α} {su : SpeedUnit} {gu : GradeUnit} {c c' : Cache K α} {k : K} {v : α}
    (hs : CacheSound r su gu c) (hget : c.get k = some (v, c')) :
    (k, v) ∈ c.entries ∧ c'.keyOf = c.keyOf ∧ CacheSound r su gu c' := by
  simp only [Cache.get] at hget
  split at hget
  · cases hget
  · rename_i v' hf
    cases hget
    have hm := Cache.mem_of_find hf
    refine ⟨hm, rfl, fun kv hkv s g hkey => ?_⟩
    rcases List.mem_cons.mp hkv with h | h
    · subst h
      exact hs _ hm s g hkey
    · exact hs kv (Cache.mem_of_mem_remove h) s g hkey

/-- C08 (cache = identity when the key determines the prediction): on a sound cache `predict`
uses exactly the rate the prediction model gives at this speed and grade, and leaves a sound cache
with the same key function — for any capacity and any eviction history. -/
theorem lookupRate_cached (r : PredRecord α) (su : SpeedUnit) (gu : GradeUnit) (c : Cache K α)
    (speed grade : α) (hs : CacheSound r su gu c) (hk : KeyDetermines r su gu c.keyOf) :
    (r.lookupRate (some c) speed su grade gu).1 = r.rateOf speed su grade gu
      ∧ ∃ c', (r.lookupRate (some c) speed su grade gu).2 = some c' ∧ c'.keyOf = c.keyOf
          ∧ CacheSound r su gu c' := by
  simp only [PredRecord.lookupRate]
  cases hget : c.get (c.keyOf speed grade) with
  | none => exact ⟨rfl, _, rfl, rfl, hs.put hk speed grade⟩
  | some p =>
    obtain ⟨hm, hkey, hs'⟩ := hs.get hget
    exact ⟨hs _ hm speed grade rfl, _, rfl, hkey, hs'⟩

/-- an optional cache is fine for a record: sound, with a key that determines the prediction -/
def CacheFine (r : PredRecord α) (su : SpeedUnit) (gu : GradeUnit) (c : Option (Cache K α)) : Prop :=
  ∀ cm, c = some cm → CacheSound r su gu cm ∧ KeyDetermines r su gu cm.keyOf

theorem cacheFine_none (r : PredRecord α) (su : SpeedUnit) (gu : GradeUnit) :
    CacheFine r su gu (none : Option (Cache K α)) := by
  intro cm h; cases h

/-- through a fine cache `predict` answers what it answers without a cache, and leaves a fine cache -/
theorem predict_fine (r : PredRecord α) (su : SpeedUnit) (gu : GradeUnit) (c : Option (Cache K α))
    (speed grade d : α) (du : DistanceUnit) (hc : CacheFine r su gu c) :
    (r.predict c speed su grade gu d du).1 = (r.predict (none : Option (Cache K α)) speed su grade gu d du).1
      ∧ CacheFine r su gu (r.predict c speed su grade gu d du).2 := by
  cases c with
  | none => exact ⟨rfl, cacheFine_none r su gu⟩
  | some cm =>
    obtain ⟨hs, hk⟩ := hc cm rfl
    obtain ⟨hrate, c', hc', hkey, hs'⟩ := lookupRate_cached r su gu cm speed grade hs hk
    refine ⟨by simp only [PredRecord.predict, hrate]; rfl, ?_⟩
    intro cm' h
    have : (r.predict (some cm) speed su grade gu d du).2 = (r.lookupRate (some cm) speed su grade gu).2 := rfl
    rw [this, hc'] at h
    cases h
    exact ⟨hs', by rw [hkey]; exact hk⟩

/-- non-vacuity of `CacheFine`: an empty cache keyed by the exact pair of inputs, any capacity -/
theorem cacheFine_exact_empty (r : PredRecord α) (su : SpeedUnit) (gu : GradeUnit) (n : Nat) :
    CacheFine r su gu (some ({ capacity := n, keyOf := fun s g => (s, g), entries := [] } : Cache (α × α) α)) := by
  intro cm h
  cases h
  exact ⟨fun kv hkv => by simp at hkv, fun s g s' g' hk => by cases hk; rfl⟩

/-! ## Energy of an edge of the route, and additivity -/

/-- the energy the property prescribes for an edge, in the rate's energy unit: the record's rate at
the edge's speed (table entry × `recK`, converted to the prediction model's speed unit) and grade
(table entry converted to the model's grade unit) × real-world adjustment × the edge's length in the
rate's distance unit -/
def edgeEnergy (svc : Service α) (eng : SpeedEngine α) (fu : FeatureUnits) (r : PredRecord α)
    (e : Edge α) (speed grade : α) : α :=
  r.rate
      (svc.timeModelSpeedUnit.convert r.speedUnit
        (speed * (recK eng.speedUnit eng.distanceUnit eng.timeUnit fu.time svc.timeModelSpeedUnit : α)))
      (svc.gradeUnit.convert r.gradeUnit grade)
    * r.adjustment
    * svc.distanceUnit.convert r.rateUnit.associatedDistanceUnit
        (baseDistanceUnit.convert svc.distanceUnit e.distance)

/-- what `traverse_edge` hands to the vehicle -/
theorem traverseEdge_inputs {svc : Service α} {eng : SpeedEngine α} {v : Vehicle α} {fu : FeatureUnits}
    {e : Edge α} {st st' : VState α × Caches K α} {speed grade : α}
    (h : traverseEdge svc eng v fu e st = .ok st')
    (hs : eng.speedTable[e.id]? = some speed) (hg : getGrade svc.gradeTable e.id = .ok grade) :
    ∃ s1, s1.liquid = st.1.liquid ∧ s1.electric = st.1.electric ∧ s1.soc = st.1.soc ∧
      st' = v.consumeEnergy fu st.2
              (speed * (recK eng.speedUnit eng.distanceUnit eng.timeUnit fu.time svc.timeModelSpeedUnit : α))
              svc.timeModelSpeedUnit grade svc.gradeUnit
              (baseDistanceUnit.convert svc.distanceUnit e.distance) svc.distanceUnit s1 := by
  obtain ⟨s1, grade', h1, hg', _, rfl⟩ := traverseEdge_ok h
  rw [hg] at hg'; cases hg'
  obtain ⟨hl, hel, hsoc⟩ := traverse_leaves_energy h1
  exact ⟨s1, hl, hel, hsoc, by rw [speed_reconstruction svc eng fu e st.1 s1 speed h1 hs]⟩

theorem edgeEnergy_eq_predict {svc : Service α} {eng : SpeedEngine α} {fu : FeatureUnits} {r : PredRecord α}
    {e : Edge α} {speed grade : α} {c : Option (Cache K α)}
    (hc : CacheFine r svc.timeModelSpeedUnit svc.gradeUnit c) :
    edgeEnergy svc eng fu r e speed grade
      = (r.predict c
          (speed * (recK eng.speedUnit eng.distanceUnit eng.timeUnit fu.time svc.timeModelSpeedUnit : α))
          svc.timeModelSpeedUnit grade svc.gradeUnit (baseDistanceUnit.convert svc.distanceUnit e.distance)
          svc.distanceUnit).1.1 :=
  (congrArg Prod.fst (predict_fine r _ _ c _ _ _ _ hc).1).symm

/-
Full statement of `edge_energy`: for every vehicle, unit configuration and cache, the energy recorded
for an edge is `edgeEnergy` (rate at the edge's speed and grade × adjustment × length) in the
feature's unit.  It is false for an arbitrary cache (`cache_rounding_counterexample`: the float
cache's rounded key lets an edge be charged the rate of an earlier, slightly different speed or grade
— the precision trade-off of a rounding cache; a truncated key is refused,
`cache_key_length_rejected`); it is proved below without a cache and with any
cache that is sound and whose key determines the prediction (`CacheFine`, e.g. an exact key) —
hence `_partial`.
-/
/-- C08 `edge_energy` (ICE): the energy recorded for the edge is `edgeEnergy`, converted to the
unit of the `energy_liquid` feature. -/
theorem edge_energy_ice_partial (svc : Service α) (eng : SpeedEngine α) (r : PredRecord α) (fu : FeatureUnits)
    (e : Edge α) (st st' : VState α × Caches K α) (speed grade : α)
    (h : traverseEdge svc eng (.ice r) fu e st = .ok st')
    (hs : eng.speedTable[e.id]? = some speed) (hg : getGrade svc.gradeTable e.id = .ok grade)
    (hc : CacheFine r svc.timeModelSpeedUnit svc.gradeUnit st.2.main) :
    st'.1.liquid = st.1.liquid
      + r.rateUnit.associatedEnergyUnit.convert fu.liquid (edgeEnergy svc eng fu r e speed grade) := by
  obtain ⟨s1, hl, _, _, rfl⟩ := traverseEdge_inputs h hs hg
  rw [← hl, edgeEnergy_eq_predict hc]
  exact (ice_edge_energy r fu st.2 _ _ _ _ _ _ s1).1

/-- C08 `edge_energy` (BEV), with the battery step in the same terms -/
theorem edge_energy_bev_partial (svc : Service α) (eng : SpeedEngine α) (r : PredRecord α) (b : Battery α)
    (fu : FeatureUnits) (e : Edge α) (st st' : VState α × Caches K α) (speed grade : α)
    (h : traverseEdge svc eng (.bev r b) fu e st = .ok st')
    (hs : eng.speedTable[e.id]? = some speed) (hg : getGrade svc.gradeTable e.id = .ok grade)
    (hc : CacheFine r svc.timeModelSpeedUnit svc.gradeUnit st.2.main) (hcap : b.capacity ≠ 0) :
    st'.1.electric = st.1.electric
        + r.rateUnit.associatedEnergyUnit.convert fu.electric (edgeEnergy svc eng fu r e speed grade)
      ∧ st'.1.soc = clamp (st.1.soc - 100 * r.rateUnit.associatedEnergyUnit.convert b.unit
                              (edgeEnergy svc eng fu r e speed grade) / b.capacity) 0 100 := by
  obtain ⟨s1, _, hel, hsoc, rfl⟩ := traverseEdge_inputs h hs hg
  rw [← hel, ← hsoc, edgeEnergy_eq_predict hc]
  exact ⟨(bev_edge_energy r b fu st.2 _ _ _ _ _ _ s1).1, bev_soc_step r b fu st.2 _ _ _ _ _ _ s1 hcap⟩

/-- C08 `edge_energy` (PHEV): with charge remaining the charge-depleting record's
`edgeEnergy` goes to `energy_electric` (and the battery), `energy_liquid` is untouched … -/
theorem edge_energy_phev_electric_partial (svc : Service α) (eng : SpeedEngine α) (sus dep : PredRecord α)
    (b : Battery α) (fu : FeatureUnits) (e : Edge α) (st st' : VState α × Caches K α) (speed grade : α)
    (h : traverseEdge svc eng (.phev sus dep b) fu e st = .ok st')
    (hs : eng.speedTable[e.id]? = some speed) (hg : getGrade svc.gradeTable e.id = .ok grade)
    (hc : CacheFine dep svc.timeModelSpeedUnit svc.gradeUnit st.2.main) (hcap : b.capacity ≠ 0)
    (hsoc : 0 < st.1.soc) :
    st'.1.liquid = st.1.liquid
      ∧ st'.1.electric = st.1.electric
          + dep.rateUnit.associatedEnergyUnit.convert fu.electric (edgeEnergy svc eng fu dep e speed grade)
      ∧ st'.1.soc = clamp (st.1.soc - 100 * dep.rateUnit.associatedEnergyUnit.convert b.unit
                              (edgeEnergy svc eng fu dep e speed grade) / b.capacity) 0 100 := by
  obtain ⟨s1, hl, hel, hs1, rfl⟩ := traverseEdge_inputs h hs hg
  rw [← hl, ← hel, ← hs1, edgeEnergy_eq_predict hc]
  exact phev_switch_electric sus dep b fu st.2 _ _ _ _ _ _ s1 hcap (hs1 ▸ hsoc)

/-- … and entered empty, the charge-sustaining record's `edgeEnergy` goes to `energy_liquid`,
`energy_electric` is untouched. -/
theorem edge_energy_phev_liquid_partial (svc : Service α) (eng : SpeedEngine α) (sus dep : PredRecord α)
    (b : Battery α) (fu : FeatureUnits) (e : Edge α) (st st' : VState α × Caches K α) (speed grade : α)
    (h : traverseEdge svc eng (.phev sus dep b) fu e st = .ok st')
    (hs : eng.speedTable[e.id]? = some speed) (hg : getGrade svc.gradeTable e.id = .ok grade)
    (hc : CacheFine sus svc.timeModelSpeedUnit svc.gradeUnit st.2.sustain) (hcap : b.capacity ≠ 0)
    (hsoc : st.1.soc ≤ 0) :
    st'.1.electric = st.1.electric
      ∧ st'.1.liquid = st.1.liquid
          + sus.rateUnit.associatedEnergyUnit.convert fu.liquid (edgeEnergy svc eng fu sus e speed grade) := by
  obtain ⟨s1, hl, hel, hs1, rfl⟩ := traverseEdge_inputs h hs hg
  rw [← hl, ← hel, edgeEnergy_eq_predict hc]
  exact (phev_switch_liquid sus dep b fu st.2 _ _ _ _ _ _ s1 hcap (hs1 ▸ hsoc)).imp_right And.left

/-- the energies (`energy_liquid`, `energy_electric`), in the units of the state features, that
`consume_energy` draws for one edge: the prediction converted from the rate's energy unit -/
def draw (v : Vehicle α) (fu : FeatureUnits) (c : Caches K α)
    (speed : α) (su : SpeedUnit) (grade : α) (gu : GradeUnit) (d : α) (du : DistanceUnit) (s : VState α) : α × α :=
  match v with
  | .ice r => (r.rateUnit.associatedEnergyUnit.convert fu.liquid (r.predict c.main speed su grade gu d du).1.1, 0)
  | .bev r _ => (0, r.rateUnit.associatedEnergyUnit.convert fu.electric (r.predict c.main speed su grade gu d du).1.1)
  | .phev sus dep _ =>
    if 0 < s.soc then
      (0, dep.rateUnit.associatedEnergyUnit.convert fu.electric (dep.predict c.main speed su grade gu d du).1.1)
    else
      (sus.rateUnit.associatedEnergyUnit.convert fu.liquid (sus.predict c.sustain speed su grade gu d du).1.1, 0)

/-- every vehicle, any cache, any units: the accumulators grow by exactly the edge's draw -/
theorem consume_adds (v : Vehicle α) (fu : FeatureUnits) (c : Caches K α)
    (speed : α) (su : SpeedUnit) (grade : α) (gu : GradeUnit) (d : α) (du : DistanceUnit) (s : VState α) :
    (v.consumeEnergy fu c speed su grade gu d du s).1.liquid
        = s.liquid + (draw v fu c speed su grade gu d du s).1
      ∧ (v.consumeEnergy fu c speed su grade gu d du s).1.electric
        = s.electric + (draw v fu c speed su grade gu d du s).2 := by
  cases v with
  | ice r =>
    have h := ice_edge_energy r fu c speed su grade gu d du s
    exact ⟨h.1, h.2.1.trans (add_zero _).symm⟩
  | bev r b =>
    have h := bev_edge_energy r b fu c speed su grade gu d du s
    exact ⟨h.2.1.trans (add_zero _).symm, h.1⟩
  | phev sus dep b =>
    rcases lt_or_ge 0 s.soc with hsoc | hsoc
    · rw [consumeEnergy_phev_pos _ _ _ _ _ _ _ _ _ _ _ hsoc, draw, if_pos hsoc, phevApply_liquid, phevApply_electric,
        energy_conv_zero]
      exact ⟨rfl, rfl⟩
    · rw [consumeEnergy_phev_nonpos _ _ _ _ _ _ _ _ _ _ _ hsoc, draw, if_neg (not_lt.mpr hsoc), phevApply_liquid,
        phevApply_electric, energy_conv_zero]
      exact ⟨rfl, rfl⟩

/-- the draws along a route, edge by edge, as the run produces them -/
def routeDraws (svc : Service α) (eng : SpeedEngine α) (v : Vehicle α) (fu : FeatureUnits) :
    List (Edge α) → VState α × Caches K α → List (α × α)
  | [], _ => []
  | e :: es, st =>
    match eng.traverse fu e st.1, getGrade svc.gradeTable e.id, traverseEdge svc eng v fu e st with
    | .ok s1, .ok grade, .ok st' =>
      draw v fu st.2 (reconstructSpeed svc fu e st.1 s1) svc.timeModelSpeedUnit grade svc.gradeUnit
          (baseDistanceUnit.convert svc.distanceUnit e.distance) svc.distanceUnit s1
        :: routeDraws svc eng v fu es st'
    | _, _, _ => []

/-- C08 `energy_additive`: for every vehicle, edge sequence, cache and unit configuration, the accumulated
`energy_liquid` / `energy_electric` after the route are the starting values plus the sum of the per-edge draws,
one draw per edge — nothing else enters the accumulators (the time model and the charge update leave them
alone), nothing is lost or counted twice.  `routeDraws` lists the draws by replaying the run; what a draw is,
independently of the run, is said by `consume_adds` and, in closed form, by `edge_energy_*_partial`. -/
theorem energy_additive (svc : Service α) (eng : SpeedEngine α) (v : Vehicle α) (fu : FeatureUnits)
    (edges : List (Edge α)) (st st' : VState α × Caches K α)
    (h : traverseRoute svc eng v fu edges st = .ok st') :
    st'.1.liquid = st.1.liquid + ((routeDraws svc eng v fu edges st).map Prod.fst).sum
      ∧ st'.1.electric = st.1.electric + ((routeDraws svc eng v fu edges st).map Prod.snd).sum
      ∧ (routeDraws svc eng v fu edges st).length = edges.length := by
  induction edges generalizing st with
  | nil => simp only [traverseRoute] at h; cases h; simp [routeDraws]
  | cons e es ih =>
    obtain ⟨st1, h1, h⟩ := traverseRoute_cons_ok h
    obtain ⟨s1, grade, ht, hg, _, hst1⟩ := traverseEdge_ok h1
    obtain ⟨hl, hel, _⟩ := traverse_leaves_energy ht
    obtain ⟨i1, i2, i3⟩ := ih st1 h
    have hd : routeDraws svc eng v fu (e :: es) st
        = draw v fu st.2 (reconstructSpeed svc fu e st.1 s1) svc.timeModelSpeedUnit grade svc.gradeUnit
            (baseDistanceUnit.convert svc.distanceUnit e.distance) svc.distanceUnit s1
          :: routeDraws svc eng v fu es st1 := by
      simp only [routeDraws, ht, hg, h1]
    obtain ⟨c1, c2⟩ := consume_adds v fu st.2 (reconstructSpeed svc fu e st.1 s1) svc.timeModelSpeedUnit
      grade svc.gradeUnit (baseDistanceUnit.convert svc.distanceUnit e.distance) svc.distanceUnit s1
    rw [← hst1] at c1 c2
    refine ⟨?_, ?_, ?_⟩
    · rw [hd, i1, c1, hl, List.map_cons, List.sum_cons, add_assoc]
    · rw [hd, i2, c2, hel, List.map_cons, List.sum_cons, add_assoc]
    · rw [hd, List.length_cons, i3, List.length_cons]

/-! ## Caches along a route -/

/-- the caches of a vehicle are fine for the units the traversal model predicts with -/
def CachesFine (v : Vehicle α) (su : SpeedUnit) (gu : GradeUnit) (c : Caches K α) : Prop :=
  match v with
  | .ice r => CacheFine r su gu c.main
  | .bev r _ => CacheFine r su gu c.main
  | .phev sus dep _ => CacheFine dep su gu c.main ∧ CacheFine sus su gu c.sustain

/-- a vehicle whose records have no `float_cache_policy` -/
def noCaches : Caches K α := { main := none, sustain := none }

theorem cacheInUse_noCaches (v : Vehicle α) (s : VState α) :
    cacheAccepts (v.cacheInUse (noCaches : Caches K α) s) = true := by
  cases v with
  | ice r => rfl
  | bev r b => rfl
  | phev sus dep b => simp only [Vehicle.cacheInUse, noCaches]; split <;> rfl

/-- C08 (cache policy of the wrong length): a record whose `float_cache_policy` does not have one
`key_precisions` entry per model input (speed, grade) never serves an edge — the traversal fails
with a cache error instead of keying the cache on a truncated key (`FloatCachePolicy::get` checks the
length; with `key_precisions = [2]` the key would lack the grade: the instance
`cache_key_length_regression`).  The hypothesis says it in the
model's terms: the cache in use is not accepted, whatever the charge.  The vehicle builders reject
such a policy when the configuration is read: `cachesConfigOk`. -/
theorem cache_key_length_rejected (svc : Service α) (eng : SpeedEngine α) (v : Vehicle α) (fu : FeatureUnits)
    (e : Edge α) (st st' : VState α × Caches K α)
    (h : ∀ s, cacheAccepts (v.cacheInUse st.2 s) = false) :
    traverseEdge svc eng v fu e st ≠ .ok st' := by
  intro h'
  obtain ⟨s1, _, _, _, hc, _⟩ := traverseEdge_ok h'
  rw [h] at hc
  cases hc

/-- with fine caches `consume_energy` gives the state it gives without caches and leaves fine caches;
without caches it creates none -/
theorem consume_cache_irrelevant (v : Vehicle α) (fu : FeatureUnits) (c : Caches K α)
    (speed : α) (su : SpeedUnit) (grade : α) (gu : GradeUnit) (d : α) (du : DistanceUnit) (s : VState α)
    (hc : CachesFine v su gu c) :
    (v.consumeEnergy fu c speed su grade gu d du s).1
        = (v.consumeEnergy fu (noCaches : Caches K α) speed su grade gu d du s).1
      ∧ CachesFine v su gu (v.consumeEnergy fu c speed su grade gu d du s).2
      ∧ (v.consumeEnergy fu (noCaches : Caches K α) speed su grade gu d du s).2 = noCaches := by
  cases v with
  | ice r | bev r b =>
    obtain ⟨h1, h2⟩ := predict_fine r su gu c.main speed grade d du hc
    simp only [consumeEnergy_ice, consumeEnergy_bev, noCaches, CachesFine]
    exact ⟨by rw [h1], h2, rfl⟩
  | phev sus dep b =>
    obtain ⟨hm, hsus⟩ := hc
    rcases lt_or_ge 0 s.soc with hsoc | hsoc
    · obtain ⟨h1, h2⟩ := predict_fine dep su gu c.main speed grade d du hm
      simp only [consumeEnergy_phev_pos _ _ _ _ _ _ _ _ _ _ _ hsoc, noCaches, CachesFine]
      exact ⟨by rw [h1], ⟨h2, hsus⟩, rfl⟩
    · obtain ⟨h3, h4⟩ := predict_fine sus su gu c.sustain speed grade d du hsus
      simp only [consumeEnergy_phev_nonpos _ _ _ _ _ _ _ _ _ _ _ hsoc, noCaches, CachesFine]
      exact ⟨by rw [h3], ⟨hm, h4⟩, rfl⟩

/-- … hence so does `traverse_edge` -/
theorem traverseEdge_cache_irrelevant {svc : Service α} {eng : SpeedEngine α} {v : Vehicle α}
    {fu : FeatureUnits} {e : Edge α} {s : VState α} {c : Caches K α} {st1 : VState α × Caches K α}
    (hc : CachesFine v svc.timeModelSpeedUnit svc.gradeUnit c)
    (h : traverseEdge svc eng v fu e (s, c) = .ok st1) :
    traverseEdge svc eng v fu e (s, (noCaches : Caches K α)) = .ok (st1.1, noCaches)
      ∧ CachesFine v svc.timeModelSpeedUnit svc.gradeUnit st1.2 := by
  obtain ⟨s1, grade, ht, hg, _, rfl⟩ := traverseEdge_ok h
  obtain ⟨e1, e2, e3⟩ := consume_cache_irrelevant v fu c (reconstructSpeed svc fu e s s1)
    svc.timeModelSpeedUnit grade svc.gradeUnit (baseDistanceUnit.convert svc.distanceUnit e.distance)
    svc.distanceUnit s1 hc
  refine ⟨?_, e2⟩
  simp only [traverseEdge, ht, hg, cacheInUse_noCaches, if_true]
  exact congrArg Except.ok (Prod.ext e1.symm e3)

/-- C08 (with and without the prediction cache): when every cache is sound and its key determines
the prediction (e.g. an exact key, starting empty), a route produces exactly the states it produces
without any cache — every edge sequence, every capacity / eviction history. -/
theorem route_cache_irrelevant (svc : Service α) (eng : SpeedEngine α) (v : Vehicle α) (fu : FeatureUnits)
    (edges : List (Edge α)) (s : VState α) (c : Caches K α) (st' : VState α × Caches K α)
    (hc : CachesFine v svc.timeModelSpeedUnit svc.gradeUnit c)
    (h : traverseRoute svc eng v fu edges (s, c) = .ok st') :
    ∃ c', traverseRoute svc eng v fu edges (s, (noCaches : Caches K α)) = .ok (st'.1, c') := by
  induction edges generalizing s c with
  | nil => simp only [traverseRoute] at h ⊢; cases h; exact ⟨_, rfl⟩
  | cons e es ih =>
    obtain ⟨st1, h1, h⟩ := traverseRoute_cons_ok h
    obtain ⟨h1', hc1⟩ := traverseEdge_cache_irrelevant hc h1
    simp only [traverseRoute, h1']
    exact ih st1.1 st1.2 hc1 h

/-! ## Configuration: what the builders put in force, and which vehicle a query gets -/

/-- the library behaves like the `HashMap` it is: the last vehicle configured under a name wins … -/
theorem libraryGet_append_hit {β : Type} (l : List (Nat × β)) (id : Nat) (v : β) :
    libraryGet (l ++ [(id, v)]) id = some v := by
  simp [libraryGet, List.foldl_append]

/-- … and vehicles of other names do not matter -/
theorem libraryGet_append_miss {β : Type} (l1 l2 : List (Nat × β)) (id : Nat)
    (h : ∀ p ∈ l2, p.1 ≠ id) : libraryGet (l1 ++ l2) id = libraryGet l1 id := by
  induction l2 generalizing l1 with
  | nil => simp
  | cons p r ih =>
    have hp : p.1 ≠ id := h p List.mem_cons_self
    have hr : ∀ q ∈ r, q.1 ≠ id := fun q hq => h q (List.mem_cons_of_mem _ hq)
    have e : l1 ++ p :: r = (l1 ++ [p]) ++ r := by simp
    rw [e, ih (l1 ++ [p]) hr]
    simp [libraryGet, List.foldl_append, hp]

/-- C08 (vehicle selection): a query whose `model_name` is missing, is not a string, or names no
vehicle of the library gets a build error — never some other vehicle … -/
theorem select_rejected (lib : List (Nat × Vehicle α)) (q : SocQuery α) :
    selectVehicle lib .absent q = .error .build ∧ selectVehicle lib .nonString q = .error .build
      ∧ ∀ id, libraryGet lib id = none → selectVehicle lib (.name id) q = .error .build := by
  refine ⟨rfl, rfl, ?_⟩
  intro id h
  simp [selectVehicle, h]

/-- … and a query that names a configured vehicle gets exactly that vehicle, updated from the query
(so every theorem above applies to it with the configured capacity, unit, rates and adjustment) -/
theorem select_named (lib : List (Nat × Vehicle α)) (q : SocQuery α) (id : Nat) (v : Vehicle α)
    (h : libraryGet lib id = some v) : selectVehicle lib (.name id) q = v.updateFromQuery q := by
  simp [selectVehicle, h]

/-- a configured `ideal_energy_rate` and `real_world_energy_adjustment` are the ones in force; a
missing adjustment is 1 -/
theorem record_of_config (rate : α → α → α) (su : SpeedUnit) (gu : GradeUnit) (ru : EnergyRateUnit)
    (sweep : List α) (x a : α) (io ao : Option α) :
    (PredRecord.ofConfig rate su gu ru (some x) sweep ao).idealRate = x
      ∧ (PredRecord.ofConfig rate su gu ru io sweep (some a)).adjustment = a
      ∧ (PredRecord.ofConfig rate su gu ru io sweep none).adjustment = 1
      ∧ (PredRecord.ofConfig rate su gu ru none sweep ao).idealRate = findMinEnergyRate sweep := by
  refine ⟨rfl, rfl, ?_, rfl⟩
  simp [PredRecord.ofConfig]

/-- the swept ideal rate is a lower bound of every swept prediction -/
theorem findMinEnergyRate_le (sweep : List α) : ∀ r ∈ sweep, findMinEnergyRate sweep ≤ r := by
  have key : ∀ (l : List α) (m : α),
      l.foldl (fun m r => if r < m then r else m) m ≤ m ∧
        ∀ r ∈ l, l.foldl (fun m r => if r < m then r else m) m ≤ r := by
    intro l
    induction l with
    | nil => intro m; exact ⟨le_refl _, by simp⟩
    | cons a t ih =>
      intro m
      obtain ⟨h1, h2⟩ := ih (if a < m then a else m)
      have hm : (if a < m then a else m) ≤ m ∧ (if a < m then a else m) ≤ a := by
        split_ifs with ham
        · exact ⟨ham.le, le_refl _⟩
        · exact ⟨le_refl _, not_lt.mp ham⟩
      refine ⟨h1.trans hm.1, fun r hr => ?_⟩
      rcases List.mem_cons.mp hr with rfl | hr
      · exact h1.trans hm.2
      · exact h2 r hr
  exact fun r hr => (key sweep f64Max).2 r hr

/-- C08 (builder, accepted; by construction of the model — `Battery.ofConfig`'s `if` read back, tied to the
code by the builder stream): a battery the vehicle builders accept has the configured capacity — a
positive one —, the configured unit, and starts full … -/
theorem battery_capacity_positive (cap : α) (u : EnergyUnit) (b : Battery α)
    (h : Battery.ofConfig cap u = .ok b) :
    0 < b.capacity ∧ b.capacity = cap ∧ b.unit = u ∧ b.startEnergy = cap := by
  rw [Battery.ofConfig_eq] at h
  split at h
  · cases h
    exact ⟨‹_›, rfl, rfl, rfl⟩
  · cases h

/-- … and (builder, rejected) a `battery_capacity` that is not positive is a configuration error -/
theorem battery_capacity_rejected (cap : α) (u : EnergyUnit) (h : ¬ 0 < cap) :
    Battery.ofConfig cap u = .error .build :=
  (Battery.ofConfig_eq cap u).trans (if_neg h)

/-- a configured battery vehicle starts full (before any query), so `bev_soc_step` etc. read
`-100 · E[configured unit] / configured capacity` with a positive capacity -/
theorem battery_of_config (cap : α) (u : EnergyUnit) (b : Battery α) (h : Battery.ofConfig cap u = .ok b)
    (r sus dep : PredRecord α) :
    (Vehicle.bev r b).initialState.soc = 100 ∧ (Vehicle.phev sus dep b).initialState.soc = 100
      ∧ CapacityPos (Vehicle.bev r b) ∧ CapacityPos (Vehicle.phev sus dep b) := by
  obtain ⟨hpos, hc, _, hs⟩ := battery_capacity_positive cap u b h
  have e : asSocPercent b.startEnergy b.capacity = (100 : α) := by
    rw [hs, hc]
    simp only [asSocPercent, hundred_eq, zero_eq, div_self (hc ▸ hpos).ne', one_mul]
    exact clamp_of_mem (by norm_num) (le_refl _)
  exact ⟨e, e, hpos, hpos⟩

/-- C08 `soc_bounds`, end to end for a configured battery vehicle: the battery comes from the builder
(hence a positive capacity, taken from `battery_capacity_positive`, not from an artefact of
division), the query is accepted by `update_from_query`, and after any route from the initial state
the charge is within 0–100 — and the capacity in force is still the configured positive one.
Excluded, and not a theorem: a `state_features` override that starts `battery_state` outside 0–100 — the run
then starts from that value, not from `initialState`, and with the empty route the bound fails (the harness
lists it; the property speaks of the configured starting charge). -/
theorem soc_bounds_configured (svc : Service α) (eng : SpeedEngine α) (fu : FeatureUnits)
    (edges : List (Edge α)) (c : Caches K α) (st' : VState α × Caches K α)
    (cap : α) (u : EnergyUnit) (b : Battery α) (v v' : Vehicle α) (q : SocQuery α)
    (hb : Battery.ofConfig cap u = .ok b)
    (hv : (∃ r, v = .bev r b) ∨ (∃ sus dep, v = .phev sus dep b))
    (hq : v.updateFromQuery q = .ok v')
    (h : traverseRoute svc eng v' fu edges (v'.initialState, c) = .ok st') :
    (0 ≤ st'.1.soc ∧ st'.1.soc ≤ 100) ∧ CapacityPos v' := by
  have hpos := (battery_capacity_positive cap u b hb).1
  have hcv : CapacityPos v := by
    rcases hv with ⟨r, rfl⟩ | ⟨sus, dep, rfl⟩ <;> exact hpos
  have hcv' := updateFromQuery_capacityPos hq hcv
  exact ⟨soc_bounds svc eng v' fu edges _ st' hcv' (soc_initial_bounds v' hcv') h, hcv'⟩

/-- units left out of the configuration default to the base units; the service's speed unit is the
time model's -/
theorem config_defaults (rows : List (Row α)) (su : SpeedUnit) (eng : SpeedEngine α) (m : α)
    (h : SpeedEngine.ofConfig rows su none none = .ok (eng, m)) (gt : Option (List α)) (gu : GradeUnit) :
    eng.distanceUnit = baseDistanceUnit ∧ eng.timeUnit = baseTimeUnit ∧ eng.speedUnit = su
      ∧ (Service.ofConfig su gt gu none).distanceUnit = baseDistanceUnit
      ∧ (Service.ofConfig su gt gu none).timeModelSpeedUnit = su := by
  simp only [SpeedEngine.ofConfig] at h
  split at h
  · cases h
  · split at h
    · cases h
    · cases h; exact ⟨rfl, rfl, rfl, rfl, rfl⟩

/-- a speed table with a negative row or a NaN row does not build (an infinite speed does) … -/
theorem bad_speed_row_rejected (rows : List (Row α)) (su : SpeedUnit) (du : Option DistanceUnit)
    (tu : Option TimeUnit) (h : Row.nan ∈ rows ∨ ∃ x, Row.val x ∈ rows ∧ x < 0) :
    SpeedEngine.ofConfig rows su du tu = .error .build := by
  have : rows.any Row.badSpeed = true := by
    rw [List.any_eq_true]
    rcases h with h | ⟨x, hx, hneg⟩
    · exact ⟨_, h, rfl⟩
    · exact ⟨_, hx, by simpa [Row.badSpeed] using hneg⟩
  simp only [SpeedEngine.ofConfig, loadSpeedTable, this, if_true]

/-- … and neither does a grade table with a row that is not a finite number (NaN, ±inf): such a
grade would turn into a NaN energy and a NaN charge (`Grade::from_str` refuses it) -/
theorem bad_grade_row_rejected (rows : List (Row α)) (h : Row.nan ∈ rows) :
    loadGradeTable (some rows) = .error .build := by
  have : rows.any Row.isNan = true := by
    rw [List.any_eq_true]; exact ⟨_, h, rfl⟩
  simp only [loadGradeTable, this, if_true]

end

/-! ## Where the code leaves the property: machine-checked witnesses (over ℚ) -/

/-- a prediction model that rises with speed and grade and is negative on a steep downhill -/
def cxRec : PredRecord ℚ :=
  { rate := fun s g => 1 / 5 + s / 1000 + 3 * g, speedUnit := .milesPerHour, gradeUnit := .decimal,
    rateUnit := .kilowattHoursPerMile, idealRate := 1 / 5, adjustment := 1 }

/-- `key_precisions = [2]`: one precision for two inputs (`zip` would drop the grade and key on the
speed rounded to 0.01) -/
def cxCache : Cache Int ℚ :=
  { capacity := 100, keyOf := fun s _ => Rat.floor (s * 100 + 1 / 2), entries := [], arityOk := false }

/-- Witness for the oracle key `predict/cache-key-length`: the one-precision policy is refused — by
`FloatCachePolicy::get` on the first prediction and by the vehicle builders when the configuration is
read — so an uphill edge is not charged the cached flat rate. -/
theorem cache_key_length_regression :
    cacheAccepts (some cxCache) = false
      ∧ cachesConfigOk ({ main := some cxCache, sustain := none } : Caches Int ℚ) = false := by
  decide

/-- `key_precisions = [0, 0]`: both inputs are in the key, rounded to integers -/
def cxCache0 : Cache (Int × Int) ℚ :=
  { capacity := 100, keyOf := fun s g => (Rat.floor (s + 1 / 2), Rat.floor (g + 1 / 2)), entries := [] }

/-- Finding `predict/cache-rounding-collision` (the documented trade-off of a rounding cache): with a
well-formed but coarse policy two different speeds share a key — 30.4 mph
is charged the rate of 30.0 mph; the deviation is bounded by the key precision. -/
theorem cache_rounding_counterexample :
    (cxRec.predict (cxRec.predict (some cxCache0) 30 .milesPerHour 0 .decimal 1 .miles).2
        (152 / 5) .milesPerHour 0 .decimal 1 .miles).1
      ≠ (cxRec.predict (none : Option (Cache (Int × Int) ℚ)) (152 / 5) .milesPerHour 0 .decimal 1 .miles).1 := by
  decide +kernel

/-- a BEV whose battery capacity is configured in gallons of gasoline while its rate is in kWh per mile -/
def cxMixedBev : Vehicle ℚ := .bev cxRec { capacity := 2, startEnergy := 1, unit := .gallonsGasoline }
/-- a full 60 kWh BEV on the same record, battery and rate both in kWh (it is `exBev 60`) -/
def exBevCx : Vehicle ℚ := .bev cxRec { capacity := 60, startEnergy := 60, unit := .kilowattHours }
/-- state features of the mixed-unit witness: both energy accumulators in gallons of gasoline -/
def cxMixedUnits : FeatureUnits :=
  { time := .hours, distance := .miles, liquid := .gallonsGasoline, electric := .gallonsGasoline }

/-- Witness for the oracle key `best_case_energy_state/unit-mix`: the best-case energy of 10 miles is
2 kWh = 0.062 gallons; `best_case_energy_state` records 0.062 gallons and moves the half-full 2-gallon
battery to 46.9 % (taking the 2 for gallons would empty it). -/
theorem best_case_state_unit_mix_regression :
    (cxMixedBev.bestCaseEnergyState cxMixedUnits 10 .miles cxMixedBev.initialState).electric
        = cxMixedBev.initialState.electric
            + EnergyUnit.kilowattHours.convert .gallonsGasoline (cxMixedBev.bestCaseEnergy 10 .miles).1
      ∧ (cxMixedBev.bestCaseEnergyState cxMixedUnits 10 .miles cxMixedBev.initialState).soc
        = clamp (cxMixedBev.initialState.soc
            - 100 * EnergyUnit.kilowattHours.convert .gallonsGasoline (cxMixedBev.bestCaseEnergy 10 .miles).1 / 2)
            0 100
      ∧ 0 < (cxMixedBev.bestCaseEnergyState cxMixedUnits 10 .miles cxMixedBev.initialState).soc := by
  decide +kernel

/-- Why the charge theorems assume a positive capacity: the field artefact of the header ("f64 arithmetic") as
an instance — a zero capacity gives a charge of 0, within bounds, where the code computes NaN.  That is what
`BEV::new` / `PHEV::new` still do with a capacity of 0 when called directly; the builders refuse it (oracle key
`builder/battery-capacity-invalid`; a negative capacity would make consumption raise the charge). -/
theorem soc_capacity_zero_artefact : asSocPercent (0 : ℚ) 0 = 0 := by decide +kernel

/-- Witness for the oracle key `builder/battery-capacity-invalid`: the builders refuse a zero and a
negative capacity, and accept 60 kWh. -/
theorem battery_capacity_regression :
    Battery.ofConfig (0 : ℚ) .kilowattHours = .error .build
      ∧ Battery.ofConfig (-5 : ℚ) .kilowattHours = .error .build
      ∧ (∃ b, Battery.ofConfig (60 : ℚ) .kilowattHours = .ok b ∧ b.capacity = 60) := by
  refine ⟨battery_capacity_rejected _ _ (by norm_num), battery_capacity_rejected _ _ (by norm_num), ?_⟩
  exact ⟨_, (Battery.ofConfig_eq _ _).trans (if_pos (by norm_num)), rfl⟩

/-
Full statement of `soc_start` / `soc_rejected` / `soc_bounds` over *every* way a query can set the
starting charge: besides `starting_soc_percent` (range-checked by `update_from_query`, theorems
`soc_rejected`, `soc_start`) the query's `state_features` section may replace the `battery_state`
feature, and its initial value is taken as is.  The theorems above therefore carry the hypothesis
"the route starts from `initialState`" (or `0 ≤ soc ≤ 100` at the start); without it:
-/
/-- Defect witness (`state_features/soc-unchecked`): a query with `starting_soc_percent = 50` and a
`state_features.battery_state` whose initial value is 250 is accepted and the route starts at 250 %. -/
theorem state_features_soc_counterexample :
    (match exBevCx.updateFromQuery (.num 50) with
      | .ok v' => decide ((v'.initialStateWith (some 250)).soc = 250 ∧ ¬ (v'.initialStateWith (some 250)).soc ≤ 100)
      | .error _ => false) = true := by
  decide +kernel

/-! ## Non-vacuity: a concrete world in which the hypotheses hold and every branch is taken -/

def exSvc : Service ℚ :=
  { timeModelSpeedUnit := .kilometersPerHour, gradeTable := some [0, 1 / 20, -1 / 5], gradeUnit := .decimal,
    distanceUnit := .miles }
def exEng : SpeedEngine ℚ :=
  { speedTable := [50, 60, 80], speedUnit := .kilometersPerHour, distanceUnit := .kilometers, timeUnit := .minutes }
def exRoute : List (Edge ℚ) := [⟨0, 2000⟩, ⟨1, 3000⟩, ⟨2, 5000⟩, ⟨2, 5000⟩]
def exNoCache : Caches Int ℚ := noCaches
def exBev (cap : ℚ) : Vehicle ℚ := .bev cxRec { capacity := cap, startEnergy := cap, unit := .kilowattHours }
def exLiquid : PredRecord ℚ :=
  { cxRec with rate := fun s g => 1 / 40 + s / 10000 + g / 4, rateUnit := .gallonsGasolinePerMile, idealRate := 1 / 50 }
def exPhev (cap : ℚ) : Vehicle ℚ := .phev exLiquid cxRec { capacity := cap, startEnergy := cap, unit := .kilowattHours }
def exUnits (v : Vehicle ℚ) : FeatureUnits := v.featureUnits .minutes .kilometers

def socAfter (v : Vehicle ℚ) (q : ℚ) (edges : List (Edge ℚ)) : Option (VState ℚ) :=
  match v.updateFromQuery (.num q) with
  | .error _ => none
  | .ok v' =>
    match traverseRoute exSvc exEng v' (exUnits v') edges (v'.initialState, exNoCache) with
    | .error _ => none
    | .ok st => some st.1

-- the route is accepted; after two edges the charge is strictly inside (0,100) (unclamped steps),
-- the steep downhill edges give negative energy (the accumulated energy falls) and a small battery
-- is regenerated up to the clamp at 100
example : ((socAfter (exBev 60) 50 (exRoute.take 2)).map fun s => decide (0 < s.soc ∧ s.soc < 50)) = some true := by
  decide +kernel
example : ((socAfter (exBev 60) 50 exRoute).bind fun s =>
    (socAfter (exBev 60) 50 (exRoute.take 2)).map fun s2 => decide (s.electric < s2.electric ∧ s2.soc < s.soc))
      = some true := by
  decide +kernel
example : ((socAfter (exBev (1 / 10)) 99 exRoute).map fun s => decide (s.soc = 100)) = some true := by
  decide +kernel
-- a tiny battery is emptied by the first edges (clamp at 0)
example : ((socAfter (exBev (1 / 100)) 50 (exRoute.take 2)).map fun s => decide (s.soc = 0)) = some true := by
  decide +kernel
-- PHEV: electricity first, then liquid fuel once empty, and it stays empty downhill
example : ((socAfter (exPhev (1 / 10)) 50 (exRoute.take 1)).map fun s =>
    decide (s.liquid = 0 ∧ 0 < s.electric ∧ s.soc = 0)) = some true := by
  decide +kernel
example : ((socAfter (exPhev (1 / 10)) 50 (exRoute.take 2)).map fun s => decide (0 < s.liquid ∧ s.soc = 0)) = some true := by
  decide +kernel
example : ((socAfter (exPhev (1 / 10)) 50 exRoute).map fun s => decide (s.soc = 0)) = some true := by
  decide +kernel
-- starting charge: accepted inside, rejected outside, and it is where the route starts
example : ((socAfter (exBev 60) 50 []).map fun s => decide (s.soc = 50)) = some true := by decide +kernel
example : socAfter (exBev 60) 101 [] = none ∧ socAfter (exPhev 12) (-1 / 1000) [] = none := by
  constructor <;> decide +kernel
-- the best case is the ideal rate × distance
example : (exBev 60).bestCaseEnergy 10 .miles = (2, .kilowattHours) := by decide +kernel

-- `soc_bounds_configured` applies to a realistic configuration: a 60 kWh battery accepted by the builder,
-- a query starting at 50 %, the four-edge route above — every hypothesis instantiated
example : ∃ b v', Battery.ofConfig (60 : ℚ) .kilowattHours = .ok b
    ∧ (Vehicle.bev cxRec b).updateFromQuery (.num 50) = .ok v'
    ∧ (∃ st', traverseRoute exSvc exEng v' (exUnits v') exRoute (v'.initialState, exNoCache) = .ok st')
    ∧ ∀ st', traverseRoute exSvc exEng v' (exUnits v') exRoute (v'.initialState, exNoCache) = .ok st' →
        (0 ≤ st'.1.soc ∧ st'.1.soc ≤ 100) ∧ CapacityPos v' := by
  have hb := (Battery.ofConfig_eq (60 : ℚ) .kilowattHours).trans (if_pos (by norm_num))
  have hq : (Vehicle.bev cxRec (Battery.unchecked (60 : ℚ) .kilowattHours)).updateFromQuery (.num 50)
      = .ok (Vehicle.bev cxRec { capacity := 60, startEnergy := Lit.lit 1 100 * 50 * 60, unit := .kilowattHours }) :=
    (withStartSoc_match_eq _ _ _).trans (if_pos (by norm_num))
  refine ⟨_, _, hb, hq, ?_, ?_⟩
  · have : (match traverseRoute exSvc exEng
        (Vehicle.bev cxRec { capacity := 60, startEnergy := Lit.lit 1 100 * 50 * 60, unit := .kilowattHours })
        (exUnits (Vehicle.bev cxRec { capacity := 60, startEnergy := Lit.lit 1 100 * 50 * 60, unit := .kilowattHours }))
        exRoute ((Vehicle.bev cxRec { capacity := 60, startEnergy := Lit.lit 1 100 * 50 * 60, unit := .kilowattHours }).initialState, exNoCache) with
        | .ok _ => true | .error _ => false) = true := by decide +kernel
    split at this
    · exact ⟨_, ‹_›⟩
    · cases this
  · intro st' h
    exact soc_bounds_configured exSvc exEng _ exRoute exNoCache st' 60 .kilowattHours _ _ _ (.num 50) hb
      (Or.inl ⟨cxRec, rfl⟩) hq h

section
open Src

/-! ### Source decision ties

Each `src_*` theorem ties a `Src.*` definition, regenerated from the Rust source on every run, to the model function
it transcribes: a changed source body makes it fail. -/

/-- A SYNTACTIC tie (as `C02.src_max_speed_fold`): a running minimum is the same under `<` and `<=`; the
statement with `.le` is also true, the proof script is what stops checking when the operator changes. -/
theorem src_energy_rate_floor {α : Type} [Field α] [LinearOrder α] [IsStrictOrderedRing α] [Lit α] [LawfulLit α] (sweep : List α) :
    Energy.findMinEnergyRate sweep =
      sweep.foldl (fun m r => if energy_rate_floor.num r m = some true then r else m) Energy.f64Max := by
  simp [Energy.findMinEnergyRate, energy_rate_floor, Rel.num]

theorem src_phev_battery_left {α : Type} [Field α] [LinearOrder α] [IsStrictOrderedRing α] [Lit α] [LawfulLit α] {K : Type} (sus dep : Energy.PredRecord α) (b : Energy.Battery α)
    (c : Energy.Caches K α) (s : Energy.VState α) :
    (Energy.Vehicle.phev sus dep b).cacheInUse c s =
      if phev_battery_left.num s.soc (zero : α) = some true then c.main else c.sustain := by
  simp [Energy.Vehicle.cacheInUse, phev_battery_left, Rel.num]


/-! ### Generated function bodies

`tools/gen_fns.py` re-translates the body of the Rust function on every run into `Compass/Gen/FnsC08.lean`
(conventions in the header of the tool).  Each `gen_*_eq` theorem below says that the generated definition
*is* the hand-written model function the property theorems are about.  A source change to the function
changes the generated definition and the proof stops checking (a body the translator no longer recognises is
not emitted: the theorem no longer elaborates). -/

/-- Both sides divide by `max` in the field, the Rust function in `f64`: the equality speaks for the code only for
`max ≠ 0` (header, "f64 arithmetic"), which the builders guarantee. -/
theorem gen_as_soc_percent_eq {α : Type} [Field α] [LinearOrder α] [IsStrictOrderedRing α] [Lit α] [LawfulLit α] (remaining max : α) :
    Gen.as_soc_percent remaining max = Energy.asSocPercent remaining max := rfl

/-- as `gen_as_soc_percent_eq`: meaningful for `max ≠ 0` -/
theorem gen_soc_from_battery_and_delta_eq {α : Type} [Field α] [LinearOrder α] [IsStrictOrderedRing α] [Lit α] [LawfulLit α] (start used max : α) :
    Gen.soc_from_battery_and_delta start used max = Energy.socFromBatteryAndDelta start used max := rfl

end

end C08
end Compass
