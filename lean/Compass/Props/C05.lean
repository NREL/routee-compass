/-
C05 — "no path" is reported exactly when the destination is unreachable; a destination-less search
returns exactly the reachable set.

"Restrictions that depend only on the edge itself" is all the first two clauses need
(`SearchReach.ValidLocal`: consistent incident lists, and a frontier verdict that — whenever the
model answers — is a function `ok` of the edge): *which* vertices get labelled does not depend on
what is charged.  So the reachability theorems hold for **every** traversal, access (turn delays
included) and cost model, every estimate and weight factor, every termination model, direction and
schedule: `result_iff_reachable_local`, `tree_is_reachable_set_local`, and for concrete
configurations `Config.RestrictionLocal` = consistent adjacency + no turn-restriction model
(`config_nopath_iff_unreachable`, `config_tree_reachable`), vertex- and edge-oriented
(`config_edge_oriented_…`).  Calls that fail fail the run with their own error kind, and every theorem
is about runs that returned a result or "no path"; no component answers "no path" itself
(`config_no_spurious_nopath`).  The failing calls: a missing delay-table entry, a heading outside the
turn classes, a short state vector; `create_time` on a **zero length** or a **zero table speed**
under the speed-table model (C09 demands that rejection — `Time::create` has no answer for a
non-positive distance or speed —, but the search does not skip the edge: the error leaves
`run_a_star`, so one zero-length edge relaxed on the way fails a query whose destination is
reachable; example `zero_length_edge_fails_the_query` below, corpus cases of harness/src/searchprops.rs);
and the **estimate of a vertex whose coordinates the haversine function refuses** (outside
[-180, 180] × [-90, 90], e.g. latitude and longitude swapped): `run_a_star` asks for the estimate of
every vertex it labels whatever the weight factor, so such a vertex fails the query with a traversal
error for Dijkstra too, while the destination-less search (no estimate) returns its tree (model: a
negative entry of the great-circle table is the marker "no value", `Model/Instance.lean` `estimate`;
example `out_of_range_vertex_fails_the_query`).  `Config.WellFormedDistance` therefore carries the
premise `gc_nonneg` (every vertex in range); the vertex file is read without
a range check, so this is a premise on the network, not a guarantee of the loader.

The third clause — each tree vertex labelled with its least cost — is claimed by the property only
"when edge costs do not depend on how the edge was reached": `Config.EdgeLocal` (additionally no
access model), `config_tree_reachable_least_cost`; `tree_is_reachable_set_on` is its instance-level
form (`UniformCostOn`: premises only on the calls the search makes).

The reachability theorems of the first sections are of the form "if the run returned …": there
"reachable ⇒ a route is returned" holds among the outcomes result / "no path" (the premise `hres`),
which excludes the explicit termination and the failing calls listed in
`config_run_result_or_benign`, and the model's two schedule-replay errors.  That a run *ends*, and ends
in one of these two outcomes, is the section "The search ends, and ends with the right
answer" (before the source ties): `dijkstra_decides_reachability`, `search_decides_reachability`, `tree_search_returns` — on
well-formed distance configurations (`Config.WellFormedDistance`: distance traversal model, no access
model, no turn restrictions, every vertex in range) whose limits do not fire within the bounds the
termination proofs give (a configured limit that is large enough is inside the premise) — and, with
any access model, `dijkstra_with_access_model_ends_and_decides` (the end may then be a component error
or a termination).  Not proved: that the pops the implementation makes form an accepted schedule
(evidenced by the correspondence run, which replays them).

Outside every theorem (ordered fields have no +∞, NaN or overflow; see the header of `Props/C01.lean`):
a tentative cost of +∞ (1e308 m at weight 10) or NaN never improves on a *missing* label, so the far
end of such an edge stays unlabelled and a destination behind it is answered "no path" (corpus
witnesses; the extreme-value stream of harness/src/searchprops.rs).
-/
import Compass.Gen.Decisions
import Compass.Proofs.Num
import Compass.Model.Search
import Compass.Proofs.SearchOpt
import Compass.Proofs.ConfigUniform
import Compass.Proofs.ConfigProgress
import Compass.Proofs.SearchTermination

namespace Compass
namespace C05

open SearchOpt

variable {α : Type} [Field α] [LinearOrder α] [IsStrictOrderedRing α] [Lit α] [LawfulLit α]

/-! ### Every instance with an edge-local frontier verdict — no premise on costs -/

/-- a result implies that the destination is reachable through permitted edges — any traversal /
access / cost model, any heuristic (state-dependent or not), any weight factor -/
theorem result_implies_reachable_local {I : Inst α} {ok : Nat → Bool} (L : SearchReach.ValidLocal I ok)
    (hyg : NoSpuriousNoPath I) {source t : Nat} {sched : List Nat} {s : SState α}
    (hrun : runAStar I source (some t) sched = .ok s) : ∃ es, Walk I ok source es t :=
  SearchReach.ok_walk L.validOn hrun

/-- "no path" implies that it is not, under the same premises -/
theorem nopath_implies_unreachable_local {I : Inst α} {ok : Nat → Bool} (L : SearchReach.ValidLocal I ok)
    (hyg : NoSpuriousNoPath I) {source t : Nat} {sched : List Nat}
    (hrun : runAStar I source (some t) sched = .error .noPath) : ¬ ∃ es, Walk I ok source es t :=
  SearchReach.nopath_imp_unreachable L.validOn hyg hrun

/-- among the two outcomes "a result" and "no path", the search returns a result if and only if the
destination is reachable through permitted edges, and "no path" if and only if it is not -/
theorem result_iff_reachable_local {I : Inst α} {ok : Nat → Bool} (L : SearchReach.ValidLocal I ok)
    (hyg : NoSpuriousNoPath I) {source t : Nat} {sched : List Nat}
    (hres : (∃ s, runAStar I source (some t) sched = .ok s) ∨
      runAStar I source (some t) sched = .error .noPath) :
    ((∃ s, runAStar I source (some t) sched = .ok s) ↔ ∃ es, Walk I ok source es t) ∧
    (runAStar I source (some t) sched = .error .noPath ↔ ¬ ∃ es, Walk I ok source es t) :=
  SearchReach.outcome_iff_reachable L.validOn hyg hres

/-- a search without a destination labels precisely the vertices reachable from the origin -/
theorem tree_is_reachable_set_local {I : Inst α} {ok : Nat → Bool} (L : SearchReach.ValidLocal I ok)
    (hyg : NoSpuriousNoPath I) {source : Nat} {sched : List Nat} {s : SState α}
    (hrun : runAStar I source none sched = .ok s) (v : Nat) :
    (s.g v).isSome ↔ ∃ es, Walk I ok source es v :=
  SearchReach.tree_eq_reachable L hyg hrun v

/-! ### The same with the premises restricted to the calls the search makes -/

/-- result ⇔ reachable and "no path" ⇔ unreachable, premises only on the pairs satisfying `S` -/
theorem result_iff_reachable_on {I : Inst α} {S : Option Nat → List α → Prop} {ok : Nat → Bool}
    {c hv : Nat → α} (U : UniformCostOn I S ok c) (hh : VertexHOn I S hv)
    (hyg : NoSpuriousNoPath I) {source t : Nat} {sched : List Nat}
    (hres : (∃ s, runAStar I source (some t) sched = .ok s) ∨
      runAStar I source (some t) sched = .error .noPath) :
    ((∃ s, runAStar I source (some t) sched = .ok s) ↔ ∃ es, Walk I ok source es t) ∧
    (runAStar I source (some t) sched = .error .noPath ↔ ¬ ∃ es, Walk I ok source es t) :=
  SearchReach.outcome_iff_reachable U.validOn hyg hres

/-- destination-less search: labelled = reachable, each label the least cost -/
theorem tree_is_reachable_set_on {I : Inst α} {S : Option Nat → List α → Prop} {ok : Nat → Bool}
    {c : Nat → α} (U : UniformCostOn I S ok c) {source : Nat} {sched : List Nat} {s : SState α}
    (hrun : runAStar I source none sched = .ok s) (v : Nat) :
    ((∃ x, s.g v = some x) ↔ ∃ es, Walk I ok source es v) ∧
    ∀ x, s.g v = some x →
      (∃ es, Walk I ok source es v ∧ cost c es = x) ∧ ∀ es, Walk I ok source es v → x ≤ cost c es :=
  ⟨tree_eq_reachable_on U hrun v, fun x hx => tree_labels_optimal_on U hrun v x hx⟩

/-! ### Concrete configurations -/

/-- no component of a configuration's instance answers "no path" itself -/
theorem config_no_spurious_nopath (c : Config α) : NoSpuriousNoPath c.inst :=
  c.noSpuriousNoPath

/-- **C05 on a concrete configuration**: for every configuration without turn-restriction model —
any traversal model, **any access model (turn delays included)**, any cost model, weight factor,
termination model, direction and schedule — among the outcomes "a result" and "no path"
`Config.runVertex` answers "no path" exactly when the destination is unreachable through permitted
edges (`okOf`: every frontier model permits the edge) -/
theorem config_nopath_iff_unreachable (c : Config α) (h : c.RestrictionLocal) {source t : Nat}
    {sched : List Nat}
    (hres : (∃ r, c.runVertex source (some t) sched = .ok r) ∨
      c.runVertex source (some t) sched = .error .noPath) :
    (c.runVertex source (some t) sched = .error .noPath ↔
        ¬ ∃ es, Walk c.inst c.okOf source es t) ∧
    ((∃ r, c.runVertex source (some t) sched = .ok r) ↔ ∃ es, Walk c.inst c.okOf source es t) :=
  SearchReach.config_nopath_iff_unreachable c h hres

/-- the two implications, without the premise on the outcome -/
theorem config_nopath_implies_unreachable (c : Config α) (h : c.RestrictionLocal) {source t : Nat}
    {sched : List Nat} (hrun : c.runVertex source (some t) sched = .error .noPath) :
    ¬ ∃ es, Walk c.inst c.okOf source es t :=
  SearchReach.config_nopath_implies_unreachable c h hrun

theorem config_result_implies_reachable (c : Config α) (h : c.RestrictionLocal) {source t : Nat}
    {sched : List Nat} {r : AlgResult α} (hrun : c.runVertex source (some t) sched = .ok r) :
    ∃ es, Walk c.inst c.okOf source es t :=
  SearchReach.config_result_implies_reachable c h hrun

/-- destination-less search on a concrete configuration (same premise: any access model): the
returned tree holds exactly the vertices reachable from the origin through permitted edges, other
than the origin itself, which has no entry -/
theorem config_tree_reachable (c : Config α) (h : c.RestrictionLocal) {source : Nat}
    {sched : List Nat} {r : AlgResult α} (hrun : c.runVertex source none sched = .ok r) :
    ∃ tree, r.trees = [tree] ∧ tree source = none ∧
      ∀ v, (v = source ∨ (tree v).isSome) ↔ ∃ es, Walk c.inst c.okOf source es v :=
  SearchReach.config_tree_reachable c h hrun

/-- **edge-oriented query with a destination** (`search_algorithm::run_edge_oriented`, distinct
origin and destination edges; the vertex-level origin is the origin edge's head `e1.dst`, the
vertex-level destination the destination edge's tail `e2.src`): a result implies that `e2.src` is
reachable from `e1.dst` through permitted edges, "no path" that it is not, and among these two
outcomes each happens exactly then.  The origin and destination edges themselves are the query's and
are not subject to the restrictions (C04 `edge_oriented_endpoint_edges_counterexample`); when they
are adjacent the connecting walk is empty and "no path" is never answered. -/
theorem config_edge_oriented_nopath_iff_unreachable (c : Config α) (h : c.RestrictionLocal)
    (source tgt : Nat) (sched : List Nat) (e1 e2 : EdgeRec α)
    (h1 : c.edges[source]? = some e1) (h2 : c.edges[tgt]? = some e2) (hne : source ≠ tgt) :
    ((∃ r, c.runEdge source (some tgt) sched = .ok r) → ∃ es, Walk c.inst c.okOf e1.dst es e2.src) ∧
    (c.runEdge source (some tgt) sched = .error .noPath →
      ¬ ∃ es, Walk c.inst c.okOf e1.dst es e2.src) ∧
    ((∃ r, c.runEdge source (some tgt) sched = .ok r) ∨
        c.runEdge source (some tgt) sched = .error .noPath →
      ((∃ r, c.runEdge source (some tgt) sched = .ok r) ↔
        ∃ es, Walk c.inst c.okOf e1.dst es e2.src) ∧
      (c.runEdge source (some tgt) sched = .error .noPath ↔
        ¬ ∃ es, Walk c.inst c.okOf e1.dst es e2.src)) := by
  obtain ⟨hok, hnp⟩ :=
    SearchReach.config_edge_oriented_reachability c h source tgt sched e1 e2 h1 h2 hne
  have hok' : (∃ r, c.runEdge source (some tgt) sched = .ok r) →
      ∃ es, Walk c.inst c.okOf e1.dst es e2.src := fun ⟨r, hr⟩ => hok r hr
  exact ⟨hok', hnp, SearchOpt.iff_of_outcomes hok' hnp⟩

/-- **destination-less edge-oriented search**: the returned tree holds exactly the vertices reachable
from the origin edge's head through permitted edges — the head itself included, under which the
wrapper stores the origin edge's own entry -/
theorem config_edge_oriented_tree_reachable (c : Config α) (h : c.RestrictionLocal)
    (source : Nat) (sched : List Nat) (r : AlgResult α) (e1 : EdgeRec α)
    (h1 : c.edges[source]? = some e1) (hrun : c.runEdge source none sched = .ok r) :
    ∃ tree, r.trees = [tree] ∧
      ∀ v, (tree v).isSome ↔ ∃ es, Walk c.inst c.okOf e1.dst es v := by
  obtain ⟨res, hres, _, htrees, _⟩ := SearchRoute.runEdge_none c h.adj source sched r e1 h1 hrun
  obtain ⟨tree', htrees', _, hreach⟩ := config_tree_reachable c h (runVertex_eq hres)
  cases htrees'
  refine ⟨_, htrees, fun v => ?_⟩
  rw [← hreach v]
  by_cases hv : v = e1.dst
  · subst hv
    simp
  · rw [SearchTree.upd_other _ _ _ hv]
    simp [hv]

/-- destination-less search, third clause — "each labelled with its least cost when edge costs do
not depend on how the edge was reached" (`Config.EdgeLocal`: additionally no access model): the tree
holds exactly the reachable vertices, and the parent chain of each is a valid walk of least summed
cost -/
theorem config_tree_reachable_least_cost (c : Config α) (h : c.EdgeLocal) {source : Nat}
    {sched : List Nat} {r : AlgResult α} (hrun : c.runVertex source none sched = .ok r) :
    ∃ tree, r.trees = [tree] ∧
      (∀ v, (v = source ∨ (tree v).isSome) ↔ ∃ es, Walk c.inst c.okOf source es v) ∧
      ∀ v path, SearchTree.PathTo source tree v path →
        Walk c.inst c.okOf source (path.map (·.edge)) v ∧
        (path.map (fun b => b.access + b.traversal)).sum = cost c.costOf (path.map (·.edge)) ∧
        ∀ es, Walk c.inst c.okOf source es v →
          (path.map (fun b => b.access + b.traversal)).sum ≤ cost c.costOf es := by
  obtain ⟨tree, htree, _, hreach⟩ := SearchReach.config_tree_reachable c h.restrictionLocal hrun
  obtain ⟨res, hres, htrees, _, _⟩ := runVertex_ok hrun
  refine ⟨tree, htree, hreach, fun v path hp => ?_⟩
  rw [htrees] at htree
  cases htree
  obtain ⟨x, _, hw, hsum, _, hmin⟩ := SearchRoute.tree_paths_optimal_on (c.inst_wf h.adj)
    (c.uniformCostOn h) (SearchTree.runVertexOriented_none hres).1 hp
  exact ⟨hw, hsum, hmin⟩

/-- the premise "among the outcomes result / no path" excludes nothing but terminations: on a
well-formed configuration (distance model: the distance feature exists, the cost vectors cover the
features, no frontier model errs on a graph edge, listed edge ids are graph edges, the great-circle
table covers the vertices) a run returns a result or ends in "no path", the explicit termination
(or the zero-frequency panic of the runtime limit) or one of the two schedule-replay errors of the
model — never in a network / frontier / traversal / access / cost / state / internal error.  This is
where the state invariant "one slot per feature, last edge in the graph" is needed. -/
theorem config_run_result_or_benign (c : Config α) {du : DistanceUnit}
    (W : c.WellFormedDistance du) {source : Nat} {target : Option Nat}
    (G : c.GraphOK source target.isSome) (sched : List Nat) (k : ErrKind)
    (h : c.runVertex source target sched = .error k) :
    k = .noPath ∨ (∃ ks, k = .terminated ks) ∨ k = .panic "termination-frequency-zero" ∨
      k = .badSchedule ∨ k = .scheduleExhausted :=
  config_run_benign c W G sched k h

/-- the total form of the premises: on a well-formed configuration, from every (last edge, state)
pair with one slot per feature and a graph edge as last edge, the frontier models answer `okOf` and
the traversal answers, charges `costOf` and passes the invariant on -/
theorem config_calls_answer (c : Config α) {du : DistanceUnit} (W : c.WellFormedDistance du)
    {e : Nat} (he : e < c.edges.length) {le : Option Nat} {st : List α} (hS : c.StateOK le st) :
    c.inst.valid e st le = .ok (c.okOf e) ∧
    ∃ ac tc st', c.inst.trav e le st = .ok (ac, tc, st') ∧ ac + tc = c.costOf e ∧
      c.StateOK (some e) st' :=
  ⟨c.valid_total W he le st, c.trav_total W he hS⟩

/-! ### Non-vacuity on a concrete configuration: the isolated vertex 4 of `exC` gives "no path",
vertex 3 a result, and the theorem turns each into the (un)reachability statement -/

section
open ConfigUniform.Example SearchRoute.Example

example : ¬ ∃ es, Walk exC.inst exC.okOf 0 es 4 :=
  config_nopath_implies_unreachable exC exC_edgeLocal.restrictionLocal exC_nopath

example : ∃ es, Walk exC.inst exC.okOf 0 es 3 := by
  obtain ⟨r, hr⟩ := ok_of_routeEdgesOf exC_run
  exact ((config_nopath_iff_unreachable exC exC_edgeLocal.restrictionLocal (Or.inl ⟨r, hr⟩)).2).1 ⟨r, hr⟩

/-- destination-less run on `exC`: vertices 0–3 are in the tree (or the source), 4 is not -/
example : ∃ r tree, exC.runVertex 0 none [0, 1, 2, 3] = .ok r ∧ r.trees = [tree] ∧
    (tree 3).isSome ∧ (tree 4).isNone ∧ ¬ ∃ es, Walk exC.inst exC.okOf 0 es 4 := by
  obtain ⟨r, tree', hr, ht', hl⟩ := tree_of_treeEntriesOf
    (show treeEntriesOf (exC.runVertex 0 none [0, 1, 2, 3]) [3, 4] = some [[some (1, 7), none]] by
      decide +kernel)
  obtain ⟨tree, ht, hreach, _⟩ := config_tree_reachable_least_cost exC exC_edgeLocal hr
  rw [(List.cons.inj (ht'.symm.trans ht)).1] at hl
  obtain ⟨h3, hl⟩ := List.cons.inj hl
  have h4 : tree 4 = none := Option.map_eq_none_iff.1 (List.cons.inj hl).1
  refine ⟨r, tree, hr, ht, ?_, by rw [h4]; rfl, fun hex => ?_⟩
  · have h3' : ((tree 3).map fun b => (b.terminal, b.edge)) = some (1, 7) := h3
    cases h : tree 3 with
    | none => rw [h] at h3'; cases h3'
    | some b => rfl
  · have := (hreach 4).2 hex
    rw [h4] at this
    simp at this

/-- `exC` is well formed: whatever the schedule, a run from vertex 0 returns or ends benignly -/
example (target : Option Nat) (sched : List Nat) (k : ErrKind)
    (h : exC.runVertex 0 target sched = .error k) :
    k = .noPath ∨ (∃ ks, k = .terminated ks) ∨ k = .panic "termination-frequency-zero" ∨
      k = .badSchedule ∨ k = .scheduleExhausted :=
  config_run_result_or_benign exC exC_wellFormed (exC_graphOK 0 (by decide) _) sched k h

end

/-! ### Non-vacuity with a turn-delay access model

`delayConfig`: five vertices (4 is isolated), edges 0: 0→1, 1: 1→2, 2: 0→2 (cut), 3: 2→3; a
turn-delay access model (headings per edge, a delay for every turn class — the right turn costs
30 s), distance and time both in the cost; weight factor one.  The charge for edge 1 depends on the
edge it is reached by, so the configuration is outside `Config.EdgeLocal`; it is
`Config.RestrictionLocal`, and the theorems apply to its runs. -/

def delayConfig : Config ℚ where
  nV := 5
  edges := [⟨0, 1, 100⟩, ⟨1, 2, 100⟩, ⟨0, 2, 50⟩, ⟨2, 3, 100⟩]
  outAdj := [[0, 2], [1], [3], [], []]
  inAdj := [[], [0], [1, 2], [3], []]
  feats := [{ name := "distance", kind := .dist .meters, init := 0 },
            { name := "time", kind := .time .seconds, init := 0 }]
  trav := .distance .meters
  access := .turnDelay .seconds [(0, none), (90, none), (45, none), (90, some 180)]
    [some 0, some 1, some 2, some 30, some 4, some 5, some 6, some 7]
  cost := { indices := [0, 1], weights := [1, 1], vehicleRates := [.raw, .raw],
            networkRates := [.zero, .zero], agg := .sum }
  frontier := [.edgeCut [2]]
  term := .combined []
  reverse := false
  gc := [0, 0, 0, 0, 0]
  wf := none

theorem delayConfig_local : delayConfig.RestrictionLocal :=
  ⟨adjConsistent_of_lists _ (by decide), rfl⟩

/-- the run 0 → 3 on `delayConfig`, evaluated once: its route and what each element was charged -/
theorem delayConfig_run :
    (SearchRoute.Example.routeEdgesOf (delayConfig.runVertex 0 (some 3) [0, 1, 2, 3]),
      SearchRoute.Example.routeCostsOf (delayConfig.runVertex 0 (some 3) [0, 1, 2, 3])) =
    (some [[0, 1, 3]], some [[100, 130, 100]]) := by
  decide +kernel

/-- the access model is really in play: edge 1 after edge 0 is a right turn and costs its length
plus the 30 s delay, and the configuration has an access model (so it is not `EdgeLocal`) -/
example : SearchRoute.Example.routeCostsOf (delayConfig.runVertex 0 (some 3) [0, 1, 2, 3]) =
    some [[100, 130, 100]] ∧ delayConfig.access ≠ .noAccess := by
  refine ⟨(Prod.mk.inj delayConfig_run).2, ?_⟩
  intro h; cases h

/-- a result towards vertex 3 (round the cut edge), "no path" towards the isolated vertex 4; each is
turned into the (un)reachability statement -/
example : (∃ es, Walk delayConfig.inst delayConfig.okOf 0 es 3) ∧
    ¬ ∃ es, Walk delayConfig.inst delayConfig.okOf 0 es 4 := by
  obtain ⟨r, hr⟩ := SearchRoute.Example.ok_of_routeEdgesOf (Prod.mk.inj delayConfig_run).1
  have herr : ConfigUniform.Example.errOf (delayConfig.runVertex 0 (some 4) [0, 1, 2, 3]) =
      some .noPath := by decide +kernel
  exact ⟨config_result_implies_reachable delayConfig delayConfig_local hr,
    config_nopath_implies_unreachable delayConfig delayConfig_local
      (ConfigUniform.Example.error_of_errOf herr)⟩

/-- destination-less: vertices 1, 2, 3 are in the tree, the isolated vertex 4 is not -/
example : ∃ r tree, delayConfig.runVertex 0 none [0, 1, 2, 3] = .ok r ∧ r.trees = [tree] ∧
    ((tree 4).isSome ↔ ∃ es, Walk delayConfig.inst delayConfig.okOf 0 es 4) ∧ (tree 4).isNone := by
  obtain ⟨r, tree', hr, ht', hl⟩ := SearchRoute.Example.tree_of_treeEntriesOf
    (show SearchRoute.Example.treeEntriesOf (delayConfig.runVertex 0 none [0, 1, 2, 3]) [3, 4] =
      some [[some (2, 3), none]] by decide +kernel)
  obtain ⟨tree, ht, _, hreach⟩ := config_tree_reachable delayConfig delayConfig_local hr
  rw [(List.cons.inj (ht'.symm.trans ht)).1] at hl
  have h4 : tree 4 = none := Option.map_eq_none_iff.1 (List.cons.inj (List.cons.inj hl).2).1
  refine ⟨r, tree, hr, ht, ?_, by rw [h4]; rfl⟩
  rw [← hreach 4, h4]
  simp

/-- a vertex out of the coordinate range (`delayConfig` with "no great-circle value" at vertex 1,
run as Dijkstra: weight factor 0): the query 0 → 3 ends in a traversal error when vertex 1 is
labelled — although 3 is reachable —; the destination-less search from 0 (which consults no
great-circle table: `gc := []`) returns its tree -/
theorem out_of_range_vertex_fails_the_query :
    ConfigUniform.Example.errOf (({ delayConfig with gc := [0, -1, 0, 0, 0], wf := some 0 } : Config ℚ).runVertex
      0 (some 3) [0, 1, 2, 3]) = some .traversal ∧
    SearchRoute.Example.treeEntriesOf (({ delayConfig with gc := [], wf := some 0 } : Config ℚ).runVertex
      0 none [0, 1, 2, 3]) [1, 3] = some [[some (0, 0), some (2, 3)]] := by
  constructor
  · decide +kernel
  · decide +kernel

/-- a zero-length edge under the speed-table model (`exS`, 36 km/h everywhere, edge 7 = 1→3 of length
0): the search that relaxes it fails with a traversal error — `create_time` refuses the zero distance,
as C09 demands, and the search does not skip the edge — although vertex 3 is reachable -/
theorem zero_length_edge_fails_the_query :
    ConfigUniform.Example.errOf (({ ConfigUniform.Example.exS with
      edges := ConfigUniform.Example.exS.edges.set 7 ⟨1, 3, 0⟩ } : Config ℚ).runVertex
      0 (some 3) [0, 1, 2, 3]) = some .traversal := by
  decide +kernel

/-- edge-oriented on the same configuration: from edge 0 (0→1) to edge 3 (2→3) the answer is
`[0, 1, 3]`, and the theorem gives the connecting walk 1 ⇝ 2 -/
example : ∃ es, Walk delayConfig.inst delayConfig.okOf 1 es 2 := by
  obtain ⟨r, hr⟩ := SearchRoute.Example.ok_of_routeEdgesOf
    (show SearchRoute.Example.routeEdgesOf (delayConfig.runEdge 0 (some 3) [1, 2]) =
      some [[0, 1, 3]] by decide +kernel)
  exact (config_edge_oriented_nopath_iff_unreachable delayConfig delayConfig_local 0 3 [1, 2]
    ⟨0, 1, 100⟩ ⟨2, 3, 100⟩ rfl rfl (by decide)).1 ⟨r, hr⟩

/-! ### The search ends, and ends with the right answer (no premise on the outcome)

The theorems above start from a run that ended in a result or in "no path".  That every run can be
brought to such an end — the loop is never stuck, and under the Dijkstra discipline ends within
|V| + 1 pops — is `Proofs/SearchTermination.lean`; these are its C05-facing forms. -/

/-- **a deciding run exists, and every run can be completed to one** (Dijkstra;
`Config.WellFormedDistance`: distance traversal model, no access model, no turn restrictions, every
vertex in the coordinate range; limits large enough for the network): on a well-formed
configuration over the vertices `< n` whose termination model does not fire within `n` iterations
and `n · D` tree entries (`D` a bound on the number of incident edges of a vertex — the most a run
can reach, so a configured iterations / solution-size / runtime limit above that is inside the
premise; the empty combined model trivially) there is a schedule of at most `n + 1` pops on which the
search returns a route or "no path" — a route exactly when the destination is reachable through
permitted edges —, and every accepted, unfinished schedule (whatever ties the implementation broke
so far) has at most `n` pops and extends to such a one.  So "reachable ⇒ a route is returned,
unreachable ⇒ no path" holds without assuming how the run ended. -/
theorem dijkstra_decides_reachability (c : Config α) {du : DistanceUnit}
    (W : c.WellFormedDistance du) {source t : Nat} (G : c.GraphOK source true)
    (hwf : c.wf = some 0) {n D : Nat} (hD : ∀ v, (c.inst.incident v).length ≤ D)
    (hlim : ∀ sz it, it ≤ n → sz ≤ n * D → c.term.test sz it = .ok ())
    (hsrc : source < n) (hV : c.VerticesBelow n) :
    (∃ sched, sched.length ≤ n + 1 ∧
      ((∃ r, c.runVertex source (some t) sched = .ok r) ∨
        c.runVertex source (some t) sched = .error .noPath) ∧
      ((∃ r, c.runVertex source (some t) sched = .ok r) ↔
        ∃ es, Walk c.inst c.okOf source es t)) ∧
    ∀ pre, c.runVertex source (some t) pre = .error .scheduleExhausted →
      pre.length ≤ n ∧ ∃ ext, (pre ++ ext).length ≤ n + 1 ∧
        ((∃ r, c.runVertex source (some t) (pre ++ ext) = .ok r) ∨
          c.runVertex source (some t) (pre ++ ext) = .error .noPath) ∧
        ((∃ r, c.runVertex source (some t) (pre ++ ext) = .ok r) ↔
          ∃ es, Walk c.inst c.okOf source es t) :=
  SearchTermination.config_dijkstra_decides c W G hwf hD hlim hsrc hV

/-- the same for **any weight factor** (A* with re-opening included; well-formed distance
configuration as above): a deciding schedule exists and every accepted unfinished schedule extends
to one; the bound `N = |walks| + 1` on the expansions is the number of walks of fewer than `n` edges
from the source (finite, exponential: it proves that the search ends, not that it ends soon — the
iteration limit of C10 is the practical bound there), and the termination model must not fire within
`N` iterations and `N · D` tree entries -/
theorem search_decides_reachability (c : Config α) {du : DistanceUnit}
    (W : c.WellFormedDistance du) {source t : Nat} (G : c.GraphOK source true) {n D : Nat}
    (hD : ∀ v, (c.inst.incident v).length ≤ D)
    (hlim : ∀ sz it, it ≤ (SearchTermination.walks c.inst source n).length + 1 →
      sz ≤ ((SearchTermination.walks c.inst source n).length + 1) * D →
      c.term.test sz it = .ok ())
    (hsrc : source < n) (hV : c.VerticesBelow n) :
    (∃ sched, sched.length ≤ (SearchTermination.walks c.inst source n).length + 2 ∧
      ((∃ r, c.runVertex source (some t) sched = .ok r) ∨
        c.runVertex source (some t) sched = .error .noPath) ∧
      ((∃ r, c.runVertex source (some t) sched = .ok r) ↔
        ∃ es, Walk c.inst c.okOf source es t)) ∧
    ∀ pre, c.runVertex source (some t) pre = .error .scheduleExhausted →
      pre.length ≤ (SearchTermination.walks c.inst source n).length + 1 ∧
      ∃ ext, (pre ++ ext).length ≤ (SearchTermination.walks c.inst source n).length + 2 ∧
        ((∃ r, c.runVertex source (some t) (pre ++ ext) = .ok r) ∨
          c.runVertex source (some t) (pre ++ ext) = .error .noPath) ∧
        ((∃ r, c.runVertex source (some t) (pre ++ ext) = .ok r) ↔
          ∃ es, Walk c.inst c.okOf source es t) :=
  SearchTermination.config_search_decides c W G hD hlim hsrc hV

/-- **with any access model** (turn delays included; a failing lookup fails the run, so the end may be
a component error): under the Dijkstra discipline a schedule of at most `n + 1` pops ends the run,
every accepted unfinished schedule has at most `n` pops and extends to one that ends, and whenever
a run ends in a result or "no path" it is a result exactly when the destination is reachable -/
theorem dijkstra_with_access_model_ends_and_decides (c : Config α) (h : c.RestrictionLocal)
    (hwf : c.wf = some 0) {source n : Nat} (hsrc : source < n) (hV : c.VerticesBelow n) (t : Nat) :
    (∃ sched, sched.length ≤ n + 1 ∧
      SearchTermination.Ended (c.runVertex source (some t) sched)) ∧
    (∀ pre, c.runVertex source (some t) pre = .error .scheduleExhausted →
      pre.length ≤ n ∧ ∃ ext, (pre ++ ext).length ≤ n + 1 ∧
        SearchTermination.Ended (c.runVertex source (some t) (pre ++ ext))) ∧
    ∀ sched, ((∃ r, c.runVertex source (some t) sched = .ok r) ∨
        c.runVertex source (some t) sched = .error .noPath) →
      ((∃ r, c.runVertex source (some t) sched = .ok r) ↔
        ∃ es, Walk c.inst c.okOf source es t) ∧
      (c.runVertex source (some t) sched = .error .noPath ↔
        ¬ ∃ es, Walk c.inst c.okOf source es t) :=
  SearchTermination.config_restrictionLocal_dijkstra_decides c h hwf hsrc hV t

/-- a destination-less search returns its tree (well-formed distance configuration, limits silent
within `n` iterations and `n · D` tree entries): a schedule of at most `n + 1` pops returns, and
every accepted unfinished schedule extends to one that returns (with `config_tree_reachable`: the
tree it returns is the reachable set) -/
theorem tree_search_returns (c : Config α) {du : DistanceUnit} (W : c.WellFormedDistance du)
    {source : Nat} (G : c.GraphOK source false) {n D : Nat}
    (hD : ∀ v, (c.inst.incident v).length ≤ D)
    (hlim : ∀ sz it, it ≤ n → sz ≤ n * D → c.term.test sz it = .ok ())
    (hsrc : source < n) (hV : c.VerticesBelow n) :
    (∃ sched r, sched.length ≤ n + 1 ∧ c.runVertex source none sched = .ok r) ∧
    ∀ pre, c.runVertex source none pre = .error .scheduleExhausted →
      pre.length ≤ n ∧ ∃ ext r, (pre ++ ext).length ≤ n + 1 ∧
        c.runVertex source none (pre ++ ext) = .ok r :=
  SearchTermination.config_tree_search_returns c W G hD hlim hsrc hV

/-- no vertex of `exC` has more than three incident edges (whatever the termination model) -/
theorem exC_degree (m : TermM) (v : Nat) :
    (({ ConfigUniform.Example.exC with term := m } : Config ℚ).inst.incident v).length ≤ 3 :=
  ConfigUniform.Example.exC.forall_incident (P := fun _ l => l.length ≤ 3)
    (fun _ => Nat.zero_le _) (by decide) v

/-- a configured limit inside the premise: an iterations limit of 1000 beside a solution-size limit of
1000 does not fire within 5 iterations and 15 tree entries -/
theorem real_limits_silent (sz it : Nat) (hit : it ≤ 5) (hsz : sz ≤ 5 * 3) :
    (TermM.combined [.iters 1000, .size 1000]).test sz it = .ok () := by
  rw [SearchLimits.test_ok_iff]
  have h1 : ¬ (it + 1 > 1000) := by omega
  have h2 : ¬ (sz > 1000) := by omega
  simp [TermM.fires, TermM.fires.firesList, h1, h2]

/-- `dijkstra_decides_reachability` on `exC` under any termination model that is silent within 5
iterations and 15 tree entries: vertex 3 is reachable from 0 (walk `[0, 7]`, which does not depend on
the termination model), so the deciding schedule returns a route -/
theorem exC_route_returned (m : TermM)
    (hlim : ∀ sz it, it ≤ 5 → sz ≤ 5 * 3 → m.test sz it = .ok ()) :
    ∃ sched r, sched.length ≤ 6 ∧
      ({ ConfigUniform.Example.exC with term := m } : Config ℚ).runVertex 0 (some 3) sched = .ok r := by
  let c : Config ℚ := { ConfigUniform.Example.exC with term := m }
  obtain ⟨⟨sched, hlen, _, hiff⟩, _⟩ := dijkstra_decides_reachability c
    (ConfigUniform.Example.exC_wellFormed.withTerm m) (source := 0) (t := 3)
    ((ConfigUniform.Example.exC_graphOK 0 (by decide) true).withTerm m) rfl
    (exC_degree m) hlim (n := 5) (by decide)
    (show ConfigUniform.Example.exC.VerticesBelow 5 by decide)
  have hw : Walk ConfigUniform.Example.exC.inst ConfigUniform.Example.exC.okOf 0 [0, 7] 3 := by
    simp only [Walk]
    decide +kernel
  obtain ⟨r, hr⟩ := hiff.2
    ⟨[0, 7], (Walk.congr (I := ConfigUniform.Example.exC.inst) (I' := c.inst) rfl rfl rfl [0, 7] 0 3).2 hw⟩
  exact ⟨sched, r, hlen, hr⟩

/-- non-vacuity with **configured limits**: the example configuration of `Proofs/ConfigUniform.lean`
(5 vertices, at most 3 incident edges) under an iterations limit of 1000 and a solution-size limit of
1000 is well formed; the theorem applies to it, and since vertex 3 is reachable from 0 (walk
`[0, 7]`) the deciding schedule it gives returns a route; the destination-less search returns too -/
example : (∃ sched r, sched.length ≤ 6 ∧
    ({ ConfigUniform.Example.exC with term := .combined [.iters 1000, .size 1000] } :
      Config ℚ).runVertex 0 (some 3) sched = .ok r) ∧
    ∃ sched r, sched.length ≤ 6 ∧
    ({ ConfigUniform.Example.exC with term := .combined [.iters 1000, .size 1000] } :
      Config ℚ).runVertex 0 none sched = .ok r := by
  let c : Config ℚ :=
    { ConfigUniform.Example.exC with term := .combined [.iters 1000, .size 1000] }
  have W : c.WellFormedDistance .meters :=
    ConfigUniform.Example.exC_wellFormed.withTerm _
  have G' : c.GraphOK 0 false :=
    (ConfigUniform.Example.exC_graphOK 0 (by decide) false).withTerm _
  obtain ⟨⟨sched', r', hlen', hr'⟩, _⟩ := tree_search_returns c W (source := 0) G'
    (exC_degree _) real_limits_silent (n := 5) (by decide) (by decide)
  exact ⟨exC_route_returned _ real_limits_silent, sched', r', hlen', hr'⟩

/-- the empty combined model (no limit configured) is inside the premise too -/
example : ∃ sched r, sched.length ≤ 6 ∧
    ({ ConfigUniform.Example.exC with term := .combined [] } : Config ℚ).runVertex 0 (some 3) sched
      = .ok r :=
  exC_route_returned _ (fun sz it _ _ => SearchLimits.combined_nil_test sz it)

end C05
end Compass

namespace Compass
namespace C05
open Src

/-! ### Source decision ties

What these theorems are for is said in `Props/C01.lean` under the same heading. -/

/-- shared by every search property: the label test of `run_a_star`'s relaxation (`improves`) is the
source's `tentative_gscore < existing_gscore`; with `<=` an equal-cost arrival re-labels an expanded vertex -/
theorem src_relax_improves {α : Type} [Field α] [LinearOrder α] [IsStrictOrderedRing α] [Lit α] [LawfulLit α] (tent ex : α) :
    some (improves tent (some ex)) = relax_improves.num tent ex := by
  simp [improves, relax_improves, Rel.num]

end C05
end Compass
