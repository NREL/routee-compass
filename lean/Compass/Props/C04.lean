/-
C04 — routes and trees never use an edge or turn the query is forbidden to use.

Per-model statements about the frontier models of `Model/Instance.lean` (road class, vehicle
restriction with unit conversion through the generated tables, turn restriction, edge cut, and
their combination), then the search level.

What the search-level theorems cover:
* **forbidden edges** (road class, vehicle restriction, edge cut, any combination, with or without
  a turn-restriction model beside them): `config_edges_permitted` — every tree entry and every route
  element of every vertex-oriented run of **every** configuration, any algorithm setting (A* with
  re-opening included), schedule and direction; no hypothesis;
* **what the frontier model was asked** about a tree entry: `tree_edges_valid` (every instance; the
  pair is the one the entry's parent carried *when the entry was written*), and under the Dijkstra
  discipline the pair the parent carries in the *returned* tree (`dijkstra_tree_edges_valid`,
  `consistent_tree_edges_valid`).  For A* with an estimate that is inconsistent for the network the
  two differ (`restricted_turn_after_reopening_counterexample`, a recorded finding);
* **restricted turns**: forward Dijkstra routes contain none
  (`dijkstra_route_no_restricted_turn_forward`).  A **reverse** search shows the frontier model the
  pair in *search* order, i.e. (later edge, earlier edge) of the travel order the restrictions are
  listed in, so a reverse route can take a listed turn
  (`reverse_search_restricted_turn_counterexample`; recorded finding — the application runs plain
  searches forward only, and the single-via k-shortest-path algorithm, the one user of
  `Direction::Reverse`, re-validates its alternatives in travel order since /repo bfda969, C13);
* **edge-oriented queries** are covered only *between* their endpoint edges: the origin and the
  destination edge are given by the query, attached by `run_edge_oriented` without consulting the
  frontier model — neither the edges themselves (`edge_oriented_endpoint_edges_counterexample`) nor
  the turns at the two seams (`edge_oriented_seam_counterexample`); recorded findings, by design of
  `run_edge_oriented`.  The inner elements and the tree are covered
  (`edge_oriented_inner_edges_permitted`).
* **modelled rather than verified — the NaN-free domain**: `VehicleRestriction::valid` compares in
  `OrderedFloat`'s total order (`x <= NaN` is true: a NaN limit admits every vehicle), the model in
  IEEE `≤` (false).  Restriction files and queries cannot hold a NaN (the readers refuse it); the
  extreme-value stream (header of `Props/C01.lean`) gives restriction limits every other extreme,
  and no axles and 255 axles — correspondence only.
* the query / configuration decoders accept every form serde accepts: a unit as its name or as
  `{"name": null}` (`vehicle_dimension_read_exactly`), `road_class_parser` as `{"mapping": {…}}` or
  `[{…}]`.
-/
import Compass.Model.Search
import Compass.Gen.Decisions
import Compass.Gen.FnsC04
import Compass.Proofs.Num
import Compass.Model.Instance
import Compass.Proofs.SearchRoute
import Compass.Proofs.SearchDiscipline
import Compass.Proofs.Build
import Compass.Proofs.SearchValid

namespace Compass
namespace C04

variable {α : Type} [Field α] [LinearOrder α] [IsStrictOrderedRing α] [Lit α] [LawfulLit α]

/-- road classes: with an allowed set, an edge is usable exactly when its class is in the set;
an edge missing from the class table is an error, never "allowed" -/
theorem road_class_valid_iff (cls table : List Nat) (e : Nat) (prev : Option Nat) :
    (FrontierM.roadClass (α := α) (some cls) table).valid e prev = some true ↔
      ∃ c, table[e]? = some c ∧ c ∈ cls := by
  simp only [FrontierM.valid]
  cases h : table[e]? with
  | none => simp
  | some c => simp

theorem road_class_unfiltered (table : List Nat) (e : Nat) (prev : Option Nat) :
    (FrontierM.roadClass (α := α) none table).valid e prev = some true := rfl

/-- an edge cut by an alternative-route search is never usable -/
theorem no_cut_edge (cut : List Nat) (e : Nat) (prev : Option Nat) :
    (FrontierM.edgeCut (α := α) cut).valid e prev = some true ↔ e ∉ cut :=
  FrontierM.edgeCut_valid_iff cut e prev

/-- turn restrictions: the pair (previous edge, edge) must not be listed; the first edge of a
search has no previous edge and is always usable -/
theorem turn_restriction_valid_iff (pairs : List (Nat × Nat)) (e p : Nat) :
    (FrontierM.turnRestriction (α := α) pairs).valid e (some p) = some true ↔ (p, e) ∉ pairs :=
  FrontierM.turnRestriction_valid_iff pairs e p

theorem turn_restriction_first_edge (pairs : List (Nat × Nat)) (e : Nat) :
    (FrontierM.turnRestriction (α := α) pairs).valid e none = some true := rfl

/-- vehicle restrictions compare after converting the vehicle's dimension to the restriction's
unit; here the total weight (weight per axle and the four lengths follow) -/
theorem vehicle_weight_valid_iff (p : VehicleParams α) (limit : α) (unit : WeightUnit) :
    (Restriction.weight false limit unit).valid p = true ↔
      p.totalWeight.2.convert unit p.totalWeight.1 ≤ limit :=
  decide_eq_true_iff

/-- weight per axle: with at least one axle the converted weight divided by the number of axles is
compared with the limit.  `from_query` also accepts **0 axles** (`vehicle_parameters_parsed_exactly`);
the code then compares the f64 quotient by zero — +∞ for a positive weight, so the edge is refused
whatever the limit; −∞ for a negative weight, so it is usable; NaN for weight 0, refused — and the
model says the same in every number type (no `x / 0 = 0`). -/
theorem vehicle_weight_per_axle_valid_iff (p : VehicleParams α) (limit : α) (unit : WeightUnit) :
    (Restriction.weight true limit unit).valid p = true ↔
      (p.axles ≠ 0 ∧ p.totalWeight.2.convert unit p.totalWeight.1 / p.axles ≤ limit) ∨
      (p.axles = 0 ∧ p.totalWeight.2.convert unit p.totalWeight.1 < 0) := by
  simp only [Restriction.valid, if_true, perAxleOk, beq_iff_eq, zero_eq]
  by_cases hax : p.axles = 0
  · simp only [hax, if_true, ne_eq, not_true_eq_false, false_and, true_and, false_or]
    rcases lt_trichotomy (p.totalWeight.2.convert unit p.totalWeight.1) 0 with hw | hw | hw
    · simp [hw, not_lt.2 (le_of_lt hw)]
    · simp [hw]
    · simp only [hw, if_true, not_lt.2 (le_of_lt hw), iff_false, Bool.and_eq_true, decide_eq_true_eq,
        not_and, not_le]
      intro hl
      linarith
  · simp [hax]

/-- weight per axle with at least one axle: the quotient is compared with the limit -/
theorem vehicle_weight_per_axle_positive_axles (p : VehicleParams α) (limit : α) (unit : WeightUnit)
    (hax : p.axles ≠ 0) :
    (Restriction.weight true limit unit).valid p = true ↔
      p.totalWeight.2.convert unit p.totalWeight.1 / p.axles ≤ limit := by
  rw [vehicle_weight_per_axle_valid_iff]
  simp [hax]

/-- weight per axle with no axle: a vehicle of positive weight meets no per-axle limit -/
theorem vehicle_weight_per_axle_zero_axles (p : VehicleParams α) (limit : α) (unit : WeightUnit)
    (hax : p.axles = 0) (hw : 0 < p.totalWeight.2.convert unit p.totalWeight.1) :
    (Restriction.weight true limit unit).valid p = false := by
  have := vehicle_weight_per_axle_valid_iff p limit unit
  cases hv : (Restriction.weight true limit unit).valid p with
  | false => rfl
  | true =>
    rcases this.1 hv with ⟨h, _⟩ | ⟨_, h⟩
    · exact absurd hax h
    · exact absurd h (not_lt.2 (le_of_lt hw))

theorem vehicle_length_valid_iff (p : VehicleParams α) (limit : α) (unit : DistanceUnit) :
    ((Restriction.length 2 limit unit).valid p = true ↔ p.totalLength.2.convert unit p.totalLength.1 ≤ limit) ∧
    ((Restriction.length 3 limit unit).valid p = true ↔ p.width.2.convert unit p.width.1 ≤ limit) ∧
    ((Restriction.length 4 limit unit).valid p = true ↔ p.height.2.convert unit p.height.1 ≤ limit) ∧
    ((Restriction.length 5 limit unit).valid p = true ↔ p.trailerLength.2.convert unit p.trailerLength.1 ≤ limit) :=
  ⟨decide_eq_true_iff, decide_eq_true_iff, decide_eq_true_iff, decide_eq_true_iff⟩

/-- an edge with restrictions is usable exactly when the vehicle meets every one of them; an edge
without a table row is unrestricted -/
theorem vehicle_model_valid_iff (table : List (Nat × List (Restriction α))) (p : VehicleParams α)
    (e : Nat) (prev : Option Nat) :
    (FrontierM.vehicle table p).valid e prev = some true ↔
      ∀ row, table.find? (fun r => r.1 == e) = some row → ∀ r ∈ row.2, r.valid p = true := by
  simp only [FrontierM.valid]
  cases table.find? (fun r => r.1 == e) with
  | none => exact ⟨fun _ _ h => (nomatch h), fun _ => rfl⟩
  | some row => simp only [Option.some.injEq, List.all_eq_true, forall_eq']

/-- combination: an edge is usable exactly when every model permits it (a model that errs does not
permit it: its verdict is `none`, not `some true`) -/
theorem combined_iff_all (ms : List (FrontierM α)) (e : Nat) (prev : Option Nat)
    (hne : ∀ m ∈ ms, m.valid e prev ≠ none) :
    frontierValid ms e prev = .ok true ↔ ∀ m ∈ ms, m.valid e prev = some true :=
  frontierValid_true_iff ms e prev

/-- combination: a single refusing model makes the edge unusable whatever the later models say -/
theorem combined_false_of_refusal (ms₁ ms₂ : List (FrontierM α)) (m : FrontierM α) (e : Nat)
    (prev : Option Nat) (h₁ : ∀ m' ∈ ms₁, m'.valid e prev = some true) (hm : m.valid e prev = some false) :
    frontierValid (ms₁ ++ m :: ms₂) e prev = .ok false := by
  induction ms₁ with
  | nil => simp [frontierValid, hm]
  | cons a as ih =>
    have ha := h₁ a (List.mem_cons_self ..)
    simp only [List.cons_append, frontierValid, ha]
    exact ih (fun m' hm' => h₁ m' (List.mem_cons_of_mem _ hm'))


/-! ### What "permitted" means, model by model -/

/-- the edge `e` is permitted by the model `m` taken alone (a turn-restriction model forbids no edge
as such) -/
def EdgeAllowedBy (m : FrontierM α) (e : Nat) : Prop :=
  match m with
  | .roadClass none _ => True
  | .roadClass (some cls) table => ∃ c, table[e]? = some c ∧ c ∈ cls
  | .turnRestriction _ => True
  | .vehicle table p =>
    ∀ row, table.find? (fun r => r.1 == e) = some row → ∀ r ∈ row.2, r.valid p = true
  | .edgeCut cut => e ∉ cut

/-- a model, asked without previous edge, answers "usable" exactly for the edges it permits: class in
the allowed set; every restriction of the edge's row satisfied after unit conversion
(`vehicle_weight_valid_iff`, `vehicle_weight_per_axle_valid_iff`, `vehicle_length_valid_iff`); not
cut -/
theorem model_allows_iff (m : FrontierM α) (e : Nat) :
    m.valid e none = some true ↔ EdgeAllowedBy m e := by
  cases m with
  | roadClass allowed table =>
    cases allowed with
    | none => simp [EdgeAllowedBy, FrontierM.valid]
    | some cls => exact road_class_valid_iff cls table e none
  | turnRestriction pairs => simp [EdgeAllowedBy, FrontierM.valid]
  | vehicle table p => exact vehicle_model_valid_iff table p e none
  | edgeCut cut => exact no_cut_edge cut e none

/-- `Config.okOf e`: every model of the configuration permits `e` (combined = all) -/
theorem okOf_iff_all_models (c : Config α) (e : Nat) :
    c.okOf e = true ↔ ∀ m ∈ c.frontier, EdgeAllowedBy m e := by
  rw [SearchValid.okOf_iff]
  exact forall₂_congr (fun m _ => model_allows_iff m e)

/-! ### Search level: what the search keeps was submitted to, and accepted by, the frontier model -/

open SearchLimits in
/-- **Every instance, no hypothesis** (search with or without destination, any algorithm setting,
any schedule, forward or reverse).  Every entry `v ↦ b` of a returned tree was written in a loop
turn of this very run: there are a prefix `pre₀ ++ [u]` of the replayed schedule and the loop head
`h₀` the run reached after expanding `pre₀`, such that `b.edge` is one of the edges iterated at `u`,
`v` is its far end and `b.terminal` its near end, and the frontier model accepted `b.edge` — and the
traversal returned `b`'s costs and state — **for the state and previous edge the loop read at `u`
at `h₀`**: the initial state and no previous edge when `u` is the search origin, otherwise the state
and edge of the tree entry `u` had at that loop head.  (With consistent incident lists `u` is
`b.terminal`, the entry's parent: `tree_entry_joins` of C01.)

What this does *not* say: that `u`'s entry in the *returned* tree is still that one.  Under the
Dijkstra discipline it is (`dijkstra_tree_edges_valid`); for A* with re-opening it need not be
(`restricted_turn_after_reopening_counterexample`). -/
theorem tree_edges_valid (I : Inst α) (source : Nat) (target : Option Nat) (sched : List Nat)
    (s : SState α) (h : runAStar I source target sched = .ok s) :
    ∀ v b, s.sol v = some b → v = I.keyV b.edge ∧ b.terminal = I.termV b.edge ∧
      ∃ (f0 : α) (pre₀ : List Nat) (h₀ : SState α) (u : Nat) (le : Option Nat) (st : List α),
        startF I source target = .ok f0 ∧
        Reach I source target pre₀ (initState source f0) h₀ ∧ (pre₀ ++ [u]) <+: sched ∧
        b.edge ∈ I.incident u ∧
        ((u = source ∧ le = none ∧ st = I.init) ∨
          (u ≠ source ∧ ∃ bu, h₀.sol u = some bu ∧ le = some bu.edge ∧ st = bu.state)) ∧
        I.valid b.edge st le = .ok true ∧
        I.trav b.edge le st = .ok (b.access, b.traversal, b.state) := by
  intro v b hb
  obtain ⟨hk, f0, pre₀, h₀, u, hf0, hr, hpre, hinc, hterm, le, st, hcur, hv, htr⟩ :=
    SearchValid.runAStar_entry_history I source target sched s h v b hb
  exact ⟨hk, hterm, f0, pre₀, h₀, u, le, st, hf0, hr, hpre, hinc, SearchLimits.curOf_cases hcur, hv, htr⟩

open SearchDiscipline in
/-- **Dijkstra, every configuration** (turn restrictions, turn delays, any state-dependent model,
forward or reverse, with or without destination): every entry `v ↦ b` of the returned tree was
accepted by the frontier model, and traversed, from the pair its parent carries **in the returned
tree**: from the initial state and no previous edge when the parent is the search origin, from
`(bu.state, some bu.edge)` with `bu` the parent's entry otherwise (and that entry exists). -/
theorem dijkstra_tree_edges_valid (c : Config α) (hadj : c.AdjConsistent) (hwf : c.wf = some 0)
    {source : Nat} {target : Option Nat} {sched : List Nat} {s : SState α}
    (hrun : runAStar c.inst source target sched = .ok s) {v : Nat} {b : Branch α}
    (hb : s.sol v = some b) :
    (b.terminal = source ∧
      c.inst.valid b.edge (initialState c.feats) none = .ok true ∧
      c.inst.trav b.edge none (initialState c.feats) = .ok (b.access, b.traversal, b.state)) ∨
    (b.terminal ≠ source ∧ ∃ bu, s.sol b.terminal = some bu ∧
      c.inst.valid b.edge bu.state (some bu.edge) = .ok true ∧
      c.inst.trav b.edge (some bu.edge) bu.state = .ok (b.access, b.traversal, b.state)) :=
  entry_fresh_of_heur (c.inst_wf hadj) ((config_zeroH c hwf).heur (c.inst_wf hadj) _) hrun hb

open SearchDiscipline in
/-- the same for every instance with positive costs whose heuristic is a consistent function of the
vertex (`Heur`: along every accepted traversal it drops by at most the cost charged) -/
theorem consistent_tree_edges_valid {I : Inst α} (hI : SearchTree.WF I) {H : Nat → α}
    {source : Nat} {target : Option Nat} (hH : Heur I target.isSome H)
    {sched : List Nat} {s : SState α} (hrun : runAStar I source target sched = .ok s)
    {v : Nat} {b : Branch α} (hb : s.sol v = some b) :
    (b.terminal = source ∧
      I.valid b.edge I.init none = .ok true ∧
      I.trav b.edge none I.init = .ok (b.access, b.traversal, b.state)) ∨
    (b.terminal ≠ source ∧ ∃ bu, s.sol b.terminal = some bu ∧
      I.valid b.edge bu.state (some bu.edge) = .ok true ∧
      I.trav b.edge (some bu.edge) bu.state = .ok (b.access, b.traversal, b.state)) :=
  entry_fresh_of_heur hI hH hrun hb

/-- **No forbidden edge in trees and routes.**  For **every** configuration (road class, vehicle
restriction, edge cut, turn restriction, in any combination; any traversal / access / cost /
termination model), every vertex-oriented run (with or without destination, Dijkstra or A* with any
weight factor and estimate, re-opening or not, any schedule, forward or reverse): every entry of the
returned tree and every element of the returned route carries an edge that **every** model of the
configuration permits — its road class is in the allowed set, the vehicle meets every restriction of
the edge after unit conversion, and the edge is not cut (`EdgeAllowedBy`; a turn-restriction model
forbids pairs of edges, no edge).  No hypothesis. -/
theorem config_edges_permitted (c : Config α)
    {source : Nat} {target : Option Nat} {sched : List Nat} {r : AlgResult α}
    (h : c.runVertex source target sched = .ok r) :
    (∀ tree ∈ r.trees, ∀ v b, tree v = some b →
      c.okOf b.edge = true ∧ ∀ m ∈ c.frontier, EdgeAllowedBy m b.edge) ∧
    (∀ route ∈ r.routes, ∀ b ∈ route,
      c.okOf b.edge = true ∧ ∀ m ∈ c.frontier, EdgeAllowedBy m b.edge) := by
  obtain ⟨h1, h2⟩ := SearchValid.config_edges_permitted c h
  exact ⟨fun tree ht v b hb => ⟨h1 tree ht v b hb, (okOf_iff_all_models c _).1 (h1 tree ht v b hb)⟩,
    fun route hr b hb => ⟨h2 route hr b hb, (okOf_iff_all_models c _).1 (h2 route hr b hb)⟩⟩

/-- **Edge-oriented queries, between the endpoint edges** (non-adjacent origin and destination
edges; every configuration): every entry of the returned tree and every *inner* element of the
route — everything but the origin element in front and the destination element behind — carries a
permitted edge.  The two endpoint edges are not covered: `edge_oriented_endpoint_edges_counterexample`. -/
theorem edge_oriented_inner_edges_permitted (c : Config α) (source tgt : Nat) (sched : List Nat)
    (r : AlgResult α) (e1 e2 : EdgeRec α) (h1 : c.edges[source]? = some e1)
    (h2 : c.edges[tgt]? = some e2) (hne : source ≠ tgt) (hnadj : e1.dst ≠ e2.src)
    (h : c.runEdge source (some tgt) sched = .ok r) :
    (∀ tree ∈ r.trees, ∀ v b, tree v = some b → c.okOf b.edge = true) ∧
    ∃ (origin dest : Branch α) (inner : List (Branch α)),
      r.routes = [origin :: inner ++ [dest]] ∧ origin.edge = source ∧ dest.edge = tgt ∧
      ∀ b ∈ inner, c.okOf b.edge = true := by
  obtain ⟨ht, inner, last, hroutes, hin⟩ :=
    SearchRoute.runEdge_inner_valid c source tgt sched r e1 e2 h1 h2 hne hnadj h
  exact ⟨fun tree htree v b hb => SearchValid.okOf_of_entryOK c (ht tree htree v b hb), _, _, inner,
    hroutes, rfl, rfl, fun b hb => SearchValid.okOf_of_entryOK c (hin b hb)⟩

open SearchDiscipline in
/-- Dijkstra, every configuration incl. turn restrictions and state-dependent models: every
consecutive pair of elements of the returned route was submitted to the frontier model as
(previous edge, edge) **in search order** with the previous element's reported state, and accepted —
so no element carries an edge refused for the state it was reached in, and in a forward search the
route contains no restricted turn (`dijkstra_route_no_restricted_turn_forward`).
(`_partial`, three exclusions, each with a counterexample below and a line in known_findings.txt:
A* with an estimate inconsistent for the network — false of model and code; **reverse searches** —
the statement holds but is about search-order pairs, while restrictions are listed in travel order,
so a reverse route can take a listed turn; the two seams and the two endpoint edges of edge-oriented
routes.) -/
theorem dijkstra_route_turns_valid_partial (c : Config α) (hadj : c.AdjConsistent) (hwf : c.wf = some 0)
    {source t : Nat} {sched : List Nat} {res : SearchResult α} (hts : t ≠ source)
    (hrun : runVertexOriented c.inst source (some t) sched = .ok res) :
    ∃ route, res.route = some route ∧ route ≠ [] ∧
      (∀ b, route.head? = some b → c.inst.valid b.edge (initialState c.feats) none = .ok true) ∧
      route.IsChain (fun a b => c.inst.valid b.edge a.state (some a.edge) = .ok true) := by
  obtain ⟨route, h1, h2, _, h4⟩ := config_route_links_fresh c hadj hwf hts hrun
  exact ⟨route, h1, h2, fun b hb => (h4.head b hb).1, h4.isChain.imp fun _ _ h => h.1⟩

/-- **Forward Dijkstra routes take no restricted turn**: no two consecutive edges of the returned
route are listed — in travel order, as the restrictions are — by a turn-restriction model of the
configuration (alone or inside a combination). -/
theorem dijkstra_route_no_restricted_turn_forward (c : Config α) (hadj : c.AdjConsistent)
    (hwf : c.wf = some 0) (_hfwd : c.reverse = false)
    {source t : Nat} {sched : List Nat} {res : SearchResult α} (hts : t ≠ source)
    (hrun : runVertexOriented c.inst source (some t) sched = .ok res) :
    ∃ route, res.route = some route ∧
      ∀ pairs, FrontierM.turnRestriction pairs ∈ c.frontier →
        ∀ i (hi : i + 1 < route.length), (route[i].edge, route[i + 1].edge) ∉ pairs := by
  obtain ⟨route, h1, _, _, h4⟩ := dijkstra_route_turns_valid_partial c hadj hwf hts hrun
  exact ⟨route, h1, fun pairs hm i hi =>
    (FrontierM.turnRestriction_valid_iff pairs _ _).1
      (Config.inst_valid_models (List.isChain_iff_getElem.1 h4 i hi) _ hm)⟩


/-! ### Counterexamples on the model for the recorded findings -/

/-- the 5-vertex re-opening witness (see `C03.staleConfig`) with the turn (w→u, u→v) = (2,3) restricted -/
def staleTurnConfig : Config ℚ where
  nV := 5
  edges := [⟨0, 2, 1000⟩, ⟨0, 1, 100⟩, ⟨1, 2, 100⟩, ⟨2, 3, 100⟩, ⟨3, 4, 100⟩]
  outAdj := [[0, 1], [2], [3], [4], []]
  inAdj := [[], [1], [0, 2], [3], [4]]
  feats := [{ name := "distance", kind := .dist .meters, init := 0 }]
  trav := .distance .meters
  access := .noAccess
  cost := { indices := [0], weights := [1], vehicleRates := [.raw], networkRates := [.zero], agg := .sum }
  frontier := [.turnRestriction [(2, 3)]]
  term := .combined []
  reverse := false
  gc := [7000, 6000, 5000, 5200, 0]
  wf := some 1

def routeEdgesOf (r : Except ErrKind (AlgResult ℚ)) : Option (List (List Nat)) :=
  match r with
  | .ok res => some (res.routes.map (·.map (·.edge)))
  | .error _ => none

/-- A* (estimate inconsistent for the network) returns s→w→u→v→t, which takes the restricted turn
(2,3): u was first expanded via s→u (entry of v written), then re-labelled via w→u, and on its second
expansion the edge u→v was refused — but v's earlier entry stays. -/
theorem restricted_turn_after_reopening_counterexample :
    routeEdgesOf (staleTurnConfig.runVertex 0 (some 4) [0, 2, 1, 2, 3, 4]) = some [[1, 2, 3, 4]] ∧
    (FrontierM.turnRestriction (α := ℚ) [(2, 3)]).valid 3 (some 2) = some false := by
  decide +kernel

/-- Edge-oriented seam: origin edge 0 (0→1), destination edge 2 (2→3), restricted turn (0,1):
the wrapper returns [0,1,2] although the turn from the origin edge onto edge 1 is restricted. -/
def seamConfig : Config ℚ where
  nV := 4
  edges := [⟨0, 1, 10⟩, ⟨1, 2, 10⟩, ⟨2, 3, 10⟩]
  outAdj := [[0], [1], [2], []]
  inAdj := [[], [0], [1], [2]]
  feats := [{ name := "distance", kind := .dist .meters, init := 0 }]
  trav := .distance .meters
  access := .noAccess
  cost := { indices := [0], weights := [1], vehicleRates := [.raw], networkRates := [.zero], agg := .sum }
  frontier := [.turnRestriction [(0, 1)]]
  term := .combined []
  reverse := false
  gc := [0, 0, 0, 0]
  wf := some 0

/-- the turn from the origin edge onto the first inner edge is not shown to the frontier model -/
theorem edge_oriented_seam_counterexample :
    routeEdgesOf (seamConfig.runEdge 0 (some 2) [1, 2]) = some [[0, 1, 2]] ∧
    (FrontierM.turnRestriction (α := ℚ) [(0, 1)]).valid 1 (some 0) = some false := by
  decide +kernel

/-- Edge-oriented endpoint edges are never shown to the frontier model.  On the same network:
(a) with the origin edge 0 and the destination edge 2 both cut, the query from edge 0 to edge 2
still answers `[0, 1, 2]`, although `okOf` forbids both;
(b) in the adjacent arm nothing is asked at all: with edge 1 cut *and* the turn (0,1) restricted the
query from edge 0 to edge 1 answers `[0, 1]`.
(Recorded finding `route/forbidden-endpoint-edge-edge-oriented`; by design of `run_edge_oriented`:
the endpoint edges are the query's, not the search's.) -/
theorem edge_oriented_endpoint_edges_counterexample :
    (routeEdgesOf (({ seamConfig with frontier := [.edgeCut [0, 2]] } : Config ℚ).runEdge 0 (some 2) [1, 2])
        = some [[0, 1, 2]] ∧
      ({ seamConfig with frontier := [.edgeCut [0, 2]] } : Config ℚ).okOf 0 = false ∧
      ({ seamConfig with frontier := [.edgeCut [0, 2]] } : Config ℚ).okOf 2 = false) ∧
    (routeEdgesOf (({ seamConfig with frontier := [.edgeCut [1], .turnRestriction [(0, 1)]] } :
        Config ℚ).runEdge 0 (some 1) []) = some [[0, 1]] ∧
      ({ seamConfig with frontier := [.edgeCut [1], .turnRestriction [(0, 1)]] } : Config ℚ).okOf 1
        = false) := by
  decide +kernel

/-- Reverse searches see the turn pairs reversed.  `run_a_star` hands `valid_frontier` the edge it
is about to take and the edge it came by **in search order**; `TurnRestrictionFrontierModel` looks
the pair up as (prev_edge_id, next_edge_id), and the restrictions are listed in travel order.  On
`seamConfig` searched in reverse from vertex 2 back to vertex 0, Dijkstra returns `[1, 0]` (search
order): travelled forward that is edge 0 then edge 1, the listed turn (0,1); the model was asked
about (previous 1, edge 0), which is not listed, and said yes.  (Recorded finding
`route/restricted-turn-reverse-search`.  The application runs plain searches forward only; the
single-via k-shortest-path algorithm re-validates its alternatives in travel order, C13.) -/
theorem reverse_search_restricted_turn_counterexample :
    routeEdgesOf (({ seamConfig with reverse := true } : Config ℚ).runVertex 2 (some 0) [2, 1, 0])
      = some [[1, 0]] ∧
    ({ seamConfig with reverse := true } : Config ℚ).inst.valid 0 [10] (some 1) = .ok true ∧
    (FrontierM.turnRestriction (α := ℚ) [(0, 1)]).valid 1 (some 0) = some false := by
  decide +kernel

/-! ### What the query and the files say is what the models compare with

The property quantifies over queries: `VehicleParameters::from_query` and
`RoadClassParser::read_query` turn JSON into the vehicle and the allowed classes.  A well-formed
query is read to exactly the given dimensions in the given units; anything else is an error response
— the functions below are total, so never a panic — and never a different vehicle. -/

open Build

/-- a dimension is read from exactly a two-element array `[number, unit]`, as that number in that
unit; no other JSON shape gives a dimension.  The unit is its serde name, as a string (`"feet"`) or
— serde's other form of a unit variant — as the single key of an object with value `null`
(`{"feet": null}`): `Build.unitName? false`; `"height": [5.0, {"feet": null}]` is accepted by
`VehicleParameters::from_query`. -/
theorem vehicle_dimension_read_exactly (dec : Nat → α) (j : Option Json) :
    (∀ x u, dimOfJson dec j = some (x, u) ↔
      ∃ l b uj, j = some (.arr [.num l b, uj]) ∧ unitName? false uj = some u.name ∧ x = dec b) ∧
    (∀ x u, weightOfJson dec j = some (x, u) ↔
      ∃ l b uj, j = some (.arr [.num l b, uj]) ∧ unitName? false uj = some u.name ∧ x = dec b) :=
  ⟨dimOfJson_iff dec j, weightOfJson_iff dec j⟩

/-- `from_query` answers with a vehicle exactly when the query's `vehicle_parameters` has the five
dimensions well-formed and `number_of_axles` an integer from 0 to 255, and the vehicle is those
values as they stand: the integer in the query is the number of axles (it is never wrapped). -/
theorem vehicle_parameters_parsed_exactly (dec : Nat → α) (q : Json) (p : VParams α) :
    vehicleParamsOfQuery dec q = .ok p ↔
      ∃ vp, q.get? "vehicle_parameters" = some vp ∧
        dimOfJson dec (vp.get? "height") = some p.height ∧
        dimOfJson dec (vp.get? "width") = some p.width ∧
        dimOfJson dec (vp.get? "total_length") = some p.totalLength ∧
        dimOfJson dec (vp.get? "trailer_length") = some p.trailerLength ∧
        weightOfJson dec (vp.get? "total_weight") = some p.totalWeight ∧
        ∃ a, vp.get? "number_of_axles" = some a ∧ u64OfJson a = some p.axles ∧ p.axles ≤ 255 :=
  vehicleParams_ok_iff dec q p

/-- the refusals name what is wrong: no `vehicle_parameters`; a number of axles that is missing, not
a non-negative integer, or beyond what a vehicle record can hold -/
theorem vehicle_parameters_refusals (dec : Nat → α) (q : Json) :
    (q.get? "vehicle_parameters" = none → vehicleParamsOfQuery dec q = .error .missing) ∧
    (∀ vp h w tl trl tw, q.get? "vehicle_parameters" = some vp →
      dimOfJson dec (vp.get? "height") = some h → dimOfJson dec (vp.get? "width") = some w →
      dimOfJson dec (vp.get? "total_length") = some tl → dimOfJson dec (vp.get? "trailer_length") = some trl →
      weightOfJson dec (vp.get? "total_weight") = some tw →
      (vp.get? "number_of_axles" = none → vehicleParamsOfQuery dec q = .error .axlesMissing) ∧
      (∀ a, vp.get? "number_of_axles" = some a → u64OfJson a = none →
        vehicleParamsOfQuery dec q = .error .axlesType) ∧
      (∀ a n, vp.get? "number_of_axles" = some a → u64OfJson a = some n → 255 < n →
        vehicleParamsOfQuery dec q = .error .axlesRange)) := by
  refine ⟨fun h => by simp [vehicleParamsOfQuery, h], ?_⟩
  intro vp h w tl trl tw hq h1 h2 h3 h4 h5
  refine ⟨fun h6 => by simp [vehicleParamsOfQuery, hq, h1, h2, h3, h4, h5, h6],
    fun a h6 h7 => by simp [vehicleParamsOfQuery, hq, h1, h2, h3, h4, h5, h6, h7],
    fun a n h6 h7 hn => ?_⟩
  simp only [vehicleParamsOfQuery, hq, h1, h2, h3, h4, h5, h6, h7]
  rw [if_neg (by omega)]

/-- a query whose first offending dimension is `f` is refused with the error that names `f`
(height, width, total length, trailer length, total weight, in the order the code reads them) -/
theorem vehicle_parameters_first_bad_field (dec : Nat → α) (q vp : Json)
    (hq : q.get? "vehicle_parameters" = some vp) :
    (dimOfJson dec (vp.get? "height") = none → vehicleParamsOfQuery dec q = .error .height) ∧
    (∀ h, dimOfJson dec (vp.get? "height") = some h → dimOfJson dec (vp.get? "width") = none →
      vehicleParamsOfQuery dec q = .error .width) ∧
    (∀ h w, dimOfJson dec (vp.get? "height") = some h → dimOfJson dec (vp.get? "width") = some w →
      dimOfJson dec (vp.get? "total_length") = none → vehicleParamsOfQuery dec q = .error .totalLength) ∧
    (∀ h w tl, dimOfJson dec (vp.get? "height") = some h → dimOfJson dec (vp.get? "width") = some w →
      dimOfJson dec (vp.get? "total_length") = some tl → dimOfJson dec (vp.get? "trailer_length") = none →
      vehicleParamsOfQuery dec q = .error .trailerLength) ∧
    (∀ h w tl trl, dimOfJson dec (vp.get? "height") = some h → dimOfJson dec (vp.get? "width") = some w →
      dimOfJson dec (vp.get? "total_length") = some tl → dimOfJson dec (vp.get? "trailer_length") = some trl →
      weightOfJson dec (vp.get? "total_weight") = none → vehicleParamsOfQuery dec q = .error .totalWeight) := by
  refine ⟨fun h1 => by simp [vehicleParamsOfQuery, hq, h1], fun h h1 h2 => by simp [vehicleParamsOfQuery, hq, h1, h2],
    fun h w h1 h2 h3 => by simp [vehicleParamsOfQuery, hq, h1, h2, h3],
    fun h w tl h1 h2 h3 h4 => by simp [vehicleParamsOfQuery, hq, h1, h2, h3, h4],
    fun h w tl trl h1 h2 h3 h4 h5 => by simp [vehicleParamsOfQuery, hq, h1, h2, h3, h4, h5]⟩

/-- an array of integers from 0 to 255 is the allowed set as it stands -/
theorem road_classes_numeric_iff (v : Json) (cls : List Nat) :
    u8SetOfJson v = some cls ↔
      ∃ xs, v = .arr xs ∧ List.Forall₂ (fun x c => u64OfJson x = some c ∧ c ≤ 255) xs cls := by
  unfold u8SetOfJson
  cases v with
  | arr xs =>
    simp only [Json.asArray?, Json.arr.injEq, exists_eq_left']
    rw [allSome_iff]
    constructor
    · intro h
      refine List.Forall₂.imp ?_ h
      intro x c hxc
      unfold u8OfJson at hxc
      split at hxc
      · rename_i n hn
        split at hxc
        · injection hxc with hxc; subst hxc; exact ⟨hn, ‹_›⟩
        · cases hxc
      · cases hxc
    · intro h
      refine List.Forall₂.imp ?_ h
      intro x c hxc
      simp [u8OfJson, hxc.1, hxc.2]
  | _ => simp [Json.asArray?]

/-- `road_classes` of the query: no field = no filter; an array of class numbers is the allowed set;
otherwise — only when the model has a name mapping — an array of names, each mapped; a name without
mapping entry, a value that is neither, and names without a mapping are errors, never "no filter" -/
theorem road_classes_of_query (mapping : List (String × Nat)) (q : Json) :
    (q.get? "road_classes" = none → roadClassesOfQuery mapping q = some none) ∧
    (∀ v, q.get? "road_classes" = some v →
      (∀ cls, u8SetOfJson v = some cls → roadClassesOfQuery mapping q = some (some cls)) ∧
      (u8SetOfJson v = none → mapping = [] → roadClassesOfQuery mapping q = none) ∧
      (u8SetOfJson v = none → mapping ≠ [] → ∀ names : List String, v = .arr (names.map Json.str) →
        roadClassesOfQuery mapping q =
          (Build.allSome (fun s => (mapping.find? (fun p => p.1 == s)).map (·.2)) names).map some) ∧
      (u8SetOfJson v = none → (∀ names : List String, v ≠ .arr (names.map Json.str)) →
        roadClassesOfQuery mapping q = none)) := by
  refine ⟨fun h => by simp [roadClassesOfQuery, h], fun v hv => ⟨fun cls h => by simp [roadClassesOfQuery, hv, h],
    fun h hm => by simp [roadClassesOfQuery, hv, h, hm], ?_, ?_⟩⟩
  · intro h hm names hnames
    subst hnames
    have hne : mapping.isEmpty = false := by cases mapping <;> simp_all
    have hstr : ∀ ns : List String, Build.allSome Json.asStr? (ns.map Json.str) = some ns := by
      intro ns
      rw [allSome_iff]
      induction ns with
      | nil => exact List.Forall₂.nil
      | cons n ns ih => exact List.Forall₂.cons rfl ih
    simp only [roadClassesOfQuery, hv, h, hne, Bool.false_eq_true, ↓reduceIte, Json.asArray?, hstr]
    cases Build.allSome (fun s => (mapping.find? (fun p => p.1 == s)).map (·.2)) names <;> rfl
  · intro h hno
    simp only [roadClassesOfQuery, hv, h]
    split
    · rfl
    · cases hv' : v.asArray? with
      | none => rfl
      | some xs =>
        simp only
        cases hs : Build.allSome Json.asStr? xs with
        | none => rfl
        | some names =>
          exfalso
          apply hno names
          have hxs : v = .arr xs := by
            cases v with
            | arr ys => exact congrArg Json.arr (Option.some.inj hv')
            | _ => cases hv'
          rw [hxs]
          congr 1
          have hfa := (allSome_iff _ _ _).1 hs
          clear hs hxs hv' hv h hno
          induction hfa with
          | nil => rfl
          | @cons x n xs ns hxn _ ih =>
            have : x = .str n := by
              cases x with
              | str s => exact congrArg Json.str (Option.some.inj hxn)
              | _ => cases hxn
            rw [this, ih]; rfl

/-- the class of an edge beyond the loaded table is an error of the search, never "allowed" -/
theorem road_class_beyond_table (cls table : List Nat) (e : Nat) (prev : Option Nat) :
    (FrontierM.roadClass (α := α) (some cls) table).valid e prev = none ↔ table[e]? = none := by
  simp only [FrontierM.valid]
  cases table[e]? <;> simp

/-- what `RoadClassBuilder` and its service hand the search: the file's rows as the class table (each
row an integer 0‥255), the allowed set read from the query with the configured mapping -/
theorem road_class_build_ok (cfg : Json) (file : Option (List IntCell)) (q : Json) (m : FrontierM α)
    (h : roadClassBuild cfg file q = .ok m) :
    ∃ rows table mapping allowed, file = some rows ∧ Build.allSome IntCell.u8 rows = some table ∧
      roadClassParserOfConfig cfg = some mapping ∧ roadClassesOfQuery mapping q = some allowed ∧
      m = .roadClass allowed table := by
  unfold roadClassBuild at h
  split at h
  · cases h
  · split at h
    · cases h
    · rename_i rows _
      split at h
      · cases h
      · rename_i table ht
        split at h
        · cases h
        · rename_i mapping hm
          split at h
          · cases h
          · rename_i allowed ha
            injection h with h
            exact ⟨rows, table, mapping, allowed, rfl, ht, hm, ha, h.symm⟩

/-- one arm of the name cascade of `toRestriction` -/
theorem ite_map_eq_some {β γ : Type} {p : Prop} [Decidable p] {o : Option β} {f : β → γ}
    {rest : Option γ} {r : γ} (h : (if p then o.map f else rest) = some r) :
    (p ∧ ∃ u, o = some u ∧ f u = r) ∨ (¬ p ∧ rest = some r) := by
  by_cases hp : p
  · rw [if_pos hp] at h
    exact Or.inl ⟨hp, Option.map_eq_some_iff.1 h⟩
  · rw [if_neg hp] at h
    exact Or.inr ⟨hp, h⟩

/-- a row of the vehicle restriction file becomes a restriction only when its name is one of the six
and its unit belongs to the name's family; the restriction limits that dimension at that value -/
theorem restriction_row_read_exactly (name : String) (x : α) (unit : String) (r : Restriction α)
    (h : toRestriction name x unit = some r) :
    (∃ wu, WeightUnit.ofName? unit = some wu ∧
      ((name = "maximum_total_weight" ∧ r = .weight false x wu) ∨
       (name = "maximum_weight_per_axle" ∧ r = .weight true x wu))) ∨
    (∃ du, DistanceUnit.ofName? unit = some du ∧
      ((name = "maximum_length" ∧ r = .length 2 x du) ∨ (name = "maximum_width" ∧ r = .length 3 x du) ∨
       (name = "maximum_height" ∧ r = .length 4 x du) ∨ (name = "maximum_trailer_length" ∧ r = .length 5 x du))) := by
  unfold toRestriction at h
  simp only [beq_iff_eq] at h
  rcases ite_map_eq_some h with ⟨h1, wu, hu, rfl⟩ | ⟨_, h⟩
  · exact Or.inl ⟨wu, hu, Or.inl ⟨h1, rfl⟩⟩
  rcases ite_map_eq_some h with ⟨h2, wu, hu, rfl⟩ | ⟨_, h⟩
  · exact Or.inl ⟨wu, hu, Or.inr ⟨h2, rfl⟩⟩
  rcases ite_map_eq_some h with ⟨h3, du, hu, rfl⟩ | ⟨_, h⟩
  · exact Or.inr ⟨du, hu, Or.inl ⟨h3, rfl⟩⟩
  rcases ite_map_eq_some h with ⟨h4, du, hu, rfl⟩ | ⟨_, h⟩
  · exact Or.inr ⟨du, hu, Or.inr (Or.inl ⟨h4, rfl⟩)⟩
  rcases ite_map_eq_some h with ⟨h5, du, hu, rfl⟩ | ⟨_, h⟩
  · exact Or.inr ⟨du, hu, Or.inr (Or.inr (Or.inl ⟨h5, rfl⟩))⟩
  rcases ite_map_eq_some h with ⟨h6, du, hu, rfl⟩ | ⟨_, h⟩
  · exact Or.inr ⟨du, hu, Or.inr (Or.inr (Or.inr ⟨h6, rfl⟩))⟩
  cases h

/-! Non-vacuity: a well-formed query, an out-of-range number of axles, class names with and without mapping. -/
def exQuery : Json :=
  .obj [("vehicle_parameters", .obj [("height", .arr [.num "4.1" 41, .str "meters"]), ("width", .arr [.num "8" 8, .str "feet"]),
    ("total_length", .arr [.num "20" 20, .str "meters"]), ("trailer_length", .arr [.num "48" 48, .str "feet"]),
    ("total_weight", .arr [.num "36" 36, .str "tons"]), ("number_of_axles", .num "5" 5)]),
   ("road_classes", .arr [.str "motorway", .str "trunk"])]

example : (vehicleParamsOfQuery (fun b => (b : ℚ) / 10) exQuery).toOption.map
    (fun p => (p.height, p.width, p.totalWeight, p.axles)) =
    some ((41 / 10, .meters), (8 / 10, .feet), (36 / 10, .tons), 5) := by decide +kernel
example : (match vehicleParamsOfQuery (fun b => (b : ℚ))
    (.obj [("vehicle_parameters", .obj [("height", .arr [.num "4" 4, .str "meters"]), ("width", .arr [.num "8" 8, .str "feet"]),
      ("total_length", .arr [.num "20" 20, .str "meters"]), ("trailer_length", .arr [.num "48" 48, .str "feet"]),
      ("total_weight", .arr [.num "36" 36, .str "tons"]), ("number_of_axles", .num "256" 256)])]) with
    | .error e => some e | .ok _ => none) = some .axlesRange := by decide +kernel
example : roadClassesOfQuery [("motorway", 1), ("trunk", 2)] exQuery = some (some [1, 2]) := by decide +kernel
example : roadClassesOfQuery [] exQuery = none := by decide +kernel
example : roadClassesOfQuery [("motorway", 1)] exQuery = none := by decide +kernel
example : roadClassesOfQuery [] (.obj [("road_classes", .arr [.num "3" 3, .num "7" 7])]) = some (some [3, 7]) := by decide +kernel
example : roadClassesOfQuery [] (.obj [("road_classes", .arr [.num "256" 256])]) = none := by decide +kernel

/-! ### Non-vacuity of the search-level theorems

`permConfig`: five edges 0: 0→1, 1: 1→3, 2: 0→2, 3: 2→3, 4: 0→3 (a 10 m shortcut); a road-class
model (classes 0 and 1 allowed; the shortcut is class 2), a vehicle-restriction model (edge 1: at
most 3 short tons in total — the vehicle weighs 8000 kg ≈ 8.8 tons; edge 3: at most 2 tons per axle,
five axles, and at most 5 m of height, both met), an edge cut (edge 0) and a turn-restriction model,
combined.  Dijkstra from 0 to 3 must go round by `[2, 3]`. -/

def permConfig : Config ℚ where
  nV := 4
  edges := [⟨0, 1, 100⟩, ⟨1, 3, 100⟩, ⟨0, 2, 300⟩, ⟨2, 3, 300⟩, ⟨0, 3, 10⟩]
  outAdj := [[0, 2, 4], [1], [3], []]
  inAdj := [[], [0], [2], [1, 3, 4]]
  feats := [{ name := "distance", kind := .dist .meters, init := 0 }]
  trav := .distance .meters
  access := .noAccess
  cost := { indices := [0], weights := [1], vehicleRates := [.raw], networkRates := [.zero], agg := .sum }
  frontier := [.roadClass (some [0, 1]) [0, 0, 1, 1, 2],
    .vehicle [(1, [.weight false 3 .tons]), (3, [.weight true 2 .tons, .length 4 5 .meters])]
      { height := (4, .meters), width := (5 / 2, .meters), totalLength := (20, .meters),
        trailerLength := (10, .meters), totalWeight := (8000, .kg), axles := 5 },
    .edgeCut [0], .turnRestriction [(0, 1), (4, 3)]]
  term := .combined []
  reverse := false
  gc := [0, 0, 0, 0]
  wf := some 0

/-- (parent, edge) of the tree entry of `v` in a result of `run_a_star` -/
def entryOf (r : Except ErrKind (SState ℚ)) (v : Nat) : Option (Nat × Nat) :=
  match r with
  | .ok s => (s.sol v).map (fun b => (b.terminal, b.edge))
  | .error _ => none

theorem entry_of_entryOf {r : Except ErrKind (SState ℚ)} {v p e : Nat}
    (h : entryOf r v = some (p, e)) :
    ∃ s b, r = .ok s ∧ s.sol v = some b ∧ b.terminal = p ∧ b.edge = e := by
  cases r with
  | error k => cases h
  | ok s =>
    cases hb : s.sol v with
    | none => rw [entryOf, hb] at h; cases h
    | some b =>
      simp only [entryOf, hb, Option.map_some, Option.some.injEq, Prod.mk.injEq] at h
      exact ⟨s, b, rfl, hb, h.1, h.2⟩

/-- three edges are forbidden, one by each model; the run avoids them, and `config_edges_permitted`
says so of every element of the route it returned -/
example : ∃ r, permConfig.runVertex 0 (some 3) [0, 2, 3] = .ok r ∧
    routeEdgesOf (permConfig.runVertex 0 (some 3) [0, 2, 3]) = some [[2, 3]] ∧
    permConfig.okOf 0 = false ∧ permConfig.okOf 1 = false ∧ permConfig.okOf 4 = false ∧
    ∀ route ∈ r.routes, ∀ b ∈ route,
      permConfig.okOf b.edge = true ∧ ∀ m ∈ permConfig.frontier, EdgeAllowedBy m b.edge := by
  have hobs : routeEdgesOf (permConfig.runVertex 0 (some 3) [0, 2, 3]) = some [[2, 3]] := by
    decide +kernel
  obtain ⟨r, hr⟩ := SearchRoute.Example.ok_of_routeEdgesOf hobs
  exact ⟨r, hr, hobs, by decide +kernel, by decide +kernel, by decide +kernel,
    (config_edges_permitted permConfig hr).2⟩

/-- `tree_edges_valid` on that run: the entry of vertex 3 carries edge 3 and was written in the turn
of a scheduled vertex `u` at which edge 3 is listed -/
example : ∃ s b, runAStar permConfig.inst 0 (some 3) [0, 2, 3] = .ok s ∧ s.sol 3 = some b ∧
    b.edge = 3 ∧ ∃ pre₀ u, (pre₀ ++ [u]) <+: [0, 2, 3] ∧ b.edge ∈ permConfig.inst.incident u := by
  obtain ⟨s, b, hs, hb, _, he⟩ := entry_of_entryOf
    (show entryOf (runAStar permConfig.inst 0 (some 3) [0, 2, 3]) 3 = some (2, 3) by decide +kernel)
  obtain ⟨_, _, f0, pre₀, h₀, u, le, st, _, _, hpre, hinc, _⟩ := tree_edges_valid _ _ _ _ s hs 3 b hb
  exact ⟨s, b, hs, hb, he, pre₀, u, hpre, hinc⟩

/-- `dijkstra_tree_edges_valid` with a turn restriction: the re-opening witness under Dijkstra
(weight factor 0), destination-less: vertex 2 is entered by edge 2 from vertex 1, accepted for the
pair (state of 1's entry, previous edge 1) of the returned tree; edge 3 is then refused (turn (2,3)),
so vertices 3 and 4 stay out of the tree -/
def staleTurnDijkstra : Config ℚ := { staleTurnConfig with wf := some 0 }

example : ∃ s b bu, runAStar staleTurnDijkstra.inst 0 none [0, 1, 2] = .ok s ∧
    s.sol 2 = some b ∧ s.sol b.terminal = some bu ∧ s.sol 3 = none ∧
    staleTurnDijkstra.inst.valid b.edge bu.state (some bu.edge) = .ok true := by
  have hobs : entryOf (runAStar staleTurnDijkstra.inst 0 none [0, 1, 2]) 2 = some (1, 2) ∧
      entryOf (runAStar staleTurnDijkstra.inst 0 none [0, 1, 2]) 3 = none := by decide +kernel
  have hadj : staleTurnDijkstra.AdjConsistent := adjConsistent_of_lists _ (by decide)
  obtain ⟨s, b, hs, hb, hbt, _⟩ := entry_of_entryOf hobs.1
  have h3 : s.sol 3 = none := by
    have := hobs.2
    rw [hs] at this
    exact Option.map_eq_none_iff.1 this
  rcases dijkstra_tree_edges_valid staleTurnDijkstra hadj rfl hs hb with ⟨h0, _⟩ | ⟨_, bu, hbu, hv, _⟩
  · rw [hbt] at h0; cases h0
  · exact ⟨s, b, bu, hs, hb, hbu, h3, hv⟩

/-- `consistent_tree_edges_valid` on the A* run of `SearchDiscipline.Example.instA` (a consistent,
non-zero heuristic; a restricted turn and a turn delay) -/
example : ∃ s, runAStar SearchDiscipline.Example.instA 0 (some 3) [0, 1, 2, 3] = .ok s ∧
    ∀ v b, s.sol v = some b →
      (b.terminal = 0 ∧ SearchDiscipline.Example.instA.valid b.edge SearchDiscipline.Example.instA.init none = .ok true) ∨
      (b.terminal ≠ 0 ∧ ∃ bu, s.sol b.terminal = some bu ∧
        SearchDiscipline.Example.instA.valid b.edge bu.state (some bu.edge) = .ok true) := by
  obtain ⟨s, _, hs, _⟩ := entry_of_entryOf
    (show entryOf (runAStar SearchDiscipline.Example.instA 0 (some 3) [0, 1, 2, 3]) 3 = some (2, 4) by
      decide +kernel)
  refine ⟨s, hs, fun v b hb => ?_⟩
  rcases consistent_tree_edges_valid SearchDiscipline.Example.instA_wf
    (target := some 3) SearchDiscipline.Example.instA_heur hs hb with ⟨h1, h2, _⟩ | ⟨h1, bu, h2, h3, _⟩
  · exact Or.inl ⟨h1, h2⟩
  · exact Or.inr ⟨h1, bu, h2, h3⟩

/-- forward Dijkstra with a restricted turn on the way: edges 0: 0→1, 1: 1→2, 2: 0→2 (long), turn
(0,1) restricted: the route is `[2]`, and `dijkstra_route_no_restricted_turn_forward` applies -/
def detourConfig : Config ℚ :=
  { seamConfig with
    nV := 3
    edges := [⟨0, 1, 10⟩, ⟨1, 2, 10⟩, ⟨0, 2, 100⟩]
    outAdj := [[0, 2], [1], []]
    inAdj := [[], [0], [1, 2]]
    gc := [0, 0, 0] }

example : ∃ res route, runVertexOriented detourConfig.inst 0 (some 2) [0, 1, 2] = .ok res ∧
    res.route = some route ∧ route.map (·.edge) = [2] ∧
    ∀ i (hi : i + 1 < route.length), (route[i].edge, route[i + 1].edge) ∉ [(0, 1)] := by
  have hobs : routeEdgesOf (detourConfig.runVertex 0 (some 2) [0, 1, 2]) = some [[2]] := by
    decide +kernel
  have hadj : detourConfig.AdjConsistent := adjConsistent_of_lists _ (by decide)
  obtain ⟨r, hr⟩ := SearchRoute.Example.ok_of_routeEdgesOf hobs
  obtain ⟨res, hres, _, hroutes, _⟩ := runVertex_ok hr
  obtain ⟨route, h1, h2⟩ := dijkstra_route_no_restricted_turn_forward detourConfig hadj rfl rfl
    (by decide) hres
  rw [hr] at hobs
  simp only [routeEdgesOf, hroutes, h1, Option.toList_some, List.map_cons, List.map_nil,
    Option.some.injEq, List.cons.injEq, and_true] at hobs
  exact ⟨res, route, hres, h1, hobs, h2 [(0, 1)] (by simp [detourConfig, seamConfig])⟩

/-- no axles: over ℚ as in f64 a vehicle of positive weight meets no per-axle limit (the quotient is
+∞), however generous -/
example : (Restriction.weight true (1000000 : ℚ) .kg).valid
    { height := (1, .meters), width := (1, .meters), totalLength := (1, .meters),
      trailerLength := (1, .meters), totalWeight := (1, .kg), axles := 0 } = false := by
  decide +kernel

/-! ### Non-vacuity of the per-model statements -/
example : (FrontierM.roadClass (α := ℚ) (some [1, 2]) [0, 2, 5]).valid 1 none = some true := by decide
example : (FrontierM.roadClass (α := ℚ) (some [1, 2]) [0, 2, 5]).valid 2 none = some false := by decide
example : (FrontierM.turnRestriction (α := ℚ) [(3, 4)]).valid 4 (some 3) = some false := by decide
example : frontierValid (α := ℚ) [.edgeCut [7], .roadClass (some [1]) [1, 1]] 1 none = .ok true := by decide

/-! ### Non-vacuity: serde's other spellings are read, the near misses refused -/

example :
    Build.dimOfJson (fun b => (b : ℚ)) (some (.arr [.num "5.0" 5, .obj [("feet", .null)]])) = some (5, .feet) ∧
    Build.dimOfJson (fun b => (b : ℚ)) (some (.arr [.num "5.0" 5, .obj [("feet", .obj [])]])) = none ∧
    Build.dimOfJson (fun b => (b : ℚ)) (some (.arr [.num "5.0" 5, .obj [("feet", .null), ("x", .null)]])) = none ∧
    Build.distanceBuild (.obj [("type", .str "distance"), ("distance_unit", .obj [("miles", .null)])]) = .ok .miles ∧
    Build.roadClassParserOfConfig (.obj [("road_class_parser", .arr [.obj [("class1", .num "1" 0)]])]) =
      Build.roadClassParserOfConfig
        (.obj [("road_class_parser", .obj [("mapping", .obj [("class1", .num "1" 0)])])]) ∧
    Build.roadClassParserOfConfig (.obj [("road_class_parser", .arr [])]) = none := by
  decide +kernel


end C04
end Compass

namespace Compass
namespace C04
open Src

/-! ### Source decision ties

What these theorems are for is said in `Props/C01.lean` under the same heading. -/

/-- shared by every search property: the label test of `run_a_star`'s relaxation (`improves`) is the
source's `tentative_gscore < existing_gscore`; with `<=` an equal-cost arrival re-labels an expanded vertex -/
theorem src_relax_improves {α : Type} [Field α] [LinearOrder α] [IsStrictOrderedRing α] [Lit α] [LawfulLit α] (tent ex : α) :
    some (improves tent (some ex)) = relax_improves.num tent ex := by
  simp [improves, relax_improves, Rel.num]


/-! ### Generated function bodies

`tools/gen_fns.py` re-translates the body of the Rust function on every run into `Compass/Gen/FnsC04.lean`
(conventions in the header of the tool).  Each `gen_*_eq` theorem below says that the generated definition
*is* the hand-written model function the property theorems are about.  A source change to the function
changes the generated definition and the proof stops checking (a body the translator no longer recognises is
not emitted: the theorem no longer elaborates). -/

/-! `VehicleRestriction::valid` is translated arm by arm (the model's `Restriction` folds the six variants into a
per-axle flag and a dimension selector): each arm of the source is the model's `valid` at the constructor that
stands for the variant. -/

theorem gen_valid_total_weight_eq {α : Type} [Field α] [LinearOrder α] [IsStrictOrderedRing α] [Lit α] [LawfulLit α] (x : α) (u : WeightUnit) (p : VehicleParams α) :
    Gen.VehicleRestriction_valid_MaximumTotalWeight (x, u) p = (Restriction.weight false x u).valid p := rfl

/-- the source divides by `number_of_axles as f64` as it is; the model spells out what IEEE division by zero
does (`perAxleOk`), which is outside a field: the two agree for a vehicle with axles -/
theorem gen_valid_weight_per_axle_eq {α : Type} [Field α] [LinearOrder α] [IsStrictOrderedRing α] [Lit α] [LawfulLit α] (x : α) (u : WeightUnit) (p : VehicleParams α) (h : p.axles ≠ 0) :
    Gen.VehicleRestriction_valid_MaximumWeightPerAxle (x, u) p = (Restriction.weight true x u).valid p := by
  simp [Gen.VehicleRestriction_valid_MaximumWeightPerAxle, Restriction.valid, perAxleOk, h]

theorem gen_valid_length_eq {α : Type} [Field α] [LinearOrder α] [IsStrictOrderedRing α] [Lit α] [LawfulLit α] (x : α) (u : DistanceUnit) (p : VehicleParams α) :
    Gen.VehicleRestriction_valid_MaximumLength (x, u) p = (Restriction.length 2 x u).valid p := rfl

theorem gen_valid_width_eq {α : Type} [Field α] [LinearOrder α] [IsStrictOrderedRing α] [Lit α] [LawfulLit α] (x : α) (u : DistanceUnit) (p : VehicleParams α) :
    Gen.VehicleRestriction_valid_MaximumWidth (x, u) p = (Restriction.length 3 x u).valid p := rfl

theorem gen_valid_height_eq {α : Type} [Field α] [LinearOrder α] [IsStrictOrderedRing α] [Lit α] [LawfulLit α] (x : α) (u : DistanceUnit) (p : VehicleParams α) :
    Gen.VehicleRestriction_valid_MaximumHeight (x, u) p = (Restriction.length 4 x u).valid p := rfl

theorem gen_valid_trailer_length_eq {α : Type} [Field α] [LinearOrder α] [IsStrictOrderedRing α] [Lit α] [LawfulLit α] (x : α) (u : DistanceUnit) (p : VehicleParams α) :
    Gen.VehicleRestriction_valid_MaximumTrailerLength (x, u) p = (Restriction.length 5 x u).valid p := rfl

end C04
end Compass
