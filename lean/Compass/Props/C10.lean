/-
C10 — search limits bound the work and never alter an answer, only stop it.

`TermM` models `TerminationModel` (`Model/Instance.lean`).  The clock of a runtime limit in the
configured model is the *affine* function `base + per * iteration` nanoseconds — the harness's virtual
clock (hook in `TerminationModel`), which is what makes a runtime limit replayable; the loop-level
statement `runtime_stops_at_next_scheduled_check_any_clock` holds for an arbitrary clock function.
Loop-level theorems (`Proofs/SearchLimits`) are for `run_a_star` / `run_vertex_oriented`; the
edge-oriented wrapper has its own section (it adds its pseudo-steps to `iterations` and, when the two
edges are adjacent, runs no search and consults no limit).  Each sub-search of the k-shortest-path
algorithms is a `run_vertex_oriented` call, so the theorems apply to it; how a limit hit of a
sub-search surfaces is C13's (`Props/C13.lean`).

Modelled rather than verified: `IterationsLimit` computes `iteration + 1 > limit` in `u64`:
`terminate_search(_, 0, u64::MAX)` wraps to `0 > limit`, false, in a release build (and panics in a
debug build), where `(TermM.iters limit).fires 0 (2^64 - 1) = some true` over the unbounded naturals
of the model.  Unreachable from `run_a_star`, whose counter starts at 0 and grows by one per
expansion (2^64 expansions), and outside the builder's reach; the limits `u64::MAX`, `usize::MAX` and 0
themselves are generated (extreme-value stream of harness/src/searchprops.rs).
-/
import Compass.Model.Search
import Compass.Gen.Decisions
import Compass.Gen.FnsC10
import Compass.Model.Instance
import Compass.Proofs.Build
import Compass.Proofs.SearchTermination

namespace Compass
namespace C10

/-- an iteration limit lets iteration `it` start exactly when `it < L` -/
theorem iters_test_ok_iff (L sz it : Nat) : (TermM.iters L).test sz it = .ok () ↔ it < L := by
  simp only [TermM.test, TermM.fires, TermM.explain]
  by_cases h : it + 1 > L
  · simp [h]; omega
  · simp [h]; omega

/-- from iteration `L` on the iteration limit answers with an explicit `terminated` naming itself -/
theorem iters_test_terminated (L sz it : Nat) (h : L ≤ it) :
    (TermM.iters L).test sz it = .error (.terminated [.iterations]) := by
  have : it + 1 > L := by omega
  simp [TermM.test, TermM.fires, TermM.explain, this]

/-- a solution-size limit lets a loop turn start exactly when the tree has at most `S` entries -/
theorem size_test_ok_iff (S sz it : Nat) : (TermM.size S).test sz it = .ok () ↔ sz ≤ S := by
  simp only [TermM.test, TermM.fires, TermM.explain]
  by_cases h : sz > S
  · simp [h]
  · simp [h]; omega

theorem size_test_terminated (S sz it : Nat) (h : S < sz) :
    (TermM.size S).test sz it = .error (.terminated [.size]) := by
  have : sz > S := h
  simp [TermM.test, TermM.fires, TermM.explain, this]

/-- a runtime limit is consulted only at multiples of its frequency, and stops the search there
exactly when the clock exceeds the budget -/
theorem runtime_test (limit freq base per sz it : Nat) (hf : 0 < freq) :
    (TermM.runtime limit freq base per).test sz it =
      if it % freq = 0 ∧ base + per * it > limit then .error (.terminated [.runtime]) else .ok () := by
  have hf' : freq ≠ 0 := by omega
  simp only [TermM.test, TermM.fires, TermM.explain, hf', if_false]
  by_cases h1 : it % freq = 0
  · by_cases h2 : base + per * it > limit
    · simp [h1, h2]
    · simp [h1, h2]
  · simp [h1]

/-- frequency zero is the one configuration that makes the check itself fail (`iteration % 0`) -/
theorem runtime_frequency_zero (limit base per sz it : Nat) :
    (TermM.runtime limit 0 base per).test sz it = .error (.panic "termination-frequency-zero") := by
  simp [TermM.test, TermM.fires]

/-- with an exhausted budget from iteration `i₀` on, the first scheduled check at or after `i₀` stops
the search: no loop turn with `it % freq = 0 ∧ i₀ ≤ it` can start -/
theorem runtime_stops_at_next_check (limit freq base per sz it i₀ : Nat) (hf : 0 < freq)
    (hex : ∀ i, i₀ ≤ i → base + per * i > limit) (hit : i₀ ≤ it) (hm : it % freq = 0) :
    (TermM.runtime limit freq base per).test sz it = .error (.terminated [.runtime]) := by
  rw [runtime_test _ _ _ _ _ _ hf]
  simp [hm, hex it hit]


/-! ### Loop level (every configuration, source, target and schedule) -/

section
open SearchLimits
variable {α : Type} [Field α] [LinearOrder α] [IsStrictOrderedRing α] [Lit α] [LawfulLit α]

/-- With an iteration limit `L` anywhere in the configured termination model a search never performs
more than `L` expansion steps: a returned result has at most `L` iterations, and the loop never
consumes more than `L` scheduled pops (the run is unchanged when the schedule is cut after `L`). -/
theorem iterations_le_limit (c : Config α) {L : Nat} (hl : Leaf (.iters L) c.term)
    (source : Nat) (target : Option Nat) (sched : List Nat) :
    (∀ s, runAStar c.inst source target sched = .ok s → s.iters ≤ L) ∧
    runAStar c.inst source target sched = runAStar c.inst source target (sched.take L) :=
  ⟨fun _ h => (config_iterations_le_limit c hl h).1,
    runAStar_take (iterLimit_of_leaf (I := c.inst) rfl hl) source target sched⟩

/-- With a solution-size limit `S` anywhere in the configured termination model, `D` a bound on the
number of incident edges of a vertex (the out-degree, in a reverse search the in-degree):
(1) DURING a run — at every loop head the run reaches, returning or not, in particular the one at
which the limit fires — the tree has at most `S + D` entries: it never exceeds the limit by more than
one vertex's degree;
(2) inside an expansion, after the edges `es` of the expanded vertex have been relaxed, it has at most
`S + |es|` entries;
(3) a tree that is returned has at most `S` entries (the result is produced at a loop head that
passed the test). -/
theorem size_le_limit_plus_degree (c : Config α) {S D : Nat} (hl : Leaf (.size S) c.term)
    (hD : ∀ v, (c.inst.incident v).length ≤ D) (source : Nat) (target : Option Nat) :
    (∀ (pre : List Nat) (f0 : α) (h : SState α),
      Reach c.inst source target pre (initState source f0) h → h.solSize ≤ S + D) ∧
    (∀ (pre : List Nat) (f0 : α) (h : SState α),
      Reach c.inst source target pre (initState source f0) h →
      c.term.test h.solSize h.iters = .ok () →
      ∀ (hasTarget : Bool) (lastEdge : Option Nat) (st : List α) (v : Nat) (es : List Nat)
        (s2 : SState α), relaxAll c.inst hasTarget lastEdge st es (popped h v) = .ok s2 →
        s2.solSize ≤ S + es.length) ∧
    (∀ (sched : List Nat) (s : SState α),
      runAStar c.inst source target sched = .ok s → s.solSize ≤ S) := by
  have hS : SizeLimit c.inst S := sizeLimit_of_leaf (I := c.inst) rfl hl
  refine ⟨fun pre f0 h hr => ?_, fun pre f0 h _ hterm hasT le st v es s2 hrel => ?_,
    fun sched s hrun => (SearchLimits.size_le_limit_plus_degree hS hD hrun).2⟩
  · rcases reach_size_le hS hD hr with rfl | hle
    · cases hr
      simp [initState]
    · exact hle
  · exact relaxAll_size_le hS hterm hrel

/-- With a time budget exhausted from iteration `i₀` on, the search stops at the next scheduled
check: no result is returned after `nextCheck freq i₀` iterations.  The clock of the configured model
is affine, `baseNs + perNs * iteration` (the virtual clock of the harness); for an arbitrary clock see
`runtime_stops_at_next_scheduled_check_any_clock`. -/
theorem runtime_stops_at_next_scheduled_check (c : Config α) {limitNs freq baseNs perNs i₀ : Nat}
    (hl : Leaf (.runtime limitNs freq baseNs perNs) c.term) (hf : 0 < freq)
    (hex : ∀ i, i₀ ≤ i → limitNs < baseNs + perNs * i) {source : Nat} {target : Option Nat}
    {sched : List Nat} {s : SState α} (hrun : runAStar c.inst source target sched = .ok s) :
    s.iters ≤ nextCheck freq i₀ :=
  (SearchLimits.runtime_stops_at_next_check hf (runtimeLimit_of_leaf (I := c.inst) rfl hl hex) hrun).1

/-- The same for an arbitrary clock: any instance whose limit function refuses a loop head whenever
the iteration is a multiple of `freq` and the clock reading `clock iteration` exceeds `limit` (the
code's `iteration % frequency == 0 && elapsed > limit`, whatever else the limit function tests).  If
the budget is exhausted from iteration `i₀` on — for a monotone clock: as soon as it is exhausted at
`i₀` — no result is returned after the first multiple of `freq` that is `≥ i₀`. -/
theorem runtime_stops_at_next_scheduled_check_any_clock {I : Inst α} {freq i₀ limit : Nat}
    (clock : Nat → Nat) (hf : 0 < freq)
    (hI : ∀ sz it, it % freq = 0 → limit < clock it → ∃ k, I.term sz it = .error k)
    (hex : (∀ i, i₀ ≤ i → limit < clock i) ∨ (Monotone clock ∧ limit < clock i₀))
    {source : Nat} {target : Option Nat} {sched : List Nat} {s : SState α}
    (hrun : runAStar I source target sched = .ok s) :
    s.iters ≤ nextCheck freq i₀ ∧ (target ≠ some source → s.iters < nextCheck freq i₀) := by
  have hex' : ∀ i, i₀ ≤ i → limit < clock i := by
    rcases hex with h | ⟨hm, h0⟩
    · exact h
    · exact fun i hi => lt_of_lt_of_le h0 (hm hi)
  exact SearchLimits.runtime_stops_at_next_check hf
    (fun sz it hmod hi => hI sz it hmod (hex' it hi)) hrun

/-- A search that hits a limit returns the explicit `terminated` error naming the limit(s) that
fired at that loop head — never a route, a tree or "no path". -/
theorem terminated_names_fired_limits (c : Config α) {source : Nat} {target : Option Nat}
    {ks : List TermKind} (sched : List Nat) (s : SState α)
    (h : runLoop c.inst source target sched s = .error (.terminated ks)) :
    ∃ pre rest hd, sched = pre ++ rest ∧ Reach c.inst source target pre s hd ∧
      c.term.test hd.solSize hd.iters = .error (.terminated ks) ∧ ks ≠ [] ∧
      ∀ k ∈ ks, ∃ l, Leaf l c.term ∧ kindOf l = k ∧ l.fires hd.solSize hd.iters = some true := by
  obtain ⟨pre, rest, hd, h1, h2, h3⟩ :=
    terminated_from_limit (config_components_not_terminated c) sched s h
  have h3' : c.term.test hd.solSize hd.iters = .error (.terminated ks) := h3
  obtain ⟨hf, rfl⟩ := (test_terminated_iff _ _ _ _).1 h3'
  exact ⟨pre, rest, hd, h1, h2, h3', explain_ne_nil hf, fun k hk => (mem_explain _ _ k _).1 hk⟩

/-- the termination model never answers with the "unable to explain" internal error -/
theorem termination_never_unexplained (m : TermM) (sz it : Nat) : m.test sz it ≠ .error .internal :=
  test_ne_internal m sz it

/-- the converse of `terminated_names_fired_limits` ("every named limit fired"): **every limit that
fired is named** — together: the explicit `terminated` error names exactly the kinds of the limits of
the model that fire at that loop head -/
theorem terminated_names_every_fired_limit (m : TermM) (sz it : Nat) {ks : List TermKind}
    (h : m.test sz it = .error (.terminated ks)) {l : TermM} (hl : Leaf l m)
    (hf : l.fires sz it = some true) : kindOf l ∈ ks := by
  rw [((test_terminated_iff m sz it ks).1 h).2]
  exact (mem_explain sz it _ m).2 ⟨l, hl, rfl, hf⟩

/-- non-vacuity: a nested model in which two limits fire and one stays silent -/
example : (TermM.combined [.iters 0, .size 100, .combined [.size 0]]).test 1 0 =
      .error (.terminated [.iterations, .size]) ∧
    TermKind.iterations ∈ [TermKind.iterations, TermKind.size] := by
  refine ⟨by decide, ?_⟩
  exact terminated_names_every_fired_limit (.combined [.iters 0, .size 100, .combined [.size 0]]) 1 0
    (by decide) (Leaf.combined (by simp) (Leaf.iters 0)) (by decide)

/-- Whenever a search returns under limits its result is identical to the unlimited result. -/
theorem limited_result_is_unlimited_result (c : Config α) {source : Nat} {target : Option Nat}
    {sched : List Nat} {r : SearchResult α}
    (h : runVertexOriented c.inst source target sched = .ok r) :
    runVertexOriented ({ c with term := .combined [] } : Config α).inst source target sched = .ok r :=
  config_success_monotone c (.combined []) (fun sz it _ => combined_nil_test sz it) h

/-- Success is monotone in the limits: any termination model that lets pass everything the
configured one lets pass returns the same result. -/
theorem success_monotone_in_limits (c : Config α) (m₂ : TermM)
    (hmono : ∀ sz it, c.term.test sz it = .ok () → m₂.test sz it = .ok ())
    {source : Nat} {target : Option Nat} {sched : List Nat} {r : SearchResult α}
    (h : runVertexOriented c.inst source target sched = .ok r) :
    runVertexOriented ({ c with term := m₂ } : Config α).inst source target sched = .ok r :=
  config_success_monotone c m₂ hmono h

end

/-! ### The edge-oriented wrapper (`search_algorithm::run_edge_oriented`, `Config.runEdge`)

The wrapper runs one vertex-oriented search (from the origin edge's head to the destination edge's
tail, or without destination) under the configured limits and adds its own pseudo-steps to the
iteration count (`+ 1` for the origin edge, `+ 1` for the destination edge).  When the destination
edge starts where the origin edge ends it runs no search at all and consults no limit: it reports
`iterations = 1` whatever the limits (even `iterations` limit 0).  Tree-size and runtime statements
are about the inner search (the theorems above apply to it verbatim); they are not restated for the
wrapper. -/

section
open SearchLimits
variable {α : Type} [Field α] [LinearOrder α] [IsStrictOrderedRing α] [Lit α] [LawfulLit α]

/-- With an iteration limit `L` the edge-oriented wrapper reports at most `L + 2` iterations: at most
`L` expansions of the inner search plus its own two pseudo-steps. -/
theorem edge_oriented_iterations_le_limit (c : Config α) {L : Nat} (hl : Leaf (.iters L) c.term)
    {source : Nat} {target : Option Nat} {sched : List Nat} {r : AlgResult α}
    (h : c.runEdge source target sched = .ok r) : r.iterations ≤ L + 2 := by
  rcases SearchRoute.runEdge_limit_cases c source target sched with
    ⟨out, hout, _, hit⟩ | ⟨e1, t, post, _, _, heq, hpost⟩
  · have := hit r ((hout c.term).symm.trans h)
    omega
  · have h' := (heq c.term).symm.trans h
    split at h'
    · cases h'
    · rename_i r' hr
      have := (hpost r').2 r h'
      have := config_runVertex_iterations_le_limit c hl hr
      omega

/-- Whenever the wrapper returns under limits its result is identical to the result under any
termination model that lets pass everything the configured one lets pass — in particular the
unlimited one (`combined []`): success is monotone in the limits. -/
theorem edge_oriented_success_monotone_in_limits (c : Config α) (m₂ : TermM)
    (hmono : ∀ sz it, c.term.test sz it = .ok () → m₂.test sz it = .ok ())
    {source : Nat} {target : Option Nat} {sched : List Nat} {r : AlgResult α}
    (h : c.runEdge source target sched = .ok r) :
    ({ c with term := m₂ } : Config α).runEdge source target sched = .ok r := by
  rcases SearchRoute.runEdge_limit_cases c source target sched with
    ⟨out, hout, _, _⟩ | ⟨e1, t, post, _, _, heq, _⟩
  · exact (hout m₂).trans ((hout c.term).symm.trans h)
  · have h' := (heq c.term).symm.trans h
    split at h'
    · cases h'
    · rename_i r' hr
      rw [heq m₂, config_runVertex_mono c m₂ hmono hr]
      exact h'

theorem edge_oriented_limited_result_is_unlimited_result (c : Config α)
    {source : Nat} {target : Option Nat} {sched : List Nat} {r : AlgResult α}
    (h : c.runEdge source target sched = .ok r) :
    ({ c with term := .combined [] } : Config α).runEdge source target sched = .ok r :=
  edge_oriented_success_monotone_in_limits c (.combined [])
    (fun sz it _ => combined_nil_test sz it) h

/-- a `terminated` outcome of the wrapper is the outcome of its inner search, handed on unchanged:
the search from the origin edge's head — without destination, or to the destination edge's tail when
the two edges are distinct and not adjacent (the only arms that run a search) -/
theorem edge_oriented_terminated_from_inner (c : Config α) {source : Nat} {target : Option Nat}
    {sched : List Nat} {ks : List TermKind}
    (h : c.runEdge source target sched = .error (.terminated ks)) :
    ∃ e1, c.edges[source]? = some e1 ∧
      ((target = none ∧ c.runVertex e1.dst none sched = .error (.terminated ks)) ∨
       ∃ tgt e2, target = some tgt ∧ c.edges[tgt]? = some e2 ∧ source ≠ tgt ∧ e1.dst ≠ e2.src ∧
         c.runVertex e1.dst (some e2.src) sched = .error (.terminated ks)) := by
  rcases SearchRoute.runEdge_limit_cases c source target sched with
    ⟨out, hout, hnt, _⟩ | ⟨e1, t, post, he1, hshape, heq, hpost⟩
  · exact absurd ((hout c.term).symm.trans h) (hnt ks)
  · have h' := (heq c.term).symm.trans h
    have hinner : c.runVertex e1.dst t sched = .error (.terminated ks) := by
      split at h'
      · rename_i k hr
        rw [hr, h']
      · exact absurd h' ((hpost _).1 ks)
    refine ⟨e1, he1, ?_⟩
    rcases hshape with ⟨rfl, rfl⟩ | ⟨tgt, e2, rfl, he2, hst, hadj, rfl⟩
    · exact Or.inl ⟨rfl, hinner⟩
    · exact Or.inr ⟨tgt, e2, rfl, he2, hst, hadj, hinner⟩

/-- A `terminated` outcome of the wrapper is the `terminated` outcome of a vertex-oriented search on the
same schedule, handed on unchanged (so it names the limits that fired,
`terminated_names_fired_limits`): the wrapper never turns a limit hit into a route, a tree or
"no path", and has no limit of its own.  Which search — its inner search, from the origin edge's head —
is `edge_oriented_terminated_from_inner`. -/
theorem edge_oriented_terminated_from_search (c : Config α) {source : Nat} {target : Option Nat}
    {sched : List Nat} {ks : List TermKind}
    (h : c.runEdge source target sched = .error (.terminated ks)) :
    ∃ s t, c.runVertex s t sched = .error (.terminated ks) :=
  let ⟨e1, _, h'⟩ := edge_oriented_terminated_from_inner c h
  h'.elim (fun h1 => ⟨e1.dst, none, h1.2⟩) (fun ⟨_, e2, _, _, _, _, h2⟩ => ⟨e1.dst, some e2.src, h2⟩)

end

/-! ### The search ends by itself: schedule existence and termination without any limit

Every other search theorem speaks about a pop schedule that is given and accepted.  Here: such
schedules exist, and a search under the Dijkstra discipline ends after at most |V| expansions
whatever limit is or is not configured.  `Ended r` (`Proofs/SearchTermination.lean`): `r` is a result,
"no path", the explicit `terminated` (or the frequency-0 panic), or the error of a component model —
the ways the code ends; the model's other two outcomes are the replay errors `scheduleExhausted`
("accepted so far, the loop wants another pop") and `badSchedule`. -/

section
open SearchLimits SearchTermination
variable {α : Type} [Field α] [LinearOrder α] [IsStrictOrderedRing α] [Lit α] [LawfulLit α]

/-- PROGRESS.  At every loop head a run can reach — any configuration, weight factor, schedule so
far — a non-empty frontier has an entry of minimal priority: some pop is accepted, the search is
never stuck. -/
theorem search_never_stuck (c : Config α) {source : Nat} {target : Option Nat} {pre : List Nat}
    {f0 : α} {h : SState α} (hr : Reach c.inst source target pre (initState source f0) h)
    (hne : h.queue.isEmpty = false) : ∃ v, popOk h.queue v = true :=
  progress hr hne

/-- the outcome `scheduleExhausted` of the model means exactly: every scheduled pop was accepted and
completed a turn, and the loop is not finished (limit test passed, frontier not empty) -/
theorem exhausted_means_accepted_unfinished (c : Config α) {source : Nat} {target : Option Nat}
    (sched : List Nat) (s : SState α) :
    runLoop c.inst source target sched s = .error .scheduleExhausted ↔
      ∃ h, Reach c.inst source target sched s h ∧ c.term.test h.solSize h.iters = .ok () ∧
        h.queue.isEmpty = false :=
  exhausted_iff_reach (config_noSchedErr c) sched s

/-- with the time budget exhausted from iteration `i₀` on, no loop head beyond `nextCheck freq i₀` is
ever reached — by a run that returns or by one that does not -/
theorem reach_le_nextCheck {I : Inst α} {freq i₀ : Nat} (hf : 0 < freq)
    (hR : RuntimeLimit I freq i₀) {source : Nat} {target : Option Nat} {pre : List Nat}
    {s h : SState α} (hr : Reach I source target pre s h) (hs : s.iters ≤ nextCheck freq i₀) :
    h.iters ≤ nextCheck freq i₀ :=
  let ⟨h1, h2, _⟩ := nextCheck_spec hf i₀
  hr.iters_le_check hR h1 h2 hs

/-- **loop-level form of "an exhausted budget stops at the next scheduled check"**: the runtime
theorems above speak of returned results (`hrun : … = .ok s`); this one of the loop itself — every
accepted, unfinished schedule (`scheduleExhausted`) has at most `nextCheck freq i₀` pops, so no
schedule, whatever ties it breaks, carries the search past that check -/
theorem runtime_unfinished_schedule_within_next_check (c : Config α)
    {limitNs freq baseNs perNs i₀ : Nat}
    (hl : Leaf (.runtime limitNs freq baseNs perNs) c.term) (hf : 0 < freq)
    (hex : ∀ i, i₀ ≤ i → limitNs < baseNs + perNs * i) {source : Nat} {target : Option Nat}
    {f0 : α} {sched : List Nat}
    (h : runLoop c.inst source target sched (initState source f0) = .error .scheduleExhausted) :
    sched.length ≤ nextCheck freq i₀ := by
  obtain ⟨hd, hr, _, _⟩ := (exhausted_means_accepted_unfinished c sched _).1 h
  have := reach_le_nextCheck hf (runtimeLimit_of_leaf (I := c.inst) rfl hl hex) hr
    (by simp [initState])
  have hc := hr.counters.1
  simp [initState] at hc
  omega

/-- TERMINATION, Dijkstra (`weight_factor = 0`), no limit needed.  Any traversal, access (turn
delays), cost, frontier (turn restrictions) and termination model, forward or reverse, with or
without destination; adjacency consistent with the edge list, all vertex ids below `c.nV`.
(1) There is a schedule of at most `|V| + 1` pops on which the search ends the way the code ends.
(2) Every accepted, unfinished schedule — whatever tie-breaking produced it — has at most `|V|`
pops and extends to a schedule of at most `|V| + 1` pops on which the search ends.
(3) A returned result performed at most `|V|` expansions. -/
theorem dijkstra_search_terminates (c : Config α) (hadj : c.AdjConsistent) (hwf : c.wf = some 0)
    {source : Nat} (hsrc : source < c.nV) (hV : c.VerticesBelow c.nV) (target : Option Nat) :
    (∃ sched, sched.length ≤ c.nV + 1 ∧ Ended (c.runVertex source target sched)) ∧
    (∀ pre, c.runVertex source target pre = .error .scheduleExhausted →
      pre.length ≤ c.nV ∧ ∃ ext, (pre ++ ext).length ≤ c.nV + 1 ∧
        Ended (c.runVertex source target (pre ++ ext))) ∧
    ∀ sched r, c.runVertex source target sched = .ok r → r.iterations ≤ c.nV :=
  config_dijkstra_terminates c hadj hwf hsrc hV target

/-- the same for a search without destination, any weight factor (the loop then adds `Cost::ZERO`
as estimate) -/
theorem tree_search_terminates (c : Config α) (hadj : c.AdjConsistent)
    {source : Nat} (hsrc : source < c.nV) (hV : c.VerticesBelow c.nV) :
    (∃ sched, sched.length ≤ c.nV + 1 ∧ Ended (c.runVertex source none sched)) ∧
    (∀ pre, c.runVertex source none pre = .error .scheduleExhausted →
      pre.length ≤ c.nV ∧ ∃ ext, (pre ++ ext).length ≤ c.nV + 1 ∧
        Ended (c.runVertex source none (pre ++ ext))) ∧
    ∀ sched r, c.runVertex source none sched = .ok r → r.iterations ≤ c.nV :=
  config_tree_search_terminates c hadj hsrc hV

/-- the same for A\* whenever the estimate is a consistent function `H` of the vertex
(`SearchDiscipline.Heur`: along every accepted traversal it drops by at most the cost charged) -/
theorem consistent_astar_search_terminates (c : Config α) (hadj : c.AdjConsistent) {H : Nat → α}
    {source : Nat} (hsrc : source < c.nV) (hV : c.VerticesBelow c.nV) {target : Option Nat}
    (hH : SearchDiscipline.Heur c.inst target.isSome H) :
    (∃ sched, sched.length ≤ c.nV + 1 ∧ Ended (c.runVertex source target sched)) ∧
    (∀ pre, c.runVertex source target pre = .error .scheduleExhausted →
      pre.length ≤ c.nV ∧ ∃ ext, (pre ++ ext).length ≤ c.nV + 1 ∧
        Ended (c.runVertex source target (pre ++ ext))) ∧
    ∀ sched r, c.runVertex source target sched = .ok r → r.iterations ≤ c.nV :=
  config_terminates_of_heur c hadj hsrc hV hH

/-- The premise of `consistent_astar_search_terminates` holds of the configuration's own estimate under
the premises of C02's `config_distance_estimate_admissible` (`Config.DistanceMetric`).  `_partial`:
restricted to **`Config.EdgeLocal`** configurations — **no access model and no turn-restriction
frontier model** —, where the estimate is a function of the vertex and the cost charged a function of
the edge.  Every other configuration is covered by `astar_search_terminates`, with the exponential
bound instead of `|V| + 1`. -/
theorem astar_distance_search_terminates_partial (c : Config α) (h : c.EdgeLocal) {du : DistanceUnit}
    {t : Nat} (M : c.DistanceMetric du t) {source : Nat} (hsrc : source < c.nV)
    (hV : c.VerticesBelow c.nV) :
    (∃ sched, sched.length ≤ c.nV + 1 ∧ Ended (c.runVertex source (some t) sched)) ∧
    (∀ pre, c.runVertex source (some t) pre = .error .scheduleExhausted →
      pre.length ≤ c.nV ∧ ∃ ext, (pre ++ ext).length ≤ c.nV + 1 ∧
        Ended (c.runVertex source (some t) (pre ++ ext))) ∧
    ∀ sched r, c.runVertex source (some t) sched = .ok r → r.iterations ≤ c.nV :=
  config_astar_distance_terminates c h M hsrc hV

/-- The same for the speed-table model (`Config.SpeedMetric`); `_partial` for the same reason: restricted to
`Config.EdgeLocal` (no access model, no turn-restriction model), the general `astar_search_terminates`
covers the rest -/
theorem astar_speed_search_terminates_partial (c : Config α) (h : c.EdgeLocal)
    {su : SpeedUnit} {du : DistanceUnit} {tu : TimeUnit} {ms : α} {table : List α} {t : Nat}
    (M : c.SpeedMetric su du tu ms table t) {source : Nat} (hsrc : source < c.nV)
    (hV : c.VerticesBelow c.nV) :
    (∃ sched, sched.length ≤ c.nV + 1 ∧ Ended (c.runVertex source (some t) sched)) ∧
    (∀ pre, c.runVertex source (some t) pre = .error .scheduleExhausted →
      pre.length ≤ c.nV ∧ ∃ ext, (pre ++ ext).length ≤ c.nV + 1 ∧
        Ended (c.runVertex source (some t) (pre ++ ext))) ∧
    ∀ sched r, c.runVertex source (some t) sched = .ok r → r.iterations ≤ c.nV :=
  config_astar_speed_terminates c h M hsrc hV

/-- TERMINATION, general A\* (any weight factor, any estimate — inconsistent, above 1 — so vertices may
be re-opened; any traversal, access, cost, frontier and termination model): the search still ends by
itself, because every charged cost is strictly positive (C07).  `W = walks c.inst source c.nV` is the
finite list of walks of fewer than `|V|` edges from the origin along the adjacency lists; every label
the loop writes is the replayed cost of a vertex-simple one of them and a label only improves, so:
(1)–(3) the three clauses of `dijkstra_search_terminates` with `|W| + 1` in place of `|V|`;
(4) `|W| ≤ Σ_{k<|V|} D^k` for a degree bound `D`.  This bound is exponential in `|V|`: it proves
termination, it does not bound the work in any useful way — for such searches the configured
iteration limit (`iterations_le_limit`) is the only practical bound, and a search under the Dijkstra
discipline needs at most `|V|` expansions (`dijkstra_search_terminates`). -/
theorem astar_search_terminates (c : Config α) (hadj : c.AdjConsistent)
    {source : Nat} (hsrc : source < c.nV) (hV : c.VerticesBelow c.nV) (target : Option Nat) :
    (∃ sched, sched.length ≤ (walks c.inst source c.nV).length + 2 ∧
      Ended (c.runVertex source target sched)) ∧
    (∀ pre, c.runVertex source target pre = .error .scheduleExhausted →
      pre.length ≤ (walks c.inst source c.nV).length + 1 ∧
      ∃ ext, (pre ++ ext).length ≤ (walks c.inst source c.nV).length + 2 ∧
        Ended (c.runVertex source target (pre ++ ext))) ∧
    (∀ sched r, c.runVertex source target sched = .ok r →
      r.iterations ≤ (walks c.inst source c.nV).length + 1) ∧
    ∀ D, (∀ v, (c.inst.incident v).length ≤ D) →
      (walks c.inst source c.nV).length ≤ ((List.range c.nV).map (fun k => D ^ k)).sum := by
  obtain ⟨h1, h2, h3⟩ := config_terminates_general c hadj hsrc hV target
  exact ⟨h1, h2, h3, fun D hD => walks_length_le hD source c.nV⟩

end

/-! Non-vacuity: `exC` (five vertices, Dijkstra, a cycle, self loops, an isolated vertex) meets the
premises; the accepted schedule `[0, 1, 2, 3]` of its run to vertex 3 has 4 ≤ 5 + 1 pops, and the
unfinished schedule `[0, 1]` is of the kind clause (2) extends. -/
section
open ConfigUniform.Example SearchTermination

example : exC.VerticesBelow exC.nV := by decide

example : (∃ sched, sched.length ≤ 6 ∧ Ended (exC.runVertex 0 (some 3) sched)) ∧
    (∀ pre, exC.runVertex 0 (some 3) pre = .error .scheduleExhausted →
      pre.length ≤ 5 ∧ ∃ ext, (pre ++ ext).length ≤ 6 ∧ Ended (exC.runVertex 0 (some 3) (pre ++ ext))) ∧
    ∀ sched r, exC.runVertex 0 (some 3) sched = .ok r → r.iterations ≤ 5 :=
  dijkstra_search_terminates exC exC_edgeLocal.adj rfl (by decide) (by decide) (some 3)

example : ConfigUniform.Example.errOf (exC.runVertex 0 (some 3) [0, 1]) = some .scheduleExhausted := by
  decide +kernel

/-- the general theorem on `exA` (weight factor one, a non-zero estimate) -/
example : ∃ sched, Ended (exA.runVertex 0 (some 3) sched) :=
  let ⟨⟨sched, _, h⟩, _⟩ := astar_search_terminates exA exA_edgeLocal.adj (source := 0) (by decide)
    (by decide) (some 3)
  ⟨sched, h⟩

/-- `exC` under a runtime limit: 1000 ns, checked every second iteration, 600 ns per iteration -/
def exRt : Config ℚ := { exC with term := .runtime 1000 2 0 600 }

def loopErrOf (r : Except ErrKind (SState ℚ)) : Option ErrKind :=
  match r with
  | .ok _ => none
  | .error k => some k

/-- `runtime_unfinished_schedule_within_next_check` on `exRt`: the budget is exhausted from iteration 2
on, the next check is at iteration 2, an accepted unfinished schedule exists (`[0]`) and none has more
than 2 pops -/
example : (∃ sched, sched ≠ [] ∧
      runLoop exRt.inst 0 (some 3) sched (initState 0 0) = .error .scheduleExhausted) ∧
    ∀ sched, runLoop exRt.inst 0 (some 3) sched (initState 0 0) = .error .scheduleExhausted →
      sched.length ≤ 2 := by
  refine ⟨⟨[0], by simp, ?_⟩, ?_⟩
  · exact SearchOpt.Example.err_of_errOf
      (show SearchOpt.Example.errOf (runLoop exRt.inst 0 (some 3) [0] (initState 0 0)) =
        some .scheduleExhausted by decide +kernel)
  · intro sched h
    have := runtime_unfinished_schedule_within_next_check exRt (i₀ := 2)
      (SearchLimits.Leaf.runtime 1000 2 0 600) (by decide) (by intro i hi; omega) h
    simpa [SearchLimits.nextCheck] using this

/-- `edge_oriented_terminated_from_inner` on `exC` under iterations limit 0, from edge 0 (0→1) to edge 2
(2→3): the wrapper's `terminated [iterations]` is that of the search from vertex 1 to vertex 2 -/
example : ∃ e1 e2, ({ exC with term := .iters 0 } : Config ℚ).edges[0]? = some e1 ∧
    ({ exC with term := .iters 0 } : Config ℚ).edges[2]? = some e2 ∧
    ({ exC with term := .iters 0 } : Config ℚ).runVertex e1.dst (some e2.src) [] =
      .error (.terminated [.iterations]) := by
  have hr := error_of_errOf
    (show errOf (({ exC with term := .iters 0 } : Config ℚ).runEdge 0 (some 2) []) =
      some (.terminated [.iterations]) by decide +kernel)
  obtain ⟨e1, he1, ⟨hn, _⟩ | ⟨tgt, e2, ht, he2, _, _, hrun⟩⟩ :=
    edge_oriented_terminated_from_inner _ hr
  · cases hn
  · cases ht
    exact ⟨e1, e2, he1, he2, hrun⟩

/-- the two `_partial` theorems on `exA` (distance model) and `exSA` (speed-table model): edge-local
configurations with metrically consistent tables -/
example : ∃ sched, sched.length ≤ exA.nV + 1 ∧ Ended (exA.runVertex 0 (some 3) sched) :=
  (astar_distance_search_terminates_partial exA exA_edgeLocal exA_metric (source := 0) (by decide)
    (by decide)).1

example : ∃ sched, sched.length ≤ exSA.nV + 1 ∧ Ended (exSA.runVertex 0 (some 3) sched) :=
  (astar_speed_search_terminates_partial exSA exSA_edgeLocal exSA_metric (source := 0) (by decide)
    (by decide)).1

end

/-! Non-vacuity of the size clause and of the edge-oriented section, on `exC` (degree at most 3):
under a size limit of 1 the run to vertex 3 is stopped with `terminated [size]` after the second
expansion left a tree of 3 = 1 + 2 entries; the edge-oriented query from edge 0 to edge 4 under
`iterations` limit 100 reports 2 + 2 iterations; the adjacent query from edge 0 to edge 1 returns
with `iterations = 1` even under `iterations` limit 0. -/
section
open ConfigUniform.Example SearchTermination

def iterationsOf (r : Except ErrKind (AlgResult ℚ)) : Option Nat :=
  match r with
  | .ok res => some res.iterations
  | .error _ => none

example : ∀ v, (exC.inst.incident v).length ≤ 3 := degree_le exC rfl rfl

example : ConfigUniform.Example.errOf (({ exC with term := .size 1 } : Config ℚ).runVertex 0 (some 3) [0, 1, 2, 3])
    = some (.terminated [.size]) := by decide +kernel
example : iterationsOf (exC.runEdge 0 (some 4) [1, 2, 3]) = some 4 := by decide +kernel
example : iterationsOf (({ exC with term := .iters 0 } : Config ℚ).runEdge 0 (some 1) []) = some 1 := by
  decide +kernel
example : ConfigUniform.Example.errOf (({ exC with term := .iters 1 } : Config ℚ).runEdge 0 (some 4) [1, 2, 3])
    = some (.terminated [.iterations]) := by decide +kernel

end

/-! ### The limits in force are the ones the configuration states

`TerminationModelBuilder::build` turns the `[termination]` section into the model the loop consults.
A limit that the builder silently changed would bound nothing: a negative limit cast to an
unsigned integer is a limit near 2^64, hours whose seconds overflow wrap to a short budget, and a
check frequency of zero makes `iteration % frequency` panic in every search.  All three are refused;
everything the builder accepts is the configured number. -/

section
open Build SearchLimits

/-- a model the builder returns never makes a search panic on its check frequency, at any counters -/
theorem built_model_never_divides_by_zero (j : Json) (t : TermM) (h : termBuild j = .ok t) (sz it : Nat) :
    t.test sz it ≠ .error (.panic "termination-frequency-zero") := by
  intro hp
  exact termOfJson_no_zeroFreq _ j t h ((test_panic_iff t sz it).1 hp)

/-- the recursion over nested `combined` sections always has fuel left: the answer is a model or one
of the configuration errors -/
theorem builder_total (j : Json) : termBuild j ≠ .error .fuel :=
  termOfJson_fuel _ j (Nat.le_succ _)

/-- a count (`limit` of iterations / solution_size, `frequency`) is accepted exactly when the field
holds an integer `0 ≤ z < 2^63`, and is then that integer; a negative one is refused -/
theorem count_read_exactly (j : Json) (key : String) :
    (∀ n, getCount j key = .ok n ↔ ∃ v z, j.get? key = some v ∧ i64OfJson v = some z ∧ 0 ≤ z ∧ n = z.toNat) ∧
    (∀ v z, j.get? key = some v → i64OfJson v = some z → z < 0 → getCount j key = .error .value) :=
  ⟨getCount_ok_iff j key, getCount_negative j key⟩

/-- section by section (`type` is matched case-insensitively): the three limits hold the configured
numbers, a runtime limit the parsed duration in whole seconds and a frequency of at least 1, a
`combined` section the models of its sub-sections in order; an unknown `type`, a missing one and one
that is not a string are errors -/
theorem builder_sections (fuel : Nat) (j : Json) :
    (∀ e, getString j "type" = .error e → termOfJson (fuel + 1) j = .error e ∧ (e = .missing ∨ e = .type)) ∧
    (∀ ty, getString j "type" = .ok ty →
      (lowerChars ty = "iterations".toList → termOfJson (fuel + 1) j =
        match getCount j "limit" with | .error e => .error e | .ok n => .ok (.iters n)) ∧
      (lowerChars ty = "solution_size".toList → termOfJson (fuel + 1) j =
        match getCount j "limit" with | .error e => .error e | .ok n => .ok (.size n)) ∧
      (lowerChars ty = "combined".toList → termOfJson (fuel + 1) j =
        match getArray j "models" with
        | .error e => .error e
        | .ok ms => match termsOfJson fuel ms with | .error e => .error e | .ok ts => .ok (.combined ts)) ∧
      (lowerChars ty = "query_runtime".toList → ∀ t, termOfJson (fuel + 1) j = .ok t →
        ∃ l s secs f, j.get? "limit" = some l ∧ l.asStr? = some s ∧ parseDuration s = some secs ∧
          getCount j "frequency" = .ok f ∧ 1 ≤ f ∧ t = .runtime (secs * 1000000000) f 0 0) ∧
      (lowerChars ty ≠ "iterations".toList → lowerChars ty ≠ "solution_size".toList → lowerChars ty ≠ "combined".toList →
        lowerChars ty ≠ "query_runtime".toList → termOfJson (fuel + 1) j = .error .unknown)) := by
  constructor
  · intro e he
    exact ⟨by simp [termOfJson, he], getString_error he⟩
  · intro ty hty
    -- unfold the builder once, for all five clauses
    generalize hX : termOfJson (fuel + 1) j = X
    rw [termOfJson] at hX
    simp only [hty] at hX
    subst hX
    refine ⟨fun h => ?_, fun h => ?_, fun h => ?_, fun h t ht => ?_, fun h1 h2 h3 h4 => ?_⟩
    · simp only [h]
      rw [if_neg (by decide +kernel), if_pos (beq_self_eq_true _)]
      cases getCount j "limit" <;> rfl
    · simp only [h]
      rw [if_neg (by decide +kernel), if_neg (by decide +kernel), if_pos (beq_self_eq_true _)]
      cases getCount j "limit" <;> rfl
    · simp only [h]
      rw [if_neg (by decide +kernel), if_neg (by decide +kernel), if_neg (by decide +kernel),
        if_pos (beq_self_eq_true _)]
      cases getArray j "models" with
      | error e => rfl
      | ok ms => simp only [termsOfJson]; cases allOk (termOfJson fuel) ms <;> rfl
    · simp only [h] at ht
      rw [if_pos (beq_self_eq_true _)] at ht
      rcases runtimeArm_cases ht with ⟨e, he, _⟩ | ⟨l, s, secs, f, hl, hs, hsecs, hf, hf0, hr⟩
      · cases he
      · cases hr
        exact ⟨l, s, secs, f, hl, hs, hsecs, hf, Nat.one_le_iff_ne_zero.2 hf0, rfl⟩
    · simp only [beq_iff_eq]
      rw [if_neg h4, if_neg h1, if_neg h2, if_neg h3]

/-- a duration is `h:mm:ss` with two-digit minutes and seconds, read as `h·3600 + m·60 + s` seconds —
the exact number, which must fit `u64`; it is never a wrapped product -/
theorem duration_read_exactly (s : String) (secs : Nat) (h : parseDuration s = some secs) :
    secs < 2 ^ 64 ∧ ∃ hs ms ss hv mv sv, splitOnChar ':' s.toList = [hs, ms, ss] ∧
      ms.length = 2 ∧ ss.length = 2 ∧ natOfDigits hs = some hv ∧ natOfDigits ms = some mv ∧
      natOfDigits ss = some sv ∧ secs = hv * 3600 + (mv * 60 + sv) := by
  unfold parseDuration at h
  split at h
  · rename_i hs ms ss hsplit
    split at h
    · rename_i hlen
      split at h
      · rename_i hv mv sv h1 h2 h3
        split at h
        · rename_i hb
          injection h with h
          subst h
          exact ⟨hb.2, hs, ms, ss, hv, mv, sv, hsplit, hlen.1, hlen.2, h1, h2, h3, rfl⟩
        · cases h
      · cases h
    · cases h
  · cases h

end

/-! Non-vacuity: sections as a user writes them. -/
def cfgIter (z : String) : Json := .obj [("type", .str "iterations"), ("limit", .num z 0)]
def cfgRuntime (limit : String) (freq : String) : Json :=
  .obj [("type", .str "QUERY_RUNTIME"), ("limit", .str limit), ("frequency", .num freq 0)]

def built (j : Json) : Option (List Nat) := (Build.termBuild j).toOption.map Build.termCode
def refused (j : Json) : Option Build.BErr := Build.errOf (Build.termBuild j)

example : built (cfgIter "25") = some (Build.termCode (.iters 25)) := by decide +kernel
example : refused (cfgIter "-1") = some .value := by decide +kernel
example : refused (.obj [("type", .str "solution_size"), ("limit", .num "-1" 0)]) = some .value := by decide +kernel
example : built (cfgRuntime "1:01:01" "2") = some (Build.termCode (.runtime 3661000000000 2 0 0)) := by decide +kernel
example : refused (cfgRuntime "0:00:05" "0") = some .value := by decide +kernel
example : refused (cfgRuntime "0:00:05" "-1") = some .value := by decide +kernel
example : refused (cfgRuntime "5124095576030432:00:00" "1") = some .duration := by decide +kernel
example : refused (cfgRuntime "1:2:3" "1") = some .duration := by decide +kernel
example : built (.obj [("type", .str "combined"), ("models", .arr [cfgIter "3",
    .obj [("type", .str "combined"), ("models", .arr [cfgRuntime "0:00:10" "4"])]])]) =
    some (Build.termCode (.combined [.iters 3, .combined [.runtime 10000000000 4 0 0]])) := by decide +kernel
example : refused (.obj [("type", .str "iteration"), ("limit", .num "3" 0)]) = some .unknown := by decide +kernel
example : refused (.obj [("limit", .num "3" 0)]) = some .missing := by decide +kernel

/-! the limit tests themselves -/
example : (TermM.iters 3).test 0 2 = .ok () := by decide +kernel
example : (TermM.iters 3).test 0 3 = .error (.terminated [.iterations]) := by decide +kernel
example : (TermM.combined [.iters 3, .size 1]).test 2 3 = .error (.terminated [.iterations, .size]) := by decide +kernel
example : (TermM.runtime 1000 2 0 600).test 0 2 = .error (.terminated [.runtime]) := by decide +kernel
example : (TermM.runtime 1000 2 0 600).test 0 3 = .ok () := by decide +kernel

end C10
end Compass

namespace Compass
namespace C10
open Src

/-! ### Source decision ties

What these theorems are for is said in `Props/C01.lean` under the same heading. -/

theorem src_term_solution_size (limit sz it : Nat) :
    (TermM.size limit).fires sz it = term_solution_size.nat sz limit := by
  simp [TermM.fires, term_solution_size, Rel.nat]

/-- (`it + 1` in `Nat`: no wrap at `u64::MAX`, unreachable from `run_a_star`) -/
theorem src_term_iterations (limit sz it : Nat) :
    (TermM.iters limit).fires sz it = term_iterations.nat (it + 1) limit := by
  simp [TermM.fires, term_iterations, Rel.nat]

theorem src_term_runtime (limitNs freq baseNs perNs sz it : Nat) (hf : freq ≠ 0) :
    (TermM.runtime limitNs freq baseNs perNs).fires sz it =
      (term_frequency.nat (it % freq) 0).bind fun due =>
        if due then term_runtime.nat (baseNs + perNs * it) limitNs else some false := by
  simp [TermM.fires, term_frequency, term_runtime, Rel.nat, hf]

/-- shared by every search property: the label test of `run_a_star`'s relaxation (`improves`) is the
source's `tentative_gscore < existing_gscore`; with `<=` an equal-cost arrival re-labels an expanded vertex -/
theorem src_relax_improves {α : Type} [Field α] [LinearOrder α] [IsStrictOrderedRing α] [Lit α] [LawfulLit α] (tent ex : α) :
    some (improves tent (some ex)) = relax_improves.num tent ex := by
  simp [improves, relax_improves, Rel.num]

/-! ### Generated function bodies

`tools/gen_fns.py` re-translates the body of the Rust function on every run into `Compass/Gen/FnsC10.lean`
(`Gen.<Type>_<fn>`; conventions in the header of the tool).  Each `gen_*_eq` theorem below says that the
generated definition *is* the hand-written model function the property theorems are about.  A source
change to the function changes the generated definition and the proof stops checking (a body the
translator no longer recognises is not emitted: the theorem no longer elaborates). -/

mutual
/-- What is regenerated and what is substituted: the elapsed time of the runtime arm is NOT translated — the
translator replaces `Instant::now().duration_since(*start_time)` (and the hook's `verif_clock::elapsed`) by the
model's virtual clock `baseNs + perNs * iteration` (`externs` in tools/gen_fns.py), drops `start_time` and adds the
model-only fields; of that arm only `iteration % frequency == 0` (with the `frequency = 0` guard) and
`dur > *limit` come from the source.  Counters are `Nat`: `iteration + 1` does not wrap at `u64::MAX` as the
release build does (unreachable: `run_a_star` counts its own iterations from 0). -/
theorem gen_terminate_search_eq (m : TermM) (sz it : Nat) :
    Gen.TerminationModel_terminate_search m sz it = m.fires sz it := by
  cases m with
  | runtime limitNs freq baseNs perNs => simp [Gen.TerminationModel_terminate_search, TermM.fires]
  | size limit => simp [Gen.TerminationModel_terminate_search, TermM.fires]
  | iters limit => simp [Gen.TerminationModel_terminate_search, TermM.fires]
  | combined ms =>
    simp only [Gen.TerminationModel_terminate_search, TermM.fires]
    exact gen_terminate_search_fold_eq ms sz it false
theorem gen_terminate_search_fold_eq (ms : List TermM) (sz it : Nat) (acc : Bool) :
    Gen.TerminationModel_terminate_search_fold1 sz it ms acc = TermM.fires.firesList ms sz it acc := by
  cases ms with
  | nil => simp [Gen.TerminationModel_terminate_search_fold1, TermM.fires.firesList]
  | cons m ms =>
    simp only [Gen.TerminationModel_terminate_search_fold1, TermM.fires.firesList]
    rw [gen_terminate_search_eq m sz it]
    cases h : m.fires sz it with
    | none => rfl
    | some r => exact gen_terminate_search_fold_eq ms sz it (acc || r)
end

end C10
end Compass
