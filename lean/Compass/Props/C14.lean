/-
C14 — interpolated powertrain predictions stay faithful to the underlying model.

Model: `Compass/Model/Interp.lean` (`find_nearest_index`, `linspace`, `Interp1D/2D/3D/ND::linear`,
`Interpolator::{validate_inputs,interpolate}`, `InterpolationSpeedGradeModel::{new,predict}`,
`SmartcoreSpeedGradeModel::predict`, `load_prediction_model`, `PredictionModelRecord::predict`), tied to the
Rust code by the bit-exact correspondence run of `harness/src/c14.rs`.

EXACT ARITHMETIC.  Every theorem is over an arbitrary linearly ordered field.  The Rust code computes in
`f64`; for the statements that depend on rounding the theorems say what holds of the formulas, not of the
doubles.  Evaluating the model at `Float` (which the differential run shows bit-identical to the code):
* `bilinear_between_corners`: on doubles only up to rounding (a constant 0.1 table gives some predictions
  1 ulp above the corner value); the harness oracle checks it with a 1e-9 relative tolerance;
* `grid_spans_bounds`: on doubles the last grid value is the running sum `x0 + dx + … + dx`, a few ulp off
  the configured upper bound (`linspace(-0.2, 0.2, 21)` ends 2 ulp short) — clamping uses the actual first
  and last grid value, so `clamp_outside` is not affected;
* `new_succeeds`: on doubles increasing bounds can produce a repeated grid value (`1e16, 1e16+2`, 3 bins) and
  `new` then returns the not-sorted error;
* `multilinear_exact_*`, `nd_agrees_*`: equalities of exact values; on doubles up to rounding (the N-D and
  fixed-dimension code do perform the same operations in the same order, which the differential run shows).
`exact_on_grid`, `predict_never_fails`, `clamp_outside`, `rejects_outside_*`, the never-panics theorems and
`index_brackets` do not depend on rounding (fractions 0 and a/a = 1 are exact; they are statements about
comparisons and control flow).

MODELLED RATHER THAN VERIFIED (outside every theorem; evidence is the differential run where stated):
* NaN: no value of a linear order is NaN.  The `is_nan` guard of `InterpND::linear` is in the model and
  exercised by the run (NaN tables), but no theorem speaks about it; NaN *inputs* to `predict`
  (`f64::max/min` return the non-NaN argument, the model's `fmax/fmin` would not) are not modelled;
* the random forest is a total function `rf speed grade` / `underlying speed grade`: the error arm of
  `rf.predict(..)` in `SmartcoreSpeedGradeModel::predict` and of `model.predict(..)?` while `new` fills the
  grid are not modelled (smartcore's `predict` on a 1x2 matrix does not fail; never observed in the run);
* `cap : Nat` (in `newAlloc`, `loadPredictionModel`) stands for the largest count of `f64` values the machine
  can reserve; a bin count below it whose table takes very long to fill, and running out of memory while
  filling, are not modelled;
* `fileOk : Bool` stands for "the model file can be read and deserialised" (bincode / file system);
* `PredictionModelRecord::predict` is modelled without a cache (`cache = None`); the cache is C08's;
* the bundled vehicle models themselves (the property speaks of them) appear only in the differential run;
  the theorems quantify over every function `rf`;
* theorems that hold by construction of the model (`smartcore_predict_def`, `record_predict_def`) are marked
  as such; for them the evidence that the *code* behaves so is the differential run.
-/
import Compass.Gen.Decisions
import Compass.Proofs.SpeedGrade

namespace Compass
namespace C14

open Compass.Interp

set_option linter.unusedSectionVars false

section
variable {α : Type} [Field α] [LinearOrder α] [IsStrictOrderedRing α] [Lit α] [LawfulLit α]

/-! ### cell lookup -/

/-- `find_nearest_index` on a strictly increasing grid with at least two points and a target within
the grid: the index of a cell that brackets the target (also on the upper boundary, also on grid lines) -/
theorem index_brackets (g : List α) (t lo hi : α) (hs : strictlyIncreasing g = true) (hlen : 2 ≤ g.length)
    (hlo : g[0]? = some lo) (hhi : g.getLast? = some hi) (h1 : lo ≤ t) (h2 : t ≤ hi) :
    ∃ i a b, findNearestIndex g t = .ok i ∧ i + 1 < g.length ∧ g[i]? = some a ∧ g[i + 1]? = some b ∧
      a ≤ t ∧ t ≤ b := by
  have hg : GoodGrid g := ⟨hs, hlen⟩
  have hin : InAxis g t := ⟨lo, hi, hlo, hhi, h1, h2⟩
  have sel := sel_selOf hg hin
  obtain ⟨a, b, ha, hb, _, _, hat, htb⟩ := sel.bracket
  exact ⟨_, a, b, findNearestIndex_selOf hg hin, sel.lt_length, ha, hb, hat, htb⟩

/-- the cell lookup never panics and never runs out of fuel — for every grid (empty, one point, unsorted)
and every target: an in-bounds index or an `Err` (a one-point grid, on which `arr.len() - 2` would underflow,
is refused first) -/
theorem find_nearest_index_never_panics (g : List α) (t : α) :
    (∃ i, findNearestIndex g t = .ok i ∧ i < g.length) ∨ (∃ e, findNearestIndex g t = .err e) := by
  by_cases h2 : 2 ≤ g.length
  · exact Or.inl (findNearestIndex_ge_two g t h2)
  · exact Or.inr (findNearestIndex_lt_two g t (Nat.lt_of_not_le h2))

theorem index_total (g : List α) (t : α) (hlen : 2 ≤ g.length) : ∃ i, findNearestIndex g t = .ok i ∧ i < g.length :=
  findNearestIndex_ge_two g t hlen

/-! ### the speed/grade model

`hnew` says the model `m` is what `InterpolationSpeedGradeModel::new` returned (so the grid passed the
constructor's validation, which includes "at least two points per axis"); every clause of the property
follows for every such model, every speed, grade and input unit — no further hypothesis. -/

/-- `new` does return a model for increasing bounds and at least two bins (the hypothesis `hnew` of the
theorems below is satisfiable for every such configuration) -/
theorem new_succeeds (underlying : α → α → α) (su : SpeedUnit) (s0 s1 : α) (sb : Nat) (gu : GradeUnit)
    (g0 g1 : α) (gb : Nat) (ru : EnergyRateUnit) (hs : s0 < s1) (hg : g0 < g1) (hsb : 2 ≤ sb)
    (hgb : 2 ≤ gb) :
    ∃ m, SpeedGradeModel.new underlying su s0 s1 sb gu g0 g1 gb ru = .ok m :=
  new_ok underlying su s0 s1 sb gu g0 g1 gb ru hs hg hsb hgb

/-- `new` never panics: for every bound and every bin count (zero and one included) it returns a model
or an error -/
theorem new_never_panics (underlying : α → α → α) (su : SpeedUnit) (s0 s1 : α) (sb : Nat) (gu : GradeUnit)
    (g0 g1 : α) (gb : Nat) (ru : EnergyRateUnit) :
    (∃ m, SpeedGradeModel.new underlying su s0 s1 sb gu g0 g1 gb ru = .ok m) ∨
      (∃ e, SpeedGradeModel.new underlying su s0 s1 sb gu g0 g1 gb ru = .err e) :=
  new_graceful underlying su s0 s1 sb gu g0 g1 gb ru

/-- with fewer than two bins on an axis `new` returns an error (`predict` on such a grid would index out of
bounds), so every model `new` returns has at least two bins per axis -/
theorem new_rejects_fewer_than_two_bins (underlying : α → α → α) (su : SpeedUnit) (s0 s1 : α) (sb : Nat)
    (gu : GradeUnit) (g0 g1 : α) (gb : Nat) (ru : EnergyRateUnit) (h : sb < 2 ∨ gb < 2) :
    ∃ e, SpeedGradeModel.new underlying su s0 s1 sb gu g0 g1 gb ru = .err e :=
  new_rejects_short underlying su s0 s1 sb gu g0 g1 gb ru h

/-- `new` with its allocations (`cap`, slow filling and running out of memory: see the header).  It never panics or
aborts, for every bin count: a bin count, or a product of the two bin counts, that cannot be allocated is the
allocation error (`try_reserve_exact`, `checked_mul`); otherwise it is `new` — so every statement below about the
models of `new` applies to what it returns. -/
theorem new_alloc_never_panics (cap : Nat) (underlying : α → α → α) (su : SpeedUnit) (s0 s1 : α) (sb : Nat)
    (gu : GradeUnit) (g0 g1 : α) (gb : Nat) (ru : EnergyRateUnit) :
    ((∃ m, SpeedGradeModel.newAlloc cap underlying su s0 s1 sb gu g0 g1 gb ru = .ok m) ∨
      (∃ e, SpeedGradeModel.newAlloc cap underlying su s0 s1 sb gu g0 g1 gb ru = .err e)) ∧
    (cap < sb ∨ cap < gb ∨ cap < sb * gb →
      SpeedGradeModel.newAlloc cap underlying su s0 s1 sb gu g0 g1 gb ru = .err .alloc) ∧
    (sb ≤ cap → gb ≤ cap → sb * gb ≤ cap →
      SpeedGradeModel.newAlloc cap underlying su s0 s1 sb gu g0 g1 gb ru =
        SpeedGradeModel.new underlying su s0 s1 sb gu g0 g1 gb ru) ∧
    (∀ m, SpeedGradeModel.newAlloc cap underlying su s0 s1 sb gu g0 g1 gb ru = .ok m →
      SpeedGradeModel.new underlying su s0 s1 sb gu g0 g1 gb ru = .ok m) := by
  rw [newAlloc_eq]
  refine ⟨?_, ?_, ?_, ?_⟩
  · by_cases hc : cap < sb ∨ cap < gb ∨ cap < sb * gb
    · rw [if_pos hc]; exact Or.inr ⟨_, rfl⟩
    · rw [if_neg hc]; exact new_graceful underlying su s0 s1 sb gu g0 g1 gb ru
  · intro hc; rw [if_pos hc]
  · intro h1 h2 h3; rw [if_neg (by omega)]
  · intro m h
    by_cases hc : cap < sb ∨ cap < gb ∨ cap < sb * gb
    · rw [if_pos hc] at h; cases h
    · rw [if_neg hc] at h; exact h

/-- `linspace`, by which `new` builds its two axes, runs exactly from the lower to the upper bound -/
theorem grid_spans_bounds (x0 xend : α) (n : Nat) (hn : 2 ≤ n) (h : x0 < xend) :
    ∃ xs, linspace x0 xend n = .ok xs ∧ strictlyIncreasing xs = true ∧ xs.length = n ∧
      xs[0]? = some x0 ∧ xs.getLast? = some xend := by
  obtain ⟨xs, h1, h2, h3, h4, h5⟩ := linspace_good x0 xend n hn h
  exact ⟨xs, h1, h2.1, h3, h4, h5⟩

/-- C14: the predicted rate lies between the smallest and the largest underlying-model rate at the four
grid points surrounding the (converted, clamped) input; in particular `predict` never fails -/
theorem bilinear_between_corners (underlying : α → α → α) (su : SpeedUnit) (s0 s1 : α) (sb : Nat)
    (gu : GradeUnit) (g0 g1 : α) (gb : Nat) (ru : EnergyRateUnit) (m : SpeedGradeModel α)
    (hnew : SpeedGradeModel.new underlying su s0 s1 sb gu g0 g1 gb ru = .ok m) (speed : α) (qsu : SpeedUnit) (grade : α) (qgu : GradeUnit) :
    ∃ xs ys i j x0 x1 y0 y1 v,
      linspace s0 s1 sb = .ok xs ∧ linspace g0 g1 gb = .ok ys ∧
      xs[i]? = some x0 ∧ xs[i + 1]? = some x1 ∧ ys[j]? = some y0 ∧ ys[j + 1]? = some y1 ∧
      x0 ≤ clampTo xs (qsu.convert su speed) ∧ clampTo xs (qsu.convert su speed) ≤ x1 ∧
      y0 ≤ clampTo ys (qgu.convert gu grade) ∧ clampTo ys (qgu.convert gu grade) ≤ y1 ∧
      m.predict speed qsu grade qgu = .ok (v, ru) ∧
      min (min (underlying x0 y0) (underlying x1 y0)) (min (underlying x0 y1) (underlying x1 y1)) ≤ v ∧
      v ≤ max (max (underlying x0 y0) (underlying x1 y0)) (max (underlying x0 y1) (underlying x1 y1)) := by
  obtain ⟨xs, hx⟩ := linspace_ok s0 s1 sb
  obtain ⟨ys, hy⟩ := linspace_ok g0 g1 gb
  obtain ⟨gx, gy, hpred⟩ := new_predict hnew hx hy
  have sx := sel_selOf gx (InAxis.clamp gx (qsu.convert su speed))
  have sy := sel_selOf gy (InAxis.clamp gy (qgu.convert gu grade))
  obtain ⟨x0, x1, hx0, hx1, -, -, hxl, hxu⟩ := sx.bracket
  obtain ⟨y0, y1, hy0, hy1, -, -, hyl, hyu⟩ := sy.bracket
  have hb := lerp_lerp_between (underlying x0 y0) (underlying x1 y0) (underlying x0 y1) (underlying x1 y1) _ _
    sx.range sy.range
  exact ⟨xs, ys, _, _, x0, x1, y0, y1, _, hx, hy, hx0, hx1, hy0, hy1, hxl, hxu, hyl, hyu,
    (hpred speed qsu grade qgu).trans (by rw [bil_sgTable underlying ru hx0 hx1 hy0 hy1]), hb.1, hb.2⟩

/-- C14: `predict` never fails, whatever the input and its units (inside, on a line, on the boundary,
outside), and reports the model's own rate unit -/
theorem predict_never_fails (underlying : α → α → α) (su : SpeedUnit) (s0 s1 : α) (sb : Nat)
    (gu : GradeUnit) (g0 g1 : α) (gb : Nat) (ru : EnergyRateUnit) (m : SpeedGradeModel α)
    (hnew : SpeedGradeModel.new underlying su s0 s1 sb gu g0 g1 gb ru = .ok m) (speed : α) (qsu : SpeedUnit) (grade : α) (qgu : GradeUnit) :
    ∃ v, m.predict speed qsu grade qgu = .ok (v, ru) :=
  new_predict_total hnew speed qsu grade qgu

/-- C14: at a grid point (an input that converts to grid values) the prediction is the underlying
model's value at that grid point -/
theorem exact_on_grid (underlying : α → α → α) (su : SpeedUnit) (s0 s1 : α) (sb : Nat)
    (gu : GradeUnit) (g0 g1 : α) (gb : Nat) (ru : EnergyRateUnit) (m : SpeedGradeModel α)
    (hnew : SpeedGradeModel.new underlying su s0 s1 sb gu g0 g1 gb ru = .ok m) (xs ys : List α) (hxs : linspace s0 s1 sb = .ok xs) (hys : linspace g0 g1 gb = .ok ys)
    (i j : Nat) (x y : α) (hi : xs[i]? = some x) (hj : ys[j]? = some y)
    (speed : α) (qsu : SpeedUnit) (grade : α) (qgu : GradeUnit)
    (hs : qsu.convert su speed = x) (hg : qgu.convert gu grade = y) :
    m.predict speed qsu grade qgu = .ok (underlying x y, ru) := by
  obtain ⟨gx, gy, hpred⟩ := new_predict hnew hxs hys
  have ix := InAxis.of_mem gx.1 hi
  have iy := InAxis.of_mem gy.1 hj
  rw [hpred, hs, hg, clampTo_of_inAxis ix,
    clampTo_of_inAxis iy, bil_on_grid _ (sel_selOf gx ix) (sel_selOf gy iy) gx.1 gy.1 hi hj,
    sgTable_F2 underlying ru hi hj]

/-- the bilinear formula on the closed cell `[x0,x1] × [y0,y1]`, written with the underlying model's
values at the four corners -/
def cellValue (underlying : α → α → α) (x0 x1 y0 y1 p q : α) : α :=
  lerp (lerp (underlying x0 y0) (underlying x1 y0) ((p - x0) / (x1 - x0)))
    (lerp (underlying x0 y1) (underlying x1 y1) ((p - x0) / (x1 - x0))) ((q - y0) / (y1 - y0))

/-- C14 (continuity across cell borders) — PARTIAL.  Full statement of the property: the predicted rate, as
a function of speed and grade, is continuous (in the topological / ε–δ sense) on the whole plane, across
cell borders included.  Proved here is its discrete content: the prediction equals the bilinear formula of
*every* grid cell whose closed rectangle contains the input — so on a common border (or corner) all adjacent
cells give the same value.  Together with the per-cell Lipschitz bounds `cell_value_lipschitz_speed/_grade`
below this is what a continuity proof by pasting needs (besides the clamp in front); what is
missing is the pasted global statement itself (a `Continuous` / ε–δ theorem over α = ℝ): not proved, the
theorems are over an arbitrary ordered field without topology. -/
theorem continuous_across_cells_partial (underlying : α → α → α) (su : SpeedUnit) (s0 s1 : α) (sb : Nat)
    (gu : GradeUnit) (g0 g1 : α) (gb : Nat) (ru : EnergyRateUnit) (m : SpeedGradeModel α)
    (hnew : SpeedGradeModel.new underlying su s0 s1 sb gu g0 g1 gb ru = .ok m) (xs ys : List α) (hxs : linspace s0 s1 sb = .ok xs) (hys : linspace g0 g1 gb = .ok ys)
    (i j : Nat) (x0 x1 y0 y1 : α) (hx0 : xs[i]? = some x0) (hx1 : xs[i + 1]? = some x1)
    (hy0 : ys[j]? = some y0) (hy1 : ys[j + 1]? = some y1)
    (speed : α) (qsu : SpeedUnit) (grade : α) (qgu : GradeUnit)
    (h1 : x0 ≤ qsu.convert su speed) (h2 : qsu.convert su speed ≤ x1)
    (h3 : y0 ≤ qgu.convert gu grade) (h4 : qgu.convert gu grade ≤ y1) :
    m.predict speed qsu grade qgu =
      .ok (cellValue underlying x0 x1 y0 y1 (qsu.convert su speed) (qgu.convert gu grade), ru) := by
  obtain ⟨gx, gy, hpred⟩ := new_predict hnew hxs hys
  have ix := InAxis.of_between (InAxis.of_mem gx.1 hx0) (InAxis.of_mem gx.1 hx1) h1 h2
  have iy := InAxis.of_between (InAxis.of_mem gy.1 hy0) (InAxis.of_mem gy.1 hy1) h3 h4
  rw [hpred, clampTo_of_inAxis ix, clampTo_of_inAxis iy,
    bil_indep _ (sel_selOf gx ix) (sel_selOf gy iy) gx.1 gy.1 i j x0 x1 y0 y1 hx0 hx1 hy0 hy1 h1 h2 h3 h4,
    bil_sgTable underlying ru hx0 hx1 hy0 hy1]
  rfl

/-- an identity of the formula itself, for a common border in the speed coordinate: on the grid line `x1` the formula
of the cell to its left and that of the cell to its right give the same value -/
theorem border_values_agree (underlying : α → α → α) (x0 x1 x2 y0 y1 q : α) (h01 : x0 < x1) (_h12 : x1 < x2) :
    cellValue underlying x0 x1 y0 y1 x1 q = cellValue underlying x1 x2 y0 y1 x1 q := by
  unfold cellValue
  rw [div_self (sub_ne_zero.mpr h01.ne'), sub_self, zero_div]
  simp only [lerp_zero, lerp_one]

theorem cellValue_swap (underlying : α → α → α) (x0 x1 y0 y1 p q : α) :
    cellValue underlying x0 x1 y0 y1 p q = cellValue (fun y x => underlying x y) y0 y1 x0 x1 q p :=
  lerp_lerp_comm _ _ _ _ _ _

/-- within one closed cell the formula is Lipschitz in the speed coordinate, with the constant read off the
corner values: `|v(p,q) − v(p',q)| ≤ |p − p'| / (x1 − x0) · max(|u10 − u00|, |u11 − u01|)`.  With
`continuous_across_cells_partial` this is continuity of the prediction cell by cell (what is not proved is said
there). -/
theorem cell_value_lipschitz_speed (underlying : α → α → α) (x0 x1 y0 y1 p p' q : α) (hx : x0 < x1)
    (hy : y0 < y1) (hq0 : y0 ≤ q) (hq1 : q ≤ y1) :
    |cellValue underlying x0 x1 y0 y1 p q - cellValue underlying x0 x1 y0 y1 p' q| ≤
      |p - p'| / (x1 - x0) *
        max |underlying x1 y0 - underlying x0 y0| |underlying x1 y1 - underlying x0 y1| := by
  have hxp : 0 < x1 - x0 := sub_pos.mpr hx
  obtain ⟨hd0, hd1⟩ := frac_mem hy hq0 hq1
  unfold cellValue
  rw [lerp_sub_lerp, lerp_sub_frac, lerp_sub_frac, div_sub_div_same, sub_sub_sub_cancel_right,
    lerp_mul_left, abs_mul, abs_div, abs_of_pos hxp]
  exact mul_le_mul_of_nonneg_left (abs_lerp_le _ _ _ hd0 hd1) (div_nonneg (abs_nonneg _) hxp.le)

/-- `cell_value_lipschitz_speed` in the grade coordinate -/
theorem cell_value_lipschitz_grade (underlying : α → α → α) (x0 x1 y0 y1 p q q' : α) (hx : x0 < x1)
    (hy : y0 < y1) (hp0 : x0 ≤ p) (hp1 : p ≤ x1) :
    |cellValue underlying x0 x1 y0 y1 p q - cellValue underlying x0 x1 y0 y1 p q'| ≤
      |q - q'| / (y1 - y0) *
        max |underlying x0 y1 - underlying x0 y0| |underlying x1 y1 - underlying x1 y0| := by
  rw [cellValue_swap, cellValue_swap underlying]
  exact cell_value_lipschitz_speed (fun y x => underlying x y) y0 y1 x0 x1 q q' p hy hx hp0 hp1

/-- C14: an input outside the grid is treated as the nearest grid boundary: the prediction equals the
prediction at the clamped point (given in the model's own units) -/
theorem clamp_outside (underlying : α → α → α) (su : SpeedUnit) (s0 s1 : α) (sb : Nat)
    (gu : GradeUnit) (g0 g1 : α) (gb : Nat) (ru : EnergyRateUnit) (m : SpeedGradeModel α)
    (hnew : SpeedGradeModel.new underlying su s0 s1 sb gu g0 g1 gb ru = .ok m) (xs ys : List α) (hxs : linspace s0 s1 sb = .ok xs) (hys : linspace g0 g1 gb = .ok ys)
    (speed : α) (qsu : SpeedUnit) (grade : α) (qgu : GradeUnit) :
    m.predict speed qsu grade qgu =
      m.predict (clampTo xs (qsu.convert su speed)) su (clampTo ys (qgu.convert gu grade)) gu := by
  obtain ⟨gx, gy, hpred⟩ := new_predict hnew hxs hys
  rw [hpred, hpred, speed_convert_self, grade_convert_self, clampTo_idem gx, clampTo_idem gy]

/-- the clamped point of `clamp_outside` is the first grid value below the grid, the last above it, and the
point itself inside -/
theorem clamp_is_nearest_boundary (g : List α) (hs : strictlyIncreasing g = true) (hlen : 2 ≤ g.length)
    (lo hi v : α) (hlo : g[0]? = some lo) (hhi : g.getLast? = some hi) :
    (v ≤ lo → clampTo g v = lo) ∧ (hi ≤ v → clampTo g v = hi) ∧ (lo ≤ v → v ≤ hi → clampTo g v = v) :=
  ⟨clampTo_below ⟨hs, hlen⟩ v lo hlo, clampTo_above v hi hhi,
    fun h1 h2 => clampTo_of_inAxis ⟨lo, hi, hlo, hhi, h1, h2⟩⟩

/-! ### the generic interpolators: multilinear functions are reproduced exactly -/

/-- 1-D: data sampled from `c0 + c1·x` -/
theorem multilinear_exact_1d (x f : List α) (hv : validate1 x f = .ok ()) (hlen : 2 ≤ x.length)
    (c0 c1 : α) (hF : ∀ (i : Nat) (xi : α), x[i]? = some xi → f[i]? = some (c0 + c1 * xi))
    (p : α) (hp : InAxis x p) :
    Interpolator.interpolate (.d1 x f) [p] .linear = .ok (c0 + c1 * p) := by
  obtain ⟨_, hs, _⟩ := validate1_ok hv
  exact Valid.exact (fun v => c0 + c1 * v.getD 0 0)
    (.cons (fun _ => ⟨c1, c0, fun _ => add_comm _ _⟩) fun _ => .const fun _ => rfl)
    (.d1 ⟨hs, hlen⟩ fun i hi => idx_eq (hF i _ (getElem?_getD hi))) (.cons hp .nil)

/-- the multi-affine functions include every multilinear polynomial, e.g. in two dimensions -/
theorem multiAffine_bilinear (c0 c1 c2 c3 : α) :
    MultiAffine (fun (v : List α) => c0 + c1 * v.getD 0 0 + c2 * v.getD 1 0 + c3 * v.getD 0 0 * v.getD 1 0) :=
  .of₂ (fun a b => c0 + c1 * a + c2 * b + c3 * a * b)
    (fun b => ⟨c1 + c3 * b, c0 + c2 * b, fun _ => by ring⟩)
    (fun a => ⟨c2 + c3 * a, c0 + c1 * a, fun _ => by ring⟩)

/-- 2-D: data sampled from `c0 + c1·x + c2·y + c3·x·y` -/
theorem multilinear_exact_2d (x y : List α) (f : List (List α)) (hv : validate2 x y f = .ok ())
    (c0 c1 c2 c3 : α)
    (hF : ∀ i j xi yj, x[i]? = some xi → y[j]? = some yj →
      idx2 f i j = .ok (c0 + c1 * xi + c2 * yj + c3 * xi * yj))
    (p0 p1 : α) (h0 : InAxis x p0) (h1 : InAxis y p1) :
    Interpolator.interpolate (.d2 x y f) [p0, p1] .linear =
      .ok (c0 + c1 * p0 + c2 * p1 + c3 * p0 * p1) := by
  obtain ⟨gx, gy, _⟩ := (validate2_ok_iff x y f).mp hv
  exact Valid.exact _ (multiAffine_bilinear c0 c1 c2 c3)
    (.d2 gx gy fun i j hi hj => hF i j _ _ (getElem?_getD hi) (getElem?_getD hj)) (.cons h0 (.cons h1 .nil))

/-- 3-D: data sampled from the general trilinear polynomial (8 coefficients) -/
theorem multilinear_exact_3d (x y z : List α) (f : List (List (List α)))
    (hv : validate3 x y z f = .ok ()) (c0 c1 c2 c3 c4 c5 c6 c7 : α)
    (hF : ∀ i j k xi yj zk, x[i]? = some xi → y[j]? = some yj → z[k]? = some zk →
      idx3 f i j k = .ok (c0 + c1 * xi + c2 * yj + c3 * xi * yj + c4 * zk + c5 * xi * zk + c6 * yj * zk
        + c7 * xi * yj * zk))
    (p0 p1 p2 : α) (h0 : InAxis x p0) (h1 : InAxis y p1) (h2 : InAxis z p2) :
    Interpolator.interpolate (.d3 x y z f) [p0, p1, p2] .linear =
      .ok (c0 + c1 * p0 + c2 * p1 + c3 * p0 * p1 + c4 * p2 + c5 * p0 * p2 + c6 * p1 * p2
        + c7 * p0 * p1 * p2) := by
  obtain ⟨gx, gy, gz, _⟩ := validate3_ok hv
  exact Valid.exact _
    (.of₃ (fun a b c => c0 + c1 * a + c2 * b + c3 * a * b + c4 * c + c5 * a * c + c6 * b * c + c7 * a * b * c)
      (fun b c => ⟨c1 + c3 * b + c5 * c + c7 * b * c, c0 + c2 * b + c4 * c + c6 * b * c, fun _ => by ring⟩)
      (fun a c => ⟨c2 + c3 * a + c6 * c + c7 * a * c, c0 + c1 * a + c4 * c + c5 * a * c, fun _ => by ring⟩)
      (fun a b => ⟨c4 + c5 * a + c6 * b + c7 * a * b, c0 + c1 * a + c2 * b + c3 * a * b, fun _ => by ring⟩))
    (.d3 gx gy gz fun i j k hi hj hk => hF i j k _ _ _ (getElem?_getD hi) (getElem?_getD hj) (getElem?_getD hk))
    (.cons h0 (.cons h1 (.cons h2 .nil)))

/-- the hypotheses on the grids in the N-D theorems below are what `InterpND::new` checks, plus the
property's "at least two points per axis" -/
theorem nd_new_gives_valid_grids (m : ND α) (hv : validateN m = .ok ()) (h2 : ∀ s ∈ m.shape, 2 ≤ s)
    (hne : m.shape ≠ []) :
    List.Forall₂ (fun g s => (strictlyIncreasing g = true ∧ 2 ≤ g.length) ∧ g.length = s) m.grid m.shape := by
  have hpos : 0 < m.ndim := m.ndim_eq_length_of_two_le h2 ▸ List.length_pos_iff.mpr hne
  refine (forall₂_and_right (validateN_accepted m hv hpos).axes h2).imp ?_
  rintro g s ⟨⟨_, hs, hl⟩, h⟩
  exact ⟨⟨hs, hl ▸ h⟩, hl⟩

/-- N-D, by induction on the dimension: data sampled from any function `M` of the coordinates that is
affine in each coordinate separately (the multilinear polynomials) is reproduced exactly, in any number of
dimensions (`coords m.grid ix` are the grid coordinates of the index list `ix`) -/
theorem multilinear_exact_nd (m : ND α) (M : List α → α) (hM : MultiAffine M)
    (hgrids : List.Forall₂ (fun g s => (strictlyIncreasing g = true ∧ 2 ≤ g.length) ∧ g.length = s) m.grid m.shape)
    (hget : ∀ ix, List.Forall₂ (· < ·) ix m.shape → m.get ix = .ok (M (coords m.grid ix)))
    (pt : List α) (hp : List.Forall₂ InAxis m.grid pt) :
    Interpolator.interpolate (.dn m) pt .linear = .ok (M pt) :=
  Valid.exact M hM (.dn ⟨hgrids, hget⟩) hp

/-! ### the N-D interpolator agrees with the 1-D / 2-D / 3-D ones on the same data

`nd1 / nd2 / nd3` are the N-D interpolators over the same grid and the same values stored row-major (what
`ArrayD::from_shape_vec` holds); agreement is for every point, inside (same value) and outside (both reject). -/

/-- 1-D: needs at least two grid points (`hlen`, inside the property's own quantifier "bin counts ≥ 2").
Without it the statement is false: `Interp1D::new` accepts a one-point axis but the N-D interpolator over the
same data cannot even be constructed (`ndim()` is 0 for a single value, so the one grid is one too many) —
`nd_agrees_1d_one_point_counterexample` below. -/
theorem nd_agrees_1d (x f : List α) (hv : validate1 x f = .ok ()) (hlen : 2 ≤ x.length) (p : α) :
    Interpolator.interpolate (.dn (nd1 x f)) [p] .linear = Interpolator.interpolate (.d1 x f) [p] .linear := by
  obtain ⟨_, hs, hf⟩ := validate1_ok hv
  exact Valid.agree (.dn (nd1_valid x f ⟨hs, hlen⟩ hf)) (.d1 ⟨hs, hlen⟩ fun i hi => idx1_ok (hf ▸ hi)) rfl [p]

theorem nd_agrees_2d (x y : List α) (f : List (List α)) (hv : validate2 x y f = .ok ()) (p0 p1 : α) :
    Interpolator.interpolate (.dn (nd2 x y f)) [p0, p1] .linear =
      Interpolator.interpolate (.d2 x y f) [p0, p1] .linear := by
  obtain ⟨gx, gy, hr⟩ := (validate2_ok_iff x y f).mp hv
  exact Valid.agree (.dn (nd2_valid x y f gx gy hr)) (.of_rect2 gx gy hr) rfl [p0, p1]

theorem nd_agrees_3d (x y z : List α) (f : List (List (List α))) (hv : validate3 x y z f = .ok ())
    (p0 p1 p2 : α) :
    Interpolator.interpolate (.dn (nd3 x y z f)) [p0, p1, p2] .linear =
      Interpolator.interpolate (.d3 x y z f) [p0, p1, p2] .linear := by
  obtain ⟨gx, gy, gz, hr⟩ := validate3_ok hv
  exact Valid.agree (.dn (nd3_valid x y z f gx gy gz hr)) (.of_rect3 gx gy gz hr) rfl [p0, p1, p2]

/-! ### the generic interpolators reject points outside their grid -/

theorem rejects_outside_1d (x f : List α) (hx : x ≠ []) (p : α) (s : Strategy) (h : ¬ InAxis x p) :
    Interpolator.interpolate (.d1 x f) [p] s = .err .outside :=
  interpolate_outside (it := .d1 x f) s rfl (by simpa [Interpolator.grids] using hx) rfl
    (by simpa [Interpolator.grids] using h)

theorem rejects_outside_2d (x y : List α) (f : List (List α)) (hx : x ≠ []) (hy : y ≠ [])
    (p0 p1 : α) (s : Strategy) (h : ¬ (InAxis x p0 ∧ InAxis y p1)) :
    Interpolator.interpolate (.d2 x y f) [p0, p1] s = .err .outside :=
  interpolate_outside (it := .d2 x y f) s rfl (by simpa [Interpolator.grids] using ⟨hx, hy⟩) rfl
    (by simpa [Interpolator.grids] using h)

theorem rejects_outside_3d (x y z : List α) (f : List (List (List α))) (hx : x ≠ []) (hy : y ≠ [])
    (hz : z ≠ []) (p0 p1 p2 : α) (s : Strategy) (h : ¬ (InAxis x p0 ∧ InAxis y p1 ∧ InAxis z p2)) :
    Interpolator.interpolate (.d3 x y z f) [p0, p1, p2] s = .err .outside :=
  interpolate_outside (it := .d3 x y z f) s rfl
    (by simpa [Interpolator.grids] using ⟨hx, hy, hz⟩) rfl (by simpa [Interpolator.grids] using h)

/-- N-D: on every interpolator `InterpND::new` accepts that has a dimension (`0 < ndim`: more than a
single value), a point of the right dimensionality with some coordinate outside its axis is rejected —
whatever the table holds, one-point axes included -/
theorem rejects_outside_nd (m : ND α) (hv : validateN m = .ok ()) (hpos : 0 < m.ndim)
    (pt : List α) (s : Strategy) (hl : pt.length = m.ndim) (h : ¬ List.Forall₂ InAxis m.grid pt) :
    Interpolator.interpolate (.dn m) pt s = .err .outside := by
  have ha := validateN_accepted m hv hpos
  exact interpolate_outside s ha.grids_length ha.nil_not_mem hl h

/-! ### no panics: constructors and the validated entry point, every dimension

The inputs that need care: one-point axes (refused in 2-D/3-D, accepted and handled in 1-D/N-D), a grid vector
shorter than the dimensionality in `InterpND::new`, and an N-D interpolator over a single value (`ndim() = 0`,
whatever the array's own dimensionality).  Each has a witness among the examples below. -/

/-- an interpolator as its constructor returns it (`Interp0D` has none; `InterpND` wraps an `ArrayD`, which
holds a value at every index of its shape — `m.get` is the model's accessor) -/
def Constructed : Interpolator α → Prop
  | .d0 _ => True
  | .d1 x f => validate1 x f = .ok ()
  | .d2 x y f => validate2 x y f = .ok ()
  | .d3 x y z f => validate3 x y z f = .ok ()
  | .dn m => validateN m = .ok () ∧ ∀ ix, List.Forall₂ (· < ·) ix m.shape → ∃ v, m.get ix = .ok v

/-- `Interpolator::interpolate` never panics on a constructed interpolator of any dimension — 0, 1, 2, 3, N,
one-point axes (1-D, N-D) and single values (N-D) included: a value or an `Err` for every point (any
length; inside, on the boundary, outside) and every strategy -/
theorem validated_interpolation_never_panics (it : Interpolator α) (h : Constructed it) (pt : List α)
    (s : Strategy) :
    (∃ v, it.interpolate pt s = .ok v) ∨ (∃ e, it.interpolate pt s = .err e) := by
  cases it with
  | d0 v => exact interpolate_graceful s rfl List.not_mem_nil fun _ => .ite (.ok v) (.err _)
  | d1 x f => exact interpolate_d1_graceful x f h pt s
  | d2 x y f => exact interpolate_d2_graceful x y f h pt s
  | d3 x y z f => exact interpolate_d3_graceful x y z f h pt s
  | dn m => exact interpolate_dn_graceful m h.1 h.2 pt s

/-- the 2-D and 3-D constructors accept only axes with at least two points (`linear` on a one-point axis would
index out of bounds).  That 1-D and N-D accept one-point axes and work on them is part of
`validated_interpolation_never_panics` and shown by the examples -/
theorem constructed_2d_3d_have_two_points (x y z : List α) (f2 : List (List α)) (f3 : List (List (List α))) :
    (validate2 x y f2 = .ok () → 2 ≤ x.length ∧ 2 ≤ y.length) ∧
      (validate3 x y z f3 = .ok () → 2 ≤ x.length ∧ 2 ≤ y.length ∧ 2 ≤ z.length) := by
  constructor
  · intro hv
    obtain ⟨gx, gy, _⟩ := (validate2_ok_iff x y f2).mp hv
    exact ⟨gx.2, gy.2⟩
  · intro hv
    obtain ⟨gx, gy, gz, _⟩ := validate3_ok hv
    exact ⟨gx.2, gy.2, gz.2⟩

/-- the 2-D, 3-D and N-D constructors themselves never panic -/
theorem constructors_never_panic (x y z : List α) (f2 : List (List α)) (f3 : List (List (List α)))
    (m : ND α) :
    (validate2 x y f2 = .ok () ∨ ∃ e, validate2 x y f2 = .err e) ∧
      (validate3 x y z f3 = .ok () ∨ ∃ e, validate3 x y z f3 = .err e) ∧
      (validateN m = .ok () ∨ ∃ e, validateN m = .err e) :=
  ⟨(validate2_graceful x y f2).unit_cases, (validate3_graceful x y z f3).unit_cases, (validateN_graceful m).unit_cases⟩

/-! ### loading: `load_prediction_model`, `SmartcoreSpeedGradeModel`, `PredictionModelRecord`

`rf` is the random forest (any function of speed and grade in the model's units). -/

/-- (by construction of the model — first conjunct is its definition; that the *code* does this is evidenced
by the differential run over every unit pair, oracle key `smartcore/unit_conversion`)
`SmartcoreSpeedGradeModel::predict` is the forest at the inputs converted to the model's units, tagged
with the model's rate unit; with the model's own units the inputs are passed through unchanged -/
theorem smartcore_predict_def (rf : α → α → α) (su : SpeedUnit) (gu : GradeUnit) (ru : EnergyRateUnit)
    (speed : α) (qsu : SpeedUnit) (grade : α) (qgu : GradeUnit) :
    smartcorePredict rf su gu ru speed qsu grade qgu
        = .ok (rf (qsu.convert su speed) (qgu.convert gu grade), ru) ∧
      smartcorePredict rf su gu ru speed su grade gu = .ok (rf speed grade, ru) := by
  refine ⟨rfl, ?_⟩
  simp [smartcorePredict, speed_convert_self, grade_convert_self]

/-- an unreadable model file is a build error for every model type, nested ones included -/
theorem load_rejects_unreadable_file (cap : Nat) (rf : α → α → α) (mt : ModelType α) (su : SpeedUnit) (gu : GradeUnit)
    (ru : EnergyRateUnit) (ideal adj : Option α) :
    loadPredictionModel cap rf false mt su gu ru ideal adj = .err .build :=
  load_build_error cap rf false mt (.inl rfl) su gu ru ideal adj

/-- an ONNX model type anywhere in the configuration is a build error too (the feature is off) -/
theorem load_rejects_onnx (cap : Nat) (rf : α → α → α) (fileOk : Bool) (mt : ModelType α) (h : mt.hasOnnx = true)
    (su : SpeedUnit) (gu : GradeUnit) (ru : EnergyRateUnit) (ideal adj : Option α) :
    loadPredictionModel cap rf fileOk mt su gu ru ideal adj = .err .build :=
  load_build_error cap rf fileOk mt (.inr h) su gu ru ideal adj

/-- the `Smartcore` arm always loads a readable file (the forest is a total function in the model — see
the header): the record carries the configured units, the smartcore model, the ideal rate (`IdealRateOk`)
and the configured adjustment, or 1 -/
theorem load_smartcore (cap : Nat) (rf : α → α → α) (su : SpeedUnit) (gu : GradeUnit) (ru : EnergyRateUnit)
    (ideal adj : Option α) :
    ∃ r, loadPredictionModel cap rf true .smartcore su gu ru ideal adj = .ok r ∧
      r.model = smartcorePredict rf su gu ru ∧ r.speedUnit = su ∧ r.gradeUnit = gu ∧
      r.energyRateUnit = ru ∧
      r.realWorldEnergyAdjustment = (match adj with | some a => a | none => 1) ∧ IdealRateOk r ideal :=
  load_smartcore_eq cap rf su gu ru ideal adj ▸ finishLoad_spec (smartcorePredict_total rf su gu ru) su gu ideal adj

/-- every record `load_prediction_model` returns — Smartcore, Interpolate, Interpolate of Interpolate, … —
has a model that never fails: a rate in the configured unit for every speed, grade and input unit; and the
record carries the configured units and adjustment -/
theorem loaded_model_never_fails (cap : Nat) (rf : α → α → α) (mt : ModelType α) (su : SpeedUnit) (gu : GradeUnit)
    (ru : EnergyRateUnit) (ideal adj : Option α) (r : Record α)
    (h : loadPredictionModel cap rf true mt su gu ru ideal adj = .ok r) :
    (∀ speed qsu grade qgu, ∃ v, r.model speed qsu grade qgu = .ok (v, ru)) ∧ r.speedUnit = su ∧
      r.gradeUnit = gu ∧ r.energyRateUnit = ru ∧
      r.realWorldEnergyAdjustment = (match adj with | some a => a | none => 1) := by
  obtain ⟨h1, h2, h3, h4, h5⟩ := loaded_record cap rf mt su gu ru ideal adj r h
  refine ⟨h1, h2, h3, h4, h5.trans ?_⟩
  -- the same `match`, by cases: the one of the statement also carries `h`, so the two are not syntactically equal
  cases adj with
  | some a => rfl
  | none => rfl

/-- the `Interpolate` arm over *any* underlying model type (a forest, or another interpolation, to any
depth): the underlying model was loaded with the default ideal rate and adjustment, answers every grid
query, and the loaded model is exactly `InterpolationSpeedGradeModel::new` over the underlying record's rates
(`rateOf urec.model su gu`) with the configured speed bounds / bins and grade bounds / bins in their places —
so every theorem of the speed/grade section (between corners, exact on grid, continuity, clamping, never
fails) holds for the loaded model with `underlying := rateOf urec.model su gu` -/
theorem load_interpolate_is_new (cap : Nat) (rf : α → α → α) (u : ModelType α) (su : SpeedUnit) (gu : GradeUnit)
    (ru : EnergyRateUnit) (s0 s1 : α) (sb : Nat) (g0 g1 : α) (gb : Nat) (ideal adj : Option α) (r : Record α)
    (h : loadPredictionModel cap rf true (.interpolate u s0 s1 sb g0 g1 gb) su gu ru ideal adj = .ok r) :
    ∃ urec m, loadPredictionModel cap rf true u su gu ru none none = .ok urec ∧
      (∀ s g, urec.model s su g gu = .ok (rateOf urec.model su gu s g, ru)) ∧
      SpeedGradeModel.new (rateOf urec.model su gu) su s0 s1 sb gu g0 g1 gb ru = .ok m ∧
      r.model = m.predict ∧ r.speedUnit = su ∧ r.gradeUnit = gu ∧ r.energyRateUnit = ru ∧
      r.realWorldEnergyAdjustment = (match adj with | some a => a | none => 1) ∧ IdealRateOk r ideal ∧
      sb ≤ cap ∧ gb ≤ cap ∧ sb * gb ≤ cap := by
  rcases load_cases cap rf u su gu ru none none with ⟨urec, hu, hrec⟩ | ⟨e, he⟩
  swap
  · rw [load_interpolate_err he] at h
    cases h
  rw [load_interpolate_step cap rf u su gu ru s0 s1 sb g0 g1 gb ideal adj urec hu hrec] at h
  by_cases hc : cap < sb ∨ cap < gb ∨ cap < sb * gb
  · rw [if_pos hc] at h; cases h
  rw [if_neg hc] at h
  obtain ⟨m, hm, h⟩ := Res.bind_eq_ok h
  obtain ⟨r', hr', hmod, hsu, hgu, hru, hadj, hideal⟩ := finishLoad_spec (new_predict_total hm) su gu ideal adj
  obtain rfl := Res.ok.inj (h.symm.trans hr')
  refine ⟨urec, m, hu, fun s g => ?_, hm, hmod, hsu, hgu, hru, hadj.trans ?_, hideal, by omega, by omega, by omega⟩
  · obtain ⟨w, hw⟩ := hrec.1 s su g gu
    rw [rateOf_eq hw, hw]
  · -- as in `loaded_model_never_fails`: the `match` of the statement carries `h`
    cases adj with
    | some a => rfl
    | none => rfl

/-- `load_interpolate_is_new` directly over a forest: the underlying rates are the forest itself -/
theorem load_interpolate_over_forest_is_new (cap : Nat) (rf : α → α → α) (su : SpeedUnit) (gu : GradeUnit)
    (ru : EnergyRateUnit) (s0 s1 : α) (sb : Nat) (g0 g1 : α) (gb : Nat) (ideal adj : Option α) (r : Record α)
    (h : loadPredictionModel cap rf true (.interpolate .smartcore s0 s1 sb g0 g1 gb) su gu ru ideal adj = .ok r) :
    ∃ m, SpeedGradeModel.new rf su s0 s1 sb gu g0 g1 gb ru = .ok m ∧ r.model = m.predict := by
  obtain ⟨urec, m, hu, _, hm, hmod, _⟩ :=
    load_interpolate_is_new cap rf .smartcore su gu ru s0 s1 sb g0 g1 gb ideal adj r h
  obtain ⟨r', hr', hmodel, _⟩ := load_smartcore cap rf su gu ru none none
  rw [hr'] at hu; cases hu
  rw [hmodel, rateOf_smartcore] at hm
  exact ⟨m, hm, hmod⟩

/-- the `Interpolate` arm loads whenever its underlying model type loads, the bounds increase, there are at
least two bins per axis and the axes and the table can be allocated; with fewer bins it is an error; with a
bin count (or a product of bin counts) that cannot be allocated it is the allocation error — never a panic
or an abort -/
theorem load_interpolate_succeeds (cap : Nat) (rf : α → α → α) (u : ModelType α) (su : SpeedUnit) (gu : GradeUnit)
    (ru : EnergyRateUnit) (s0 s1 : α) (sb : Nat) (g0 g1 : α) (gb : Nat) (ideal adj : Option α)
    (urec : Record α) (hu : loadPredictionModel cap rf true u su gu ru none none = .ok urec) :
    (s0 < s1 → g0 < g1 → 2 ≤ sb → 2 ≤ gb → sb ≤ cap → gb ≤ cap → sb * gb ≤ cap →
      ∃ r, loadPredictionModel cap rf true (.interpolate u s0 s1 sb g0 g1 gb) su gu ru ideal adj = .ok r) ∧
    (sb < 2 ∨ gb < 2 →
      ∃ e, loadPredictionModel cap rf true (.interpolate u s0 s1 sb g0 g1 gb) su gu ru ideal adj = .err e) ∧
    (cap < sb ∨ cap < gb ∨ cap < sb * gb →
      loadPredictionModel cap rf true (.interpolate u s0 s1 sb g0 g1 gb) su gu ru ideal adj = .err .alloc) := by
  rw [load_interpolate_step cap rf u su gu ru s0 s1 sb g0 g1 gb ideal adj urec hu
    (loaded_record cap rf u su gu ru none none urec hu)]
  refine ⟨?_, ?_, ?_⟩
  · intro hs hg hsb hgb hc1 hc2 hc3
    obtain ⟨m, hm⟩ := new_ok (rateOf urec.model su gu) su s0 s1 sb gu g0 g1 gb ru hs hg hsb hgb
    rw [if_neg (by omega), hm, Res.ok_bind]
    exact (finishLoad_spec (new_predict_total hm) su gu ideal adj).imp fun _ h => h.1
  · intro h
    obtain ⟨e, he⟩ := new_rejects_short (rateOf urec.model su gu) su s0 s1 sb gu g0 g1 gb ru h
    rw [he]
    by_cases hc : cap < sb ∨ cap < gb ∨ cap < sb * gb
    · rw [if_pos hc]; exact ⟨_, rfl⟩
    · rw [if_neg hc]; exact ⟨e, rfl⟩
  · intro hc
    rw [if_pos hc]

/-- `load_prediction_model` never panics or aborts: for every model type (nested to any depth), every
bound, every bin count (zero, one, beyond what can be allocated), readable file or not, it returns a record
or an error -/
theorem load_never_panics (cap : Nat) (rf : α → α → α) (fileOk : Bool) (mt : ModelType α) (su : SpeedUnit)
    (gu : GradeUnit) (ru : EnergyRateUnit) (ideal adj : Option α) :
    (∃ r, loadPredictionModel cap rf fileOk mt su gu ru ideal adj = .ok r) ∨
      (∃ e, loadPredictionModel cap rf fileOk mt su gu ru ideal adj = .err e) := by
  cases fileOk with
  | false => exact Or.inr ⟨_, load_build_error cap rf false mt (.inl rfl) su gu ru ideal adj⟩
  | true => exact (load_cases cap rf mt su gu ru ideal adj).imp_left fun ⟨r, h, _⟩ => ⟨r, h⟩

/-- the interpolated model against its underlying model — of any model type: a forest, or another
interpolation, to any depth —, both as loaded: the underlying model was loaded (default ideal rate and
adjustment), and at every grid point (given in the model's units) the two `PredictionModel::predict` results
are the same -/
theorem loaded_interpolation_matches_underlying_on_grid (cap : Nat) (rf : α → α → α) (u : ModelType α)
    (su : SpeedUnit) (gu : GradeUnit) (ru : EnergyRateUnit) (s0 s1 : α) (sb : Nat) (g0 g1 : α) (gb : Nat)
    (i1 a1 : Option α) (ri : Record α)
    (hi : loadPredictionModel cap rf true (.interpolate u s0 s1 sb g0 g1 gb) su gu ru i1 a1 = .ok ri)
    (xs ys : List α) (hxs : linspace s0 s1 sb = .ok xs) (hys : linspace g0 g1 gb = .ok ys)
    (i j : Nat) (x y : α) (hx : xs[i]? = some x) (hy : ys[j]? = some y) :
    ∃ urec, loadPredictionModel cap rf true u su gu ru none none = .ok urec ∧
      ri.model x su y gu = urec.model x su y gu := by
  obtain ⟨urec, m, hu, htot, hm, hmod, _⟩ := load_interpolate_is_new cap rf u su gu ru s0 s1 sb g0 g1 gb i1 a1 ri hi
  refine ⟨urec, hu, ?_⟩
  rw [hmod, htot x y]
  exact exact_on_grid _ su s0 s1 sb gu g0 g1 gb ru m hm xs ys hxs hys i j x y hx hy x su y gu
    (speed_convert_self su x) (grade_convert_self gu y)

/-- `loaded_interpolation_matches_underlying_on_grid` over a forest, against the smartcore model loaded with any
ideal rate and adjustment: the forest's own value at the grid point -/
theorem loaded_interpolation_matches_forest_on_grid (cap : Nat) (rf : α → α → α) (su : SpeedUnit) (gu : GradeUnit)
    (ru : EnergyRateUnit) (s0 s1 : α) (sb : Nat) (g0 g1 : α) (gb : Nat) (i1 a1 i2 a2 : Option α)
    (ri ru' : Record α)
    (hi : loadPredictionModel cap rf true (.interpolate .smartcore s0 s1 sb g0 g1 gb) su gu ru i1 a1 = .ok ri)
    (hu : loadPredictionModel cap rf true .smartcore su gu ru i2 a2 = .ok ru')
    (xs ys : List α) (hxs : linspace s0 s1 sb = .ok xs) (hys : linspace g0 g1 gb = .ok ys)
    (i j : Nat) (x y : α) (hx : xs[i]? = some x) (hy : ys[j]? = some y) :
    ri.model x su y gu = ru'.model x su y gu ∧ ri.model x su y gu = .ok (rf x y, ru) := by
  obtain ⟨m, hm, hmod⟩ := load_interpolate_over_forest_is_new cap rf su gu ru s0 s1 sb g0 g1 gb i1 a1 ri hi
  obtain ⟨r, hr, hrm, _⟩ := load_smartcore cap rf su gu ru i2 a2
  rw [hr] at hu; cases hu
  have h := exact_on_grid rf su s0 s1 sb gu g0 g1 gb ru m hm xs ys hxs hys i j x y hx hy x su y gu
    (speed_convert_self su x) (grade_convert_self gu y)
  rw [hmod, hrm, (smartcore_predict_def rf su gu ru x su y gu).2]
  exact ⟨h, h⟩

/-- (by construction of the model — an unfolding of `Record.predict`; that the *code* does this is evidenced
by the differential run, oracle key `load/record_energy`)
`PredictionModelRecord::predict` (no cache): the model's rate, times the real-world adjustment, times
the distance expressed in the rate's own distance unit; in the rate's own energy unit -/
theorem record_predict_def (r : Record α) (speed : α) (su : SpeedUnit) (grade : α) (gu : GradeUnit)
    (distance : α) (du : DistanceUnit) (rate : α) (u : EnergyRateUnit)
    (h : r.model speed su grade gu = .ok (rate, u)) :
    r.predict speed su grade gu distance du =
      .ok (rate * r.realWorldEnergyAdjustment * du.convert r.energyRateUnit.associatedDistanceUnit distance,
        r.energyRateUnit.associatedEnergyUnit) := by
  simp [Record.predict, h, Res.bind, createEnergy]

end

/-! Witnesses for the inputs that need care (one-point grids, zero and one bin, short grid vectors). -/

example : findNearestIndex [(5 : ℚ)] 5 = .err .singleArr := by decide +kernel
example : (SpeedGradeModel.new (fun (_ _ : ℚ) => (1 : ℚ)) .milesPerHour 0 100 1 .decimal 0 1 5
    .gallonsGasolinePerMile).isOk = false := by decide +kernel
example : (SpeedGradeModel.new (fun (_ _ : ℚ) => (1 : ℚ)) .milesPerHour 0 100 0 .decimal 0 1 5
    .gallonsGasolinePerMile).isOk = false := by decide +kernel
example : validate2 [(1 : ℚ)] [0, 1] [[3, 4]] = .err .gridTooShort := by decide +kernel
example : validateN { grid := [[(0 : ℚ), 1]], shape := [2, 2], get := getFlat [2, 2] [0, 1, 2, 3] } = .err .gridDim ∧
    validateN { grid := ([] : List (List ℚ)), shape := [2], get := getFlat [2] [0, 1] } = .err .gridDim := by
  decide +kernel
example : linspace (0 : ℚ) 1 0 = .ok [] := by decide +kernel
/-- bin counts that cannot be allocated (4·10¹², `usize::MAX`, and two allocatable axes whose table is not): the
allocation error, with `cap` = 2⁴⁰ values -/
example : SpeedGradeModel.newAlloc (2 ^ 40) (fun (_ _ : ℚ) => (1 : ℚ)) .milesPerHour 0 100 4000000000000 .decimal
      (-1 / 5) (1 / 5) 41 .gallonsGasolinePerMile = .err .alloc ∧
    SpeedGradeModel.newAlloc (2 ^ 40) (fun (_ _ : ℚ) => (1 : ℚ)) .milesPerHour 0 100 101 .decimal
      (-1 / 5) (1 / 5) 18446744073709551615 .gallonsGasolinePerMile = .err .alloc ∧
    SpeedGradeModel.newAlloc (2 ^ 40) (fun (_ _ : ℚ) => (1 : ℚ)) .milesPerHour 0 100 3000000 .decimal
      (-1 / 5) (1 / 5) 3000000 .gallonsGasolinePerMile = .err .alloc := by
  refine ⟨?_, ?_, ?_⟩ <;>
    exact (new_alloc_never_panics _ _ _ _ _ _ _ _ _ _ _).2.1 (by decide)
/-- an N-D interpolator over a single value with no grid / an empty first grid: accepted, and the validated
entry point answers the empty point with the value (no `grid[dim]` is read) -/
example : validateN { grid := ([] : List (List ℚ)), shape := [1], get := getFlat [1] [7] } = .ok () ∧
    Interpolator.interpolate (.dn { grid := ([] : List (List ℚ)), shape := [1], get := getFlat [1] [7] }) []
      .linear = .ok 7 ∧
    Interpolator.interpolate (.dn { grid := [[], [(1 : ℚ), 2]], shape := [1, 1], get := getFlat [1, 1] [7] }) []
      .none = .ok 7 := by decide +kernel
/-- 1-D and N-D accept one-point axes and work on them -/
example : Interpolator.interpolate (.d1 [(5 : ℚ)] [1]) [5] .linear = .ok 1 ∧
    Interpolator.interpolate (.dn { grid := [[(5 : ℚ)], [0, 1]], shape := [1, 2], get := getFlat [1, 2] [3, 4] })
      [5, 1 / 2] .linear = .ok (7 / 2) := by decide +kernel

/-! ### a defect of the raw methods, machine-checked on the faithful model (ℚ) -/

/-- the raw (public) `Interp1D/2D/3D/ND::linear` methods do not reject points outside the grid: above the grid
they index out of bounds, below it they extrapolate (`0 + (1-0)·(-1) = -1` is not between the corner values);
only `Interpolator::interpolate` rejects.  Left as a known finding: whether the raw methods should reject,
clamp or extrapolate is an API decision (the only caller in the workspace goes through `interpolate`). -/
theorem raw_linear_outside_counterexample :
    linear2 [(0 : ℚ), 1] [0, 1] [[0, 0], [1, 1]] [2, 0] = .panic .index ∧
      linear2 [(0 : ℚ), 1] [0, 1] [[0, 0], [1, 1]] [-1, 0] = .ok (-1) ∧
      Interpolator.interpolate (.d2 [(0 : ℚ), 1] [0, 1] [[0, 0], [1, 1]]) [2, 0] .linear = .err .outside ∧
      linear1 [(0 : ℚ), 1] [0, 1] 2 = .panic .index ∧ linear1 [(0 : ℚ), 1] [0, 1] (-1) = .ok (-1) ∧
      linear3 [(0 : ℚ), 1] [0, 1] [0, 1] [[[0, 0], [0, 0]], [[1, 1], [1, 1]]] [2, 0, 0] = .panic .index ∧
      linear3 [(0 : ℚ), 1] [0, 1] [0, 1] [[[0, 0], [0, 0]], [[1, 1], [1, 1]]] [-1, 0, 0] = .ok (-1) ∧
      linearN (nd2 [(0 : ℚ), 1] [0, 1] [[0, 0], [1, 1]]) [2, 1 / 2] = .panic .index ∧
      linearN (nd2 [(0 : ℚ), 1] [0, 1] [[0, 0], [1, 1]]) [-1, 1 / 2] = .ok (-1) := by
  decide +kernel

/-- `nd_agrees_1d` without its `2 ≤ x.length`: a one-point 1-D interpolator is accepted and works, the N-D
interpolator over the same data is refused by `InterpND::new` -/
theorem nd_agrees_1d_one_point_counterexample :
    validate1 [(5 : ℚ)] [1] = .ok () ∧ validateN (nd1 [(5 : ℚ)] [1]) = .err .gridDim ∧
      Interpolator.interpolate (.d1 [(5 : ℚ)] [1]) [5] .linear = .ok 1 ∧
      Interpolator.interpolate (.dn (nd1 [(5 : ℚ)] [1])) [5] .linear = .err .pointLen := by
  decide +kernel

/-! ### non-vacuity: the hypotheses are met and the functions compute -/

example : (SpeedGradeModel.new (fun (s g : ℚ) => s + 2 * g) .milesPerHour 0 100 3 .decimal (-1) 1 3
      .gallonsGasolinePerMile).bind (fun m => m.predict 25 .milesPerHour 1 .decimal)
    = .ok (27, .gallonsGasolinePerMile) := by decide +kernel
example : (SpeedGradeModel.new (fun (s g : ℚ) => s * g) .milesPerHour 0 100 3 .decimal (-1) 1 3
      .gallonsGasolinePerMile).bind (fun m => m.predict 500 .kilometersPerHour 30 .percent)
    = .ok (30, .gallonsGasolinePerMile) := by decide +kernel
example : findNearestIndex [(0 : ℚ), 1, 2] 2 = .ok 1 ∧ findNearestIndex [(0 : ℚ), 1, 2] 1 = .ok 0
    ∧ findNearestIndex [(0 : ℚ), 1, 2] (3 / 2) = .ok 1 := by decide +kernel
example : Interpolator.interpolate (.d2 [(0 : ℚ), 1, 3] [0, 2] [[0, 2], [1, 3], [3, 5]]) [2, 1] .linear
    = .ok 3 := by decide +kernel
example : Interpolator.interpolate (.d1 [(0 : ℚ), 1, 3] [1, 3, 7]) [2] .linear = .ok 5 := by decide +kernel
example : Interpolator.interpolate (.dn (nd2 [(0 : ℚ), 1, 3] [0, 2] [[0, 2], [1, 3], [3, 5]])) [2, 1] .linear
    = .ok 3 := by decide +kernel
example : Interpolator.interpolate (.dn (nd2 [(0 : ℚ), 1, 3] [0, 2] [[0, 2], [1, 3], [3, 5]])) [1, 2] .linear
    = .ok 3 := by decide +kernel
example : Interpolator.interpolate (.dn (nd2 [(0 : ℚ), 1, 3] [0, 2] [[0, 2], [1, 3], [3, 5]])) [4, 1] .linear
    = .err .outside := by decide +kernel
example : validateN (nd2 [(0 : ℚ), 1, 3] [0, 2] [[0, 2], [1, 3], [3, 5]]) = .ok () := by decide +kernel
example : (loadPredictionModel 1000 (fun (s g : ℚ) => s + 2 * g) true (.interpolate .smartcore 0 100 3 (-1) 1 3)
      .milesPerHour .decimal .gallonsGasolinePerMile (some 7) none).bind
      (fun r => r.predict 25 .milesPerHour 1 .decimal 2 .miles) = .ok (54, .gallonsGasoline) := by
  decide +kernel
example : (loadPredictionModel 1000 (fun (s g : ℚ) => s + 2 * g) true .smartcore
      .milesPerHour .decimal .gallonsGasolinePerMile none (some 2)).bind
      (fun r => .ok (r.idealEnergyRate, r.realWorldEnergyAdjustment)) = .ok ((20 : ℚ), (2 : ℚ)) := by
  decide +kernel
example : linspace (0 : ℚ) 1 5 = .ok [0, 1 / 4, 1 / 2, 3 / 4, 1] := by decide +kernel
example : Interpolator.interpolate (.d3 [(0 : ℚ), 1] [0, 1] [0, 2] [[[0, 2], [1, 3]], [[1, 3], [2, 4]]])
    [1 / 2, 1 / 2, 1] .linear = .ok 2 := by decide +kernel

/-! ### non-vacuity: the theorems' hypotheses instantiated on realistic values -/

/-- the bundled configuration (0..100 mph in 101 bins, grade -0.2..0.2 in 41 bins) over any underlying
model: `new` returns a model (`hnew`), and the headline theorems apply to it for a query in other units -/
example (underlying : ℚ → ℚ → ℚ) :
    ∃ m v xs ys, SpeedGradeModel.new underlying .milesPerHour 0 100 101 .decimal (-1 / 5) (1 / 5) 41
        .gallonsGasolinePerMile = .ok m ∧
      linspace (0 : ℚ) 100 101 = .ok xs ∧ linspace (-1 / 5 : ℚ) (1 / 5) 41 = .ok ys ∧
      m.predict 250 .kilometersPerHour 3 .percent = .ok (v, .gallonsGasolinePerMile) ∧
      m.predict 250 .kilometersPerHour 3 .percent =
        m.predict (clampTo xs (SpeedUnit.kilometersPerHour.convert .milesPerHour 250)) .milesPerHour
          (clampTo ys (GradeUnit.percent.convert .decimal 3)) .decimal := by
  obtain ⟨m, hm⟩ := new_succeeds underlying .milesPerHour (0 : ℚ) 100 101 .decimal (-1 / 5) (1 / 5) 41
    .gallonsGasolinePerMile (by decide +kernel) (by decide +kernel) (by decide) (by decide)
  obtain ⟨v, hv⟩ := predict_never_fails underlying .milesPerHour 0 100 101 .decimal (-1 / 5) (1 / 5) 41
    .gallonsGasolinePerMile m hm 250 .kilometersPerHour 3 .percent
  obtain ⟨xs, hxs⟩ := linspace_ok (0 : ℚ) 100 101
  obtain ⟨ys, hys⟩ := linspace_ok (-1 / 5 : ℚ) (1 / 5) 41
  exact ⟨m, v, xs, ys, hm, hxs, hys, hv, clamp_outside underlying .milesPerHour 0 100 101 .decimal (-1 / 5) (1 / 5) 41
    .gallonsGasolinePerMile m hm xs ys hxs hys 250 .kilometersPerHour 3 .percent⟩

/-- `multilinear_exact_nd` on a non-uniform grid with a non-constant multilinear function: every hypothesis
(`hM`, `hgrids`, `hget`, `hp`) discharged on concrete data -/
example : Interpolator.interpolate (.dn (nd2 [(0 : ℚ), 1, 3] [0, 2] [[0, 2], [1, 3], [3, 5]])) [2, 1] .linear
    = .ok (0 + 1 * (2 : ℚ) + 1 * 1 + 0 * 2 * 1) := by
  have gx : GoodGrid [(0 : ℚ), 1, 3] := ⟨by decide +kernel, by decide⟩
  have gy : GoodGrid [(0 : ℚ), 2] := ⟨by decide +kernel, by decide⟩
  have hr : Rect2 [[(0 : ℚ), 2], [1, 3], [3, 5]] [(0 : ℚ), 1, 3].length [(0 : ℚ), 2].length :=
    ⟨by decide, by decide⟩
  have V := nd2_valid [(0 : ℚ), 1, 3] [0, 2] [[0, 2], [1, 3], [3, 5]] gx gy hr
  exact multilinear_exact_nd (nd2 [(0 : ℚ), 1, 3] [0, 2] [[0, 2], [1, 3], [3, 5]])
    (fun v => 0 + 1 * v.getD 0 0 + 1 * v.getD 1 0 + 0 * v.getD 0 0 * v.getD 1 0)
    (multiAffine_bilinear 0 1 1 0) V.axes (by
      intro ix hix
      cases hix with
      | cons h1 rest =>
        cases rest with
        | cons h2 rest2 =>
          cases rest2
          rename_i i j
          have hi : i = 0 ∨ i = 1 ∨ i = 2 := by have : i < 3 := h1; omega
          have hj : j = 0 ∨ j = 1 := by have : j < 2 := h2; omega
          rcases hi with rfl | rfl | rfl <;> rcases hj with rfl | rfl <;> decide +kernel) [2, 1]
    (.cons ⟨0, 3, by decide +kernel, by decide +kernel, by decide +kernel, by decide +kernel⟩
      (.cons ⟨0, 2, by decide +kernel, by decide +kernel, by decide +kernel, by decide +kernel⟩ .nil))

/-- a nested `Interpolate{Interpolate{Smartcore}}` configuration loads (`load_interpolate_succeeds` twice, every
premise discharged), so `load_interpolate_is_new` / `loaded_interpolation_matches_underlying_on_grid` apply to
it; and it computes: the swept ideal rate is attained (20 = rf at 20 mph, grade 0) and a prediction goes
through both levels -/
example : ∃ r, loadPredictionModel 1000 (fun (s g : ℚ) => s + 2 * g) true
      (.interpolate (.interpolate .smartcore 0 100 3 (-1) 1 3) 10 90 5 (-1 / 2) (1 / 2) 3)
      .milesPerHour .decimal .gallonsGasolinePerMile none none = .ok r := by
  obtain ⟨r0, h0, _⟩ := load_smartcore 1000 (fun (s g : ℚ) => s + 2 * g) .milesPerHour .decimal
    .gallonsGasolinePerMile none none
  obtain ⟨r1, h1⟩ := (load_interpolate_succeeds 1000 (fun (s g : ℚ) => s + 2 * g) .smartcore .milesPerHour
    .decimal .gallonsGasolinePerMile 0 100 3 (-1) 1 3 none none r0 h0).1 (by decide +kernel) (by decide +kernel)
    (by decide) (by decide) (by decide) (by decide) (by decide)
  exact (load_interpolate_succeeds 1000 (fun (s g : ℚ) => s + 2 * g) (.interpolate .smartcore 0 100 3 (-1) 1 3)
    .milesPerHour .decimal .gallonsGasolinePerMile 10 90 5 (-1 / 2) (1 / 2) 3 none none r1 h1).1 (by decide +kernel)
    (by decide +kernel) (by decide) (by decide) (by decide) (by decide) (by decide)
example : (loadPredictionModel 1000 (fun (s g : ℚ) => s + 2 * g) true
      (.interpolate (.interpolate .smartcore 0 100 3 (-1) 1 3) 10 90 5 (-1 / 2) (1 / 2) 3)
      .milesPerHour .decimal .gallonsGasolinePerMile none none).bind
      (fun r => (r.model 30 .milesPerHour (1 / 4) .decimal).bind fun p => .ok (r.idealEnergyRate, p.1))
    = .ok ((20 : ℚ), (30 + 1 / 2 : ℚ)) := by decide +kernel

/-- `validated_interpolation_never_panics` on a constructed N-D interpolator over a single value -/
example : ∀ pt s, (∃ v, Interpolator.interpolate
      (.dn { grid := ([] : List (List ℚ)), shape := [1], get := getFlat [1] [7] }) pt s = .ok v) ∨
    (∃ e, Interpolator.interpolate
      (.dn { grid := ([] : List (List ℚ)), shape := [1], get := getFlat [1] [7] }) pt s = .err e) := by
  intro pt s
  have hc : Constructed (.dn { grid := ([] : List (List ℚ)), shape := [1], get := getFlat [1] [7] }) := by
    refine ⟨by decide +kernel, ?_⟩
    intro ix hix
    cases hix with
    | cons h rest =>
      cases rest
      rename_i i
      have : i = 0 := by omega
      subst this
      exact ⟨7, by decide +kernel⟩
  exact validated_interpolation_never_panics _ hc pt s

open Src

/-! ### Source decision ties

What these theorems are for is said in `Props/C01.lean` under the same heading. -/

theorem src_interp_round_half {α : Type} [Field α] [LinearOrder α] [IsStrictOrderedRing α] [Lit α] [LawfulLit α] (x f : List α) (p : α) :
    Interp.nearest1 x f p =
      match Interp.position (fun v => Interp.eqv v p) x with
      | some i => Interp.idx f i
      | none => (Interp.cellOf x p).bind fun c =>
          if interp_round_half.num c.2 (Lit.lit 1 2 : α) = some true then Interp.idx f c.1
          else Interp.idx f (c.1 + 1) := by
  unfold Interp.nearest1
  cases Interp.position (fun v => Interp.eqv v p) x <;> simp [interp_round_half, Rel.num]

theorem src_find_nearest_step {α : Type} [Field α] [LinearOrder α] [IsStrictOrderedRing α] [Lit α] [LawfulLit α] (arr : List α) (t : α) (fuel low high : Nat) :
    Interp.bsearch arr t (fuel + 1) low high =
      if find_nearest_loop.nat low high = some true then
        match arr[low + (high - low) / 2]? with
        | none => .panic .index
        | some v =>
          if find_nearest_mid.num v t = some true then Interp.bsearch arr t fuel low (low + (high - low) / 2)
          else Interp.bsearch arr t fuel (low + (high - low) / 2 + 1) high
      else .ok low := by
  by_cases h : low < high
  · simp only [Interp.bsearch, h, find_nearest_loop, find_nearest_mid, Rel.nat, Rel.num]
    cases arr[low + (high - low) / 2]? <;> simp
  · simp [Interp.bsearch, h, find_nearest_loop, Rel.nat]

/-- the `inAxis` of the model compares by `<=` on both sides: equal to the pair of comparisons of any two sites
whose extracted operators are `<=` -/
theorem inAxis_eq_rels {α : Type} [Field α] [LinearOrder α] [IsStrictOrderedRing α] [Lit α] [LawfulLit α]
    {rlo rhi : Rel} (hlo : rlo = .le) (hhi : rhi = .le) (g : List α) (p : α) :
    Interp.inAxis g p =
      (Interp.idx g 0).bind fun lo =>
        match g.getLast? with
        | none => .panic .index
        | some hi => .ok ((rlo.num lo p == some true) && (rhi.num p hi == some true)) := by
  subst hlo hhi
  unfold Interp.inAxis
  cases Interp.idx g 0 with
  | ok lo =>
    simp only [Interp.Res.bind, Rel.num]
    cases g.getLast? <;> simp
  | _ => rfl

/-! The seven in-grid sites of `validate_inputs` (one per arm and axis: `interp.g[0] <= p && p <= interp.g.last()`):
at each, the model's one `inAxis` is the pair of comparisons the source has there, operator by operator. -/

theorem src_in_grid_1d_x {α : Type} [Field α] [LinearOrder α] [IsStrictOrderedRing α] [Lit α] [LawfulLit α] (g : List α) (p : α) :
    Interp.inAxis g p =
      (Interp.idx g 0).bind fun lo =>
        match g.getLast? with
        | none => .panic .index
        | some hi => .ok ((in_grid_1d_x_low.num lo p == some true) && (in_grid_1d_x_high.num p hi == some true)) :=
  inAxis_eq_rels rfl rfl g p

theorem src_in_grid_2d_x {α : Type} [Field α] [LinearOrder α] [IsStrictOrderedRing α] [Lit α] [LawfulLit α] (g : List α) (p : α) :
    Interp.inAxis g p =
      (Interp.idx g 0).bind fun lo =>
        match g.getLast? with
        | none => .panic .index
        | some hi => .ok ((in_grid_2d_x_low.num lo p == some true) && (in_grid_2d_x_high.num p hi == some true)) :=
  inAxis_eq_rels rfl rfl g p

theorem src_in_grid_2d_y {α : Type} [Field α] [LinearOrder α] [IsStrictOrderedRing α] [Lit α] [LawfulLit α] (g : List α) (p : α) :
    Interp.inAxis g p =
      (Interp.idx g 0).bind fun lo =>
        match g.getLast? with
        | none => .panic .index
        | some hi => .ok ((in_grid_2d_y_low.num lo p == some true) && (in_grid_2d_y_high.num p hi == some true)) :=
  inAxis_eq_rels rfl rfl g p

theorem src_in_grid_3d_x {α : Type} [Field α] [LinearOrder α] [IsStrictOrderedRing α] [Lit α] [LawfulLit α] (g : List α) (p : α) :
    Interp.inAxis g p =
      (Interp.idx g 0).bind fun lo =>
        match g.getLast? with
        | none => .panic .index
        | some hi => .ok ((in_grid_3d_x_low.num lo p == some true) && (in_grid_3d_x_high.num p hi == some true)) :=
  inAxis_eq_rels rfl rfl g p

theorem src_in_grid_3d_y {α : Type} [Field α] [LinearOrder α] [IsStrictOrderedRing α] [Lit α] [LawfulLit α] (g : List α) (p : α) :
    Interp.inAxis g p =
      (Interp.idx g 0).bind fun lo =>
        match g.getLast? with
        | none => .panic .index
        | some hi => .ok ((in_grid_3d_y_low.num lo p == some true) && (in_grid_3d_y_high.num p hi == some true)) :=
  inAxis_eq_rels rfl rfl g p

theorem src_in_grid_3d_z {α : Type} [Field α] [LinearOrder α] [IsStrictOrderedRing α] [Lit α] [LawfulLit α] (g : List α) (p : α) :
    Interp.inAxis g p =
      (Interp.idx g 0).bind fun lo =>
        match g.getLast? with
        | none => .panic .index
        | some hi => .ok ((in_grid_3d_z_low.num lo p == some true) && (in_grid_3d_z_high.num p hi == some true)) :=
  inAxis_eq_rels rfl rfl g p

theorem src_in_grid_nd {α : Type} [Field α] [LinearOrder α] [IsStrictOrderedRing α] [Lit α] [LawfulLit α] (g : List α) (p : α) :
    Interp.inAxis g p =
      (Interp.idx g 0).bind fun lo =>
        match g.getLast? with
        | none => .panic .index
        | some hi => .ok ((in_grid_nd_low.num lo p == some true) && (in_grid_nd_high.num p hi == some true)) :=
  inAxis_eq_rels rfl rfl g p

/-- every adjacent pair of the list stands in the relation the source has at the site -/
def adjacentAll {α : Type} [LT α] [LE α] [DecidableLT α] [DecidableLE α] (r : Src.Rel) : List α → Bool
  | [] => true
  | [_] => true
  | a :: b :: t => (r.num a b == some true) && adjacentAll r (b :: t)

/-- `strictlyIncreasing` compares adjacent values by `<`: equal to `adjacentAll` at any site whose extracted
operator is `<` -/
theorem strictlyIncreasing_eq_adjacentAll {α : Type} [Field α] [LinearOrder α] [IsStrictOrderedRing α] [Lit α]
    [LawfulLit α] {r : Rel} (hr : r = .lt) (l : List α) : Interp.strictlyIncreasing l = adjacentAll r l := by
  subst hr
  induction l using Interp.strictlyIncreasing.induct with
  | case1 => rfl
  | case2 => rfl
  | case3 a b r ih => simp [Interp.strictlyIncreasing, adjacentAll, ih, Rel.num]

/-! The seven sortedness sites of the `validate` methods (one per axis): at each, the model's one
`strictlyIncreasing` is the `windows(2).all(|w| w[0] < w[1])` the source has there. -/

theorem src_sorted_1d_x {α : Type} [Field α] [LinearOrder α] [IsStrictOrderedRing α] [Lit α] [LawfulLit α] (l : List α) :
    Interp.strictlyIncreasing l = adjacentAll sorted_1d_x l :=
  strictlyIncreasing_eq_adjacentAll rfl l

theorem src_sorted_2d_x {α : Type} [Field α] [LinearOrder α] [IsStrictOrderedRing α] [Lit α] [LawfulLit α] (l : List α) :
    Interp.strictlyIncreasing l = adjacentAll sorted_2d_x l :=
  strictlyIncreasing_eq_adjacentAll rfl l

theorem src_sorted_2d_y {α : Type} [Field α] [LinearOrder α] [IsStrictOrderedRing α] [Lit α] [LawfulLit α] (l : List α) :
    Interp.strictlyIncreasing l = adjacentAll sorted_2d_y l :=
  strictlyIncreasing_eq_adjacentAll rfl l

theorem src_sorted_3d_x {α : Type} [Field α] [LinearOrder α] [IsStrictOrderedRing α] [Lit α] [LawfulLit α] (l : List α) :
    Interp.strictlyIncreasing l = adjacentAll sorted_3d_x l :=
  strictlyIncreasing_eq_adjacentAll rfl l

theorem src_sorted_3d_y {α : Type} [Field α] [LinearOrder α] [IsStrictOrderedRing α] [Lit α] [LawfulLit α] (l : List α) :
    Interp.strictlyIncreasing l = adjacentAll sorted_3d_y l :=
  strictlyIncreasing_eq_adjacentAll rfl l

theorem src_sorted_3d_z {α : Type} [Field α] [LinearOrder α] [IsStrictOrderedRing α] [Lit α] [LawfulLit α] (l : List α) :
    Interp.strictlyIncreasing l = adjacentAll sorted_3d_z l :=
  strictlyIncreasing_eq_adjacentAll rfl l

theorem src_sorted_nd {α : Type} [Field α] [LinearOrder α] [IsStrictOrderedRing α] [Lit α] [LawfulLit α] (l : List α) :
    Interp.strictlyIncreasing l = adjacentAll sorted_nd l :=
  strictlyIncreasing_eq_adjacentAll rfl l

end C14
end Compass
