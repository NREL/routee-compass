/-
C18 — strongly connected components are exactly the mutual-reachability classes.

Model: `Compass/Model/Scc.lean`.  `scc.rs` (/repo 323fefd) runs its two depth-first searches as a loop over an
explicit list of frames; `allSccIter` = `all_strongly_connected_componenets` and `largestSccIter` =
`largest_strongly_connected_component` model that code, with a budget of loop turns.  `allScc` / `largestScc` are
the same two passes over a recursive formulation of the searches, with a budget of recursion depth; the proof is
carried out on it, and the two formulations return the same thing on EVERY `Graph` value (`code_model_eq`), so
each theorem below holds of both; `scc_correct_code` states the main result for the code.  Neither budget is ever the
reason for an outcome (`scc_never_diverges`, `code_never_diverges`): they are proof devices, not limits.

Everything about correctness is proved for every graph value that is well formed, `g.wfb = true`: every edge record
joins existing vertices, a slot of `adj` (`rev`) names only edges that leave (enter) its vertex, and every edge is
named by the slot of its source and by the slot of its destination — slots in any order, and any number of slots
(surplus slots are empty, a vertex without a slot has no edges); nothing is asked of the order inside a slot, so every
iteration order of the adjacency containers is covered.  That is every directed graph with any number of vertices,
self loops, parallel edges, isolated vertices (`scc_correct_every_digraph`: the tables `EdgeLoader` builds, slots in
file order), and every network `Graph::from_files` returns (`scc_correct_every_loaded_network`, over the model and
theorems of C15).  `Graph` values that are not well formed (public fields!) are not directed
graphs and are covered by the correspondence run only.

Reachability is `Graph.Reach` (`Proofs/Scc.lean`): the reflexive-transitive closure of
`g.Edge u v := ∃ e, g.edges[e]? = some (u, v)`.

The proof is Kosaraju's argument (`Proofs/Scc.lean`): white-path specification of the recursive search together
with a finishing-order property (for every pushed `x` and every `y` it reaches, some vertex mutually reachable
with `x` lies at or above `y` on the stack), then an invariant of the second pass (visited = union of the emitted
classes, closed under predecessors).

The last part of the file covers the `…_iter` accessors of `graph.rs` and adds to C15's theorems on
`incident_triplet_attributes`: both arms on every graph value, and on loaded networks each entry as the
`edge_triplet` of its edge.

The correspondence run (harness/src/c18.rs, harness/src/c18_net.rs, Drv/C18.lean) additionally applies the checker
`isSccPartition` (decides `IsSccPartition` on well-formed graphs: `Scc.isSccPartition_iff`) to the model's and to
the implementation's output on every well-formed case of at most 48 vertices; that part is testing, not proof.
-/
import Compass.Gen.Decisions
import Compass.Proofs.SccNet

namespace Compass
namespace C18
open Compass.Scc

/-! ### the algorithm returns, and what it returns is the partition into mutual-reachability classes -/

/-- on a well-formed graph the component analysis returns a result: no `EdgeNotFound`, and the recursion
budget of the model is never exhausted -/
theorem scc_total (g : Scc.Graph) (hwf : g.wfb = true) : ∃ cs, allScc g = .ok cs := by
  obtain ⟨cs, h, _⟩ := allScc_good (g.wfb_iff.1 hwf)
  exact ⟨cs, h⟩

/-- for **every** `Graph` value, well formed or not, the recursion budget of the model is never the reason
for an outcome: the model returns a result or `EdgeNotFound` (the fuel is a proof device, not a limit) -/
theorem scc_never_diverges (g : Scc.Graph) :
    allScc g ≠ .error .diverges ∧ largestScc g ≠ .error .diverges := by
  refine ⟨allScc_ne_diverges g, ?_⟩
  cases h : allScc g with
  | error x =>
    rw [largestScc_error h]
    exact fun hx => allScc_ne_diverges g (h.trans (congrArg Except.error (Except.error.inj hx)))
  | ok cs =>
    rw [largestScc_ok h]
    exact fun hx => nomatch hx

/-- what the analysis returns is the partition into mutual-reachability classes (the four clauses of
`IsSccPartition` at once; the theorems after this one take them apart) -/
theorem scc_correct (g : Scc.Graph) (hwf : g.wfb = true) (cs : List (List Nat)) (h : allScc g = .ok cs) :
    IsSccPartition g cs := by
  obtain ⟨cs', h', hgood⟩ := allScc_good (g.wfb_iff.1 hwf)
  rw [h] at h'
  injection h' with h'
  subst h'
  exact hgood.isSccPartition

/-- every vertex appears in exactly one component: no component is empty, the concatenation of all
components has no repetition, and it holds exactly the vertices `0 .. n-1` -/
theorem scc_partition (g : Scc.Graph) (hwf : g.wfb = true) (cs : List (List Nat)) (h : allScc g = .ok cs) :
    (∀ c ∈ cs, c ≠ []) ∧ cs.flatten.Nodup ∧ (∀ v, v ∈ cs.flatten ↔ v < g.n) :=
  let p := scc_correct g hwf cs h
  ⟨p.nonempty, p.nodup, p.cover⟩

/-- the same, said per vertex: there is exactly one component that holds `v` -/
theorem scc_exactly_one (g : Scc.Graph) (hwf : g.wfb = true) (cs : List (List Nat)) (h : allScc g = .ok cs)
    (v : Nat) (hv : v < g.n) : ∃ c, (c ∈ cs ∧ v ∈ c) ∧ ∀ c', (c' ∈ cs ∧ v ∈ c') → c' = c := by
  have p := scc_correct g hwf cs h
  obtain ⟨c, hc, hvc⟩ := List.mem_flatten.1 ((p.cover v).2 hv)
  exact ⟨c, ⟨hc, hvc⟩, fun c' ⟨hc', hvc'⟩ => unique_block cs p.nodup hc hc' hvc hvc'⟩

/-- two vertices in one component are mutually reachable -/
theorem scc_sound (g : Scc.Graph) (hwf : g.wfb = true) (cs : List (List Nat)) (h : allScc g = .ok cs)
    (c : List Nat) (hc : c ∈ cs) (u v : Nat) (hu : u ∈ c) (hv : v ∈ c) : g.Reach u v ∧ g.Reach v u :=
  ((scc_correct g hwf cs h).classes c hc u hu v).1 hv

/-- mutually reachable vertices share a component: the component of `u` holds every `v` with `u ⇝ v ⇝ u` -/
theorem scc_complete (g : Scc.Graph) (hwf : g.wfb = true) (cs : List (List Nat)) (h : allScc g = .ok cs)
    (u v : Nat) (huv : g.Reach u v) (hvu : g.Reach v u) (c : List Nat) (hc : c ∈ cs) (hu : u ∈ c) : v ∈ c :=
  ((scc_correct g hwf cs h).classes c hc u hu v).2 ⟨huv, hvu⟩

/-- a vertex and everything mutually reachable with it lie in a common component -/
theorem scc_complete_exists (g : Scc.Graph) (hwf : g.wfb = true) (cs : List (List Nat)) (h : allScc g = .ok cs)
    (u v : Nat) (hun : u < g.n) (huv : g.Reach u v) (hvu : g.Reach v u) : ∃ c ∈ cs, u ∈ c ∧ v ∈ c := by
  have p := scc_correct g hwf cs h
  obtain ⟨c, hc, huc⟩ := List.mem_flatten.1 ((p.cover u).2 hun)
  exact ⟨c, hc, huc, scc_complete g hwf cs h u v huv hvu c hc huc⟩

/-- two vertices share a component exactly when each can reach the other -/
theorem scc_iff (g : Scc.Graph) (hwf : g.wfb = true) (cs : List (List Nat)) (h : allScc g = .ok cs)
    (u v : Nat) (hun : u < g.n) : (∃ c ∈ cs, u ∈ c ∧ v ∈ c) ↔ (g.Reach u v ∧ g.Reach v u) :=
  ⟨fun ⟨c, hc, hu, hv⟩ => scc_sound g hwf cs h c hc u v hu hv,
   fun ⟨h1, h2⟩ => scc_complete_exists g hwf cs h u v hun h1 h2⟩

/-! ### the two searches on their own (white-path theorem) -/

/-- `depth_first_search` from a vertex `v`, with `vis` already visited: it returns, pushes a repetition-free
block `new` on the stack, adds exactly that block to the visited set, and the block holds exactly the
vertices reachable from `v` along edges by a walk that avoids `vis` -/
theorem dfs_white_path (g : Scc.Graph) (hwf : g.wfb = true) (v : Nat) (hv : v < g.n) (vis st : List Nat) :
    ∃ new vis', dfs g g.fuel v (vis, st) = .ok (vis', new ++ st) ∧ new.Nodup ∧
      (∀ x, x ∈ vis' ↔ (x ∈ vis ∨ x ∈ new)) ∧
      ∀ y, y ∈ new ↔ RA g.Edge (fun u => u ∈ vis) v y := by
  obtain ⟨new, vis', h1, h2, h3⟩ := (g.wfb_iff.1 hwf).dfs_ok hv vis st
  refine ⟨new, vis', h1, h3.nodup, h2, fun y => ?_⟩
  rw [h3.reach y]
  simp

/-- `reverse_depth_first_search`: the same along reversed edges — the block holds exactly the vertices
from which `v` can be reached by a walk that avoids `vis` -/
theorem rdfs_white_path (g : Scc.Graph) (hwf : g.wfb = true) (v : Nat) (hv : v < g.n) (vis st : List Nat) :
    ∃ new vis', rdfs g g.fuel v (vis, st) = .ok (vis', new ++ st) ∧ new.Nodup ∧
      (∀ x, x ∈ vis' ↔ (x ∈ vis ∨ x ∈ new)) ∧
      ∀ y, y ∈ new ↔ RA g.Edge (fun u => u ∈ vis) y v := by
  obtain ⟨new, vis', h1, h2, h3⟩ := (g.wfb_iff.1 hwf).rdfs_ok hv vis st
  refine ⟨new, vis', h1, h3.nodup, h2, fun y => ?_⟩
  rw [h3.reach y]
  simp only [List.mem_singleton, exists_eq_left]
  exact ⟨fun h => h.flip, fun h => h.flip⟩

/-! ### the largest component -/

/-- the reported largest component is at least as long as every component, and it is one of them
(whenever some component is non-empty).  No well-formedness needed: this is the selection loop alone. -/
theorem largest_is_max (g : Scc.Graph) (cs : List (List Nat)) (big : List Nat)
    (hall : allScc g = .ok cs) (hbig : largestScc g = .ok big) :
    (∀ c ∈ cs, c.length ≤ big.length) ∧ ((∃ c ∈ cs, c ≠ []) → big ∈ cs) := by
  cases (largestScc_ok hall).symm.trans hbig
  exact ⟨largestOf_max cs, largestOf_mem cs⟩

/-- on a well-formed graph with at least one vertex the largest component is returned, it is a
mutual-reachability class, and no class is bigger -/
theorem largest_is_max_class (g : Scc.Graph) (hwf : g.wfb = true) (hn : 0 < g.n) :
    ∃ cs big, allScc g = .ok cs ∧ largestScc g = .ok big ∧ big ∈ cs ∧ (∀ c ∈ cs, c.length ≤ big.length) ∧
      ∀ u ∈ big, ∀ v, v ∈ big ↔ (g.Reach u v ∧ g.Reach v u) := by
  obtain ⟨cs, h⟩ := scc_total g hwf
  have p := scc_correct g hwf cs h
  have hbig := largestScc_ok h
  have hex := p.exists_nonempty hn
  have hm := largest_is_max g cs _ h hbig
  exact ⟨cs, largestOf cs, h, hbig, hm.2 hex, hm.1, p.classes _ (hm.2 hex)⟩

/-- ties: of several components of maximal size the first one in result order is reported
(`>` in the selection loop, not `>=`) -/
theorem largest_ties_first (g : Scc.Graph) (pre suf : List (List Nat)) (c : List Nat)
    (hall : allScc g = .ok (pre ++ c :: suf)) (hc : c ≠ [])
    (hpre : ∀ a ∈ pre, a.length < c.length) (hsuf : ∀ a ∈ suf, a.length ≤ c.length) :
    largestScc g = .ok c := by
  rw [largestScc_ok hall, largestOf_first pre suf c hc hpre hsuf]

/-! ### every directed graph

`Graph.ofEdges n es` is the value `EdgeLoader` builds from `n` vertices and the edge list `es`; it is well
formed whenever every end point is a vertex, so the statements above hold for every vertex count and every
edge list (self loops, repeated pairs, vertices without edges included). -/

theorem scc_correct_every_digraph (n : Nat) (es : List (Nat × Nat)) (h : ∀ p ∈ es, p.1 < n ∧ p.2 < n) :
    (∀ u v, (Scc.Graph.ofEdges n es).Edge u v ↔ (u, v) ∈ es) ∧
    ∃ cs, allScc (Scc.Graph.ofEdges n es) = .ok cs ∧ IsSccPartition (Scc.Graph.ofEdges n es) cs := by
  refine ⟨ofEdges_edge n es, ?_⟩
  obtain ⟨cs, hcs⟩ := scc_total _ (ofEdges_wfb n es h)
  exact ⟨cs, hcs, scc_correct _ (ofEdges_wfb n es h) cs hcs⟩

/-! ### the frame-list searches -/

/-- the model of the code (explicit frames, a loop) and the recursive model the proofs are carried out
on return the same thing on every `Graph` value — results, `EdgeNotFound`, and never `diverges` -/
theorem code_model_eq (g : Scc.Graph) : allSccIter g = allScc g ∧ largestSccIter g = largestScc g :=
  ⟨allSccIter_eq g, largestSccIter_eq g⟩

/-- the two public search functions, called on their own from any state: the frame-list search returns what
the recursive search returns -/
theorem search_functions_eq (g : Scc.Graph) (v : Nat) (hv : v ∈ g.universe) (vis st : List Nat) :
    dfsI g v (vis, st) = dfs g g.fuel v (vis, st) ∧ rdfsI g v (vis, st) = rdfs g g.fuel v (vis, st) :=
  ⟨dfsI_eq g v hv vis st, rdfsI_eq g v hv vis st⟩

/-- the loop of the frame-list searches ends within the model's budget of turns on every `Graph` value -/
theorem code_never_diverges (g : Scc.Graph) :
    allSccIter g ≠ .error .diverges ∧ largestSccIter g ≠ .error .diverges := by
  rw [allSccIter_eq, largestSccIter_eq]
  exact scc_never_diverges g

/-- the property, for the model of the code: on every well-formed graph both functions return, the components are
the partition into mutual-reachability classes, and the reported largest one is a class of maximal size -/
theorem scc_correct_code (g : Scc.Graph) (hwf : g.wfb = true) :
    ∃ cs big, allSccIter g = .ok cs ∧ largestSccIter g = .ok big ∧ IsSccPartition g cs ∧
      (∀ c ∈ cs, c.length ≤ big.length) ∧ (0 < g.n → big ∈ cs) := by
  obtain ⟨cs, h⟩ := scc_total g hwf
  have p := scc_correct g hwf cs h
  have hbig := largestScc_ok h
  have hm := largest_is_max g cs _ h hbig
  exact ⟨cs, largestOf cs, by rw [allSccIter_eq, h], by rw [largestSccIter_eq, hbig], p, hm.1,
    fun hn => hm.2 (p.exists_nonempty hn)⟩

/-! ### every network the loader returns

`graphFromFiles` is C15's model of `Graph::from_files` (files abstracted: can it be read, how many lines does
the scan see, which rows decode).  `Scc.Graph.ofNet` is what the analysis reads of a network value, and it
reads it through `vertex_ids`, `out_edges`, `in_edges`, `src_vertex_id`, `dst_vertex_id`. -/

theorem analysis_reads_through_accessors {α : Type} (net : Compass.Graph α) :
    (Scc.Graph.ofNet net).n = net.vertexIds.length ∧
    (∀ v, (Scc.Graph.ofNet net).outEdges v = net.outEdges v ∧ (Scc.Graph.ofNet net).inEdges v = net.inEdges v) ∧
    (∀ e, (Scc.Graph.ofNet net).srcOf e = (match net.srcVertexId e with | .ok v => some v | .error _ => none) ∧
      (Scc.Graph.ofNet net).dstOf e = (match net.dstVertexId e with | .ok v => some v | .error _ => none)) := by
  refine ⟨by simp [Scc.Graph.ofNet, Compass.Graph.vertexIds, Compass.Graph.nVertices],
    fun v => ⟨ofNet_outEdges net v, ofNet_inEdges net v⟩,
    fun e => ⟨ofNet_srcOf_accessor net e, ofNet_dstOf_accessor net e⟩⟩

/-- for every pair of files, every way of giving the counts: if the load succeeds, the component analysis of
the loaded network returns, and returns the partition of its vertices into the mutual-reachability classes of
its edge records.  No hypothesis on the files (the loader rejects what is not a network). -/
theorem scc_correct_every_loaded_network {α : Type} (ef : CsvFile (Edge α)) (vf : CsvFile (Vertex α))
    (nE nV : Option Nat) (net : Compass.Graph α) (h : graphFromFiles ef vf nE nV = .ok net) :
    (∀ u v, (Scc.Graph.ofNet net).Edge u v ↔ ∃ x ∈ net.edges, x.src = u ∧ x.dst = v) ∧
    ∃ cs big, allSccIter (Scc.Graph.ofNet net) = .ok cs ∧ largestSccIter (Scc.Graph.ofNet net) = .ok big ∧
      IsSccPartition (Scc.Graph.ofNet net) cs ∧ (∀ c ∈ cs, c.length ≤ big.length) := by
  obtain ⟨cs, big, h1, h2, h3, h4, _⟩ :=
    scc_correct_code _ ((Scc.Graph.wfb_iff _).2 (ofNet_loaded_wf ef vf nE nV net h))
  exact ⟨ofNet_edge net, cs, big, h1, h2, h3, h4⟩

/-! ### the `…_iter` accessors, and more on `incident_triplet_attributes` -/

/-- the `_iter` accessors yield the sequences of their collecting counterparts -/
theorem iter_accessors_eq {α : Type} (g : Compass.Graph α) (v : Nat) (d : Direction) :
    g.outEdgesIter v = g.outEdges v ∧ g.inEdgesIter v = g.inEdges v ∧
    g.incidentEdgesIter v d = g.incidentEdges v d := by
  refine ⟨rfl, rfl, ?_⟩
  cases d <;> rfl

/-- `incident_triplet_attributes`, every graph value, success arm: it returns `r` exactly when
`incident_triplet_ids` returns some `l` and `r` holds, entry by entry, the records at the positions `l` names -/
theorem triplet_attributes_ok_iff {α : Type} (g : Compass.Graph α) (v : Nat) (d : Direction)
    (r : List (Vertex α × Edge α × Vertex α)) :
    g.incidentTripletAttributes v d = .ok r ↔
      ∃ l, g.incidentTripletIds v d = .ok l ∧
        List.Forall₂ (fun t x => g.vertices[t.1]? = some x.1 ∧ g.edges[t.2.1]? = some x.2.1 ∧
          g.vertices[t.2.2]? = some x.2.2) l r := by
  unfold Compass.Graph.incidentTripletAttributes
  cases hl : g.incidentTripletIds v d with
  | error x => simp
  | ok l =>
    simp only [Except.ok.injEq, exists_eq_left']
    exact Compass.Graph.tripletAttrsGo_ok_iff g l r

/-- `incident_triplet_attributes`, every graph value, error arm: the error is that of `incident_triplet_ids`, or a `VertexNotFound` naming the first or third
id of one of its triplets at which there is no vertex record.  (The `?` on `get_edge` inside
`incident_triplet_attributes` is dead code: `incident_triplet_ids` has just read that record.) -/
theorem triplet_attributes_error {α : Type} (g : Compass.Graph α) (v : Nat) (d : Direction) (x : NetErr)
    (h : g.incidentTripletAttributes v d = .error x) :
    g.incidentTripletIds v d = .error x ∨
    ∃ l, g.incidentTripletIds v d = .ok l ∧ ∃ t ∈ l,
      (x = .vertexNotFound t.1 ∧ g.vertices[t.1]? = none) ∨
      (x = .vertexNotFound t.2.2 ∧ g.vertices[t.2.2]? = none) := by
  unfold Compass.Graph.incidentTripletAttributes at h
  cases hl : g.incidentTripletIds v d with
  | error y =>
    rw [hl] at h
    simp only [Except.error.injEq] at h
    exact Or.inl (by rw [h])
  | ok l =>
    rw [hl] at h
    obtain ⟨t, ht, hcase⟩ := Compass.Graph.tripletAttrsGo_error g l x h
    refine Or.inr ⟨l, rfl, t, ht, ?_⟩
    rcases hcase with h1 | h1 | h1
    · exact Or.inl h1
    · obtain ⟨ed, hed⟩ := getEdge_of_incidentTripletIds g v d l hl t ht
      rw [Compass.Graph.getEdge, h1.2] at hed
      cases hed
    · exact Or.inr h1

/-- on every network assembled from rows in the documented format (hence on every loaded network,
`from_files_ok_inv`) the call never fails, has one entry per listed edge leaving `v`, in file
order, and forward each entry is the `edge_triplet` of its edge -/
theorem triplet_attributes_loaded_forward {α : Type} (es : List (Edge α)) (vs : List (Vertex α)) (nV : Nat)
    (h : RowIds es) (hb : EndpointsBelow es nV) (hb' : EndpointsBelow es vs.length) (v : Nat) :
    ∃ r, (buildGraph es vs nV).incidentTripletAttributes v .forward = .ok r ∧
      List.Forall₂ (fun e t => (buildGraph es vs nV).edgeTriplet e.edgeId = .ok t)
        (es.filter (fun e => e.src = v)) r :=
  Compass.Graph.incident_triplet_attributes_of_ids es vs nV h v .forward Edge.src Edge.dst (fun e he => hb' e he)
    (incident_triplet_ids_eq es vs nV h hb v).1 _ fun e he _ _ => edge_triplet_eq es vs nV h hb' e he

/-- the same in the reverse direction, where each entry is the `edge_triplet` of its edge with the two vertices swapped:
the first component is the vertex asked for, i.e. the edge's *destination* -/
theorem triplet_attributes_loaded_reverse {α : Type} (es : List (Edge α)) (vs : List (Vertex α)) (nV : Nat)
    (h : RowIds es) (hb : EndpointsBelow es nV) (hb' : EndpointsBelow es vs.length) (v : Nat) :
    ∃ r, (buildGraph es vs nV).incidentTripletAttributes v .reverse = .ok r ∧
      List.Forall₂ (fun e t => (buildGraph es vs nV).edgeTriplet e.edgeId = .ok (t.2.2, t.2.1, t.1))
        (es.filter (fun e => e.dst = v)) r :=
  Compass.Graph.incident_triplet_attributes_of_ids es vs nV h v .reverse Edge.dst Edge.src (fun e he => (hb' e he).symm)
    (incident_triplet_ids_eq es vs nV h hb v).2 _ fun e he _ _ => edge_triplet_eq es vs nV h hb' e he

/-! ### the checker used by the correspondence run (`Scc.isSccPartition_iff`; applying it is testing) -/

/-- the checker accepts what the model computes -/
theorem scc_accepted_by_checker (g : Scc.Graph) (hwf : g.wfb = true) (cs : List (List Nat))
    (h : allScc g = .ok cs) : isSccPartition g cs = true :=
  (isSccPartition_iff (g.wfb_iff.1 hwf) cs).2 (scc_correct g hwf cs h)

/-! ### non-vacuity -/

/-- four vertices `0 → 1`, `1 → 3`, `1 → 2`, `3 → 0` (edge ids in this order): classes `{0,1,3}` and `{2}` -/
def g4 : Scc.Graph :=
  { n := 4, edges := #[(0, 1), (1, 3), (1, 2), (3, 0)],
    adj := #[[0], [1, 2], [], [3]], rev := #[[3], [0], [2], [1]] }

example : g4.wfb = true := by decide +kernel
example : (Scc.Graph.ofEdges 4 [(0, 1), (1, 3), (1, 2), (3, 0)]).adj = g4.adj ∧
    (Scc.Graph.ofEdges 4 [(0, 1), (1, 3), (1, 2), (3, 0)]).rev = g4.rev := by decide +kernel

-- the hypotheses of the theorems are met and the conclusion is not trivial: two components, one of three
-- vertices; 2 and 3 are not in one component although 3 reaches 2
example : (match allScc g4 with
    | .ok cs => cs.length == 2 && cs.any (fun c => c.length == 3) && isSccPartition g4 cs &&
        !cs.any (fun c => c.contains 2 && c.contains 3)
    | .error _ => false) = true := by decide +kernel

example : (reachFrom g4 3).contains 2 = true ∧ (reachFrom g4 2).contains 3 = false := by decide +kernel

-- the checker rejects wrong answers (one block; a split class; a missing vertex; a repeated vertex)
example : isSccPartition g4 [[0, 1, 2, 3]] = false ∧ isSccPartition g4 [[0, 1], [3], [2]] = false ∧
    isSccPartition g4 [[0, 1, 3]] = false ∧ isSccPartition g4 [[0, 1, 3], [2], [2]] = false := by decide +kernel

example : (match largestScc g4 with | .ok big => big.length == 3 | .error _ => false) = true := by decide +kernel

/-- the finishing-order lemma in its naive form ("`r` above `y` on the stack and `y ⇝ r` imply `r ⇝ y`") is false of
the real traversal order: after the first pass on `g4` vertex 2 lies above vertex 3, 3 reaches 2, and 2 does not reach
3.  The proof uses the weaker, true form stated in `StackOk.order`. -/
theorem naive_finishing_order_is_false :
    (match pass1 g4 with
      | .ok (_, st) => decide (st.idxOf 2 < st.idxOf 3)
      | .error _ => false) = true ∧
    (reachFrom g4 3).contains 2 = true ∧ (reachFrom g4 2).contains 3 = false := by decide +kernel

/-- a `Graph` value that is not well formed (an edge record whose destination is not a vertex — the loader
refuses such a file by the endpoint check of `graph_loader.rs`, so only a hand-built value has this
shape) makes the analysis report an id that is not a vertex; such values are outside
the property ("directed graph") and outside the theorems above -/
example : (match allScc { n := 2, edges := #[(0, 1), (1, 5)], adj := #[[0], [1]], rev := #[[], [0]] } with
    | .ok cs => cs.any (fun c => c.contains 5)
    | .error _ => false) = true := by decide +kernel

/-! non-vacuity: the frame-list model, loaded networks, `incident_triplet_attributes` -/

-- the frame-list model runs, and on `g4` gives what the recursive one gives
example : (match allSccIter g4, allScc g4 with
    | .ok a, .ok b => a == b && a.length == 2
    | _, _ => false) = true := by decide +kernel

def loadedEdges : List (Edge Nat) := [⟨0, 0, 1, 7⟩, ⟨1, 1, 0, 9⟩, ⟨2, 1, 2, 4⟩]
def loadedVertices : List (Vertex Nat) := [⟨0, 10, 20⟩, ⟨1, 11, 21⟩, ⟨2, 12, 22⟩]

-- a load that succeeds (scanned counts), two components, one of two vertices; five slots for three vertices
-- (declared count 5) load as well and give the same components
example : (match graphFromFiles ⟨true, 4, true, loadedEdges.map Row.ok⟩ ⟨true, 4, true, loadedVertices.map Row.ok⟩ none none with
    | .ok net => (match allSccIter (Scc.Graph.ofNet net) with
      | .ok cs => cs.length == 2 && cs.any (fun c => c.length == 2) && isSccPartition (Scc.Graph.ofNet net) cs
      | .error _ => false)
    | .error _ => false) = true := by decide +kernel

example : (match graphFromFiles ⟨true, 4, true, loadedEdges.map Row.ok⟩ ⟨true, 4, true, loadedVertices.map Row.ok⟩ (some 3) (some 5) with
    | .ok net => net.adj.length == 5 && (Scc.Graph.ofNet net).wfb &&
      (match allSccIter (Scc.Graph.ofNet net) with
      | .ok cs => cs.length == 2
      | .error _ => false)
    | .error _ => false) = true := by decide +kernel

-- `incident_triplet_attributes`: forward at vertex 1 two entries, first components vertex 1; reverse at vertex 1
-- one entry whose first component is vertex 1 (the edge's destination) and whose third is vertex 0 (its source);
-- an end point that is not a vertex is `VertexNotFound`, a slot naming a missing edge is `EdgeNotFound`
example : (match (buildGraph loadedEdges loadedVertices 3).incidentTripletAttributes 1 .forward with
    | .ok l => l.map (fun t => (t.1.vertexId, t.2.1.edgeId, t.2.2.vertexId)) == [(1, 1, 0), (1, 2, 2)]
    | .error _ => false) = true := by decide +kernel
example : (match (buildGraph loadedEdges loadedVertices 3).incidentTripletAttributes 1 .reverse with
    | .ok l => l.map (fun t => (t.1.vertexId, t.2.1.edgeId, t.2.2.vertexId)) == [(1, 0, 0)]
    | .error _ => false) = true := by decide +kernel
example : (match ({ adj := [[(0, 7)]], rev := [[]], edges := [⟨0, 0, 7, 1⟩], vertices := [⟨0, 0, 0⟩] } :
      Compass.Graph Nat).incidentTripletAttributes 0 .forward with
    | .error (.vertexNotFound 7) => true
    | _ => false) = true := by decide +kernel
example : (match ({ adj := [[(9, 0)]], rev := [[]], edges := [], vertices := [⟨0, 0, 0⟩] } :
      Compass.Graph Nat).incidentTripletAttributes 0 .forward with
    | .error (.edgeNotFound 9) => true
    | _ => false) = true := by decide +kernel

end C18
end Compass

namespace Compass
namespace C18
open Src

/-! ### Source decision ties

What these theorems are for is said in `Props/C01.lean` under the same heading. -/

theorem src_scc_largest (cs : List (List Nat)) :
    Scc.largestOf cs =
      cs.foldl (fun best c => if scc_largest.nat c.length best.length = some true then c else best) [] := by
  simp [Scc.largestOf, scc_largest, Rel.nat]

end C18
end Compass
