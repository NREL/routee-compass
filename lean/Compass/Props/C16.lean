/-
C16 — map matching picks the nearest admissible element and honours the tolerance.

Model: `Compass/Model/MapMatch.lean` (the selection logic of `RTreePlugin::process` and
`EdgeRtreeInputPlugin::process`).  Squared coordinate distances, great-circle distances and the verdict
of the vehicle restrictions are input tables (computed by the harness with the real functions);
`rstar`'s nearest-first iteration order is the hypothesis `Sorted` (checked by the harness on every case).

This property is thin on proof content: once the distances are tables, "nearest" is "head of a sorted
list" and the tolerance rule is one comparison.  What the theorems do pin down is *which* comparison the
code makes, in which unit, on which quantity: the edge matcher compares the great-circle distance in METRES,
converted into the tolerance unit (not the squared coordinate-degree distance), and both matchers accept a
distance exactly AT the tolerance; one `example` stands at the vertex matcher's boundary (a vertex exactly at the
tolerance passes), one shows the edge matcher's quantity (333 m away with a tolerance of 1 m is no match).

Second part (model `Compass/Model/MapMatchIO.lean`): the query readers / writers of `InputJsonExtensions`, the
two builders with `RTreePlugin::new` / `EdgeRtreeInputPlugin::new`, and the range checks of `haversine`.

Modelled rather than verified (inputs or assumptions of the model, guarded by the harness only):
* `distance_2` (squared coordinate distance to the vertex / to the CENTROID of the linestring, not to the
  linestring), the great-circle value of `haversine`, the verdict of the vehicle restrictions: input tables;
* `rstar`: that its nearest-first list is sorted is the hypothesis `Sorted`; that it is a permutation of ALL
  vertices / edges cannot be stated here (the model has no vertex set) — both checked on every generated case;
  `oc` and `dc` are unrelated lists in the theorems; on ties the harness puts `nearest_neighbor`'s choice first;
* exact arithmetic: every theorem is over a linearly ordered field; f32 coordinates, the f32 `haversine`, f64
  rounding in the unit conversion and NaN are outside;
* the builders: "file exists / parses (finite coordinates) / has n rows / contains an empty linestring / contains a
  linestring with a non-finite coordinate or centroid" are abstract booleans and counts (`fileParses`, `EdgeFiles`),
  not file contents; of `serde`'s alternative spellings only `{"<unit>": null}` and `[mapping]` are modelled;
* `within_tolerance`'s "empty linestring" error is merged into `gc = none`; the panic of
  `EdgeRtreeRecord::distance_2` on an empty linestring is not an outcome of the model — excluded for plugins made
  by the builder (`edge_builder_consistent`), reachable only through the `pub` fields;
* `VehicleParameters::from_query(..).ok()`: malformed vehicle parameters count as absent (inside the `vehOk` table).
-/
import Compass.Gen.Decisions
import Compass.Proofs.MapMatch

namespace Compass
namespace C16

open MapMatch Json

-- the statements are elaborated under one `variable` line; most use only some of its instances
set_option linter.unusedSectionVars false

section
variable {α : Type} [Field α] [LinearOrder α] [IsStrictOrderedRing α] [Lit α] [LawfulLit α]

/-! ### nearest vertex -/

/-- C16 (vertex, nearest): when the plugin succeeds, the id written to `origin_vertex` (and to
`destination_vertex` when the query has a destination) is that of a candidate minimising the squared
coordinate distance over the candidate list `oc` (`dc`) — given that `rstar` lists candidates nearest first.
That the list holds ALL vertices is not part of the statement (the model has no vertex set; see the header). -/
theorem vertex_match_is_argmin (tol : Option (α × DistanceUnit)) (q : Json) (oc dc : List (VCand α))
    (hso : Sorted VCand.d2 oc) (hsd : Sorted VCand.d2 dc)
    (hok : (vertexProcess tol q oc dc).err = none) :
    (∃ c ∈ oc, (∀ c' ∈ oc, c.d2 ≤ c'.d2) ∧
        (vertexProcess tol q oc dc).query.get? "origin_vertex" = some (idJson c.id)) ∧
    (destinationCoordinate q = .ok true →
      ∃ c ∈ dc, (∀ c' ∈ dc, c.d2 ≤ c'.d2) ∧
        (vertexProcess tol q oc dc).query.get? "destination_vertex" = some (idJson c.id)) := by
  rcases vertexProcess_cases tol q oc dc with
    ⟨e, he⟩ | ⟨co, ro, kvs, rfl, _, rfl, ⟨hd, hq⟩ | ⟨hd, ⟨e, he⟩ | ⟨cd, rd, rfl, _, hq⟩⟩⟩
  · rw [he] at hok; cases hok
  · rw [hq]
    exact ⟨⟨co, List.mem_cons_self, hso.head_le, lookup_insertKv_same _ _ _⟩, fun h => by rw [hd] at h; cases h⟩
  · rw [he] at hok; cases hok
  · rw [hq]
    exact ⟨⟨co, List.mem_cons_self, hso.head_le,
        (lookup_insertKv_other _ _ _ _ (by simp [Field.name])).trans (lookup_insertKv_same _ _ _)⟩,
      fun _ => ⟨cd, List.mem_cons_self, hsd.head_le, lookup_insertKv_same _ _ _⟩⟩

/-- C16 (vertex, "identical to an exhaustive scan"): on a nearest-first list the matcher's choice is the
exhaustive scan's choice (the scan keeps the earlier of two equidistant candidates) -/
theorem vertex_match_eq_scan (l : List (VCand α)) (hs : Sorted VCand.d2 l) : nearestVertex l = scanMin l := by
  cases l with
  | nil => rfl
  | cons c rest =>
    unfold scanMin nearestVertex
    cases hr : scanMin rest with
    | none => rfl
    | some m =>
      have hm := (scanMin_is_argmin rest m hr).1
      have : c.d2 ≤ m.d2 := (List.pairwise_cons.mp hs).1 m hm
      simp [this]

/-! ### vertex tolerance -/

/-- C16 (vertex, tolerance): for a query with well-formed coordinate fields the plugin succeeds exactly
when the nearest vertex of the origin — and of the destination, if there is one — passes the code's
comparison `distance (converted into the tolerance unit) ≤ tolerance`; without a configured tolerance it
succeeds whenever the network has a vertex. -/
theorem vertex_tolerance (tol : Option (α × DistanceUnit)) (kvs : List (String × Json)) (oc dc : List (VCand α))
    (hasDst : Bool) (ho : originCoordinate (.obj kvs) = .ok ())
    (hd : destinationCoordinate (.obj kvs) = .ok hasDst) :
    (vertexProcess tol (.obj kvs) oc dc).err = none ↔
      (∃ c, oc.head? = some c ∧ Passes tol c) ∧ (hasDst = true → ∃ c, dc.head? = some c ∧ Passes tol c) := by
  constructor
  · intro h
    rcases vertexProcess_cases tol (.obj kvs) oc dc with
      ⟨e, he⟩ | ⟨co, ro, _, rfl, hv, _, ⟨hd', _⟩ | ⟨_, ⟨e, he⟩ | ⟨cd, rd, rfl, hv2, _⟩⟩⟩
    · rw [he] at h; cases h
    · refine ⟨⟨co, rfl, hv⟩, fun hdst => ?_⟩
      rw [hd, hdst] at hd'; cases hd'
    · rw [he] at h; cases h
    · exact ⟨⟨co, rfl, hv⟩, fun _ => ⟨cd, rfl, hv2⟩⟩
  · rintro ⟨⟨co, hco, hpo⟩, hdst⟩
    obtain ⟨ro, rfl⟩ := List.head?_eq_some_iff.1 hco
    have hvo := (validateTolerance_ok_iff tol co).mpr hpo
    cases hasDst with
    | false => simp only [vertexProcess, ho, hd, matchVertexInto_cons, hvo, Bool.false_eq_true, if_false]
    | true =>
      obtain ⟨cd, hcd, hpd⟩ := hdst rfl
      obtain ⟨rd, rfl⟩ := List.head?_eq_some_iff.1 hcd
      have hvd := (validateTolerance_ok_iff tol cd).mpr hpd
      simp only [vertexProcess, ho, hd, matchVertexInto_cons, hvo, hvd, if_true]

/-- C16 (vertex, tolerance, the error side): with tolerance `t` in unit `u`, a nearest vertex whose
great-circle distance `g` satisfies `t < convert(g, metres → u)` makes the plugin fail with the tolerance
error and never a match. -/
theorem vertex_beyond_tolerance_is_error (t : α) (u : DistanceUnit) (kvs : List (String × Json))
    (c : VCand α) (ro dc : List (VCand α)) (g : α) (hasDst : Bool)
    (ho : originCoordinate (.obj kvs) = .ok ()) (hd : destinationCoordinate (.obj kvs) = .ok hasDst)
    (hg : c.gc = some g) (hbeyond : t < DistanceUnit.meters.convert u g) :
    vertexProcess (some (t, u)) (.obj kvs) (c :: ro) dc = ⟨some .beyondTolerance, .obj kvs⟩ := by
  simp only [vertexProcess, ho, hd, matchVertexInto_cons, (validateTolerance_beyond_iff t u c).mpr ⟨g, hg, hbeyond⟩]

/-- C16 (vertex, tolerance, the destination's error side): the origin matched, the destination's nearest vertex is
beyond the tolerance: the plugin fails with the tolerance error — and, because the origin was written before the
destination was examined, the query it leaves behind carries `origin_vertex` (the `Result` is an error and no
search runs; only the echoed request shows it).  So "an error and never a match" holds of the RESULT, and of the
destination field, not of the whole mutated query (`vertex_error_writes_at_most_origin`). -/
theorem vertex_destination_beyond_tolerance_is_error (t : α) (u : DistanceUnit) (kvs : List (String × Json))
    (co cd : VCand α) (ro rd : List (VCand α)) (gd : α)
    (ho : originCoordinate (.obj kvs) = .ok ()) (hd : destinationCoordinate (.obj kvs) = .ok true)
    (hpo : Passes (some (t, u)) co) (hg : cd.gc = some gd) (hbeyond : t < DistanceUnit.meters.convert u gd) :
    vertexProcess (some (t, u)) (.obj kvs) (co :: ro) (cd :: rd) =
      ⟨some .beyondTolerance, .obj (insertKv kvs "origin_vertex" (idJson co.id))⟩ := by
  have hvo := (validateTolerance_ok_iff (some (t, u)) co).mpr hpo
  have hvd := (validateTolerance_beyond_iff t u cd).mpr ⟨gd, hg, hbeyond⟩
  simp only [vertexProcess, ho, hd, matchVertexInto_cons, hvo, hvd, if_true, Field.name]

/-- the boundary case of oracle key `vertex-match/tolerance-boundary`: a vertex exactly 100 m away, tolerance
100 m, passes the tolerance test -/
example : validateTolerance (some ((100 : ℚ), DistanceUnit.meters)) ⟨0, 1 / 1000000, some 100⟩ = .ok () := by
  decide +kernel

/-- the same comparison read in metres: the code's table factor `k(u)` (units of `u` per metre) is
positive, so `convert(g) ≤ t` is `g ≤ t / k(u)`: the tolerance cut-off sits at `t / k(u)` metres -/
theorem vertex_tolerance_in_metres (t g : α) (u : DistanceUnit) :
    0 < ((DistanceUnit.factor .meters u).ratio : α) ∧
    (DistanceUnit.meters.convert u g ≤ t ↔ g ≤ t / ((DistanceUnit.factor .meters u).ratio : α)) := by
  have hpos : 0 < ((DistanceUnit.factor .meters u).ratio : α) :=
    Rat.cast_pos.2 (Factor.ratio_pos _ (by cases u <;> decide))
  refine ⟨hpos, ?_⟩
  unfold DistanceUnit.convert
  rw [Factor.apply_eq, le_div_iff₀ hpos]

/-! ### nearest admissible edge -/

/-- C16 (edge, first admissible): a match is the first admissible candidate of the nearest-first list;
every candidate before it was inadmissible (and had a road class wherever the filter asked for one), and it
passed the tolerance test. -/
theorem edge_match_first_admissible (tol : Option (α × DistanceUnit)) (classes : Option (List Nat))
    (hasLookup : Bool) (cands : List (ECand α)) (id : Nat)
    (h : searchEdge tol classes hasLookup cands = .ok (some id)) :
    ∃ pre c post, cands = pre ++ c :: post ∧ c.id = id ∧ Admissible classes hasLookup c ∧
      (∀ c' ∈ pre, ¬ Admissible classes hasLookup c') ∧ withinTolerance tol c = .ok true ∧
      LookupCovers classes hasLookup pre := by
  induction cands with
  | nil => cases h
  | cons c rest ih =>
    by_cases hadm : Admissible classes hasLookup c
    · rw [searchEdge_cons_of_admissible tol rest hadm] at h
      cases hw : withinTolerance tol c with
      | error e => rw [hw] at h; cases h
      | ok w =>
        rw [hw] at h
        cases w with
        | false => cases h
        | true =>
          cases h
          exact ⟨[], c, rest, rfl, rfl, hadm, fun _ hc' => (nomatch hc'), hw, fun _ _ _ hc' => (nomatch hc')⟩
    · -- the head was skipped, so its road class was known wherever the filter asked for it
      have hcovc : hasLookup = true → classes.isSome → c.cls ≠ none := by
        intro hl hc hnone
        rw [searchEdge, (validClass_eq_error_iff (e := .roadClassMissing)).2 ⟨rfl, hl, hc, hnone⟩] at h
        cases h
      rw [searchEdge_cons_of_not_admissible tol rest hcovc hadm] at h
      obtain ⟨pre, c1, post, rfl, hid, hadm1, hpre, hwt, hcov⟩ := ih h
      refine ⟨c :: pre, c1, post, rfl, hid, hadm1, ?_, hwt, ?_⟩
      · intro c' hc'
        rcases List.mem_cons.1 hc' with rfl | hm
        · exact hadm
        · exact hpre c' hm
      · intro hl hc c' hc'
        rcases List.mem_cons.1 hc' with rfl | hm
        · exact hcovc hl hc
        · exact hcov hl hc c' hm

/-- C16 (edge, nearest admissible): on a nearest-first list the match is admissible and no admissible
candidate is strictly nearer (under the plugin's distance measure) -/
theorem edge_match_is_nearest_admissible (tol : Option (α × DistanceUnit))
    (classes : Option (List Nat)) (hasLookup : Bool) (cands : List (ECand α)) (id : Nat)
    (hs : Sorted ECand.d2 cands) (h : searchEdge tol classes hasLookup cands = .ok (some id)) :
    ∃ c ∈ cands, c.id = id ∧ Admissible classes hasLookup c ∧
      ∀ c' ∈ cands, Admissible classes hasLookup c' → c.d2 ≤ c'.d2 := by
  obtain ⟨pre, c, post, rfl, hid, hadm, hpre, _, _⟩ := edge_match_first_admissible tol classes hasLookup cands id h
  refine ⟨c, by simp, hid, hadm, ?_⟩
  intro c' hc' hadm'
  rcases List.mem_append.mp hc' with hm | hm
  · exact absurd hadm' (hpre c' hm)
  · have hs2 : Sorted ECand.d2 (c :: post) := (List.pairwise_append.mp hs).2.1
    exact hs2.head_le c' hm

/-- C16 (edge, what is written): when the edge plugin succeeds, `origin_edge` holds the result of the
search from the origin and — if the query has a destination — `destination_edge` that of the search from
the destination, both run with the road classes read from the query (`edge_match_is_nearest_admissible`
says what a search result is). -/
theorem edge_process_writes_matches (tol : Option (α × DistanceUnit))
    (mapping : List (String × Nat)) (hasLookup : Bool) (q : Json) (oc dc : List (ECand α))
    (hok : (edgeProcess tol mapping hasLookup q oc dc).err = none) :
    ∃ classes eo, readRoadClasses mapping q = .ok classes ∧
      searchEdge tol classes hasLookup oc = .ok (some eo) ∧
      (edgeProcess tol mapping hasLookup q oc dc).query.get? "origin_edge" = some (idJson eo) ∧
      (destinationCoordinate q = .ok true → ∃ ed, searchEdge tol classes hasLookup dc = .ok (some ed) ∧
        (edgeProcess tol mapping hasLookup q oc dc).query.get? "destination_edge" = some (idJson ed)) := by
  rcases edgeProcess_cases tol mapping hasLookup q oc dc with
    ⟨e, he⟩ | ⟨classes, eo, kvs, hr, rfl, hso, ⟨hd, hq⟩ | ⟨_, ed, hsd, hq⟩⟩
  · rw [he] at hok; cases hok
  · rw [hq]
    exact ⟨classes, eo, hr, hso, lookup_insertKv_same _ _ _, fun h => by rw [hd] at h; cases h⟩
  · rw [hq]
    exact ⟨classes, eo, hr, hso, (lookup_insertKv_other _ _ _ _ (by simp [Field.name])).trans (lookup_insertKv_same _ _ _),
      fun _ => ⟨ed, hsd, lookup_insertKv_same _ _ _⟩⟩

/-! ### edge tolerance -/

/-- the search reaches the first admissible candidate and decides on it alone.  `hcov` is needed only when a
road-class lookup is loaded and the query filters by class: it excludes the "road class file missing edge"
error on a skipped candidate, which no plugin made by the builder can hit (`edge_builder_consistent`). -/
theorem searchEdge_first_admissible (tol : Option (α × DistanceUnit)) (classes : Option (List Nat))
    (hasLookup : Bool) (pre post : List (ECand α)) (c : ECand α)
    (hcov : LookupCovers classes hasLookup pre) (hpre : ∀ c' ∈ pre, ¬ Admissible classes hasLookup c')
    (hadm : Admissible classes hasLookup c) :
    searchEdge tol classes hasLookup (pre ++ c :: post) =
      match withinTolerance tol c with
      | .error e => .error e
      | .ok w => if w then .ok (some c.id) else .ok none := by
  induction pre with
  | nil => exact searchEdge_cons_of_admissible tol post hadm
  | cons p rest ih =>
    rw [List.cons_append, searchEdge_cons_of_not_admissible tol _ (fun a b => hcov a b p List.mem_cons_self)
      (hpre p List.mem_cons_self)]
    exact ih hcov.tail fun c' hc' => hpre c' (List.mem_cons_of_mem _ hc')

/-- the search matches `id` exactly when the list has a nearest admissible candidate `id` that passes the
tolerance test -/
theorem edge_search_matches_iff (tol : Option (α × DistanceUnit)) (classes : Option (List Nat))
    (hasLookup : Bool) (cands : List (ECand α)) (id : Nat) :
    searchEdge tol classes hasLookup cands = .ok (some id) ↔ Matchable tol classes hasLookup cands id := by
  constructor
  · intro h
    obtain ⟨pre, c, post, hsplit, hid, hadm, hpre, hwt, hcov⟩ := edge_match_first_admissible tol classes hasLookup cands id h
    exact ⟨pre, c, post, hsplit, hid, hcov, hpre, hadm, (withinTolerance_ok_true_iff tol c).mp hwt⟩
  · rintro ⟨pre, c, post, rfl, rfl, hcov, hpre, hadm, hpass⟩
    rw [searchEdge_first_admissible tol classes hasLookup pre post c hcov hpre hadm,
      (withinTolerance_ok_true_iff tol c).mpr hpass]
    rfl

/-- C16 (edge, tolerance, search level): let `c` be the nearest admissible candidate (the first admissible one
of the nearest-first list) and `g` its great-circle distance in metres.  With tolerance `t` in unit `u` the
search matches `c` when `convert(g, metres → u) ≤ t` and matches nothing when it is beyond.  (If `c.gc = none`
— `haversine` refuses the coordinate — the search is an error: `searchEdge_first_admissible`.) -/
theorem edge_tolerance (t : α) (u : DistanceUnit) (classes : Option (List Nat)) (hasLookup : Bool)
    (pre post : List (ECand α)) (c : ECand α) (g : α)
    (hcov : LookupCovers classes hasLookup pre) (hpre : ∀ c' ∈ pre, ¬ Admissible classes hasLookup c')
    (hadm : Admissible classes hasLookup c) (hg : c.gc = some g) :
    (DistanceUnit.meters.convert u g ≤ t →
      searchEdge (some (t, u)) classes hasLookup (pre ++ c :: post) = .ok (some c.id)) ∧
    (t < DistanceUnit.meters.convert u g →
      searchEdge (some (t, u)) classes hasLookup (pre ++ c :: post) = .ok none) := by
  rw [searchEdge_first_admissible _ classes hasLookup pre post c hcov hpre hadm]
  constructor
  · intro h; simp [withinTolerance, hg, h]
  · intro h; simp [withinTolerance, hg, not_le.mpr h]

/-- the case of oracle key `edge-match/tolerance-units`: an edge 333.58 m away (`distance_2 = 0.000009` deg²),
tolerance 1 m, is not matched -/
example : searchEdge (some ((1 : ℚ), DistanceUnit.meters)) none false
    [⟨0, 9 / 1000000, none, true, some (33358 / 100)⟩] = .ok none := by
  decide +kernel

/-- without a configured tolerance the edge matcher returns the first admissible candidate whenever there
is one -/
theorem edge_no_tolerance_matches (classes : Option (List Nat)) (hasLookup : Bool)
    (cands : List (ECand α)) (hcov : LookupCovers classes hasLookup cands)
    (hex : ∃ c ∈ cands, Admissible classes hasLookup c) :
    ∃ id, searchEdge none classes hasLookup cands = .ok (some id) := by
  obtain ⟨cstar, hmem, hadm⟩ := hex
  induction cands with
  | nil => cases hmem
  | cons c rest ih =>
    by_cases hc : Admissible classes hasLookup c
    · rw [searchEdge_cons_of_admissible none rest hc]
      exact ⟨c.id, rfl⟩
    · rw [searchEdge_cons_of_not_admissible none rest (fun a b => hcov a b c List.mem_cons_self) hc]
      rcases List.mem_cons.1 hmem with rfl | hm
      · exact absurd hadm hc
      · exact ih hcov.tail hm

/-- C16 (edge, tolerance, the PLUGIN): for a query with readable road classes and well-formed coordinate fields,
`EdgeRtreeInputPlugin::process` succeeds exactly when the origin — and the destination, if there is one — has a
nearest admissible candidate (first admissible in the nearest-first list, the skipped ones inadmissible) whose
great-circle distance, converted into the tolerance unit, is ≤ the tolerance (any such candidate when no tolerance
is configured).  "Beyond the tolerance yields an error and never a match; within tolerance always matches."
`Matchable` on the right-hand side carries `LookupCovers` of the skipped candidates (a skipped candidate
without a lookup entry is an error of the plugin, not a skip). -/
theorem edge_tolerance_process (tol : Option (α × DistanceUnit)) (mapping : List (String × Nat)) (hasLookup : Bool)
    (kvs : List (String × Json)) (oc dc : List (ECand α)) (classes : Option (List Nat)) (hasDst : Bool)
    (hr : readRoadClasses mapping (.obj kvs) = .ok classes)
    (ho : originCoordinate (.obj kvs) = .ok ()) (hd : destinationCoordinate (.obj kvs) = .ok hasDst) :
    (edgeProcess tol mapping hasLookup (.obj kvs) oc dc).err = none ↔
      (∃ id, Matchable tol classes hasLookup oc id) ∧ (hasDst = true → ∃ id, Matchable tol classes hasLookup dc id) := by
  constructor
  · intro h
    obtain ⟨classes', eo, hr', hso, _, hdst⟩ := edge_process_writes_matches tol mapping hasLookup (.obj kvs) oc dc h
    cases hr.symm.trans hr'
    refine ⟨⟨eo, (edge_search_matches_iff _ _ _ _ _).mp hso⟩, fun hdt => ?_⟩
    subst hdt
    obtain ⟨ed, hsd, _⟩ := hdst hd
    exact ⟨ed, (edge_search_matches_iff _ _ _ _ _).mp hsd⟩
  · rintro ⟨⟨eo, ho'⟩, hdst⟩
    have hso := (edge_search_matches_iff _ _ _ _ _).mpr ho'
    cases hasDst with
    | false => simp only [edgeProcess, hr, ho, hd, searchEdge!, hso, addField, Bool.false_eq_true, if_false]
    | true =>
      obtain ⟨ed, hm⟩ := hdst rfl
      simp only [edgeProcess, hr, ho, hd, searchEdge!, hso, (edge_search_matches_iff _ _ _ _ _).mpr hm, addField, if_true]

/-- C16 (edge, tolerance, the error side at the plugin): when the origin's nearest admissible candidate lies
beyond the tolerance the plugin answers "unable to match" and the query is exactly as it was — whatever the
destination. -/
theorem edge_beyond_tolerance_is_error (t : α) (u : DistanceUnit) (mapping : List (String × Nat)) (hasLookup : Bool)
    (kvs : List (String × Json)) (pre post dc : List (ECand α)) (c : ECand α) (g : α)
    (classes : Option (List Nat)) (hasDst : Bool)
    (hr : readRoadClasses mapping (.obj kvs) = .ok classes)
    (ho : originCoordinate (.obj kvs) = .ok ()) (hd : destinationCoordinate (.obj kvs) = .ok hasDst)
    (hcov : LookupCovers classes hasLookup pre) (hpre : ∀ c' ∈ pre, ¬ Admissible classes hasLookup c')
    (hadm : Admissible classes hasLookup c) (hg : c.gc = some g) (hbeyond : t < DistanceUnit.meters.convert u g) :
    edgeProcess (some (t, u)) mapping hasLookup (.obj kvs) (pre ++ c :: post) dc = ⟨some .noEdgeMatch, .obj kvs⟩ := by
  have hs := (edge_tolerance t u classes hasLookup pre post c g hcov hpre hadm hg).2 hbeyond
  simp only [edgeProcess, hr, ho, hd, searchEdge!, hs]

/-! ### all other fields are left unchanged -/

/-- C16 (other fields, vertex matcher): whatever the outcome, every key other than `origin_vertex` /
`destination_vertex` keeps its value and the other keys keep their relative order; a query that is not a
JSON object is left as it is. -/
theorem vertex_other_fields_unchanged (tol : Option (α × DistanceUnit)) (q : Json) (oc dc : List (VCand α)) :
    SameOthers ["origin_vertex", "destination_vertex"] q (vertexProcess tol q oc dc).query := by
  rcases vertexProcess_cases tol q oc dc with
    ⟨e, he⟩ | ⟨co, ro, kvs, rfl, _, rfl, ⟨_, hq⟩ | ⟨_, ⟨e, he⟩ | ⟨cd, rd, rfl, _, hq⟩⟩⟩
  · rw [he]; exact SameOthers.refl _ _
  · rw [hq]; exact SameOthers.insertKv List.mem_cons_self _ _
  · rw [he]; exact SameOthers.insertKv List.mem_cons_self _ _
  · rw [hq]
    exact (SameOthers.insertKv List.mem_cons_self _ _).trans
      (SameOthers.insertKv (List.mem_cons_of_mem _ List.mem_cons_self) _ _)

/-- C16 (vertex matcher, what an error can leave behind): when the vertex plugin fails, at most
`origin_vertex` has been written (the origin is matched and written before the destination is examined);
`destination_vertex` and every other field are as they were. -/
theorem vertex_error_writes_at_most_origin (tol : Option (α × DistanceUnit)) (q : Json) (oc dc : List (VCand α))
    (h : (vertexProcess tol q oc dc).err ≠ none) :
    SameOthers ["origin_vertex"] q (vertexProcess tol q oc dc).query := by
  rcases vertexProcess_cases tol q oc dc with
    ⟨e, he⟩ | ⟨co, ro, kvs, rfl, _, rfl, ⟨_, hq⟩ | ⟨_, ⟨e, he⟩ | ⟨cd, rd, rfl, _, hq⟩⟩⟩
  · rw [he]; exact SameOthers.refl _ _
  · rw [hq]; exact SameOthers.insertKv List.mem_cons_self _ _
  · rw [he]; exact SameOthers.insertKv List.mem_cons_self _ _
  · rw [hq] at h; exact absurd rfl h

/-- C16 (other fields, edge matcher): as above for `origin_edge` / `destination_edge`. -/
theorem edge_other_fields_unchanged (tol : Option (α × DistanceUnit))
    (mapping : List (String × Nat)) (hasLookup : Bool) (q : Json) (oc dc : List (ECand α)) :
    SameOthers ["origin_edge", "destination_edge"] q (edgeProcess tol mapping hasLookup q oc dc).query := by
  rcases edgeProcess_cases tol mapping hasLookup q oc dc with
    ⟨e, he⟩ | ⟨classes, eo, kvs, _, rfl, _, ⟨_, hq⟩ | ⟨_, ed, _, hq⟩⟩
  · rw [he]; exact SameOthers.refl _ _
  · rw [hq]; exact SameOthers.insertKv List.mem_cons_self _ _
  · rw [hq]
    exact (SameOthers.insertKv List.mem_cons_self _ _).trans
      (SameOthers.insertKv (List.mem_cons_of_mem _ List.mem_cons_self) _ _)

/-- C16 (edge matcher, an error is never a match): when the edge plugin fails, the query is exactly as it
was — no `origin_edge` / `destination_edge` is written.  (The vertex plugin differs: it writes
`origin_vertex` before it looks at the destination, see `vertexProcess`.) -/
theorem edge_error_leaves_query (tol : Option (α × DistanceUnit))
    (mapping : List (String × Nat)) (hasLookup : Bool) (q : Json) (oc dc : List (ECand α))
    (h : (edgeProcess tol mapping hasLookup q oc dc).err ≠ none) :
    (edgeProcess tol mapping hasLookup q oc dc).query = q := by
  rcases edgeProcess_cases tol mapping hasLookup q oc dc with
    ⟨e, he⟩ | ⟨classes, eo, kvs, _, rfl, _, ⟨_, hq⟩ | ⟨_, ed, _, hq⟩⟩
  · rw [he]
  · rw [hq] at h; exact absurd rfl h
  · rw [hq] at h; exact absurd rfl h

/-! ### the destination is optional -/

/-- C16 (destination optional): a query without destination coordinates is matched on its origin alone —
the outcome does not depend on the destination table, and only `origin_vertex` may change. -/
theorem vertex_destination_optional (tol : Option (α × DistanceUnit)) (q : Json) (oc dc dc' : List (VCand α))
    (hd : q.get? "destination_x" = none ∧ q.get? "destination_y" = none) :
    vertexProcess tol q oc dc = vertexProcess tol q oc dc' ∧
    SameOthers ["origin_vertex"] q (vertexProcess tol q oc dc).query := by
  have hd' := (destinationCoordinate_false_iff q).mpr hd
  constructor
  · unfold vertexProcess
    rw [hd']
    cases originCoordinate q with
    | error e => rfl
    | ok _ => dsimp only; cases matchVertexInto tol q .originVertex oc <;> rfl
  · rcases vertexProcess_cases tol q oc dc with ⟨e, he⟩ | ⟨co, ro, kvs, rfl, _, rfl, ⟨_, hq⟩ | ⟨hd'', _⟩⟩
    · rw [he]; exact SameOthers.refl _ _
    · rw [hq]; exact SameOthers.insertKv List.mem_cons_self _ _
    · rw [hd'] at hd''; cases hd''

theorem edge_destination_optional (tol : Option (α × DistanceUnit))
    (mapping : List (String × Nat)) (hasLookup : Bool) (q : Json) (oc dc dc' : List (ECand α))
    (hd : q.get? "destination_x" = none ∧ q.get? "destination_y" = none) :
    edgeProcess tol mapping hasLookup q oc dc = edgeProcess tol mapping hasLookup q oc dc' ∧
    SameOthers ["origin_edge"] q (edgeProcess tol mapping hasLookup q oc dc).query := by
  have hd' := (destinationCoordinate_false_iff q).mpr hd
  constructor
  · unfold edgeProcess
    rw [hd']
    cases readRoadClasses mapping q with
    | error e => rfl
    | ok classes =>
      cases originCoordinate q with
      | error e => rfl
      | ok _ => dsimp only; cases searchEdge! tol classes hasLookup oc <;> rfl
  · rcases edgeProcess_cases tol mapping hasLookup q oc dc with
      ⟨e, he⟩ | ⟨classes, eo, kvs, _, rfl, _, ⟨_, hq⟩ | ⟨hd'', _⟩⟩
    · rw [he]; exact SameOthers.refl _ _
    · rw [hq]; exact SameOthers.insertKv List.mem_cons_self _ _
    · rw [hd'] at hd''; cases hd''

/-! ### reading the query: coordinates, and the ids the matchers wrote -/

/-- consistency of the MODEL (not a statement about the code): the coordinate readers used inside the two
`process` models are the value-returning readers of `MapMatchIO` with the value dropped — same acceptance, same
error, field by field.  Both model one Rust function each; what ties them to it is the correspondence run. -/
theorem coordinate_readers_agree (q : Json) :
    originCoordinate q = (originCoordinateBits q).map (fun _ => ()) ∧
    destinationCoordinate q = (destinationCoordinateBits q).map Option.isSome := by
  have hnum : ∀ f, numField q f = (numFieldBits q f).map (fun _ => ()) := by
    intro f
    unfold numField numFieldBits
    cases q.get? f.name with
    | none => rfl
    | some v => cases v <;> rfl
  constructor
  · unfold originCoordinate originCoordinateBits
    rw [hnum, hnum]
    cases numFieldBits q .originX with
    | error e => rfl
    | ok x => cases numFieldBits q .originY <;> rfl
  · unfold destinationCoordinate destinationCoordinateBits
    cases q.get? Field.destinationX.name with
    | none => cases q.get? Field.destinationY.name <;> rfl
    | some x =>
      cases q.get? Field.destinationY.name with
      | none => rfl
      | some y =>
        cases x with
        | num l b => cases y <;> rfl
        | _ => rfl

/-- C16 (the match can be read back): whatever id (below 2^64, i.e. any `usize`) one of the four writers puts
into a query, the corresponding reader of `InputJsonExtensions` returns exactly that id — also when the key was
there before, whatever it held. -/
theorem written_id_reads_back (q q' : Json) (n : Nat) (hn : n < 2 ^ 64) :
    (addField q .originVertex n = .ok q' → getOriginVertex q' = .ok n) ∧
    (addField q .destinationVertex n = .ok q' → getDestinationVertex q' = .ok (some n)) ∧
    (addField q .originEdge n = .ok q' → getOriginEdge q' = .ok n) ∧
    (addField q .destinationEdge n = .ok q' → getDestinationEdge q' = .ok (some n)) := by
  exact ⟨fun h => (MapMatch.written_id_reads_back hn h).1, fun h => (MapMatch.written_id_reads_back hn h).2,
    fun h => (MapMatch.written_id_reads_back hn h).1, fun h => (MapMatch.written_id_reads_back hn h).2⟩

/-- C16 (vertex, end to end): after a successful vertex match the search application reads, through
`get_origin_vertex`, the id of a candidate that minimises the squared coordinate distance over the list `oc`. -/
theorem vertex_match_reads_back_argmin (tol : Option (α × DistanceUnit)) (q : Json) (oc dc : List (VCand α))
    (hso : Sorted VCand.d2 oc) (hsd : Sorted VCand.d2 dc) (hid : ∀ c ∈ oc, c.id < 2 ^ 64)
    (hok : (vertexProcess tol q oc dc).err = none) :
    ∃ c ∈ oc, (∀ c' ∈ oc, c.d2 ≤ c'.d2) ∧ getOriginVertex (vertexProcess tol q oc dc).query = .ok c.id := by
  obtain ⟨⟨c, hc, hmin, hget⟩, _⟩ := vertex_match_is_argmin tol q oc dc hso hsd hok
  exact ⟨c, hc, hmin, (getId_of_get? (f := .originVertex) (hid c hc) hget).1⟩

/-- the two reader shapes only ever blame the field they are given.  This holds by the way `getRequiredId` /
`getOptionalId` are written; that `get_destination_edge` IS `getOptionalId .destinationEdge` (its error
names `destination_edge`, not `origin_edge`) is a fact about the model's definition, tied to the code by the `x getde`
correspondence stream and the oracle key `ext/error-names-wrong-field`, not by this theorem. -/
theorem id_reader_errors_name_their_field (q : Json) (f : Field) (e : Err) :
    (getRequiredId q f = .error e → e = .missingField f ∨ e = .invalidType f) ∧
    (getOptionalId q f = .error e → e = .invalidType f) := by
  constructor
  · unfold getRequiredId
    intro h
    split at h
    · injection h with h; exact Or.inl h.symm
    · split at h
      · cases h
      · injection h with h; exact Or.inr h.symm
  · unfold getOptionalId
    intro h
    split at h
    · cases h
    · split at h
      · cases h
      · injection h with h; exact h.symm

/-- the writers refuse exactly the values that are not objects -/
theorem writer_refuses_non_objects (q : Json) (f : Field) (n : Nat) :
    (∃ q', addField q f n = .ok q') ↔ q.isObject = true := by
  cases q <;> simp [addField, Json.isObject]

/-- the remaining accessors of `InputJsonExtensions` (they belong to the load balancer and to grid search, not
to map matching): a query weight estimate written by `add_query_weight_estimate` reads back through
`get_query_weight_estimate`, the writer refuses exactly non-objects, and it does not disturb `grid_search` -/
theorem weight_estimate_reads_back (q : Json) (lexeme : String) (bits : Nat) :
    ((∃ q', addQueryWeightEstimate q lexeme bits = .ok q') ↔ q.isObject = true) ∧
    (∀ q', addQueryWeightEstimate q lexeme bits = .ok q' →
      getQueryWeightEstimate q' = .ok (some bits) ∧ getGridSearch q' = getGridSearch q) := by
  constructor
  · cases q <;> simp [addQueryWeightEstimate, Json.isObject]
  · intro q' h
    cases q with
    | obj kvs =>
      simp only [addQueryWeightEstimate] at h
      injection h with h; subst h
      constructor
      · simp [getQueryWeightEstimate, Json.get?, lookup_insertKv_same, Json.asF64Bits?]
      · simp only [getGridSearch, Json.get?]
        exact lookup_insertKv_other _ _ _ _ (by simp [Field.name])
    | _ => cases h

/-- writing over a key that is already there keeps every key where it was; a new key goes last -/
theorem writer_keeps_key_order (kvs : List (String × Json)) (f : Field) (n : Nat) :
    (kvs.any (fun p => p.1 == f.name) = true →
      (insertKv kvs f.name (idJson n)).map Prod.fst = kvs.map Prod.fst) ∧
    (¬ kvs.any (fun p => p.1 == f.name) = true →
      (insertKv kvs f.name (idJson n)).map Prod.fst = kvs.map Prod.fst ++ [f.name]) := by
  unfold insertKv
  refine ⟨fun h => ?_, fun h => ?_⟩
  · rw [if_pos h, List.map_map]
    exact List.map_congr_left fun p _ => by by_cases hp : p.1 = f.name <;> simp [hp]
  · rw [if_neg h, List.map_append]; rfl

/-! ### the builders -/

/-- the tolerance a configuration yields: none without `distance_tolerance` (a lone `distance_unit` is
ignored), metres when only the tolerance is given, the stated unit otherwise.  This restates the four arms of
`resolveTolerance` (it holds by `rfl`); its content is that the default unit, taken from the translator-generated
`baseDistanceUnit`, is metres.  That the code's `match` has these arms is checked by the `b` streams. -/
theorem builder_tolerance_resolution (t : Nat) (u : DistanceUnit) :
    resolveTolerance (none : Option Nat) (none : Option DistanceUnit) = none ∧
    resolveTolerance (none : Option Nat) (some u) = none ∧
    resolveTolerance (some t) none = some (t, DistanceUnit.meters) ∧
    resolveTolerance (some t) (some u) = some (t, u) := ⟨rfl, rfl, rfl, rfl⟩

/-- `VertexRTreeBuilder::build` succeeds exactly on well-formed configurations, and then with the tolerance of
`builder_tolerance_resolution`; every other configuration is an error value (the model has no panic outcome:
that the real builder has none either is what the `b v` correspondence stream checks) -/
theorem vertex_builder_ok_iff (cfg : Json) (fileExists fileParses : Bool) (r : Option (Nat × DistanceUnit)) :
    vertexBuilder cfg fileExists fileParses = .ok r ↔
      (∃ p, cfgString cfg "vertices_input_file" = .ok p) ∧ fileExists = true ∧ fileParses = true ∧
      ∃ t u, cfgTolerance cfg = .ok t ∧ cfgUnit cfg = .ok u ∧ r = resolveTolerance t u := by
  unfold vertexBuilder
  constructor
  · intro h
    cases hp : cfgString cfg "vertices_input_file" with
    | error e => rw [hp] at h; cases h
    | ok p =>
      cases ht : cfgTolerance cfg with
      | error e => rw [hp, ht] at h; cases fileExists <;> cases h
      | ok t =>
        cases hu : cfgUnit cfg with
        | error e => rw [hp, ht, hu] at h; cases fileExists <;> cases h
        | ok u =>
          rw [hp, ht, hu] at h
          cases fileExists <;> cases fileParses <;> cases h
          exact ⟨⟨p, rfl⟩, rfl, rfl, t, u, rfl, rfl, rfl⟩
  · rintro ⟨⟨p, hp⟩, rfl, rfl, t, u, ht, hu, rfl⟩
    rw [hp, ht, hu]
    rfl

/-- a guard that fails with an error is passed exactly when its condition is false -/
theorem ite_error_eq_ok {ε β : Type} {c : Prop} [Decidable c] {e : ε} {x : Except ε β} {r : β} :
    (if c then .error e else x) = .ok r ↔ ¬ c ∧ x = .ok r := by
  by_cases h : c
  · rw [if_pos h]; exact ⟨fun h' => (by cases h'), fun h' => absurd h h'.1⟩
  · rw [if_neg h]; exact ⟨fun h' => ⟨h, h'⟩, fun h' => h'.2⟩

/-- (by construction of the model: `edgeNew`'s match cascade read as one statement — its tie to the code is
the builder stream) `EdgeRtreeInputPlugin::new` accepts exactly readable files without an empty linestring
whose road-class lookup, if any, has the network's size -/
theorem edge_new_ok_iff (files : EdgeFiles) (tol : Option (Nat × DistanceUnit)) (hasRc hasVr : Bool) (pl : EdgePlugin) :
    edgeNew files tol hasRc hasVr = .ok pl ↔
      (⟨tol, hasRc, hasVr⟩ : EdgePlugin) = pl ∧ files.emptyLinestring = false ∧ files.nonFinite = false ∧
      files.geometry.isSome ∧
      (hasRc = true → files.roadClass = files.geometry) ∧ (hasVr = true → files.restrictionsOk = true) := by
  obtain ⟨rcl, rok, geo, empty, nonfin⟩ := files
  -- each guard of `edgeNew` that is passed contributes its negation
  cases geo with
  | none =>
    simp only [edgeNew, ite_error_eq_ok]
    constructor
    · rintro ⟨_, _, h⟩; cases h
    · rintro ⟨_, _, _, h, _⟩; cases h
  | some g =>
    simp only [edgeNew, ite_error_eq_ok, Bool.and_eq_true, Option.isNone_iff_eq_none, not_and, Bool.not_eq_eq_eq_not,
      Bool.not_true, Bool.not_eq_false, Bool.not_eq_true, bne_iff_ne, ne_eq, Decidable.not_not, Except.ok.injEq,
      Option.isSome_some, true_and]
    constructor
    · rintro ⟨_, h2, h3, h4, h5, h6⟩
      exact ⟨h6, h3, h4, h5, h2⟩
    · rintro ⟨h6, h3, h4, h5, h2⟩
      -- the first guard (the road-class file is readable) follows from the last (it has the network's size)
      exact ⟨fun hr hn => (by cases (h5 hr).symm.trans hn), h2, h3, h4, h5, h6⟩

/-- (by construction of the model, as `edge_new_ok_iff`) `EdgeRtreeInputPluginBuilder::build` accepts exactly the configurations whose `geometry_input_file` is a
string, whose optional file entries are strings, whose tolerance / unit / road-class-parser entries deserialise,
and whose files `EdgeRtreeInputPlugin::new` accepts (`edge_new_ok_iff`); the plugin is then the one `new` makes
with the tolerance of `builder_tolerance_resolution`.  Every other configuration is an error value. -/
theorem edge_builder_ok_iff (cfg : Json) (files : EdgeFiles) (pl : EdgePlugin) :
    edgeBuilder cfg files = .ok pl ↔
      (∃ g, cfgString cfg "geometry_input_file" = .ok g) ∧
      ∃ rc vr t u, cfgStringOpt cfg "road_class_input_file" = .ok rc ∧
        cfgStringOpt cfg "vehicle_restriction_input_file" = .ok vr ∧
        cfgTolerance cfg = .ok t ∧ cfgUnit cfg = .ok u ∧ cfgParserOk cfg = true ∧
        edgeNew files (resolveTolerance t u) rc.isSome vr.isSome = .ok pl := by
  unfold edgeBuilder
  constructor
  · intro h
    cases hg : cfgString cfg "geometry_input_file" with
    | error e => rw [hg] at h; cases h
    | ok g =>
      cases hrc : cfgStringOpt cfg "road_class_input_file" with
      | error e => rw [hg, hrc] at h; cases h
      | ok rc =>
        cases hvr : cfgStringOpt cfg "vehicle_restriction_input_file" with
        | error e => rw [hg, hrc, hvr] at h; cases h
        | ok vr =>
          cases ht : cfgTolerance cfg with
          | error e => rw [hg, hrc, hvr, ht] at h; cases h
          | ok t =>
            cases hu : cfgUnit cfg with
            | error e => rw [hg, hrc, hvr, ht, hu] at h; cases h
            | ok u =>
              rw [hg, hrc, hvr, ht, hu] at h
              cases hp : cfgParserOk cfg with
              | false => rw [hp] at h; cases h
              | true => rw [hp] at h; exact ⟨⟨g, rfl⟩, rc, vr, t, u, rfl, rfl, rfl, rfl, rfl, h⟩
  · rintro ⟨⟨g, hg⟩, rc, vr, t, u, hrc, hvr, ht, hu, hp, hnew⟩
    rw [hg, hrc, hvr, ht, hu, hp]
    exact hnew

/-- a plugin the edge builder accepts has a road-class lookup of exactly the network's size whenever it has
one, no empty linestring and no non-finite coordinate or centroid: the "road class file missing edge" arm of
`search`, the panic of the r-tree search on a NaN `distance_2` and the panic of
`EdgeRtreeRecord::distance_2` are out of reach of every built plugin; its tolerance is the one of
`builder_tolerance_resolution`.  Every other configuration is an error value (the model has no panic outcome:
that the real builder has none either is what the `b e` correspondence stream checks). -/
theorem edge_builder_consistent (cfg : Json) (files : EdgeFiles) (pl : EdgePlugin)
    (h : edgeBuilder cfg files = .ok pl) :
    files.emptyLinestring = false ∧ files.nonFinite = false ∧ files.geometry.isSome ∧
    (pl.hasLookup = true → files.roadClass = files.geometry) ∧
    (pl.hasRestrictions = true → files.restrictionsOk = true) ∧
    ∃ t u, cfgTolerance cfg = .ok t ∧ cfgUnit cfg = .ok u ∧ pl.tolerance = resolveTolerance t u := by
  obtain ⟨_, rc, vr, t, u, _, _, ht, hu, _, hnew⟩ := (edge_builder_ok_iff cfg files pl).mp h
  obtain ⟨rfl, h1, h1', h2, h3, h4⟩ := (edge_new_ok_iff _ _ _ _ _).mp hnew
  exact ⟨h1, h1', h2, h3, h4, t, u, ht, hu, rfl⟩

/-! ### haversine: which coordinates it accepts -/

/-- `coord_distance_meters` answers exactly for coordinates inside [-180,180] × [-90,90] (both ends
included), for source and destination alike; `coord_distance` is the same answer converted.  (The second
conjunct — the answer is `value` — is true by construction: the trigonometric value is an input of the model.) -/
theorem haversine_accepts_iff_in_range (sx sy dx dy value : α) (u : DistanceUnit) :
    ((coordDistanceMeters sx sy dx dy value).isSome ↔
      (-180 ≤ sx ∧ sx ≤ 180) ∧ (-180 ≤ dx ∧ dx ≤ 180) ∧ (-90 ≤ sy ∧ sy ≤ 90) ∧ (-90 ≤ dy ∧ dy ≤ 90)) ∧
    (∀ m, coordDistanceMeters sx sy dx dy value = some m → m = value) ∧
    coordDistance sx sy dx dy value u = (coordDistanceMeters sx sy dx dy value).map (DistanceUnit.meters.convert u) := by
  refine ⟨?_, ?_, ?_⟩
  · rw [← coordsInRange_iff, coordDistanceMeters]
    split
    · next hc => exact ⟨fun _ => hc, fun _ => rfl⟩
    · next hc => exact ⟨fun h => (by cases h), fun h => absurd h hc⟩
  · intro m h
    unfold coordDistanceMeters at h
    split at h
    · injection h with h; exact h.symm
    · cases h
  · unfold coordDistance
    cases coordDistanceMeters sx sy dx dy value <;> rfl

end

/-! ### non-vacuity -/

/-- a small query, two vertices 0.1° and 1° away (11 km / 111 km), in nearest-first order -/
def exQuery : Json := .obj [("origin_x", .num "0.1" 0), ("model", .str "m"), ("origin_y", .num "0" 0)]
def exVerts : List (VCand ℚ) := [⟨7, 1 / 100, some 11119⟩, ⟨3, 1, some 111195⟩]

-- the hypotheses of `vertex_match_is_argmin` are satisfiable and the match is vertex 7
example : Sorted VCand.d2 exVerts := by unfold Sorted; decide +kernel
example : (vertexProcess (none : Option (ℚ × DistanceUnit)) exQuery exVerts []).err = none := by
  decide +kernel
-- a 20 km tolerance accepts the 11 km vertex, a 5 km tolerance rejects it: both sides of `vertex_tolerance` occur
example : Passes (some ((20 : ℚ), DistanceUnit.kilometers)) ⟨7, 1 / 100, some 11119⟩ :=
  ⟨11119, rfl, by decide +kernel⟩
example : ¬ Passes (some ((5 : ℚ), DistanceUnit.kilometers)) ⟨7, 1 / 100, some 11119⟩ := by
  rintro ⟨g, hg, h⟩
  cases hg
  revert h
  decide +kernel
-- edges: the nearest candidate is of an excluded road class, the second is admissible and is the match
example : searchEdge (none : Option (ℚ × DistanceUnit)) (some [1, 2]) true
    [⟨4, 1 / 100, some 5, true, none⟩, ⟨9, 1 / 50, some 2, true, none⟩, ⟨1, 1 / 20, some 1, true, none⟩] = .ok (some 9) := by
  decide +kernel
-- the tolerance rule has both outcomes (11 km away: beyond 5 km, within 20 km)
example : searchEdge (some ((5 : ℚ), DistanceUnit.kilometers)) none false
    [⟨4, 1 / 100, none, true, some 11119⟩] = .ok none := by
  decide +kernel
example : searchEdge (some ((20 : ℚ), DistanceUnit.kilometers)) none false
    [⟨4, 1 / 100, none, true, some 11119⟩] = .ok (some 4) := by
  decide +kernel
-- other fields: the example query keeps `model` between the two coordinates
example : (vertexProcess (none : Option (ℚ × DistanceUnit)) exQuery exVerts []).query.get? "model" = some (.str "m") := by
  rfl

/-! non-vacuity of the edge tolerance theorems on realistic configurations -/

/-- a plugin WITHOUT road-class lookup (`cls = none` everywhere, as the harness encodes it) but with vehicle
restrictions: the nearest edge is excluded by a restriction, the second, 11 km away, is admissible -/
def exPre : List (ECand ℚ) := [⟨1, 1 / 1000, none, false, some 100⟩]
def exEdge : ECand ℚ := ⟨4, 1 / 100, none, true, some 11119⟩

example : LookupCovers (none : Option (List Nat)) false exPre := by intro h; cases h
example : ∀ c' ∈ exPre, ¬ Admissible (none : Option (List Nat)) false c' := by
  unfold Admissible; decide +kernel
example : Admissible (none : Option (List Nat)) false exEdge := by unfold Admissible; decide +kernel
-- `edge_tolerance` applied: 20 km matches edge 4, 5 km matches nothing
example : searchEdge (some ((20 : ℚ), DistanceUnit.kilometers)) none false (exPre ++ exEdge :: []) = .ok (some 4) :=
  (edge_tolerance 20 .kilometers none false exPre [] exEdge 11119 (by intro h; cases h)
    (by unfold Admissible; decide +kernel) (by unfold Admissible; decide +kernel) rfl).1 (by decide +kernel)
example : searchEdge (some ((5 : ℚ), DistanceUnit.kilometers)) none false (exPre ++ exEdge :: []) = .ok none :=
  (edge_tolerance 5 .kilometers none false exPre [] exEdge 11119 (by intro h; cases h)
    (by unfold Admissible; decide +kernel) (by unfold Admissible; decide +kernel) rfl).2 (by decide +kernel)

/-- a plugin WITH lookup and a query that filters by road class: the nearest edge is of an excluded class -/
def exPreCls : List (ECand ℚ) := [⟨4, 1 / 100, some 5, true, some 1000⟩]
def exEdgeCls : ECand ℚ := ⟨9, 1 / 50, some 2, true, some 1500⟩
example : LookupCovers (some [1, 2]) true exPreCls := by
  unfold LookupCovers; decide +kernel
-- `edge_no_tolerance_matches` applied
example : ∃ id, searchEdge (none : Option (ℚ × DistanceUnit)) (some [1, 2]) true (exPreCls ++ [exEdgeCls]) = .ok (some id) :=
  edge_no_tolerance_matches (some [1, 2]) true _ (by unfold LookupCovers; decide +kernel)
    ⟨exEdgeCls, List.mem_append_right _ (List.mem_singleton_self _), by unfold Admissible; decide +kernel⟩

/-- a query with a destination, for the process-level theorems -/
def exQueryDst : List (String × Json) :=
  [("origin_x", .num "0.1" 0), ("origin_y", .num "0" 0), ("destination_x", .num "0.2" 0), ("destination_y", .num "0" 0)]
theorem exQueryDst_origin : originCoordinate (.obj exQueryDst) = .ok () := by decide +kernel
theorem exQueryDst_destination : destinationCoordinate (.obj exQueryDst) = .ok true := by decide +kernel
theorem exQueryDst_classes : readRoadClasses [] (.obj exQueryDst) = .ok none := by decide +kernel
example : originCoordinate (.obj exQueryDst) = .ok () := exQueryDst_origin
example : destinationCoordinate (.obj exQueryDst) = .ok true := exQueryDst_destination
example : readRoadClasses [] (.obj exQueryDst) = .ok none := exQueryDst_classes
-- `edge_tolerance_process`: both sides matchable within 20 km, so the plugin succeeds (and the right-hand side is
-- not vacuous: with 5 km the origin is not matchable, `edge_beyond_tolerance_is_error`)
example : (edgeProcess (some ((20 : ℚ), DistanceUnit.kilometers)) [] false (.obj exQueryDst)
    (exPre ++ [exEdge]) [exEdge]).err = none := by
  refine (edge_tolerance_process _ [] false exQueryDst _ _ none true exQueryDst_classes exQueryDst_origin
    exQueryDst_destination).mpr ⟨⟨4, ?_⟩, fun _ => ⟨4, ?_⟩⟩
  · exact ⟨exPre, exEdge, [], rfl, rfl, (by intro h; cases h), (by unfold Admissible; decide +kernel),
      (by unfold Admissible; decide +kernel), 11119, rfl, by decide +kernel⟩
  · exact ⟨[], exEdge, [], rfl, rfl, (by intro h; cases h), (by intro _ h; cases h),
      (by unfold Admissible; decide +kernel), 11119, rfl, by decide +kernel⟩
example : edgeProcess (some ((5 : ℚ), DistanceUnit.kilometers)) [] false (.obj exQueryDst)
    (exPre ++ exEdge :: []) [exEdge] = ⟨some .noEdgeMatch, .obj exQueryDst⟩ :=
  edge_beyond_tolerance_is_error 5 .kilometers [] false exQueryDst exPre [] [exEdge] exEdge 11119 none true
    exQueryDst_classes exQueryDst_origin exQueryDst_destination (by intro h; cases h)
    (by unfold Admissible; decide +kernel) (by unfold Admissible; decide +kernel) rfl (by decide +kernel)
-- the vertex plugin with a destination: both conjuncts of `vertex_match_is_argmin` / `vertex_tolerance` have a witness,
-- and a destination beyond the tolerance leaves `origin_vertex` behind
example : (vertexProcess (some ((20 : ℚ), DistanceUnit.kilometers)) (.obj exQueryDst) exVerts exVerts).err = none := by
  exact (vertex_tolerance _ exQueryDst exVerts exVerts true exQueryDst_origin exQueryDst_destination).mpr
    ⟨⟨_, rfl, 11119, rfl, by decide +kernel⟩, fun _ => ⟨_, rfl, 11119, rfl, by decide +kernel⟩⟩
example : (vertexProcess (some ((20 : ℚ), DistanceUnit.kilometers)) (.obj exQueryDst) exVerts
    [⟨3, 1, some 111195⟩]).query.get? "origin_vertex" = some (idJson 7) := by
  unfold exVerts
  rw [vertex_destination_beyond_tolerance_is_error 20 .kilometers exQueryDst ⟨7, 1 / 100, some 11119⟩ ⟨3, 1, some 111195⟩
    [⟨3, 1, some 111195⟩] [] 111195
    exQueryDst_origin exQueryDst_destination ⟨11119, rfl, by decide +kernel⟩ rfl (by decide +kernel)]
  show lookup (insertKv exQueryDst "origin_vertex" (idJson 7)) "origin_vertex" = _
  exact lookup_insertKv_same _ _ _

-- the readers accept what the writers wrote, and reject what is not an id
example : getOriginVertex (.obj [("origin_vertex", idJson 7)]) = .ok 7 :=
  (written_id_reads_back (.obj []) _ 7 (by decide)).1 rfl
example : getDestinationEdge (.obj [("destination_edge", .str "7")]) = .error (.invalidType .destinationEdge) := by
  decide +kernel
-- both outcomes of each builder occur
deriving instance DecidableEq for EdgePlugin
example : vertexBuilder (.obj [("vertices_input_file", .str "v.csv"), ("distance_tolerance", .num "10" 4621819117588971520)]) true true
    = .ok (some (4621819117588971520, DistanceUnit.meters)) := by
  decide +kernel
example : vertexBuilder (.obj [("distance_tolerance", .num "10" 4621819117588971520)]) true true = .error .missingField := by
  decide +kernel
example : edgeBuilder (.obj [("geometry_input_file", .str "g.txt")]) ⟨none, true, some 3, true, false⟩ = .error .userConfig := by
  decide +kernel
example : (edgeBuilder (.obj [("geometry_input_file", .str "g.txt")]) ⟨none, true, some 3, false, false⟩).toOption.isSome = true := by
  decide +kernel
-- a geometry file with a non-finite coordinate or centroid (e.g. the all-finite row `LINESTRING (3e38 0, -3e38 0)`) is
-- refused at load (a built plugin would panic inside the r-tree at the first query)
example : edgeBuilder (.obj [("geometry_input_file", .str "g.txt")]) ⟨none, true, some 3, false, true⟩ = .error .userConfig := by
  decide +kernel
-- serde's other spellings: a unit as {"kilometers": null}, the road-class parser as [mapping]
example : cfgUnit (.obj [("distance_unit", .obj [("kilometers", .null)])]) = .ok (some DistanceUnit.kilometers) := by
  decide +kernel
example : cfgUnit (.obj [("distance_unit", .obj [("kilometers", .num "1" 0)])]) = .error .serde := by
  decide +kernel
example : parserOk (.arr [.obj [("primary", idJson 1)]]) = true := by
  simp [parserOk, u8MapOk, u8Of, asU64_idJson]
example : parserOk (.arr [.obj [("primary", .str "1")]]) = false := by decide +kernel
example : parserOk (.arr []) = false := rfl
-- haversine: the dateline itself is inside the range, a hair beyond it is not
example : (coordDistanceMeters (180 : ℚ) 0 (-180) 0 0).isSome = true := by decide +kernel
example : (coordDistanceMeters (180 + 1 / 1000 : ℚ) 0 0 0 0).isSome = false := by decide +kernel

end C16
end Compass

namespace Compass
namespace C16
open Src

/-! ### Source decision ties

What these theorems are for is said in `Props/C01.lean` under the same heading. -/

open MapMatch in
theorem src_vertex_match_tolerance {α : Type} [Field α] [LinearOrder α] [IsStrictOrderedRing α] [Lit α] [LawfulLit α] (t : α) (u : DistanceUnit) (c : VCand α) (g : α) (hg : c.gc = some g) :
    some (validateTolerance (some (t, u)) c) =
      (vertex_match_tolerance.num (DistanceUnit.meters.convert u g) t).map
        fun beyond => if beyond then .error .beyondTolerance else .ok () := by
  simp only [validateTolerance, hg, vertex_match_tolerance, Rel.num, Option.map_some]
  by_cases h : DistanceUnit.meters.convert u g ≤ t
  · rw [if_pos h, decide_eq_false (not_lt.2 h)]; rfl
  · rw [if_neg h, decide_eq_true (not_le.1 h)]; rfl

open MapMatch in
theorem src_edge_match_tolerance {α : Type} [Field α] [LinearOrder α] [IsStrictOrderedRing α] [Lit α] [LawfulLit α] (t : α) (u : DistanceUnit) (c : ECand α) (g : α) (hg : c.gc = some g) :
    some (withinTolerance (some (t, u)) c) =
      (edge_match_tolerance.num (DistanceUnit.meters.convert u g) t).map fun ok => .ok ok := by
  simp only [withinTolerance, hg, edge_match_tolerance, Rel.num, Option.map_some]

end C16
end Compass
