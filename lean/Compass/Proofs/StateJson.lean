/-
The two halves of "what `Serialize` writes, `Deserialize` reads back" for a state feature.

* `namespace Json`: decimal integer lexemes of `Model/Json.lean` — the lexeme `serde_json` writes for an
  in-range integer (`toString`) is read back by `Json.asU64?` / `Json.asI64?` as that integer.
* `namespace StateJson`: the parsers of `Model/StateJson.lean` on an object whose fields are known
  (`field` is `Json.lookup`): `parseDistance_obj` …, the tag test of `parseFormat`, and what is read
  from the object written for a custom feature.
-/
import Compass.Model.StateJson
import Compass.Proofs.AssocList
import Std.Data.String.ToNat
import Std.Data.String.ToInt

namespace Compass
namespace Json

set_option linter.unnecessarySimpa false

theorem allDigits_repr (n : Nat) : allDigits (Nat.repr n) = true := by
  simp only [allDigits, Bool.and_eq_true, Bool.not_eq_true', List.all_eq_true]
  refine ⟨String.isEmpty_eq_false_iff.mpr Nat.repr_ne_empty, ?_⟩
  intro c hc
  rw [Nat.toList_repr] at hc
  exact Nat.isDigit_of_mem_toDigits (by omega) (by omega) hc

/-- every `i64` written as a decimal lexeme reads back as itself -/
theorem asI64_toString (i : Int) (b : Nat) (h1 : -(2 ^ 63 : Int) ≤ i) (h2 : i < 2 ^ 63) :
    asI64? (.num (toString i) b) = some i := by
  cases i with
  | ofNat n =>
    have hn : n < 2 ^ 63 := by
      have : (n : Int) < 2 ^ 63 := h2
      omega
    show asI64? (.num (Nat.repr n) b) = some (n : Int)
    simp [asI64?, allDigits_repr, Nat.toNat?_repr, hn]
  | negSucc m =>
    have hm : m + 1 ≤ 2 ^ 63 := by
      have : -(2 ^ 63 : Int) ≤ Int.negSucc m := h1
      omega
    show asI64? (.num ("-" ++ Nat.repr (m + 1)) b) = some (Int.negSucc m)
    have hd : allDigits ("-" ++ Nat.repr (m + 1)) = false := by simp [allDigits]
    have hdrop : (("-" ++ Nat.repr (m + 1)).drop 1).copy = Nat.repr (m + 1) := by
      apply String.ext_iff.mpr
      simp
    rw [Int.negSucc_eq]
    simp [asI64?, hd, hdrop, allDigits_repr, Nat.toNat?_repr, hm]

/-- every `u64` written as a decimal lexeme reads back as itself -/
theorem asU64_toString (n b : Nat) (h : n < 2 ^ 64) :
    asU64? (.num (toString (Int.ofNat n)) b) = some n := by
  show asU64? (.num (Nat.repr n) b) = some n
  simp [asU64?, allDigits_repr, Nat.toNat?_repr, h]

end Json
namespace StateJson
variable {α : Type}

theorem field_cons (k' : String) (v : Json) (r : List (String × Json)) (k : String) :
    field ((k', v) :: r) k = if k' = k then some v else field r k :=
  Json.lookup_cons k' v r k

theorem field_nil (k : String) : field [] k = none := rfl

theorem parseDistance_obj (ofBits : Nat → α) {kvs : List (String × Json)} {u i : Json}
    (h1 : field kvs "distance_unit" = some u) (h2 : field kvs "initial" = some i) :
    parseDistance ofBits (.obj kvs) =
      match parseUnit DistanceUnit.ofName? u, parseF64 ofBits i with
      | some u, some i => some (.distance u i)
      | _, _ => none := by
  rw [parseDistance, h1, h2]; rfl

theorem parseTime_obj (ofBits : Nat → α) {kvs : List (String × Json)} {u i : Json}
    (h1 : field kvs "time_unit" = some u) (h2 : field kvs "initial" = some i) :
    parseTime ofBits (.obj kvs) =
      match parseUnit TimeUnit.ofName? u, parseF64 ofBits i with
      | some u, some i => some (.time u i)
      | _, _ => none := by
  rw [parseTime, h1, h2]; rfl

theorem parseEnergy_obj (ofBits : Nat → α) {kvs : List (String × Json)} {u i : Json}
    (h1 : field kvs "energy_unit" = some u) (h2 : field kvs "initial" = some i) :
    parseEnergy ofBits (.obj kvs) =
      match parseUnit EnergyUnit.ofName? u, parseF64 ofBits i with
      | some u, some i => some (.energy u i)
      | _, _ => none := by
  rw [parseEnergy, h1, h2]; rfl

theorem parseCustom_obj (ofBits : Nat → α) {kvs : List (String × Json)} {t u f : Json}
    (h1 : field kvs "type" = some t) (h2 : field kvs "unit" = some u) (h3 : field kvs "format" = some f) :
    parseCustom ofBits (.obj kvs) =
      match parseString t, parseString u, parseFormat ofBits f with
      | some t, some u, some f => some (.custom t u f)
      | _, _, _ => none := by
  rw [parseCustom, h1, h2, h3]; rfl

theorem parseDistance_of_no_unit (ofBits : Nat → α) {kvs : List (String × Json)}
    (h : field kvs "distance_unit" = none) : parseDistance ofBits (.obj kvs) = none := by
  rw [parseDistance, h]

theorem parseTime_of_no_unit (ofBits : Nat → α) {kvs : List (String × Json)}
    (h : field kvs "time_unit" = none) : parseTime ofBits (.obj kvs) = none := by
  rw [parseTime, h]

theorem parseEnergy_of_no_unit (ofBits : Nat → α) {kvs : List (String × Json)}
    (h : field kvs "energy_unit" = none) : parseEnergy ofBits (.obj kvs) = none := by
  rw [parseEnergy, h]

theorem parseCustom_of_no_type (ofBits : Nat → α) {kvs : List (String × Json)}
    (h : field kvs "type" = none) : parseCustom ofBits (.obj kvs) = none := by
  rw [parseCustom, h]

theorem parseInitial_obj {β : Type} (p : Json → Option β) (v : Json) :
    parseInitial p (.obj [("initial", v)]) = p v := by
  rw [parseInitial, field_cons, if_pos rfl]

/-- the tag decides which variant a format is read as -/
theorem parseFormat_tag (ofBits : Nat → α) (tag : String) (body : Json) :
    parseFormat ofBits (.obj [(tag, body)]) =
      if tag = "floating_point" then (parseInitial (parseF64 ofBits) body).map .floatingPoint
      else if tag = "signed_integer" then (parseInitial parseI64 body).map .signedInteger
      else if tag = "unsigned_integer" then (parseInitial parseU64 body).map .unsignedInteger
      else if tag = "boolean" then (parseInitial Json.asBool? body).map .boolean
      else none := by
  simp only [parseFormat, beq_iff_eq]

/-- parsed rows keep the names of the object's entries, in order -/
theorem parseFeatures_names (ofBits : Nat → α) (kvs : List (String × Json))
    (fs : List (String × StateFeature α)) (h : parseFeatures ofBits kvs = some fs) :
    fs.map (·.1) = kvs.map (·.1) := by
  induction kvs generalizing fs with
  | nil => cases h; rfl
  | cons e r ih =>
    obtain ⟨name, j⟩ := e
    rw [parseFeatures] at h
    cases hp : parseFeature ofBits j with
    | none => rw [hp] at h; cases h
    | some f =>
      cases hr : parseFeatures ofBits r with
      | none => rw [hp, hr] at h; cases h
      | some fs' =>
        rw [hp, hr] at h; cases h
        rw [List.map_cons, List.map_cons, ih fs' hr]

variable [IntCodec α]

/-- what `Serialize` writes for a custom feature is read back as a custom feature, format by format -/
theorem parseFeature_custom_written (ofBits : Nat → α) (toNum : α → Json) (t un : String)
    (f : CustomFeatureFormat α) :
    parseFeature ofBits (featureToJson toNum (.custom t un f)) =
      (parseFormat ofBits (formatToJson toNum f)).map (.custom t un) := by
  rw [featureToJson, parseFeature, parseDistance_of_no_unit, parseTime_of_no_unit,
    parseEnergy_of_no_unit, parseCustom_obj (t := .str t) (u := .str un) (f := formatToJson toNum f)]
  · cases parseFormat ofBits (formatToJson toNum f) <;> rfl
  all_goals simp only [field_cons, field_nil, String.reduceEq, if_true, if_false]

end StateJson

end Compass
