/-
Label optimality (Dijkstra / A* with an admissible heuristic, with re-opening of closed vertices)
and the reachability characterisation of `run_a_star`, for every instance, source, target and every
accepted schedule, over any linearly ordered field.  Formalises DESIGN.md Appendix A.1.

The setting is `UniformCostOn I S ok c` / `UniformOn` (explained where it is defined, below);
concrete configurations meet it (`Proofs/ConfigUniform.lean`).  `UniformCost` / `Uniform` ask the same
of every state vector and of every call; they are the case `S := True` (`UniformCost.toOn`), and the
theorems stated for them (under the plain name, and under `…_uniform` for `Uniform` + `NoLimit`) are
the `_on` theorems at that instance — except `label_unique` / `astar_eq_dijkstra` (two runs compared)
and `loopHead_good` (the invariant along `LoopHead`, the chain of turns stated on the raw loop states
with the pair handed to the `for` loop left arbitrary).  No `Config.inst` meets `UniformCost`: cite
the `_on` forms.

Reachability needs no premise on costs at all: the namespace `SearchReach` (the part "Reachability
without any premise on costs") proves result ⇒ reachable, "no path" ⇒ unreachable and labelled =
reachable from the verdict clause alone (`ValidOn`), and the reachability theorems of `SearchOpt`
are its instances at `UniformCostOn.validOn`.
-/

import Compass.Proofs.SearchLoop

namespace Compass

set_option linter.unusedSectionVars false

section

variable {α : Type} [Field α] [LinearOrder α] [IsStrictOrderedRing α] [Lit α] [LawfulLit α]

namespace SearchOpt

/-! ### Walks and their cost -/

/-- valid walk `u ⇝ v` in the search direction: every edge passes `ok`, is listed at the vertex it
is expanded from, and consecutive edges are chained `keyV eᵢ = termV eᵢ₊₁` -/
def Walk (I : Inst α) (ok : Nat → Bool) : Nat → List Nat → Nat → Prop
  | u, [], v => u = v
  | u, e :: es, v =>
    ok e = true ∧ e ∈ I.incident (I.termV e) ∧ I.termV e = u ∧ Walk I ok (I.keyV e) es v

/-- `Σ c eᵢ` -/
def cost (c : Nat → α) : List Nat → α
  | [] => 0
  | e :: es => c e + cost c es

theorem cost_append (c : Nat → α) (es fs : List Nat) :
    cost c (es ++ fs) = cost c es + cost c fs := by
  induction es with
  | nil => simp [cost]
  | cons e es ih => simp [cost, ih, add_assoc]

theorem cost_eq_sum (c : Nat → α) (es : List Nat) : cost c es = (es.map c).sum := by
  induction es with
  | nil => simp [cost]
  | cons e es ih => simp [cost, ih]

theorem cost_nonneg {c : Nat → α} (hc : ∀ e, 0 < c e) (es : List Nat) : 0 ≤ cost c es := by
  induction es with
  | nil => exact le_refl _
  | cons e es ih => exact le_trans (le_of_lt (hc e)) (SearchLoop.le_add_nonneg (c e) ih)

theorem Walk.snoc {I : Inst α} {ok : Nat → Bool} {e : Nat} :
    ∀ {es : List Nat} {u v : Nat}, Walk I ok u es v → ok e = true → e ∈ I.incident (I.termV e) →
      I.termV e = v → Walk I ok u (es ++ [e]) (I.keyV e)
  | [], u, v, h, h1, h2, h3 => by
    simp only [Walk] at h
    subst h
    exact ⟨h1, h2, h3, rfl⟩
  | f :: es, u, v, h, h1, h2, h3 => by
    obtain ⟨a, b, c', d⟩ := h
    exact ⟨a, b, c', Walk.snoc d h1 h2 h3⟩

theorem Walk.append {I : Inst α} {ok : Nat → Bool} :
    ∀ {es fs : List Nat} {u v w : Nat}, Walk I ok u es v → Walk I ok v fs w →
      Walk I ok u (es ++ fs) w
  | [], _, u, v, w, h, h' => by
    simp only [Walk] at h
    subst h
    exact h'
  | f :: es, _, u, v, w, h, h' => by
    obtain ⟨a, b, c', d⟩ := h
    exact ⟨a, b, c', Walk.append d h'⟩

theorem Walk.congr {I I' : Inst α} {ok : Nat → Bool} (hi : I'.incident = I.incident)
    (hk : I'.keyV = I.keyV) (ht : I'.termV = I.termV) :
    ∀ (es : List Nat) (u v : Nat), Walk I' ok u es v ↔ Walk I ok u es v
  | [], u, v => Iff.rfl
  | e :: es, u, v => by
    simp only [Walk, hi, hk, ht, Walk.congr hi hk ht es]

/-! ### The setting -/

/-- incident consistency, edge-local validity, state-independent strictly positive edge cost, asked
of every call.  (All that the destination-less search needs.) -/
structure UniformCost (I : Inst α) (ok : Nat → Bool) (c : Nat → α) : Prop where
  incident_term : ∀ v e, e ∈ I.incident v → I.termV e = v
  valid_eq : ∀ e st le, I.valid e st le = .ok (ok e)
  trav_eq : ∀ e le st, ∃ ac tc st', I.trav e le st = .ok (ac, tc, st') ∧ ac + tc = c e
  cost_pos : ∀ e, 0 < c e

/-- the heuristic is a function of the vertex (used alone by the reachability theorems) -/
def VertexH (I : Inst α) (hv : Nat → α) : Prop := ∀ v st, I.h v st = .ok (hv v)

/-- `UniformCost` plus: the heuristic is a non-negative function of the vertex -/
structure Uniform (I : Inst α) (ok : Nat → Bool) (c : Nat → α) (hv : Nat → α) : Prop
    extends UniformCost I ok c where
  h_eq : VertexH I hv
  h_nonneg : ∀ v, 0 ≤ hv v

def NoLimit (I : Inst α) : Prop := ∀ n i, I.term n i = .ok ()

/-- what the reachability theorems really need of the termination model: it never reports
"no path" (the Rust error is `QueryTerminated`).  Implied by `NoLimit`. -/
def TermNotNoPath (I : Inst α) : Prop := ∀ n i, I.term n i ≠ .error .noPath

theorem NoLimit.termNotNoPath {I : Inst α} (h : NoLimit I) : TermNotNoPath I := by
  intro n i; rw [h n i]; simp

/-- admissibility for target `t`: the estimate at `v` is at most the cost of every valid walk
`v ⇝ t` -/
def Admissible (I : Inst α) (ok : Nat → Bool) (c hv : Nat → α) (t : Nat) : Prop :=
  ∀ v es, Walk I ok v es t → hv v ≤ cost c es

/-! ### The setting restricted to the calls the search really makes

`UniformCost` asks the frontier and traversal models to answer — and to answer uniformly — on *every*
state vector and every "last edge".  A concrete configuration (`Config.inst`) cannot meet that: on a
malformed state (wrong length) or an unknown last edge its traversal fails.  `UniformCostOn` asks
only for what the search uses:

* a predicate `S lastEdge state` that holds of `(none, I.init)` and is passed on by every successful
  traversal to `(some e, result state)` — so it holds of every pair `relax` is ever called with (the
  source's initial pair, or the pair stored in a tree entry);
* on such pairs, *when the model answers*, the verdict is `ok e` and the charged cost is `c e`.

Failing calls need no premise: a failing call fails the run, and every theorem is about runs that
returned (a result, or "no path" — for the latter the components must not themselves answer
"no path", `NoSpuriousNoPath`). -/

/-- `UniformCost` relative to an invariant `S` of the (last edge, state) pairs, in partial-correctness
form -/
structure UniformCostOn (I : Inst α) (S : Option Nat → List α → Prop) (ok : Nat → Bool)
    (c : Nat → α) : Prop where
  incident_term : ∀ v e, e ∈ I.incident v → I.termV e = v
  init_ok : S none I.init
  valid_eq : ∀ e le st b, S le st → I.valid e st le = .ok b → b = ok e
  trav_eq : ∀ e le st ac tc st', S le st → I.valid e st le = .ok true →
    I.trav e le st = .ok (ac, tc, st') → ac + tc = c e ∧ S (some e) st'
  cost_pos : ∀ e, 0 < c e

/-- the heuristic, when it answers on a pair satisfying `S`, answers `hv v` -/
def VertexHOn (I : Inst α) (S : Option Nat → List α → Prop) (hv : Nat → α) : Prop :=
  ∀ v le st x, S le st → I.h v st = .ok x → x = hv v

/-- `Uniform` relative to `S` -/
structure UniformOn (I : Inst α) (S : Option Nat → List α → Prop) (ok : Nat → Bool)
    (c : Nat → α) (hv : Nat → α) : Prop extends UniformCostOn I S ok c where
  h_eq : VertexHOn I S hv
  h_nonneg : ∀ v, 0 ≤ hv v

/-- no component answers "no path" by itself (the Rust errors of the frontier, traversal, cost and
termination models are other variants) -/
structure NoSpuriousNoPath (I : Inst α) : Prop where
  valid : ∀ e st le, I.valid e st le ≠ .error .noPath
  trav : ∀ e le st, I.trav e le st ≠ .error .noPath
  h : ∀ v st, I.h v st ≠ .error .noPath
  term : TermNotNoPath I

theorem UniformCost.charged {I : Inst α} {ok : Nat → Bool} {c : Nat → α}
    (U : UniformCost I ok c) {e : Nat} {le : Option Nat} {st st' : List α} {ac tc : α}
    (h : I.trav e le st = .ok (ac, tc, st')) : ac + tc = c e := by
  obtain ⟨ac', tc', st'', h', hc⟩ := U.trav_eq e le st
  rw [h] at h'
  cases h'
  exact hc

theorem UniformCost.toOn {I : Inst α} {ok : Nat → Bool} {c : Nat → α} (U : UniformCost I ok c) :
    UniformCostOn I (fun _ _ => True) ok c where
  incident_term := U.incident_term
  init_ok := trivial
  valid_eq := by
    intro e le st b _ h
    rw [U.valid_eq] at h
    injection h with h
    exact h.symm
  trav_eq := fun _ _ _ _ _ _ _ _ h => ⟨U.charged h, trivial⟩
  cost_pos := U.cost_pos

theorem VertexH.toOn {I : Inst α} {hv : Nat → α} (h : VertexH I hv) :
    VertexHOn I (fun _ _ => True) hv := by
  intro v le st x _ hx
  rw [h v st] at hx
  injection hx with hx
  exact hx.symm

theorem Uniform.toOn {I : Inst α} {ok : Nat → Bool} {c hv : Nat → α} (U : Uniform I ok c hv) :
    UniformOn I (fun _ _ => True) ok c hv :=
  { U.toUniformCost.toOn with h_eq := VertexH.toOn U.h_eq, h_nonneg := U.h_nonneg }

theorem NoSpuriousNoPath.of_uniformCost {I : Inst α} {ok : Nat → Bool} {c hv : Nat → α}
    (U : UniformCost I ok c) (hh : VertexH I hv) (hterm : TermNotNoPath I) :
    NoSpuriousNoPath I where
  valid := by intro e st le; rw [U.valid_eq]; simp
  trav := by
    intro e le st
    obtain ⟨ac, tc, st', h, _⟩ := U.trav_eq e le st
    rw [h]; simp
  h := by intro v st; rw [hh v st]; simp
  term := hterm

/-! ### `upd`, `improves` -/

@[simp] theorem upd_same {β : Type} (m : Nat → Option β) (k : Nat) (v : β) : upd m k v k = some v := by
  simp [upd]

theorem upd_other {β : Type} (m : Nat → Option β) {k x : Nat} (v : β) (h : x ≠ k) :
    upd m k v x = m x := by
  simp [upd, h]

@[simp] theorem improves_none (t : α) : improves t none = true := LawfulLit.belowInf_eq t

attribute [simp] SearchLoop.improves_some

/-! ### One relaxation, abstractly -/

/-- the heuristic term added to the f-score: `hv` with a target, `0` without -/
def Hf (hasT : Bool) (hv : Nat → α) (v : Nat) : α := if hasT then hv v else 0

theorem Hf_nonneg {hasT : Bool} {hv : Nat → α} (h : ∀ v, 0 ≤ hv v) (v : Nat) : 0 ≤ Hf hasT hv v := by
  unfold Hf; split
  · exact h v
  · exact le_refl _

theorem Hf_true (hv : Nat → α) : Hf true hv = hv := by
  funext v; simp [Hf]

/-- effect of one `relax` on (queue, labels): either nothing changes (and then, if the edge is
valid and its near end labelled, the far end's label was already good enough), or the far end gets
the tentative label and is pushed with `label + H` -/
def RStep (I : Inst α) (ok : Nat → Bool) (c H : Nat → α)
    (q : List (Nat × α)) (g : Nat → Option α) (e : Nat)
    (q' : List (Nat × α)) (g' : Nat → Option α) : Prop :=
  (q' = q ∧ g' = g ∧
    (ok e = true → ∀ gt, g (I.termV e) = some gt → improves (gt + c e) (g (I.keyV e)) = false))
  ∨ (∃ gt, ok e = true ∧ g (I.termV e) = some gt ∧ improves (gt + c e) (g (I.keyV e)) = true ∧
      g' = upd g (I.keyV e) (gt + c e) ∧
      q' = pushIncrease q (I.keyV e) (gt + c e + H (I.keyV e)))

theorem UniformCostOn.pairInv {I : Inst α} {S : Option Nat → List α → Prop} {ok : Nat → Bool}
    {c : Nat → α} (U : UniformCostOn I S ok c) : SearchLimits.PairInv I S :=
  ⟨U.init_ok, fun e le st ac tc st' h1 h2 h3 => (U.trav_eq e le st ac tc st' h1 h2 h3).2⟩

theorem relax_ok_on {I : Inst α} {S : Option Nat → List α → Prop} {ok : Nat → Bool}
    {c hv : Nat → α} (U : UniformCostOn I S ok c) (hasT : Bool)
    (hh : hasT = true → VertexHOn I S hv) {le : Option Nat} {st : List α} (hS : S le st)
    {s s' : SState α} {e : Nat} (h : relax I hasT le st s e = .ok s') :
    RStep I ok c (Hf hasT hv) s.queue s.g e s'.queue s'.g := by
  have hr := SearchLoop.relax_relaxed I hasT le st s e
  rw [h] at hr
  cases hr with
  | invalid hval =>
    refine Or.inl ⟨rfl, rfl, fun hok => ?_⟩
    rw [← U.valid_eq e le st false hS hval] at hok
    cases hok
  | unlabelled _ _ hg =>
    exact Or.inl ⟨rfl, rfl, fun _ gt hgt => by rw [hg] at hgt; cases hgt⟩
  | keep hval htr hg himp =>
    refine Or.inl ⟨rfl, rfl, fun _ gt' hgt' => ?_⟩
    rw [hg] at hgt'
    cases hgt'
    rw [← (U.trav_eq e le st _ _ _ hS hval htr).1]
    exact himp
  | @update ac tc gt x st' hval htr hg himp hhv =>
    have hc := (U.trav_eq e le st ac tc st' hS hval htr).1
    have hok : ok e = true := (U.valid_eq e le st true hS hval).symm
    have hx : x = Hf hasT hv (I.keyV e) := by
      cases hasT with
      | false => cases hhv; exact zero_eq
      | true => exact hh rfl _ le st x hS hhv
    rw [hc] at himp
    refine Or.inr ⟨gt, hok, hg, himp, ?_, ?_⟩
    · show upd s.g (I.keyV e) (gt + (ac + tc)) = _
      rw [hc]
    · show pushIncrease s.queue (I.keyV e) (gt + (ac + tc) + x) = _
      rw [hc, hx]

/-! ### Invariants (Appendix A.1), stated on the pair (queue, labels) -/

/-- (S) soundness of labels and (Q) queue entries carry `label + H`, one entry per vertex.  The
source label is only bounded, `≤ 0`: that is what a relaxation keeps (labels only decrease,
`LabelsLe`); with (S) and positive costs it is `0` (`Inv.src_zero`). -/
structure Inv (I : Inst α) (ok : Nat → Bool) (c H : Nat → α) (source : Nat)
    (q : List (Nat × α)) (g : Nat → Option α) : Prop where
  sound : ∀ v x, g v = some x → ∃ es, Walk I ok source es v ∧ cost c es = x
  src : ∃ x, g source = some x ∧ x ≤ 0
  qval : ∀ v f, (v, f) ∈ q → ∃ x, g v = some x ∧ f = x + H v
  qnodup : (q.map Prod.fst).Nodup

/-- (K) at `u`: if `u` is labelled and has no queue entry (closed), every valid edge out of `u`
is relaxed: its far end is labelled with at most `label u + c e` -/
def KAt (I : Inst α) (ok : Nat → Bool) (c : Nat → α)
    (q : List (Nat × α)) (g : Nat → Option α) (u : Nat) : Prop :=
  ∀ x, g u = some x → (∀ f, (u, f) ∉ q) →
    ∀ e ∈ I.incident u, ok e = true → ∃ y, g (I.keyV e) = some y ∧ y ≤ x + c e

/-- the target, once labelled, is queued (it is never expanded) -/
def TQ (t : Nat) (q : List (Nat × α)) (g : Nat → Option α) : Prop :=
  ∀ x, g t = some x → ∃ f, (t, f) ∈ q

def LabelsLe (g g' : Nat → Option α) : Prop :=
  ∀ v x, g v = some x → ∃ x', g' v = some x' ∧ x' ≤ x

theorem LabelsLe.refl (g : Nat → Option α) : LabelsLe g g := fun _ x h => ⟨x, h, le_refl _⟩

theorem LabelsLe.trans {g g' g'' : Nat → Option α} (h : LabelsLe g g') (h' : LabelsLe g' g'') :
    LabelsLe g g'' := by
  intro v x hx
  obtain ⟨x', hx', hle⟩ := h v x hx
  obtain ⟨x'', hx'', hle'⟩ := h' v x' hx'
  exact ⟨x'', hx'', le_trans hle' hle⟩

theorem labelsLe_upd {g : Nat → Option α} {k : Nat} {t : α}
    (h : improves t (g k) = true) : LabelsLe g (upd g k t) := by
  intro v x hx
  by_cases hv : v = k
  · subst hv
    rw [hx, SearchLoop.improves_some] at h
    exact ⟨t, upd_same _ _ _, le_of_lt h⟩
  · exact ⟨x, by rw [upd_other _ _ hv]; exact hx, le_refl _⟩

theorem Inv.src_zero {I : Inst α} {ok : Nat → Bool} {c H : Nat → α} {source : Nat}
    {q : List (Nat × α)} {g : Nat → Option α} (hc : ∀ e, 0 < c e)
    (h : Inv I ok c H source q g) : g source = some 0 := by
  obtain ⟨x, hx, hle⟩ := h.src
  obtain ⟨es, _, hcost⟩ := h.sound _ _ hx
  have := cost_nonneg hc es
  have : x = 0 := le_antisymm hle (hcost ▸ this)
  rw [hx, this]

section step

variable {I : Inst α} {ok : Nat → Bool} {c H : Nat → α} {source : Nat}
  {q q' : List (Nat × α)} {g g' : Nat → Option α} {e : Nat}

theorem RStep.labelsLe (h : RStep I ok c H q g e q' g') : LabelsLe g g' := by
  rcases h with ⟨_, rfl, _⟩ | ⟨gt, _, _, himp, rfl, _⟩
  · exact LabelsLe.refl _
  · exact labelsLe_upd himp

/-- when queue entries carry `label + H` (Q), the push for an improving label is exactly: drop the
key's entries, add `(key, tent + H key)` — the pushed priority beats the key's existing ones -/
theorem mem_push (hq : ∀ v f, (v, f) ∈ q → ∃ x, g v = some x ∧ f = x + H v) {key : Nat}
    {tent : α} (himp : improves tent (g key) = true) (p : Nat × α) :
    p ∈ pushIncrease q key (tent + H key) ↔ (p ∈ q ∧ p.1 ≠ key) ∨ p = (key, tent + H key) := by
  refine SearchLoop.mem_pushIncrease_iff (fun f' hmem => ?_) p
  obtain ⟨x, hx, rfl⟩ := hq _ _ hmem
  rw [hx] at himp
  exact add_lt_add_of_lt_of_le ((SearchLoop.improves_some _ _).1 himp) (le_refl _)

theorem RStep.inv (he : e ∈ I.incident (I.termV e)) (hinv : Inv I ok c H source q g)
    (h : RStep I ok c H q g e q' g') : Inv I ok c H source q' g' := by
  have hle := h.labelsLe
  rcases h with ⟨rfl, rfl, _⟩ | ⟨gt, hok, hgt, himp, rfl, rfl⟩
  · exact hinv
  · have hmem := mem_push hinv.qval himp
    refine ⟨?_, ?_, ?_, SearchLoop.keys_pushIncrease_nodup _ _ hinv.qnodup⟩
    · intro v x hx
      by_cases hv : v = I.keyV e
      · subst hv
        rw [upd_same] at hx
        obtain ⟨es, hw, hcost⟩ := hinv.sound _ _ hgt
        refine ⟨es ++ [e], hw.snoc hok he rfl, ?_⟩
        rw [cost_append, hcost, ← Option.some.inj hx]
        show gt + (c e + 0) = gt + c e
        rw [add_zero]
      · rw [upd_other _ _ hv] at hx
        exact hinv.sound _ _ hx
    · obtain ⟨x, hx, hx0⟩ := hinv.src
      obtain ⟨x', hx', hle'⟩ := hle _ _ hx
      exact ⟨x', hx', le_trans hle' hx0⟩
    · intro v f hvf
      rcases (hmem (v, f)).1 hvf with ⟨hq, hne⟩ | heq
      · obtain ⟨x, hx, hf⟩ := hinv.qval _ _ hq
        exact ⟨x, by rw [upd_other _ _ hne]; exact hx, hf⟩
      · have h1 : v = I.keyV e := congrArg Prod.fst heq
        have h2 : f = gt + c e + H (I.keyV e) := congrArg Prod.snd heq
        subst h1
        exact ⟨_, upd_same _ _ _, h2⟩

theorem RStep.kAt (hinv : Inv I ok c H source q g) (h : RStep I ok c H q g e q' g') {u : Nat}
    (hk : KAt I ok c q g u) : KAt I ok c q' g' u := by
  have hle := h.labelsLe
  rcases h with ⟨rfl, rfl, _⟩ | ⟨gt, hok, hgt, himp, rfl, rfl⟩
  · exact hk
  · have hmem := mem_push hinv.qval himp
    intro x hx hclosed e' he' hok'
    by_cases hu : u = I.keyV e
    · exact absurd ((hmem (u, _)).2 (Or.inr (by rw [hu]))) (hclosed _)
    · rw [upd_other _ _ hu] at hx
      have hclosed' : ∀ f, (u, f) ∉ q := by
        intro f hf
        exact hclosed f ((hmem (u, f)).2 (Or.inl ⟨hf, hu⟩))
      obtain ⟨y, hy, hyle⟩ := hk x hx hclosed' e' he' hok'
      obtain ⟨y', hy', hyle'⟩ := hle _ _ hy
      exact ⟨y', hy', le_trans hyle' hyle⟩

theorem RStep.tq (hinv : Inv I ok c H source q g) (h : RStep I ok c H q g e q' g') {t : Nat}
    (ht : TQ t q g) : TQ t q' g' := by
  rcases h with ⟨rfl, rfl, _⟩ | ⟨gt, hok, hgt, himp, rfl, rfl⟩
  · exact ht
  · have hmem := mem_push hinv.qval himp
    intro x hx
    by_cases hu : t = I.keyV e
    · exact ⟨_, (hmem (t, _)).2 (Or.inr (by rw [hu]))⟩
    · rw [upd_other _ _ hu] at hx
      obtain ⟨f, hf⟩ := ht x hx
      exact ⟨f, (hmem (t, f)).2 (Or.inl ⟨hf, hu⟩)⟩

theorem RStep.established (h : RStep I ok c H q g e q' g') {x : α}
    (hg : g (I.termV e) = some x) (hok : ok e = true) :
    ∃ y, g' (I.keyV e) = some y ∧ y ≤ x + c e := by
  rcases h with ⟨_, rfl, hno⟩ | ⟨gt, _, hgt, himp, rfl, _⟩
  · exact SearchLoop.improves_false (hno hok x hg)
  · rw [hg] at hgt
    have : x = gt := by simpa using hgt
    subst this
    exact ⟨_, upd_same _ _ _, le_refl _⟩

/-- a relaxation never changes the label of the vertex it relaxes from (edge cost is positive) -/
theorem RStep.term_label (hc : ∀ e, 0 < c e) (h : RStep I ok c H q g e q' g') :
    g' (I.termV e) = g (I.termV e) := by
  rcases h with ⟨_, rfl, _⟩ | ⟨gt, _, hgt, himp, rfl, _⟩
  · rfl
  · by_cases hu : I.termV e = I.keyV e
    · rw [← hu, hgt] at himp
      exact absurd ((SearchLoop.improves_some _ _).1 himp) (lt_asymm (SearchLoop.lt_add_pos gt (hc e)))
    · exact upd_other _ _ hu

end step

/-! ### The `for` loop over the incident edges -/

/-- what the `for` loop run at vertex `v` with label `x` on a pair satisfying `S` keeps and
establishes: the invariant, the label of `v`, labels only decrease, (K) and (TQ) survive, and every
listed valid edge is relaxed -/
theorem relaxAll_spec_on {I : Inst α} {S : Option Nat → List α → Prop} {ok : Nat → Bool}
    {c hv : Nat → α} (U : UniformCostOn I S ok c) (hasT : Bool)
    (hh : hasT = true → VertexHOn I S hv) {le : Option Nat} {st : List α} (hS : S le st)
    {source v : Nat} {x : α} {s s' : SState α}
    (hinv : Inv I ok c (Hf hasT hv) source s.queue s.g) (hg : s.g v = some x)
    (h : relaxAll I hasT le st (I.incident v) s = .ok s') :
    (Inv I ok c (Hf hasT hv) source s'.queue s'.g ∧ s'.g v = some x ∧ LabelsLe s.g s'.g ∧
      (∀ u, KAt I ok c s.queue s.g u → KAt I ok c s'.queue s'.g u) ∧
      (∀ t, TQ t s.queue s.g → TQ t s'.queue s'.g)) ∧
    ∀ e ∈ I.incident v, ok e = true → ∃ y, s'.g (I.keyV e) = some y ∧ y ≤ x + c e := by
  refine SearchLoop.relaxAll_establishes
    (P := fun s1 => Inv I ok c (Hf hasT hv) source s1.queue s1.g ∧ s1.g v = some x ∧
      LabelsLe s.g s1.g ∧ (∀ u, KAt I ok c s.queue s.g u → KAt I ok c s1.queue s1.g u) ∧
      (∀ t, TQ t s.queue s.g → TQ t s1.queue s1.g))
    (E := fun e s1 => ok e = true → ∃ y, s1.g (I.keyV e) = some y ∧ y ≤ x + c e) (I.incident v) s s'
    (fun e he s1 s2 ⟨hinv1, hg1, hle1, hk1, ht1⟩ hrel => ?_)
    ⟨hinv, hg, LabelsLe.refl _, fun _ h => h, fun _ h => h⟩ h
  have hterm : I.termV e = v := U.incident_term v e he
  have r := relax_ok_on U hasT hh hS hrel
  have hle := r.labelsLe
  refine ⟨⟨r.inv (by rw [hterm]; exact he) hinv1, ?_, hle1.trans hle,
    fun u hk => r.kAt hinv1 (hk1 u hk), fun t ht => r.tq hinv1 (ht1 t ht)⟩,
    fun hok => r.established (by rw [hterm]; exact hg1) hok, fun e' he' hok => ?_⟩
  · rw [← hterm, r.term_label U.cost_pos, hterm]
    exact hg1
  · -- established for an earlier edge: the label can only have dropped since
    obtain ⟨y, hy, hyle⟩ := he' hok
    obtain ⟨y', hy', hyle'⟩ := hle _ _ hy
    exact ⟨y', hy', le_trans hyle' hyle⟩

/-! ### The loop -/

/-- the loop-head invariant: (S), (Q), (K) everywhere, and "target labelled → target queued" -/
def Good (I : Inst α) (ok : Nat → Bool) (c H : Nat → α) (source : Nat) (target : Option Nat)
    (q : List (Nat × α)) (g : Nat → Option α) : Prop :=
  Inv I ok c H source q g ∧ (∀ u, KAt I ok c q g u) ∧ (∀ t, target = some t → TQ t q g)

/-- one full loop turn (pop `v`, which is not the target, then relax all of `incident v` from a pair
satisfying `S`) re-establishes the loop-head invariant; in particular (K) now holds at `v` -/
theorem expand_good {I : Inst α} {S : Option Nat → List α → Prop} {ok : Nat → Bool}
    {c hv : Nat → α} (U : UniformCostOn I S ok c) {source : Nat} {target : Option Nat}
    (hh : target.isSome = true → VertexHOn I S hv) {le : Option Nat} {st : List α} (hS : S le st)
    {s s2 : SState α} {v : Nat}
    (hgood : Good I ok c (Hf target.isSome hv) source target s.queue s.g)
    (hpop : popOk s.queue v = true) (hvt : target ≠ some v)
    (hrel : relaxAll I target.isSome le st (I.incident v) (SearchLimits.popped s v) = .ok s2) :
    Good I ok c (Hf target.isSome hv) source target s2.queue s2.g := by
  obtain ⟨hinv, hk, ht⟩ := hgood
  obtain ⟨f, hvf, _⟩ := SearchLoop.popOk_spec hpop
  obtain ⟨x, hx, _⟩ := hinv.qval v f hvf
  have hinv1 : Inv I ok c (Hf target.isSome hv) source (SearchLimits.popped s v).queue
      (SearchLimits.popped s v).g :=
    ⟨hinv.sound, hinv.src, fun w f' hw => hinv.qval w f' ((SearchLoop.mem_filter_ne _).1 hw).1,
      SearchLoop.keys_filter_nodup _ hinv.qnodup⟩
  obtain ⟨⟨hinv2, hg2, _, hk2, ht2⟩, hest⟩ :=
    relaxAll_spec_on U target.isSome hh hS hinv1 hx hrel
  refine ⟨hinv2, fun u => ?_, fun t htt => ?_⟩
  · by_cases hu : u = v
    · subst hu
      intro x' hx' _ e he hok'
      rw [hg2] at hx'
      cases hx'
      exact hest e he hok'
    · exact hk2 u fun x' hx' hclosed =>
        hk u x' hx' (fun f' hf' => hclosed f' ((SearchLoop.mem_filter_ne _).2 ⟨hf', hu⟩))
  · refine ht2 t fun x' hx' => ?_
    obtain ⟨f', hf'⟩ := ht t htt x' hx'
    exact ⟨f', (SearchLoop.mem_filter_ne _).2 ⟨hf', fun (h : t = v) => hvt (by rw [htt, h])⟩⟩

/-- `LoopHead I target sched s s'`: started at loop head `s` with schedule `sched`, the loop
reaches loop head `s'` after some number of complete turns (each: accepted pop of a non-target
vertex, the `for` loop over its incident edges succeeds, `iterations += 1`).  Last edge and state
handed to the `for` loop are left arbitrary: under `UniformCost` they do not matter.  It is
`SearchLimits.Reach` without the limit test and the lookup; `loopHead_good` states the invariant for
every such chain, the other theorems of this file go along `Reach`. -/
inductive LoopHead (I : Inst α) (target : Option Nat) : List Nat → SState α → SState α → Prop
  | here (sched : List Nat) (s : SState α) : LoopHead I target sched s s
  | turn {v : Nat} {rest : List Nat} {s s2 s' : SState α} {lastEdge : Option Nat} {st : List α} :
      popOk s.queue v = true → target ≠ some v →
      relaxAll I target.isSome lastEdge st (I.incident v)
        { s with queue := s.queue.filter (fun p => !(p.1 == v)) } = .ok s2 →
      LoopHead I target rest { s2 with iters := s2.iters + 1 } s' →
      LoopHead I target (v :: rest) s s'

/-- the invariant holds at every loop head, for every schedule -/
theorem loopHead_good {I : Inst α} {ok : Nat → Bool} {c hv : Nat → α} (U : UniformCost I ok c)
    {source : Nat} {target : Option Nat} (hh : target.isSome = true → VertexH I hv)
    {sched : List Nat} {s s' : SState α} (hreach : LoopHead I target sched s s')
    (hgood : Good I ok c (Hf target.isSome hv) source target s.queue s.g) :
    Good I ok c (Hf target.isSome hv) source target s'.queue s'.g := by
  induction hreach with
  | here => exact hgood
  | @turn v rest s s2 s' lastEdge st hpop hvt hrel _ ih =>
    exact ih (expand_good (s2 := s2) U.toOn (fun h => (hh h).toOn) trivial hgood hpop hvt hrel)

/-- a complete loop turn re-establishes the loop-head invariant: the pair handed to the `for` loop
is the source's initial pair or the pair stored in a tree entry, and satisfies `S` -/
theorem turn_goodOn {I : Inst α} {S : Option Nat → List α → Prop} {ok : Nat → Bool}
    {c hv : Nat → α} (U : UniformCostOn I S ok c) {source : Nat} {target : Option Nat}
    (hh : target.isSome = true → VertexHOn I S hv) {s s' : SState α} {v : Nat}
    (ht : SearchLimits.Turn I source target s v s')
    (hgood : Good I ok c (Hf target.isSome hv) source target s.queue s.g)
    (hsol : ∀ x b, s.sol x = some b → SearchLimits.EntryFrom I S b) :
    Good I ok c (Hf target.isSome hv) source target s'.queue s'.g := by
  obtain ⟨_, _, hpop, hvt, lastEdge, st, s2, hcur, hrel, rfl⟩ := ht
  exact expand_good (s2 := s2) U hh (SearchLimits.curOf_pair U.pairInv hsol hcur) hgood hpop hvt
    hrel

theorem init_good (I : Inst α) (ok : Nat → Bool) (c H : Nat → α) (source : Nat)
    (target : Option Nat) :
    Good I ok c H source target (initState source (H source)).queue
      (initState source (H source)).g := by
  refine ⟨⟨fun v x h => ?_, ⟨0, SearchLoop.initState_g.2 ⟨rfl, rfl⟩, le_refl _⟩, fun v f h => ?_,
    List.nodup_singleton _⟩, fun u x hx hclosed => ?_, fun t _ x hx => ?_⟩
  · obtain ⟨rfl, rfl⟩ := SearchLoop.initState_g.1 h
    exact ⟨[], rfl, rfl⟩
  · cases SearchLoop.mem_initState_queue.1 h
    exact ⟨0, SearchLoop.initState_g.2 ⟨rfl, rfl⟩, (zero_add _).symm⟩
  · obtain ⟨rfl, _⟩ := SearchLoop.initState_g.1 hx
    exact absurd (SearchLoop.mem_initState_queue.2 rfl) (hclosed _)
  · obtain ⟨rfl, _⟩ := SearchLoop.initState_g.1 hx
    exact ⟨_, SearchLoop.mem_initState_queue.2 rfl⟩

theorem startF_eq {I : Inst α} {S : Option Nat → List α → Prop} {ok : Nat → Bool} {c hv : Nat → α}
    (U : UniformCostOn I S ok c) {source : Nat} {target : Option Nat}
    (hh : target.isSome = true → VertexHOn I S hv) {f0 : α}
    (h : SearchLimits.startF I source target = .ok f0) : f0 = Hf target.isSome hv source := by
  cases target with
  | none => cases h; exact zero_eq
  | some t => exact hh rfl source none I.init f0 U.init_ok h

/-- a run that returns (other than by the `target == source` shortcut) ended at a loop head that
satisfies the invariant, from which `Final` gives the result -/
theorem runAStar_ok_good_on {I : Inst α} {S : Option Nat → List α → Prop} {ok : Nat → Bool}
    {c hv : Nat → α} (U : UniformCostOn I S ok c)
    {source : Nat} {target : Option Nat} (hh : target.isSome = true → VertexHOn I S hv)
    (hts : target ≠ some source) {sched : List Nat} {s : SState α}
    (hrun : runAStar I source target sched = .ok s) :
    ∃ hd rest, Good I ok c (Hf target.isSome hv) source target hd.queue hd.g ∧
      SearchLimits.Final target hd rest s := by
  rcases SearchLimits.runAStar_ok_cases hrun with ⟨ht, _⟩ |
    ⟨_, f0, pre, rest, hd, hf0, _, hr, _, hfin⟩
  · exact absurd ht hts
  · cases startF_eq U hh hf0
    exact ⟨hd, rest, (hr.invariant
      (P := fun s => Good I ok c (Hf target.isSome hv) source target s.queue s.g ∧
        ∀ x b, s.sol x = some b → SearchLimits.EntryFrom I S b)
      (fun _ _ _ ht hp => ⟨turn_goodOn U hh ht hp.1 hp.2, ht.entryFrom U.pairInv hp.2⟩)
      ⟨init_good I ok c _ source target, fun _ _ hb => nomatch hb⟩).1, hfin⟩

/-- the same for a target `t ≠ source`: the target is an accepted pop of that head -/
theorem runAStar_target_good_on {I : Inst α} {S : Option Nat → List α → Prop} {ok : Nat → Bool}
    {c hv : Nat → α} (U : UniformCostOn I S ok c) (hh : VertexHOn I S hv)
    {source t : Nat} (hts : t ≠ source) {sched : List Nat} {s : SState α}
    (hrun : runAStar I source (some t) sched = .ok s) :
    ∃ hd, Good I ok c hv source (some t) hd.queue hd.g ∧ popOk hd.queue t = true ∧
      s = SearchLimits.popped hd t := by
  obtain ⟨hd, _, hgood, hfin⟩ := runAStar_ok_good_on U (target := some t) (fun _ => hh)
    (fun h => hts (Option.some.inj h)) hrun
  rw [show Hf (some t).isSome hv = hv from Hf_true hv] at hgood
  exact ⟨hd, hgood, hfin.of_some⟩

/-- the labels of a successful run satisfy the loop-head invariant
together with the queue `q` of the last loop head (empty without target; with the target as an
accepted pop otherwise) -/
theorem runAStar_ok_good {I : Inst α} {ok : Nat → Bool} {c hv : Nat → α} (U : UniformCost I ok c)
    {source : Nat} {target : Option Nat} (hh : target.isSome = true → VertexH I hv)
    (hts : target ≠ some source) {sched : List Nat} {s : SState α}
    (hrun : runAStar I source target sched = .ok s) :
    ∃ q, Good I ok c (Hf target.isSome hv) source target q s.g ∧
      ((target = none ∧ q = [] ∧ s.queue = []) ∨
       (∃ t, target = some t ∧ popOk q t = true ∧
          s.queue = q.filter (fun p => !(p.1 == t)))) := by
  obtain ⟨hd, _, hgood, hfin⟩ := runAStar_ok_good_on U.toOn (fun h => (hh h).toOn) hts hrun
  rw [hfin.g_eq]
  rcases hfin with ⟨hemp, ht, hs⟩ | ⟨t, _, _, _, hpop, ht, hs⟩
  · have hq := List.isEmpty_iff.1 hemp
    exact ⟨hd.queue, hgood, Or.inl ⟨ht, hq, by rw [hs]; exact hq⟩⟩
  · exact ⟨hd.queue, hgood, Or.inr ⟨t, ht, hpop, by rw [hs]; rfl⟩⟩

/-- every entry of the returned tree has a permitted edge and carries that edge's cost (any target,
also target = source where the tree is empty) -/
theorem runAStar_entry_ok_on {I : Inst α} {S : Option Nat → List α → Prop} {ok : Nat → Bool}
    {c : Nat → α} (U : UniformCostOn I S ok c) {source : Nat} {target : Option Nat}
    {sched : List Nat} {s : SState α} (hrun : runAStar I source target sched = .ok s) :
    ∀ v b, s.sol v = some b → ok b.edge = true ∧ b.access + b.traversal = c b.edge := by
  intro v b hb
  obtain ⟨_, _, h1, h2, h3⟩ := SearchLimits.runAStar_entryFrom U.pairInv hrun v b hb
  exact ⟨(U.valid_eq _ _ _ _ h1 h2).symm, (U.trav_eq _ _ _ _ _ _ h1 h2 h3).1⟩

/-! ### Consequences of the invariants at the two kinds of final state -/

section final
variable {I : Inst α} {ok : Nat → Bool} {c H : Nat → α} {source : Nat} {target : Option Nat}
  {q : List (Nat × α)} {g : Nat → Option α}

/-- with an empty queue every labelled vertex is closed, so by (K) labels propagate along walks -/
theorem closed_walk (hgood : Good I ok c H source target [] g) :
    ∀ (es : List Nat) (u v : Nat) (x : α), g u = some x → Walk I ok u es v →
      ∃ y, g v = some y ∧ y ≤ x + cost c es
  | [], u, v, x, hx, hw => by
    simp only [Walk] at hw
    subst hw
    exact ⟨x, hx, SearchLoop.le_add_nonneg x (le_refl 0)⟩
  | e :: es, u, v, x, hx, hw => by
    obtain ⟨hok, hinc, hterm, hrest⟩ := hw
    subst hterm
    obtain ⟨y, hy, hyle⟩ := hgood.2.1 _ x hx (fun f hf => nomatch hf) e hinc hok
    obtain ⟨z, hz, hzle⟩ := closed_walk hgood es _ v y hy hrest
    exact ⟨z, hz, SearchLoop.le_add_of_le_add hyle hzle⟩

/-- at the moment the target is popped its label is at most `label u + cost` of any valid walk
from any labelled `u` (A.1: a closed vertex passes the bound on by (K); a queued one has
`f ≥ f_target`, and `H` is admissible) -/
theorem popped_walk (hgood : Good I ok c H source target q g) (hH : ∀ v, 0 ≤ H v) {t : Nat}
    (hadm : Admissible I ok c H t) {ft d : α} (hgt : g t = some d) (hft : ft = d + H t)
    (hmin : ∀ p ∈ q, ft ≤ p.2) :
    ∀ (es : List Nat) (u : Nat) (x : α), g u = some x → Walk I ok u es t →
      d ≤ x + cost c es := by
  intro es
  have hqueued : ∀ (es : List Nat) (u : Nat) (x f : α), g u = some x → Walk I ok u es t →
      (u, f) ∈ q → d ≤ x + cost c es := by
    intro es u x f hx hw hf
    obtain ⟨x', hx', hfx⟩ := hgood.1.qval u f hf
    rw [hx] at hx'
    cases hx'
    have hle : d + H t ≤ x + H u := hft ▸ hfx ▸ hmin _ hf
    exact le_trans (SearchLoop.le_add_nonneg d (hH t))
      (le_trans hle (SearchLoop.add_mono (le_refl x) (hadm u es hw)))
  induction es with
  | nil =>
    intro u x hx hw
    cases hw
    rw [hx] at hgt
    cases hgt
    exact SearchLoop.le_add_nonneg _ (le_refl 0)
  | cons e es ih =>
    intro u x hx hw
    by_cases hq : ∃ f, (u, f) ∈ q
    · obtain ⟨f, hf⟩ := hq
      exact hqueued _ u x f hx hw hf
    · obtain ⟨hok, hinc, hterm, hrest⟩ := hw
      subst hterm
      obtain ⟨y, hy, hyle⟩ := hgood.2.1 _ x hx (fun f hf => hq ⟨f, hf⟩) e hinc hok
      exact SearchLoop.le_add_of_le_add hyle (ih _ y hy hrest)

end final

/-! ### C02 core: label optimality -/

/-- **Label optimality** (Dijkstra and A* with an admissible heuristic, closed vertices may be
re-opened): for every instance in the setting, every source, every target `t ≠ source` and every
accepted schedule, a successful run labels the target with the least cost of a valid walk
`source ⇝ t`, and that cost is attained. -/
theorem label_optimal_on {I : Inst α} {S : Option Nat → List α → Prop} {ok : Nat → Bool}
    {c hv : Nat → α} (U : UniformOn I S ok c hv)
    {source t : Nat} (hts : t ≠ source) (hadm : Admissible I ok c hv t)
    {sched : List Nat} {s : SState α} (hrun : runAStar I source (some t) sched = .ok s) :
    ∃ d, s.g t = some d ∧ (∃ es, Walk I ok source es t ∧ cost c es = d) ∧
      ∀ es, Walk I ok source es t → d ≤ cost c es := by
  obtain ⟨hd, hgood, hpop, rfl⟩ := runAStar_target_good_on U.toUniformCostOn U.h_eq hts hrun
  obtain ⟨ft, hmem, hmin⟩ := SearchLoop.popOk_spec hpop
  obtain ⟨d, hd, hft⟩ := hgood.1.qval t ft hmem
  refine ⟨d, hd, hgood.1.sound _ _ hd, fun es hw => ?_⟩
  have h0 := hgood.1.src_zero U.cost_pos
  have := popped_walk hgood U.h_nonneg hadm hd hft hmin es source 0 h0 hw
  simpa using this

/-- Dijkstra is the case `h = 0`: no admissibility premise is needed -/
theorem dijkstra_label_optimal {I : Inst α} {ok : Nat → Bool} {c : Nat → α}
    (U : UniformCost I ok c) (h0 : ∀ v st, I.h v st = .ok 0)
    {source t : Nat} (hts : t ≠ source)
    {sched : List Nat} {s : SState α} (hrun : runAStar I source (some t) sched = .ok s) :
    ∃ d, s.g t = some d ∧ (∃ es, Walk I ok source es t ∧ cost c es = d) ∧
      ∀ es, Walk I ok source es t → d ≤ cost c es := by
  have U' : Uniform I ok c (fun _ => 0) := { U with h_eq := h0, h_nonneg := fun _ => le_refl _ }
  exact label_optimal_on U'.toOn hts (fun v es _ => cost_nonneg U.cost_pos es) hrun

/-- two successful runs on the same graph, validity and edge costs — any two accepted schedules,
any two admissible vertex heuristics — give the target the same label -/
theorem label_unique {I I' : Inst α} {ok : Nat → Bool} {c hv hv' : Nat → α}
    (U : Uniform I ok c hv) (U' : Uniform I' ok c hv')
    (hi : I'.incident = I.incident) (hk : I'.keyV = I.keyV) (ht : I'.termV = I.termV)
    {source t : Nat} (hadm : Admissible I ok c hv t) (hadm' : Admissible I' ok c hv' t)
    {sched sched' : List Nat} {s s' : SState α}
    (hrun : runAStar I source (some t) sched = .ok s)
    (hrun' : runAStar I' source (some t) sched' = .ok s') : s.g t = s'.g t := by
  by_cases hts : t = source
  · subst hts
    rw [SearchLimits.runAStar_source] at hrun hrun'
    cases hrun
    cases hrun'
    rfl
  · obtain ⟨d, hd, ⟨es, hw, hcost⟩, hmin⟩ := label_optimal_on U.toOn hts hadm hrun
    obtain ⟨d', hd', ⟨es', hw', hcost'⟩, hmin'⟩ := label_optimal_on U'.toOn hts hadm' hrun'
    have h1 := hmin es' ((Walk.congr hi hk ht es' source t).1 hw')
    have h2 := hmin' es ((Walk.congr hi hk ht es source t).2 hw)
    have : d = d' := le_antisymm (by rw [hcost'] at h1; exact h1) (by rw [hcost] at h2; exact h2)
    rw [hd, hd', this]

/-- **A\* = Dijkstra**: a run with an admissible heuristic and a run of the same instance with the
heuristic replaced by 0 (any two accepted schedules) give the target the same label -/
theorem astar_eq_dijkstra {I : Inst α} {ok : Nat → Bool} {c hv : Nat → α} (U : Uniform I ok c hv)
    {source t : Nat} (hadm : Admissible I ok c hv t)
    {sched sched' : List Nat} {s s' : SState α}
    (hrun : runAStar I source (some t) sched = .ok s)
    (hrun' : runAStar { I with h := fun _ _ => .ok 0 } source (some t) sched' = .ok s') :
    s.g t = s'.g t := by
  have U' : Uniform { I with h := fun _ _ => .ok 0 } ok c (fun _ => 0) :=
    { incident_term := U.incident_term, valid_eq := U.valid_eq, trav_eq := U.trav_eq,
      cost_pos := U.cost_pos, h_eq := fun _ _ => rfl, h_nonneg := fun _ => le_refl _ }
  exact label_unique U U' rfl rfl rfl hadm (fun v es _ => cost_nonneg U.cost_pos es) hrun hrun'

/-- of two outcomes that exclude each other through `P`, the one that happened tells whether `P` -/
theorem iff_of_outcomes {A B P : Prop} (hA : A → P) (hB : B → ¬ P) (h : A ∨ B) :
    (A ↔ P) ∧ (B ↔ ¬ P) :=
  ⟨⟨hA, fun hp => h.resolve_right fun hb => hB hb hp⟩,
    ⟨hB, fun hnp => h.resolve_left fun ha => hnp (hA ha)⟩⟩

end SearchOpt

/-! ## Reachability without any premise on costs (C05)

*Which* vertices get labelled does not depend on what is charged: a relaxation whose edge the
frontier model accepts always leaves the far end labelled (`tentative < existing` can only fail
against an existing label), and a label is never removed.  So reachability needs nothing of
`UniformCostOn` but its verdict clause, and holds of every configuration with an access model too
(turn delays make the charge depend on the previous edge).

Premise (`ValidOn I S ok`; `ValidLocal I ok` is the case `S := True`, `UniformCostOn.validOn` the
other instance): incident lists are consistent with `termV`, and on the (last edge, state) pairs the
search uses the frontier model's verdict — whenever it answers — is `ok e`.  Nothing about the
traversal, the access model, the cost model, the heuristic (any weight factor, any estimate,
state-dependent or not) or the sign of the costs; calls that fail fail the run, and the theorems are
about runs that returned a result or "no path" (`NoSpuriousNoPath`: no component answers "no path"
itself).

Invariant at every loop head, cost-free form of (S), (Q), (K) of Appendix A.1: labelled ⇒ reachable
by a valid walk; the source is labelled; queue entries are labelled; a labelled vertex without queue
entry has all its valid out-edges' far ends labelled; the target, once labelled, is queued.  Where
the wording departs from the part above: "no queue entry at `u`" is `∀ p ∈ q, p.1 ≠ u` here
(`∀ f, (u, f) ∉ q` in `SearchOpt.KAt`, `NotQueued s u` in `SearchDiscipline`), and (K) is suspended
at the vertex being expanded by the marker `ex` of `RInv` (`SearchOpt` carries (K) vertex by vertex
and restores it at the expanded one, `expand_good`; `SearchDiscipline` has `Mid` for the states
inside a turn). -/

namespace SearchReach

open SearchOpt (Walk NoSpuriousNoPath)
open SearchLimits (curOf popped startF)

/-- the premise: consistent incident lists, and a frontier verdict that is a function of the edge
(on calls that answer) -/
structure ValidLocal (I : Inst α) (ok : Nat → Bool) : Prop where
  incident_term : ∀ v e, e ∈ I.incident v → I.termV e = v
  valid_eq : ∀ e st le b, I.valid e st le = .ok b → b = ok e

/-- the same asked only of the (last edge, state) pairs the search uses: an invariant `S` of the
pairs, and the verdict on a pair satisfying `S` — whenever the frontier model answers — is `ok e` -/
structure ValidOn (I : Inst α) (S : Option Nat → List α → Prop) (ok : Nat → Bool) : Prop where
  incident_term : ∀ v e, e ∈ I.incident v → I.termV e = v
  pairInv : SearchLimits.PairInv I S
  valid_eq : ∀ e le st b, S le st → I.valid e st le = .ok b → b = ok e

/-- `ValidLocal` is the case `S := True` -/
theorem ValidLocal.validOn {I : Inst α} {ok : Nat → Bool} (L : ValidLocal I ok) :
    ValidOn I (fun _ _ => True) ok :=
  ⟨L.incident_term, ⟨trivial, fun _ _ _ _ _ _ _ _ _ => trivial⟩,
    fun e le st b _ h => L.valid_eq e st le b h⟩

/-- `UniformCostOn` with the costs forgotten -/
theorem _root_.Compass.SearchOpt.UniformCostOn.validOn {I : Inst α}
    {S : Option Nat → List α → Prop} {ok : Nat → Bool} {c : Nat → α}
    (U : SearchOpt.UniformCostOn I S ok c) : ValidOn I S ok :=
  ⟨U.incident_term, U.pairInv, U.valid_eq⟩

/-! ### One relaxation, abstractly (no costs) -/

/-- effect of one `relax` on (queue, labels): nothing changes — and then, if the edge is permitted
and its near end labelled, the far end is labelled already — or the far end gets a label and a queue
entry -/
def RS (I : Inst α) (ok : Nat → Bool) (q : List (Nat × α)) (g : Nat → Option α) (e : Nat)
    (q' : List (Nat × α)) (g' : Nat → Option α) : Prop :=
  (q' = q ∧ g' = g ∧
    (ok e = true → (g (I.termV e)).isSome → (g (I.keyV e)).isSome))
  ∨ (ok e = true ∧ (g (I.termV e)).isSome ∧ ∃ x f, g' = upd g (I.keyV e) x ∧
      q' = pushIncrease q (I.keyV e) f)

theorem relax_rs {I : Inst α} {S : Option Nat → List α → Prop} {ok : Nat → Bool}
    (L : ValidOn I S ok) {hasT : Bool} {le : Option Nat} {st : List α} (hS : S le st)
    {s s' : SState α} {e : Nat}
    (h : relax I hasT le st s e = .ok s') : RS I ok s.queue s.g e s'.queue s'.g := by
  have hr := SearchLoop.relax_relaxed I hasT le st s e
  rw [h] at hr
  cases hr with
  | invalid hf =>
    refine Or.inl ⟨rfl, rfl, fun hok => ?_⟩
    rw [← L.valid_eq e le st false hS hf] at hok
    cases hok
  | unlabelled _ _ hg => exact Or.inl ⟨rfl, rfl, fun _ hl => by rw [hg] at hl; cases hl⟩
  | keep _ _ _ himp =>
    obtain ⟨ex, hex, _⟩ := SearchLoop.improves_false himp
    exact Or.inl ⟨rfl, rfl, fun _ _ => by rw [hex]; rfl⟩
  | update hvalid _ hg =>
    exact Or.inr ⟨(L.valid_eq e le st true hS hvalid).symm, by rw [hg]; rfl, _, _, rfl, rfl⟩

/-! ### The invariant -/

/-- the cost-free loop invariant on (queue, labels); `ex` marks the vertex being expanded, for which
(K) is suspended while its incident edges are iterated -/
structure RInv (I : Inst α) (ok : Nat → Bool) (source : Nat) (target : Option Nat)
    (ex : Nat → Prop) (q : List (Nat × α)) (g : Nat → Option α) : Prop where
  sound : ∀ v, (g v).isSome → ∃ es, Walk I ok source es v
  src : (g source).isSome
  qlab : ∀ p ∈ q, (g p.1).isSome
  closed : ∀ u, ¬ ex u → (g u).isSome → (∀ p ∈ q, p.1 ≠ u) →
    ∀ e ∈ I.incident u, ok e = true → (g (I.keyV e)).isSome
  tq : ∀ t, target = some t → (g t).isSome → ∃ p ∈ q, p.1 = t

/-- one abstract relaxation keeps the invariant, keeps every label, and leaves the far end of a
permitted edge with labelled near end labelled -/
theorem RS.step {I : Inst α} {ok : Nat → Bool} {source : Nat} {target : Option Nat}
    {ex : Nat → Prop} {q q' : List (Nat × α)} {g g' : Nat → Option α} {e : Nat}
    (hinc : e ∈ I.incident (I.termV e)) (hinv : RInv I ok source target ex q g)
    (h : RS I ok q g e q' g') :
    RInv I ok source target ex q' g' ∧ (∀ v, (g v).isSome → (g' v).isSome) ∧
      (ok e = true → (g (I.termV e)).isSome → (g' (I.keyV e)).isSome) := by
  rcases h with ⟨rfl, rfl, hno⟩ | ⟨hok, hterm, x, f, rfl, rfl⟩
  · exact ⟨hinv, fun _ h => h, hno⟩
  · have hkeys := SearchLoop.keys_pushIncrease q (I.keyV e) f
    refine ⟨⟨?_, SearchLoop.upd_isSome_of hinv.src, ?_, ?_, ?_⟩,
      fun v h => SearchLoop.upd_isSome_of h, fun _ _ => by rw [SearchOpt.upd_same]; rfl⟩
    · intro v hv
      by_cases hvk : v = I.keyV e
      · subst hvk
        obtain ⟨es, hw⟩ := hinv.sound _ hterm
        exact ⟨es ++ [e], hw.snoc hok hinc rfl⟩
      · rw [SearchOpt.upd_other _ _ hvk] at hv
        exact hinv.sound v hv
    · intro p hp
      rcases SearchLoop.mem_pushIncrease hp with hk | hq
      · rw [hk, SearchOpt.upd_same]; rfl
      · exact SearchLoop.upd_isSome_of (hinv.qlab p hq)
    · intro u hex hu hclosed e' he' hok'
      have huk : u ≠ I.keyV e := by
        intro huk
        obtain ⟨p, hp, hpk⟩ := (hkeys (I.keyV e)).2 (Or.inl rfl)
        exact hclosed p hp (by rw [hpk, huk])
      rw [SearchOpt.upd_other _ _ huk] at hu
      have hclosed' : ∀ p ∈ q, p.1 ≠ u := by
        intro p hp hpu
        obtain ⟨p', hp', hpk'⟩ := (hkeys u).2 (Or.inr ⟨p, hp, hpu⟩)
        exact hclosed p' hp' hpk'
      exact SearchLoop.upd_isSome_of (hinv.closed u hex hu hclosed' e' he' hok')
    · intro t ht hlt
      by_cases htk : t = I.keyV e
      · exact (hkeys t).2 (Or.inl htk)
      · rw [SearchOpt.upd_other _ _ htk] at hlt
        exact (hkeys t).2 (Or.inr (hinv.tq t ht hlt))

theorem relaxAll_reach {I : Inst α} {S : Option Nat → List α → Prop} {ok : Nat → Bool}
    (L : ValidOn I S ok) {source : Nat} {target : Option Nat} {ex : Nat → Prop} {hasT : Bool}
    {le : Option Nat} {st : List α} (hS : S le st) {v : Nat} {s s' : SState α}
    (hinv : RInv I ok source target ex s.queue s.g) (hv : (s.g v).isSome)
    (h : relaxAll I hasT le st (I.incident v) s = .ok s') :
    RInv I ok source target ex s'.queue s'.g ∧ (∀ x, (s.g x).isSome → (s'.g x).isSome) ∧
      ∀ e ∈ I.incident v, ok e = true → (s'.g (I.keyV e)).isSome := by
  obtain ⟨⟨h1, h2⟩, h3⟩ := SearchLoop.relaxAll_establishes
    (P := fun s1 => RInv I ok source target ex s1.queue s1.g ∧ ∀ x, (s.g x).isSome → (s1.g x).isSome)
    (E := fun e s1 => ok e = true → (s1.g (I.keyV e)).isSome) (I.incident v) s s'
    (fun e he s1 s2 hp hrel => by
      have hterm : I.termV e = v := L.incident_term v e he
      obtain ⟨a, b, c⟩ := (relax_rs L hS hrel).step (by rw [hterm]; exact he) hp.1
      exact ⟨⟨a, fun x hx => b x (hp.2 x hx)⟩, fun hok => c hok (by rw [hterm]; exact hp.2 v hv),
        fun e' he' hok => b _ (he' hok)⟩)
    ⟨hinv, fun _ h => h⟩ h
  exact ⟨h1, h2, h3⟩

/-- the invariant at a loop head: no vertex is being expanded -/
def Good (I : Inst α) (ok : Nat → Bool) (source : Nat) (target : Option Nat) (s : SState α) : Prop :=
  RInv I ok source target (fun _ => False) s.queue s.g

/-- a complete turn keeps the invariant: the pair handed to the `for` loop is the one read at the
popped vertex, and satisfies `S` because the tree entries come from pairs satisfying `S` -/
theorem turn_good {I : Inst α} {S : Option Nat → List α → Prop} {ok : Nat → Bool}
    (L : ValidOn I S ok) {source : Nat} {target : Option Nat} {s s' : SState α} {v : Nat}
    (ht : SearchLimits.Turn I source target s v s') (hgood : Good I ok source target s)
    (hsol : ∀ x b, s.sol x = some b → SearchLimits.EntryFrom I S b) :
    Good I ok source target s' := by
  obtain ⟨_, _, hpop, hvt, le, st, s2, hcur, hrel, rfl⟩ := ht
  obtain ⟨pv, hpv, hpvk⟩ := SearchLoop.popOk_mem hpop
  have hvlab : (s.g v).isSome := by rw [← hpvk]; exact hgood.qlab pv hpv
  have hmid : RInv I ok source target (· = v) (popped s v).queue (popped s v).g := by
    refine ⟨hgood.sound, hgood.src, ?_, ?_, ?_⟩
    · intro p hp
      exact hgood.qlab p ((SearchLoop.mem_filter_ne p).1 hp).1
    · intro u hu hlab hclosed
      refine hgood.closed u (fun h => h) hlab ?_
      intro p hp hpu
      exact hclosed p ((SearchLoop.mem_filter_ne p).2 ⟨hp, by rw [hpu]; exact hu⟩) hpu
    · intro t ht hlab
      obtain ⟨p, hp, hpt⟩ := hgood.tq t ht hlab
      refine ⟨p, (SearchLoop.mem_filter_ne p).2 ⟨hp, ?_⟩, hpt⟩
      rw [hpt]
      intro htv
      exact hvt (by rw [ht, htv])
  obtain ⟨hinv2, hmono, hest⟩ :=
    relaxAll_reach L (SearchLimits.curOf_pair L.pairInv hsol hcur) hmid hvlab hrel
  refine ⟨hinv2.sound, hinv2.src, hinv2.qlab, ?_, hinv2.tq⟩
  intro u _ hlab hclosed e he hok
  by_cases huv : u = v
  · subst huv
    exact hest e he hok
  · exact hinv2.closed u huv hlab hclosed e he hok

theorem init_good (I : Inst α) (ok : Nat → Bool) (source : Nat) (target : Option Nat) (f0 : α) :
    Good I ok source target (initState source f0) := by
  refine ⟨fun v hv => ?_, SearchLoop.initState_g_isSome.2 rfl, fun p hp => ?_,
    fun u _ hu hclosed => ?_, fun t _ ht => ?_⟩
  · rw [SearchLoop.initState_g_isSome.1 hv]
    exact ⟨[], rfl⟩
  · rw [SearchLoop.mem_initState_queue.1 hp]
    exact SearchLoop.initState_g_isSome.2 rfl
  · exact absurd (SearchLoop.initState_g_isSome.1 hu).symm
      (hclosed _ (SearchLoop.mem_initState_queue.2 rfl))
  · exact ⟨_, SearchLoop.mem_initState_queue.2 rfl, (SearchLoop.initState_g_isSome.1 ht).symm⟩

/-! ### The loop -/

/-- a run towards a target other than the source fails at the start with the error of the estimate,
or goes through loop heads that satisfy the invariant and stops at one of them -/
theorem runAStar_halt {I : Inst α} {S : Option Nat → List α → Prop} {ok : Nat → Bool}
    (L : ValidOn I S ok) {source : Nat} {target : Option Nat} (hts : target ≠ some source)
    (sched : List Nat) :
    (∃ k, startF I source target = .error k ∧ runAStar I source target sched = .error k) ∨
    ∃ h rest, Good I ok source target h ∧
      SearchLimits.Halt I source target h rest (runAStar I source target sched) := by
  rcases SearchLimits.runAStar_cases I source target sched with ⟨ht, _⟩ | ⟨_, h⟩ |
    ⟨_, f0, _, rest, h, _, _, hr, hh⟩
  · exact absurd ht hts
  · exact Or.inl h
  · exact Or.inr ⟨h, rest, (hr.invariant
      (P := fun s => Good I ok source target s ∧
        ∀ x b, s.sol x = some b → SearchLimits.EntryFrom I S b)
      (fun _ _ _ ht hp => ⟨turn_good L ht hp.1 hp.2, ht.entryFrom L.pairInv hp.2⟩)
      ⟨init_good I ok source target f0, fun _ _ hb => nomatch hb⟩).1, hh⟩

/-! ### The three statements -/

/-- at a loop head with an empty queue every labelled vertex is closed, so labels propagate along
valid walks -/
theorem Good.walk_labelled {I : Inst α} {ok : Nat → Bool} {source : Nat} {target : Option Nat}
    {s : SState α} (hgood : Good I ok source target s) (hq : s.queue = []) {v : Nat} :
    ∀ (es : List Nat) (u : Nat), (s.g u).isSome → Walk I ok u es v → (s.g v).isSome
  | [], u, hu, hw => by
    simp only [Walk] at hw
    subst hw
    exact hu
  | e :: es, u, hu, hw => by
    obtain ⟨hok, hinc, hterm, hrest⟩ := hw
    subst hterm
    refine hgood.walk_labelled hq es _ (hgood.closed _ (fun h => h) hu ?_ e hinc hok) hrest
    rw [hq]
    exact fun p hp => nomatch hp

/-- a run that reports "no path" is right: there is no valid walk `source ⇝ t` -/
theorem nopath_imp_unreachable {I : Inst α} {S : Option Nat → List α → Prop} {ok : Nat → Bool}
    (L : ValidOn I S ok) (hyg : NoSpuriousNoPath I) {source t : Nat} {sched : List Nat}
    (hrun : runAStar I source (some t) sched = .error .noPath) :
    ¬ ∃ es, Walk I ok source es t := by
  by_cases hts : t = source
  · subst hts
    rw [SearchLimits.runAStar_unfold, if_pos rfl] at hrun
    cases hrun
  rcases runAStar_halt L (target := some t) (by simpa using hts) sched with
    ⟨k, hk, hrun'⟩ | ⟨h, rest, hgood, hh⟩
  · cases hrun.symm.trans hrun'
    exact absurd hk (hyg.h _ _)
  · rw [hrun] at hh
    cases hh with
    | limit hk => exact absurd hk (hyg.term _ _)
    | relaxError _ _ _ _ _ hk =>
      exact absurd hk (SearchLoop.relaxAll_ne_error hyg.valid hyg.trav hyg.h _ _)
    | noPath _ hemp _ =>
      -- the target, were it reachable, would be labelled and hence queued
      have hq := List.isEmpty_iff.1 hemp
      rintro ⟨es, hw⟩
      obtain ⟨p, hp, _⟩ := hgood.tq t rfl (hgood.walk_labelled hq es source hgood.src hw)
      rw [hq] at hp
      cases hp

/-- a run that returns has a reachable target (the source included) -/
theorem ok_walk {I : Inst α} {S : Option Nat → List α → Prop} {ok : Nat → Bool}
    (L : ValidOn I S ok) {source t : Nat} {sched : List Nat} {s : SState α}
    (hrun : runAStar I source (some t) sched = .ok s) : ∃ es, Walk I ok source es t := by
  by_cases hts : t = source
  · exact ⟨[], hts.symm⟩
  rcases runAStar_halt L (target := some t) (by simpa using hts) sched with
    ⟨k, _, hrun'⟩ | ⟨h, rest, hgood, hh⟩
  · cases hrun.symm.trans hrun'
  · rw [hrun] at hh
    cases hh with
    | done _ _ ht => cases ht
    | found _ _ hpop ht =>
      cases ht
      -- the popped target was queued, hence labelled
      obtain ⟨p, hp, hpk⟩ := SearchLoop.popOk_mem hpop
      exact hgood.sound t (by rw [← hpk]; exact hgood.qlab p hp)

/-- for a run that ended with success or with "no path": success exactly when the target is
reachable by a valid walk, "no path" exactly when it is not -/
theorem outcome_iff_reachable {I : Inst α} {S : Option Nat → List α → Prop} {ok : Nat → Bool}
    (L : ValidOn I S ok) (hyg : NoSpuriousNoPath I) {source t : Nat} {sched : List Nat}
    (hres : (∃ s, runAStar I source (some t) sched = .ok s) ∨
      runAStar I source (some t) sched = .error .noPath) :
    ((∃ s, runAStar I source (some t) sched = .ok s) ↔ ∃ es, Walk I ok source es t) ∧
    (runAStar I source (some t) sched = .error .noPath ↔ ¬ ∃ es, Walk I ok source es t) :=
  SearchOpt.iff_of_outcomes (fun ⟨_, hs⟩ => ok_walk L hs) (nopath_imp_unreachable L hyg) hres

/-- the tree of a destination-less search labels exactly the vertices reachable by a valid walk -/
theorem tree_eq_reachable_on {I : Inst α} {S : Option Nat → List α → Prop} {ok : Nat → Bool}
    (L : ValidOn I S ok) {source : Nat} {sched : List Nat} {s : SState α}
    (hrun : runAStar I source none sched = .ok s) (v : Nat) :
    (s.g v).isSome ↔ ∃ es, Walk I ok source es v := by
  rcases runAStar_halt L (target := none) (fun h => nomatch h) sched with
    ⟨k, _, hrun'⟩ | ⟨h, rest, hgood, hh⟩
  · cases hrun.symm.trans hrun'
  · rw [hrun] at hh
    cases hh with
    | found _ _ _ ht => cases ht
    | done _ hemp _ =>
      exact ⟨hgood.sound v, fun ⟨es, hw⟩ =>
        hgood.walk_labelled (List.isEmpty_iff.1 hemp) es source hgood.src hw⟩

theorem tree_eq_reachable {I : Inst α} {ok : Nat → Bool} (L : ValidLocal I ok)
    (hyg : NoSpuriousNoPath I) {source : Nat} {sched : List Nat} {s : SState α}
    (hrun : runAStar I source none sched = .ok s) (v : Nat) :
    (s.g v).isSome ↔ ∃ es, Walk I ok source es v :=
  tree_eq_reachable_on L.validOn hrun v

end SearchReach

namespace SearchOpt

/-! ### C05: reachability in the settings `UniformCost`, `Uniform` + `NoLimit` -/

theorem nopath_iff_unreachable {I : Inst α} {ok : Nat → Bool} {c hv : Nat → α}
    (U : UniformCost I ok c) (hh : VertexH I hv) (hterm : TermNotNoPath I)
    {source t : Nat} {sched : List Nat}
    (hres : (∃ s, runAStar I source (some t) sched = .ok s) ∨
      runAStar I source (some t) sched = .error .noPath) :
    runAStar I source (some t) sched = .error .noPath ↔ ¬ ∃ es, Walk I ok source es t :=
  (SearchReach.outcome_iff_reachable U.toOn.validOn (.of_uniformCost U hh hterm) hres).2

theorem nopath_imp_unreachable_uniform {I : Inst α} {ok : Nat → Bool} {c hv : Nat → α}
    (U : Uniform I ok c hv) (hlim : NoLimit I) {source t : Nat} {sched : List Nat}
    (hrun : runAStar I source (some t) sched = .error .noPath) :
    ¬ ∃ es, Walk I ok source es t :=
  SearchReach.nopath_imp_unreachable U.toUniformCost.toOn.validOn
    (.of_uniformCost U.toUniformCost U.h_eq hlim.termNotNoPath) hrun

theorem ok_imp_reachable_uniform {I : Inst α} {ok : Nat → Bool} {c hv : Nat → α}
    (U : Uniform I ok c hv) {source t : Nat} (hts : t ≠ source) {sched : List Nat}
    {s : SState α} (hrun : runAStar I source (some t) sched = .ok s) :
    ∃ d es, s.g t = some d ∧ Walk I ok source es t ∧ cost c es = d := by
  obtain ⟨hd, hgood, hpop, rfl⟩ :=
    runAStar_target_good_on U.toUniformCost.toOn U.h_eq.toOn hts hrun
  obtain ⟨ft, hmem, _⟩ := SearchLoop.popOk_spec hpop
  obtain ⟨d, hd, _⟩ := hgood.1.qval t ft hmem
  obtain ⟨es, hw, hcost⟩ := hgood.1.sound _ _ hd
  exact ⟨d, es, hd, hw, hcost⟩

theorem ok_iff_reachable_uniform {I : Inst α} {ok : Nat → Bool} {c hv : Nat → α}
    (U : Uniform I ok c hv) (hlim : NoLimit I) {source t : Nat} {sched : List Nat}
    (hres : (∃ s, runAStar I source (some t) sched = .ok s) ∨
      runAStar I source (some t) sched = .error .noPath) :
    (∃ s, runAStar I source (some t) sched = .ok s) ↔ ∃ es, Walk I ok source es t :=
  (SearchReach.outcome_iff_reachable U.toUniformCost.toOn.validOn
    (.of_uniformCost U.toUniformCost U.h_eq hlim.termNotNoPath) hres).1

/-! ### Destination-less search -/

theorem tree_eq_reachable_on {I : Inst α} {S : Option Nat → List α → Prop} {ok : Nat → Bool}
    {c : Nat → α} (U : UniformCostOn I S ok c)
    {source : Nat} {sched : List Nat} {s : SState α}
    (hrun : runAStar I source none sched = .ok s) (v : Nat) :
    (∃ x, s.g v = some x) ↔ ∃ es, Walk I ok source es v :=
  Option.isSome_iff_exists.symm.trans (SearchReach.tree_eq_reachable_on U.validOn hrun v)

/-- every label of the tree of a destination-less search is the least cost of a valid walk from
the source, attained -/
theorem tree_labels_optimal_on {I : Inst α} {S : Option Nat → List α → Prop} {ok : Nat → Bool}
    {c : Nat → α} (U : UniformCostOn I S ok c)
    {source : Nat} {sched : List Nat} {s : SState α}
    (hrun : runAStar I source none sched = .ok s) (v : Nat) (x : α) (hx : s.g v = some x) :
    (∃ es, Walk I ok source es v ∧ cost c es = x) ∧
      ∀ es, Walk I ok source es v → x ≤ cost c es := by
  obtain ⟨hd, _, hgood, hfin⟩ := runAStar_ok_good_on U (hv := fun _ => (0 : α)) (target := none)
    (fun h => nomatch h) (fun h => nomatch h) hrun
  obtain ⟨hq, rfl⟩ := hfin.of_none
  rw [hq] at hgood
  refine ⟨hgood.1.sound _ _ hx, fun es hw => ?_⟩
  have h0 := hgood.1.src_zero U.cost_pos
  obtain ⟨y, hy, hyle⟩ := closed_walk hgood es source v 0 h0 hw
  rw [hx] at hy
  have : x = y := by simpa using hy
  rw [this]; simpa using hyle

theorem tree_eq_reachable {I : Inst α} {ok : Nat → Bool} {c : Nat → α} (U : UniformCost I ok c)
    {source : Nat} {sched : List Nat} {s : SState α}
    (hrun : runAStar I source none sched = .ok s) (v : Nat) :
    (∃ x, s.g v = some x) ↔ ∃ es, Walk I ok source es v :=
  tree_eq_reachable_on U.toOn hrun v

theorem tree_labels_optimal {I : Inst α} {ok : Nat → Bool} {c : Nat → α} (U : UniformCost I ok c)
    {source : Nat} {sched : List Nat} {s : SState α}
    (hrun : runAStar I source none sched = .ok s) (v : Nat) (x : α) (hx : s.g v = some x) :
    (∃ es, Walk I ok source es v ∧ cost c es = x) ∧
      ∀ es, Walk I ok source es v → x ≤ cost c es :=
  tree_labels_optimal_on U.toOn hrun v x hx

/-! ### Admissibility from consistency (how the premise is discharged in practice) -/

/-- a potential that is consistent on valid edges and non-positive at the target is admissible -/
theorem admissible_of_consistent {I : Inst α} {ok : Nat → Bool} {c hv : Nat → α} {t : Nat}
    (hcons : ∀ v, ∀ e ∈ I.incident v, ok e = true → hv v ≤ c e + hv (I.keyV e))
    (ht : hv t ≤ 0) : Admissible I ok c hv t := by
  have key : ∀ (es : List Nat) (v : Nat), Walk I ok v es t → hv v ≤ cost c es + hv t := by
    intro es
    induction es with
    | nil =>
      intro v hw
      simp only [Walk] at hw
      subst hw
      exact le_of_eq (zero_add _).symm
    | cons e es ih =>
      intro v hw
      obtain ⟨hok, hinc, hterm, hrest⟩ := hw
      subst hterm
      show hv (I.termV e) ≤ c e + cost c es + hv t
      rw [add_assoc]
      exact le_trans (hcons _ e hinc hok) (SearchLoop.add_mono (le_refl _) (ih _ hrest))
  intro v es hw
  exact le_trans (key es v hw) (le_of_le_of_eq (SearchLoop.add_mono (le_refl _) ht) (add_zero _))

theorem Admissible.mono {I : Inst α} {ok : Nat → Bool} {c hv hv' : Nat → α} {t : Nat}
    (h : Admissible I ok c hv t) (hle : ∀ v, hv' v ≤ hv v) : Admissible I ok c hv' t :=
  fun v es hw => le_trans (hle v) (h v es hw)

end SearchOpt

end

namespace SearchOpt

/-! ### Non-vacuity: a concrete instance over ℚ

Four vertices `0..3`, seven edges (edge 6 is a forbidden shortcut `0 → 3`, edge 5 closes a cycle),
a non-zero heuristic that is admissible for target 3 but *not* consistent
(`exH 0 = 3 > c(0→1) + exH 1 = 1`), so the premises of every theorem above are jointly
satisfiable, and the A* run below really re-labels vertex 2 and vertex 3. -/

namespace Example

def exIncident : Nat → List Nat
  | 0 => [0, 1, 6]
  | 1 => [2, 4]
  | 2 => [3]
  | 3 => [5]
  | _ => []

def exTermV : Nat → Nat
  | 0 => 0 | 1 => 0 | 2 => 1 | 3 => 2 | 4 => 1 | 5 => 3 | _ => 0

def exKeyV : Nat → Nat
  | 0 => 1 | 1 => 2 | 2 => 2 | 3 => 3 | 4 => 3 | 5 => 0 | _ => 3

def exCost : Nat → ℚ
  | 0 => 1 | 1 => 4 | 2 => 1 | 3 => 1 | 4 => 5 | 5 => 1 | _ => 1

def exOk (e : Nat) : Bool := e != 6

/-- admissible for target 3, not consistent -/
def exH : Nat → ℚ
  | 0 => 3 | 2 => 1 | _ => 0

/-- the true distance to vertex 3 (a consistent potential) -/
def exDist : Nat → ℚ
  | 0 => 3 | 1 => 2 | 2 => 1 | _ => 0

def exInst : Inst ℚ where
  incident := exIncident
  keyV := exKeyV
  termV := exTermV
  init := []
  valid := fun e _ _ => .ok (exOk e)
  trav := fun e _ st => .ok (1 / 4, exCost e - 1 / 4, st)
  h := fun v _ => .ok (exH v)
  term := fun _ _ => .ok ()

theorem exCost_pos (e : Nat) : 0 < exCost e := by
  unfold exCost; split <;> norm_num

theorem ex_uniform : Uniform exInst exOk exCost exH where
  incident_term := by
    intro v e he
    have h : ∀ v ∈ [0, 1, 2, 3], ∀ e ∈ exIncident v, exTermV e = v := by decide
    match v with
    | 0 | 1 | 2 | 3 => exact h _ (by decide) e he
    | n + 4 => cases he
  valid_eq := fun _ _ _ => rfl
  trav_eq := fun e _ st => ⟨1 / 4, exCost e - 1 / 4, st, rfl, by ring⟩
  cost_pos := exCost_pos
  h_eq := fun _ _ => rfl
  h_nonneg := by intro v; unfold exH; split <;> norm_num

theorem ex_nolimit : NoLimit exInst := fun _ _ => rfl

theorem ex_admissible : Admissible exInst exOk exCost exH 3 := by
  have hcons : ∀ v ∈ [0, 1, 2, 3], ∀ e ∈ exIncident v, exOk e = true →
      exDist v ≤ exCost e + exDist (exKeyV e) := by decide +kernel
  have hd : Admissible exInst exOk exCost exDist 3 := by
    refine admissible_of_consistent (fun v e he hok => ?_) (le_refl _)
    match v with
    | 0 | 1 | 2 | 3 => exact hcons _ (by decide) e he hok
    | n + 4 => cases he
  refine hd.mono (fun v => ?_)
  match v with
  | 0 | 1 | 2 => decide +kernel
  | n + 3 => exact le_refl _

/-- observation of a run's outcome that the kernel can decide (states contain functions) -/
def labelOf (r : Except ErrKind (SState ℚ)) (v : Nat) : Option (Option ℚ) :=
  match r with
  | .ok s => some (s.g v)
  | .error _ => none

def errOf (r : Except ErrKind (SState ℚ)) : Option ErrKind :=
  match r with
  | .ok _ => none
  | .error k => some k

theorem ok_of_labelOf {r : Except ErrKind (SState ℚ)} {v : Nat} {x : Option ℚ}
    (h : labelOf r v = some x) : ∃ s, r = .ok s ∧ s.g v = x := by
  cases r with
  | error k => cases h
  | ok s => exact ⟨s, rfl, Option.some.inj h⟩

theorem err_of_errOf {r : Except ErrKind (SState ℚ)} {k : ErrKind} (h : errOf r = some k) :
    r = .error k := by
  cases r with
  | error k' => exact congrArg Except.error (Option.some.inj h)
  | ok s => cases h

/-- an accepted, finishing schedule exists for the A* run `0 ⇝ 3`; vertex 2 is re-labelled
(4 then 2) and vertex 3 too (6 then 3) -/
theorem ex_run_ok : ∃ s, runAStar exInst 0 (some 3) [0, 1, 2, 3] = .ok s ∧ s.g 3 = some 3 :=
  ok_of_labelOf (by decide +kernel)

/-- vertex 7 is isolated: the run towards it ends with "no path" -/
theorem ex_run_nopath : runAStar exInst 0 (some 7) [0, 1, 2, 3] = .error .noPath :=
  err_of_errOf (by decide +kernel)

/-- the destination-less run on the same schedule returns its tree (the queue ran empty), and
labels vertex 3 with its distance 3 -/
theorem ex_run_tree : ∃ s, runAStar exInst 0 none [0, 1, 2, 3] = .ok s ∧ s.g 3 = some 3 :=
  ok_of_labelOf (by decide +kernel)

/-- the theorems apply: every valid walk `0 ⇝ 3` of the example costs at least 3 (the forbidden
shortcut edge 6 of cost 1 is not used), and 7 is unreachable -/
example : ∀ es, Walk exInst exOk 0 es 3 → 3 ≤ cost exCost es := by
  obtain ⟨s, hrun, hs⟩ := ex_run_ok
  obtain ⟨d, hd, _, hmin⟩ := label_optimal_on ex_uniform.toOn (by decide) ex_admissible hrun
  rw [hs] at hd
  have : (3 : ℚ) = d := by simpa using hd
  rw [this]; exact hmin

example : ¬ ∃ es, Walk exInst exOk 0 es 7 :=
  nopath_imp_unreachable_uniform ex_uniform ex_nolimit ex_run_nopath

example : ∃ es, Walk exInst exOk 0 es 3 ∧ cost exCost es = 3 :=
  ⟨[0, 2, 3], by simp [Walk, exInst, exOk, exIncident, exTermV, exKeyV], by decide +kernel⟩

/-! #### Non-vacuity of the restricted setting: an instance that needs the invariant

`exInstS` carries a one-slot state that every traversal rewrites.  On a malformed state (any other
length) its frontier model lets the forbidden shortcut through and its traversal charges nothing:
`UniformCost` fails, `UniformCostOn` holds with the invariant "the state has one slot" — which the
initial state satisfies and every traversal passes on — and the `_on` theorems apply to its runs. -/

def exInstS : Inst ℚ :=
  { exInst with
    init := [0]
    valid := fun e st _ => .ok (if st.length = 1 then exOk e else true)
    trav := fun e _ st =>
      if st.length = 1 then .ok (1 / 4, exCost e - 1 / 4, st.map (· + exCost e)) else .ok (0, 0, st) }

theorem ex_uniform_on : UniformOn exInstS (fun _ st => st.length = 1) exOk exCost exH where
  incident_term := ex_uniform.incident_term
  init_ok := rfl
  valid_eq := by
    intro e le st b hS h
    simp only [exInstS, hS, if_true, Except.ok.injEq] at h
    exact h.symm
  trav_eq := by
    intro e le st ac tc st' hS _ h
    simp only [exInstS, hS, if_true, Except.ok.injEq, Prod.mk.injEq] at h
    obtain ⟨h1, h2, h3⟩ := h
    subst h1 h2 h3
    exact ⟨by ring, by simpa using hS⟩
  cost_pos := exCost_pos
  h_eq := by
    intro v le st x _ h
    simp only [exInstS, exInst, Except.ok.injEq] at h
    exact h.symm
  h_nonneg := ex_uniform.h_nonneg

/-- `UniformCost` does not hold of it: on the empty state the traversal charges 0 -/
theorem ex_not_uniformCost : ¬ UniformCost exInstS exOk exCost := by
  intro U
  obtain ⟨ac, tc, st', h, hc⟩ := U.trav_eq 0 none []
  simp only [exInstS, List.length_nil, Nat.zero_ne_one, if_false, Except.ok.injEq,
    Prod.mk.injEq] at h
  obtain ⟨h1, h2, _⟩ := h
  rw [← h1, ← h2] at hc
  have := exCost_pos 0
  linarith

theorem ex_admissible_S : Admissible exInstS exOk exCost exH 3 :=
  fun v es hw => ex_admissible v es ((Walk.congr (I := exInst) (I' := exInstS) rfl rfl rfl es v 3).1 hw)

theorem ex_run_ok_S : ∃ s, runAStar exInstS 0 (some 3) [0, 1, 2, 3] = .ok s ∧ s.g 3 = some 3 :=
  ok_of_labelOf (by decide +kernel)

example : ∀ es, Walk exInstS exOk 0 es 3 → 3 ≤ cost exCost es := by
  obtain ⟨s, hrun, hs⟩ := ex_run_ok_S
  obtain ⟨d, hd, _, hmin⟩ := label_optimal_on ex_uniform_on (by decide) ex_admissible_S hrun
  rw [hs] at hd
  have : (3 : ℚ) = d := by simpa using hd
  rw [this]; exact hmin

end Example

end SearchOpt
end Compass
