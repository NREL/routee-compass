/-
Proofs about the grid-search plugin model: the code (`processO`, combinations out of the `MultiSet`
iterator, explicit indexing) computes the total function `process` — it never panics and never
diverges: the iterator ends within its fuel and hands out index vectors that are in range for the
options.  A generated query is read as a map (last writer wins); the recursion guard is a text test on
the serialized section.  The plugin pipeline around it (`mapOp` … `applyInputPlugins`) is generic in the
plugins' error type.
-/
import Compass.Model.GridSearch
import Compass.Proofs.MultiSet
import Compass.Proofs.JsonObj

namespace Compass
namespace GridSearch
open MultiSet (Outcome inRange combos pick sizesOf)

/-! ### the plan -/

/-- a query with a grid section that passes every guard -/
structure GridQuery (q : Json) (kvs sec : List (String × Json)) : Prop where
  isObj : q = .obj kvs
  section_ : Json.lookup kvs gridKey = some (.obj sec)
  notRecursive : recurses (.obj sec) = false
  notDegenerate : degenerate (axes sec) = false

/-! `plan`, arm by arm. -/

theorem plan_of_no_section {q : Json} (h : q.get? gridKey = none) : plan q = .ok none := by
  simp only [plan, h]

theorem plan_of_recursion {q s : Json} (hs : q.get? gridKey = some s) (hr : recurses s = true) :
    plan q = .error .recursion := by
  simp only [plan, hs, hr, if_true]

theorem plan_of_section_not_object {q s : Json} (hs : q.get? gridKey = some s) (hr : recurses s = false)
    (ho : s.isObject = false) : plan q = .error .sectionNotObject := by
  cases s with
  | obj sec => cases ho
  | _ => simp only [plan, hs, hr, Bool.false_eq_true, if_false]

theorem plan_of_degenerate {kvs sec : List (String × Json)} (hl : Json.lookup kvs gridKey = some (.obj sec))
    (hr : recurses (.obj sec) = false) (hd : degenerate (axes sec) = true) :
    plan (.obj kvs) = .error .degenerate := by
  simp only [plan, Json.get?, hl, hr, hd, if_true, Bool.false_eq_true, if_false]

theorem plan_grid {q : Json} {kvs sec : List (String × Json)} (h : GridQuery q kvs sec) :
    plan q = .ok (some { keys := (axes sec).map (·.1), options := (axes sec).map (·.2),
                         initial := .obj (Json.swapRemoveKv kvs gridKey) }) := by
  obtain ⟨rfl, h2, h3, h4⟩ := h
  simp only [plan, Json.get?, h2, h3, h4, Bool.false_eq_true, if_false]

/-- every way `plan` can answer, read off the query: no grid section; a section whose text mentions
the key; a section that is not an object; a section without axis or with an empty one; a grid query
(`plan_grid`).  `queryNotObject` is never the answer: `get?` found the key, so the query is an object. -/
theorem plan_cases (q : Json) :
    (q.get? gridKey = none ∧ plan q = .ok none) ∨
    (∃ s, q.get? gridKey = some s ∧ recurses s = true ∧ plan q = .error .recursion) ∨
    (∃ s, q.get? gridKey = some s ∧ recurses s = false ∧ s.isObject = false ∧
      plan q = .error .sectionNotObject) ∨
    (∃ kvs sec, q = .obj kvs ∧ Json.lookup kvs gridKey = some (.obj sec) ∧
      recurses (.obj sec) = false ∧ degenerate (axes sec) = true ∧ plan q = .error .degenerate) ∨
    ∃ kvs sec, GridQuery q kvs sec := by
  cases hq : q.get? gridKey with
  | none => exact Or.inl ⟨rfl, plan_of_no_section hq⟩
  | some s =>
    refine Or.inr ?_
    cases hr : recurses s with
    | true => exact Or.inl ⟨s, rfl, hr, plan_of_recursion hq hr⟩
    | false =>
      refine Or.inr ?_
      cases s with
      | obj sec =>
        refine Or.inr ?_
        cases q with
        | obj kvs =>
          cases hd : degenerate (axes sec) with
          | true => exact Or.inl ⟨kvs, sec, rfl, hq, hr, hd, plan_of_degenerate hq hr hd⟩
          | false => exact Or.inr ⟨kvs, sec, rfl, hq, hr, hd⟩
        | _ => cases hq
      | _ => exact Or.inl ⟨_, rfl, hr, rfl, plan_of_section_not_object hq hr rfl⟩

theorem degenerate_eq_false_iff {ax : List (String × List Json)} :
    degenerate ax = false ↔ ax ≠ [] ∧ ∀ a ∈ ax, a.2 ≠ [] := by
  simp only [degenerate, Bool.or_eq_false_iff, List.isEmpty_eq_false_iff, List.any_eq_false,
    List.isEmpty_iff]

/-! The grid axes are the array-valued fields of the section. -/

theorem mem_axes : ∀ (sec : List (String × Json)) (k : String) (opts : List Json),
    (k, opts) ∈ axes sec ↔ (k, Json.arr opts) ∈ sec
  | [], _, _ => by simp [axes]
  | (a, v) :: r, k, opts => by
    have ih := mem_axes r k opts
    cases v <;> simp [axes, ih]

theorem axes_keys_sublist : ∀ (sec : List (String × Json)),
    ((axes sec).map (·.1)).Sublist (sec.map (·.1))
  | [] => by simp [axes]
  | (k, v) :: r => by
    have ih := axes_keys_sublist r
    cases v <;> simp [axes, ih, List.Sublist.cons]

/-! ### the per-combination overlay: code = function -/

theorem mergeObjO_obj : ∀ (o kvs : List (String × Json)),
    mergeObjO (.obj kvs) o = some (.obj (mergeKv kvs o))
  | [], _ => rfl
  | (k, v) :: r, kvs => by simp only [mergeObjO, Json.indexAssign, mergeKv, mergeObjO_obj r]

theorem applyOptionO_obj (kvs : List (String × Json)) (key : String) (v : Json) :
    applyOptionO (.obj kvs) key v = some (.obj (applyOption kvs key v)) := by
  cases v with
  | obj o => exact mergeObjO_obj o kvs
  | _ => rfl

@[simp] theorem choice_nil_right (ax : List (String × List Json)) : choice ax [] = [] := by
  cases ax with
  | nil => rfl
  | cons a r => cases a; rfl

theorem choice_cons (a : String) {o : List Json} {d : Nat} (hd : d < o.length)
    (ax : List (String × List Json)) (ps : List Nat) :
    choice ((a, o) :: ax) (d :: ps) = (a, o[d]) :: choice ax ps := by
  simp only [choice, List.getElem?_eq_getElem hd]

theorem mem_choice (ax : List (String × List Json)) (c : List Nat) (k : String) (v : Json)
    (h : (k, v) ∈ choice ax c) : ∃ opts, (k, opts) ∈ ax ∧ v ∈ opts := by
  induction ax generalizing c with
  | nil => cases h
  | cons ao ax ih =>
    obtain ⟨a, o⟩ := ao
    cases c with
    | nil => cases h
    | cons i c =>
      have hstep : (k, v) ∈ choice ax c → ∃ opts, (k, opts) ∈ (a, o) :: ax ∧ v ∈ opts := fun h' =>
        (ih c h').imp fun _ hh => ⟨List.mem_cons_of_mem _ hh.1, hh.2⟩
      simp only [choice] at h
      cases hi : o[i]? with
      | none => rw [hi] at h; exact hstep h
      | some x =>
        rw [hi] at h
        rcases List.mem_cons.mp h with e | h
        · cases e
          exact ⟨o, List.mem_cons_self .., List.mem_of_getElem? hi⟩
        · exact hstep h

theorem choice_keys : ∀ (ax : List (String × List Json)) (c : List Nat),
    inRange (ax.map (·.2.length)) c = true → (choice ax c).map (·.1) = ax.map (·.1)
  | [], c, _ => by cases c <;> rfl
  | (a, o) :: ax, c, h => by
    obtain ⟨d, ps, rfl, hd, h'⟩ := (MultiSet.inRange_cons_iff _ _ c).mp h
    rw [choice_cons a hd, List.map_cons, choice_keys ax ps h', List.map_cons]

theorem choice_length (ax : List (String × List Json)) (c : List Nat)
    (h : inRange (ax.map (·.2.length)) c = true) : (choice ax c).length = ax.length := by
  simpa only [List.length_map] using congrArg List.length (choice_keys ax c h)

/-- the option each axis takes: axis `i` contributes `(keyᵢ, optionsᵢ[cᵢ])` -/
theorem choice_getElem (ax : List (String × List Json)) : ∀ (c : List Nat),
    inRange (ax.map (·.2.length)) c = true → ∀ (i : Nat) (hi : i < ax.length),
    ∃ j v, c[i]? = some j ∧ ax[i].2[j]? = some v ∧ (choice ax c)[i]? = some (ax[i].1, v) := by
  induction ax with
  | nil => intro _ _ i hi; cases hi
  | cons ao ax ih =>
    obtain ⟨a, o⟩ := ao
    intro c h i hi
    obtain ⟨d, ps, rfl, hd, h'⟩ := (MultiSet.inRange_cons_iff _ _ c).mp h
    rw [choice_cons a hd]
    cases i with
    | zero => exact ⟨d, o[d], rfl, List.getElem?_eq_getElem hd, rfl⟩
    | succ i => exact ih ps h' i (Nat.lt_of_succ_lt_succ hi)

/-- the loop of the code over the axes `rest`, the axes `pre` already done -/
theorem overlayO_eq (c : List Nat) : ∀ (rest pre : List (List Json)) (keys : List String)
    (kvs : List (String × Json)), inRange (sizesOf rest) c = true → keys.length = c.length →
    overlayO (pre ++ rest) pre.length (keys.zip c) (.obj kvs)
      = .ok (.obj (overlay kvs (choice (keys.zip rest) c))) := by
  induction c with
  | nil => intro _ _ _ _ _ _; rw [List.zip_nil_right, choice_nil_right]; rfl
  | cons j c ih =>
    intro rest pre keys kvs h hk
    cases rest with
    | nil => cases h
    | cons opts rest =>
      cases keys with
      | nil => cases hk
      | cons key keys =>
        obtain ⟨hj, hc⟩ := (MultiSet.inRange_cons_cons _ _ _ _).mp h
        have ih := ih rest (pre ++ [opts]) keys (applyOption kvs key opts[j]) hc (Nat.succ.inj hk)
        rw [List.append_assoc, List.length_append] at ih
        simp only [List.zip_cons_cons, overlayO, List.getElem?_append_right (Nat.le_refl _),
          Nat.sub_self, List.getElem?_cons_zero, List.getElem?_eq_getElem hj, applyOptionO_obj,
          choice_cons key hj, overlay]
        exact ih

/-- well-formedness of a plan that came out of `plan` -/
structure Plan.WF (p : Plan) (kvs : List (String × Json)) : Prop where
  initial : p.initial = .obj kvs
  lens : p.keys.length = p.options.length
  nonempty : p.options ≠ []
  axesNonempty : ∀ o ∈ p.options, o ≠ []

theorem Plan.indices_eq (p : Plan) : p.indices = p.sizes.map List.range := by
  simp [Plan.indices, Plan.sizes, List.map_map, Function.comp_def]

theorem Plan.axes_sizes (p : Plan) (h : p.keys.length = p.options.length) :
    p.axes.map (·.2.length) = p.sizes := by
  have : p.axes.map (·.2) = p.options := List.map_snd_zip (Nat.le_of_eq h.symm)
  rw [Plan.sizes, ← this, List.map_map]
  rfl

theorem instanceO_eq (p : Plan) (kvs : List (String × Json)) (hp : p.WF kvs) (c : List Nat)
    (hc : inRange p.sizes c = true) :
    instanceO p c = .ok (.obj (instanceKv kvs p.axes c)) := by
  have hlen : c.length = p.options.length := by
    simpa [Plan.sizes] using MultiSet.inRange_length _ _ hc
  have := overlayO_eq c p.options [] p.keys kvs hc (by rw [hp.lens, hlen])
  rwa [List.nil_append, ← hp.initial] at this

/-- the enumeration of the code is the closed form `expand`: no panic, no divergence -/
theorem expandO_eq (p : Plan) (kvs : List (String × Json)) (hp : p.WF kvs) :
    expandO p = .ok (expand kvs p.axes) := by
  rw [expandO, p.indices_eq, MultiSet.collectMap_from_ranges p.sizes _ _ (instanceO_eq p kvs hp), expand,
    p.axes_sizes hp.lens]

/-- a plan that comes out of `plan` is well-formed.  (`nonempty` and `axesNonempty` say what the guard
against degenerate sections ensures; the enumeration is total and no proof needs them.) -/
theorem plan_wf {q : Json} {p : Plan} (h : plan q = .ok (some p)) : ∃ kvs, p.WF kvs := by
  rcases plan_cases q with ⟨_, h'⟩ | ⟨_, _, _, h'⟩ | ⟨_, _, _, _, h'⟩ | ⟨_, _, _, _, _, _, h'⟩ |
    ⟨kvs, sec, hg⟩
  · rw [h'] at h; cases h
  · rw [h'] at h; cases h
  · rw [h'] at h; cases h
  · rw [h'] at h; cases h
  rw [plan_grid hg] at h
  cases h
  obtain ⟨h1, h2⟩ := degenerate_eq_false_iff.mp hg.notDegenerate
  refine ⟨_, rfl, by simp, by simpa using h1, fun o ho => ?_⟩
  obtain ⟨a, ha, rfl⟩ := List.mem_map.mp ho
  exact h2 a ha

/-- the code is the function: `GridSearchPlugin::process` never panics and never diverges, on any
JSON value whatsoever -/
theorem processO_eq (q : Json) : processO q = .ok (process q) := by
  unfold processO process
  cases hp : plan q with
  | error e => rfl
  | ok o =>
    cases o with
    | none => rfl
    | some p =>
      obtain ⟨kvs, hwf⟩ := plan_wf hp
      simp only [expandO_eq p _ hwf, hwf.initial]

/-! ### `process`, case by case -/

theorem process_of_plan_error {q : Json} {e : ErrKind} (h : plan q = .error e) :
    process q = .error e := by
  simp only [process, h]

/-- no grid section (in particular: not an object) ⇒ the query passes through unchanged -/
theorem process_of_no_section {q : Json} (h : q.get? gridKey = none) : process q = .ok q := by
  simp only [process, plan_of_no_section h]

/-- **Expansion.**  A query whose grid section passes the guards is replaced by the array of
`instanceKv …` over all index combinations in counter order: the query minus the grid key (in
`swap_remove` order) overlaid with the chosen options. -/
theorem process_grid {q : Json} {kvs sec : List (String × Json)} (h : GridQuery q kvs sec) :
    process q = .ok (.arr (expand (Json.swapRemoveKv kvs gridKey) (axes sec))) := by
  simp only [process, plan_grid h, Plan.axes, ← List.zip_of_prod rfl rfl]

/-- every way `process` can answer, with what the query looked like: `plan_cases`, each arm through `process` -/
theorem process_cases (q : Json) :
    (q.get? gridKey = none ∧ process q = .ok q) ∨
    (∃ s, q.get? gridKey = some s ∧ recurses s = true ∧ process q = .error .recursion) ∨
    (∃ s, q.get? gridKey = some s ∧ recurses s = false ∧ s.isObject = false ∧
      process q = .error .sectionNotObject) ∨
    (∃ kvs sec, q = .obj kvs ∧ Json.lookup kvs gridKey = some (.obj sec) ∧
      recurses (.obj sec) = false ∧ degenerate (axes sec) = true ∧ process q = .error .degenerate) ∨
    ∃ kvs sec, GridQuery q kvs sec ∧
      process q = .ok (.arr (expand (Json.swapRemoveKv kvs gridKey) (axes sec))) := by
  rcases plan_cases q with ⟨a, _⟩ | ⟨s, a, b, h⟩ | ⟨s, a, b, c, h⟩ | ⟨k, s, a, b, c, d, h⟩ | ⟨k, s, h⟩
  · exact .inl ⟨a, process_of_no_section a⟩
  · exact .inr (.inl ⟨s, a, b, process_of_plan_error h⟩)
  · exact .inr (.inr (.inl ⟨s, a, b, c, process_of_plan_error h⟩))
  · exact .inr (.inr (.inr (.inl ⟨k, s, a, b, c, d, process_of_plan_error h⟩)))
  · exact .inr (.inr (.inr (.inr ⟨k, s, h, process_grid h⟩)))

/-- axes that pass the guard against degenerate sections expand into at least one query, all of them
objects -/
theorem expand_nonempty_objects {ax : List (String × List Json)} (h : degenerate ax = false)
    (initial : List (String × Json)) :
    expand initial ax ≠ [] ∧ (expand initial ax).all Json.isObject = true := by
  obtain ⟨_, h2⟩ := degenerate_eq_false_iff.mp h
  have hpos : 0 < MultiSet.prod (ax.map (·.2.length)) := (MultiSet.prod_pos_iff _).mpr fun n hn => by
    obtain ⟨a, ha, rfl⟩ := List.mem_map.mp hn
    exact List.length_pos_iff.mpr (h2 a ha)
  refine ⟨fun hnil => ?_, List.all_eq_true.mpr fun x hx => ?_⟩
  · have := congrArg List.length hnil
    rw [expand, List.length_map, MultiSet.combos_length, List.length_nil] at this
    omega
  · obtain ⟨c, _, rfl⟩ := List.mem_map.mp hx
    rfl

/-! ### generated queries as maps: last writer wins

(The facts about `Json.lookup`, `insertKv`, `swapRemoveKv` and the serialization alone are in `Proofs/JsonObj.lean`.) -/

open Json (lookup insertKv)

@[simp] theorem lookup_nil (k : String) : lookup [] k = none := rfl

/-- the writes one chosen option performs: an object key by key, anything else under the field's name -/
def writesOf (key : String) (value : Json) : List (String × Json) :=
  match value with
  | .obj o => o
  | v => [(key, v)]

/-- all writes of a combination, in execution order -/
def writes : List (String × Json) → List (String × Json)
  | [] => []
  | (key, value) :: r => writesOf key value ++ writes r

theorem writesOf_obj (key : String) (o : List (String × Json)) : writesOf key (.obj o) = o := rfl

theorem writesOf_of_not_object {v : Json} (h : v.isObject = false) (key : String) :
    writesOf key v = [(key, v)] := by
  cases v with
  | obj o => cases h
  | _ => rfl

theorem writes_eq_flatMap : ∀ ch : List (String × Json),
    writes ch = ch.flatMap (fun p => writesOf p.1 p.2)
  | [] => rfl
  | (k, v) :: r => by rw [writes, writes_eq_flatMap r, List.flatMap_cons]

theorem writes_append (a b : List (String × Json)) : writes (a ++ b) = writes a ++ writes b := by
  simp only [writes_eq_flatMap, List.flatMap_append]

theorem mem_writes {ch : List (String × Json)} {kv : String × Json} :
    kv ∈ writes ch ↔ ∃ p ∈ ch, kv ∈ writesOf p.1 p.2 := by
  rw [writes_eq_flatMap, List.mem_flatMap]

theorem mem_keys_writes {ch : List (String × Json)} {k : String} :
    k ∈ (writes ch).map (·.1) ↔ ∃ p ∈ ch, k ∈ (writesOf p.1 p.2).map (·.1) := by
  rw [writes_eq_flatMap, List.map_flatMap, List.mem_flatMap]

theorem mergeKv_append : ∀ (a b kvs : List (String × Json)),
    mergeKv kvs (a ++ b) = mergeKv (mergeKv kvs a) b
  | [], _, _ => rfl
  | (k, v) :: a, b, kvs => by simp only [List.cons_append, mergeKv, mergeKv_append a b]

theorem applyOption_eq (kvs : List (String × Json)) (key : String) (v : Json) :
    applyOption kvs key v = mergeKv kvs (writesOf key v) := by
  cases v <;> rfl

/-- a generated query is the initial map after a plain sequence of `insert`s -/
theorem overlay_eq_mergeKv : ∀ (ch kvs : List (String × Json)),
    overlay kvs ch = mergeKv kvs (writes ch)
  | [], _ => rfl
  | (key, value) :: r, kvs => by
    rw [overlay, writes, mergeKv_append, applyOption_eq, overlay_eq_mergeKv r]

/-- last writer wins: a key holds the value of the last write to it, or else what the initial
map held -/
theorem lookup_mergeKv : ∀ (ws kvs : List (String × Json)) (k : String),
    lookup (mergeKv kvs ws) k = (lookup ws.reverse k).or (lookup kvs k)
  | [], _, _ => rfl
  | (a, v) :: r, kvs, k => by
    rw [mergeKv, lookup_mergeKv r, List.reverse_cons, Json.lookup_append, Json.lookup_insertKv,
      Option.or_assoc, Json.lookup_cons, lookup_nil]
    by_cases h : k = a
    · rw [if_pos h, if_pos h.symm]; rfl
    · rw [if_neg h, if_neg fun e => h e.symm]; rfl

theorem lookup_overlay (ch kvs : List (String × Json)) (k : String) :
    lookup (overlay kvs ch) k = (lookup (writes ch).reverse k).or (lookup kvs k) := by
  rw [overlay_eq_mergeKv, lookup_mergeKv]

/-! ### the recursion guard is a text test on the serialized section -/

open Json (swapRemoveKv)

open Json (strContains toCompact toCompactKvs toCompactList escapeStr)

theorem gridKey_in_escaped : gridKey.toList <:+: (escapeStr gridKey).toList :=
  ⟨['"'], ['"'], by decide +kernel⟩

/-- a section that passes the recursion guard has no field named `grid_search` … -/
theorem no_grid_field_key {sec : List (String × Json)} (h : recurses (.obj sec) = false)
    (k : String) (v : Json) (hk : (k, v) ∈ sec) : k ≠ gridKey := by
  rintro rfl
  have := Json.strContains_of_infix _ _ (gridKey_in_escaped.trans (Json.infix_obj_key sec _ v hk))
  simp [recurses, this] at h

/-- … and no object option with a key named `grid_search` -/
theorem no_grid_option_key {sec : List (String × Json)} (h : recurses (.obj sec) = false)
    (k : String) (opts : List Json) (hk : (k, .arr opts) ∈ sec) (o : List (String × Json))
    (ho : .obj o ∈ opts) (k' : String) (v' : Json) (hk' : (k', v') ∈ o) : k' ≠ gridKey := by
  rintro rfl
  have h1 := Json.infix_obj_key o _ v' hk'
  have h2 := Json.infix_arr_elem opts _ ho
  have h3 := Json.infix_obj_val sec k _ hk
  have := Json.strContains_of_infix _ _ (gridKey_in_escaped.trans (h1.trans (h2.trans h3)))
  simp [recurses, this] at h

/-! ### the text test in the form the evaluated witnesses use

`Json.compactChars` is the serialization `toCompact` on character lists (`Json.toList_toCompact`), `recurses_eq`
the guard in that form.  The concrete grid queries of C17 and C06 are built from it (`GridQuery.of_eval`): the kernel runs
the test on a `List Char` without going through the UTF-8 codec of `String`. -/

theorem recurses_eq (s : Json) :
    recurses s = strContains.go gridKey.toList (Json.compactChars s) ((Json.compactChars s).length + 1) := by
  rw [recurses, strContains, ← String.length_toList, Json.toList_toCompact]

/-- a concrete grid query, from the three facts to evaluate (the text test on character lists) -/
theorem GridQuery.of_eval {kvs sec : List (String × Json)} (hl : lookup kvs gridKey = some (.obj sec))
    (hr : strContains.go gridKey.toList (Json.compactChars (.obj sec)) ((Json.compactChars (.obj sec)).length + 1)
      = false)
    (hd : degenerate (axes sec) = false) : GridQuery (.obj kvs) kvs sec :=
  ⟨rfl, hl, (recurses_eq _).trans hr, hd⟩

/-! ### what a combination writes -/

/-- no write of any combination goes to the grid key, once the recursion guard has passed -/
theorem gridKey_not_written {sec : List (String × Json)} (hr : recurses (.obj sec) = false)
    (c : List Nat) : gridKey ∉ (writes (choice (axes sec) c)).map (·.1) := by
  intro hm
  obtain ⟨⟨k, v⟩, hkv, rfl⟩ := List.mem_map.mp hm
  obtain ⟨⟨key, value⟩, hp, hw⟩ := mem_writes.mp hkv
  obtain ⟨opts, h1, h2⟩ := mem_choice _ _ _ _ hp
  have hax := (mem_axes _ _ _).mp h1
  cases hvo : value.isObject with
  | false =>
    rw [writesOf_of_not_object hvo, List.mem_singleton] at hw
    cases hw
    exact no_grid_field_key hr _ _ hax rfl
  | true =>
    cases value with
    | obj o => exact no_grid_option_key hr key opts hax o h2 _ v hw rfl
    | _ => cases hvo

/-! ### when do two combinations give different queries?  (objects, mixtures, any axes) -/

/-- the keys an axis can write: its own name for an option that is not an object, the option's keys
for an object option -/
def axisKeys (a : String × List Json) : List String :=
  a.2.flatMap (fun o => (writesOf a.1 o).map (·.1))

/-- what choosing option `o` on the axis `key` makes observable on top of the map `initial`:
the last write of the option to `k`, else what `initial` holds -/
def observe (initial : List (String × Json)) (key : String) (o : Json) (k : String) : Option Json :=
  match lookup (writesOf key o).reverse k with
  | some v => some v
  | none => lookup initial k

/-- different axes never write the same key -/
def AxesDisjoint (ax : List (String × List Json)) : Prop :=
  ax.Pairwise (fun a b => ∀ k, k ∈ axisKeys a → k ∉ axisKeys b)

/-- two options of the axis that are observably the same (on top of `initial`) are the same option -/
def OptionsObservablyDistinct (initial : List (String × Json)) (a : String × List Json) : Prop :=
  ∀ (j j' : Nat) (hj : j < a.2.length) (hj' : j' < a.2.length),
    (∀ k, observe initial a.1 a.2[j] k = observe initial a.1 a.2[j'] k) → j = j'

theorem mem_axisKeys {a : String × List Json} {k : String} :
    k ∈ axisKeys a ↔ ∃ o ∈ a.2, k ∈ (writesOf a.1 o).map (·.1) := List.mem_flatMap

theorem observe_eq (initial : List (String × Json)) (key : String) (o : Json) (k : String) :
    observe initial key o k = (lookup (writesOf key o).reverse k).or (lookup initial k) := by
  unfold observe
  cases lookup (writesOf key o).reverse k <;> rfl

/-- a key the axis cannot write shows what `initial` holds, whichever option is chosen -/
theorem observe_of_not_axisKey (initial : List (String × Json)) {a : String} {o : List Json} {d : Nat}
    (hd : d < o.length) {k : String} (hk : k ∉ axisKeys (a, o)) :
    observe initial a o[d] k = lookup initial k := by
  rw [observe_eq, Json.lookup_reverse_eq_none _ k fun hm =>
    hk (mem_axisKeys.mpr ⟨o[d], List.getElem_mem hd, hm⟩)]
  rfl

theorem keys_writes_choice_subset (ax : List (String × List Json)) (c : List Nat) (k : String)
    (h : k ∈ (writes (choice ax c)).map (·.1)) : ∃ a ∈ ax, k ∈ axisKeys a := by
  obtain ⟨⟨key, v⟩, hp, hk⟩ := mem_keys_writes.mp h
  obtain ⟨opts, h1, h2⟩ := mem_choice ax c key v hp
  exact ⟨(key, opts), h1, mem_axisKeys.mpr ⟨v, h2, hk⟩⟩

/-- a key of an axis is written by no combination of axes disjoint from it -/
theorem lookup_writes_choice_of_disjoint {a : String × List Json} {rest : List (String × List Json)}
    (hdis : ∀ b ∈ rest, ∀ k, k ∈ axisKeys a → k ∉ axisKeys b) {k : String} (hk : k ∈ axisKeys a)
    (ps : List Nat) : lookup (writes (choice rest ps)).reverse k = none :=
  Json.lookup_reverse_eq_none _ k fun hm => by
    obtain ⟨b, hb, hkb⟩ := keys_writes_choice_subset rest ps k hm
    exact hdis b hb k hk hkb

/-- under the writes of the later options lies what the first option makes observable -/
theorem lookup_overlay_cons (initial : List (String × Json)) (key : String) (v : Json)
    (ch : List (String × Json)) (k : String) :
    lookup (overlay initial ((key, v) :: ch)) k
      = (lookup (writes ch).reverse k).or (observe initial key v k) := by
  rw [lookup_overlay, writes, List.reverse_append, Json.lookup_append, Option.or_assoc, observe_eq]

/-- the combination can be read back from the generated query (as a map), when different axes
write different keys and the options of each axis are observably different -/
theorem choice_inj_of_observable (initial : List (String × Json)) (ax : List (String × List Json)) :
    ∀ (c c' : List Nat), AxesDisjoint ax →
    (∀ a ∈ ax, OptionsObservablyDistinct initial a) →
    inRange (ax.map (·.2.length)) c = true → inRange (ax.map (·.2.length)) c' = true →
    (∀ k, lookup (overlay initial (choice ax c)) k = lookup (overlay initial (choice ax c')) k) →
    c = c' := by
  induction ax with
  | nil =>
    intro c c' _ _ h h' _
    rw [List.map_nil, MultiSet.inRange_nil_iff] at h h'
    rw [h, h']
  | cons ao rest ih =>
    obtain ⟨a, o⟩ := ao
    intro c c' hdis hobs h h' heq
    obtain ⟨d, ps, rfl, hd, hps⟩ := (MultiSet.inRange_cons_iff _ _ c).mp h
    obtain ⟨d', ps', rfl, hd', hps'⟩ := (MultiSet.inRange_cons_iff _ _ c').mp h'
    obtain ⟨hdis1, hdis2⟩ := List.pairwise_cons.mp hdis
    simp only [choice_cons a hd, choice_cons a hd', lookup_overlay_cons] at heq
    -- a key of the first axis is written by no later axis: it shows the first axis' option;
    -- any other key shows, under the later axes' writes, what `initial` holds
    have hdd : d = d' := hobs (a, o) (List.mem_cons_self ..) d d' hd hd' fun k => by
      by_cases hk : k ∈ axisKeys (a, o)
      · have := heq k
        rwa [lookup_writes_choice_of_disjoint hdis1 hk, lookup_writes_choice_of_disjoint hdis1 hk]
          at this
      · rw [observe_of_not_axisKey initial hd hk, observe_of_not_axisKey initial hd' hk]
    have htail : ∀ k, lookup (overlay initial (choice rest ps)) k
        = lookup (overlay initial (choice rest ps')) k := fun k => by
      rw [lookup_overlay, lookup_overlay]
      by_cases hk : k ∈ axisKeys (a, o)
      · rw [lookup_writes_choice_of_disjoint hdis1 hk, lookup_writes_choice_of_disjoint hdis1 hk]
      · have := heq k
        rwa [observe_of_not_axisKey initial hd hk, observe_of_not_axisKey initial hd' hk] at this
    rw [hdd, ih ps ps' hdis2 (fun b hb => hobs b (List.mem_cons_of_mem _ hb)) hps hps' htail]

/-! ### scalar axes with pairwise different options: different combinations, different queries -/

/-- an axis without object options writes only its own name -/
theorem axisKeys_of_scalar {a : String × List Json} (hs : ∀ v ∈ a.2, v.isObject = false)
    {k : String} (hk : k ∈ axisKeys a) : k = a.1 := by
  obtain ⟨v, hv, hkv⟩ := mem_axisKeys.mp hk
  rw [writesOf_of_not_object (hs v hv)] at hkv
  exact List.mem_singleton.mp hkv

/-- axes of different names whose options are not objects never write the same key -/
theorem axesDisjoint_of_scalar {ax : List (String × List Json)} (hk : (ax.map (·.1)).Nodup)
    (hs : ∀ a ∈ ax, ∀ v ∈ a.2, v.isObject = false) : AxesDisjoint ax :=
  (List.pairwise_map.mp hk).imp_of_mem fun {a b} ha hb hab _ hka hkb =>
    hab ((axisKeys_of_scalar (hs a ha) hka).symm.trans (axisKeys_of_scalar (hs b hb) hkb))

/-- options that already differ under one key are observably different -/
theorem observablyDistinct_of_key (initial : List (String × Json)) (a : String × List Json)
    (k : String) (h : (a.2.map (observe initial a.1 · k)).Nodup) :
    OptionsObservablyDistinct initial a := by
  intro j j' hj hj' hall
  have hm : ∀ i (hi : i < a.2.length), i < (a.2.map (observe initial a.1 · k)).length :=
    fun i hi => by rw [List.length_map]; exact hi
  refine (List.Nodup.getElem_inj_iff h (hi := hm j hj) (hj := hm j' hj')).mp ?_
  rw [List.getElem_map, List.getElem_map]
  exact hall k

/-- pairwise different options that are not objects differ under the axis' name -/
theorem observablyDistinct_of_scalar (initial : List (String × Json)) {a : String × List Json}
    (hs : ∀ v ∈ a.2, v.isObject = false) (ho : a.2.Nodup) : OptionsObservablyDistinct initial a := by
  refine observablyDistinct_of_key initial a a.1 ?_
  have : a.2.map (observe initial a.1 · a.1) = a.2.map some := List.map_congr_left fun v hv => by
    rw [observe_eq, writesOf_of_not_object (hs v hv), List.reverse_singleton, Json.lookup_cons, if_pos rfl]
    rfl
  rw [this]
  exact ho.map fun _ _ e => Option.some.inj e

/-- with scalar axes, the chosen options can be read back from the generated query -/
theorem overlay_inj_scalar (initial : List (String × Json)) (ax : List (String × List Json))
    (hk : (ax.map (·.1)).Nodup) (hs : ∀ a ∈ ax, ∀ v ∈ a.2, v.isObject = false)
    (ho : ∀ a ∈ ax, a.2.Nodup) (c c' : List Nat)
    (h : inRange (ax.map (·.2.length)) c = true) (h' : inRange (ax.map (·.2.length)) c' = true)
    (he : overlay initial (choice ax c) = overlay initial (choice ax c')) : c = c' :=
  choice_inj_of_observable initial ax c c' (axesDisjoint_of_scalar hk hs)
    (fun a ha => observablyDistinct_of_scalar initial (hs a ha) (ho a ha)) h h' fun _ => by rw [he]

/-! ### the generated queries are well-formed objects again (keys unique) -/

theorem nodup_keys_mergeKv : ∀ (ws kvs : List (String × Json)), (kvs.map (·.1)).Nodup →
    ((mergeKv kvs ws).map (·.1)).Nodup
  | [], _, h => h
  | (k, v) :: r, kvs, h => nodup_keys_mergeKv r _ (Json.nodup_keys_insertKv kvs k v h)

/-! ### `json_array_op`: the loop over the queries, `json_array_flatten_in_place` -/

section pipeline
variable {ε : Type} {op : Json → Except ε Json}

theorem mapOp_cons_ok {q : Json} {r rs : List Json} (h : mapOp op (q :: r) = .ok rs) :
    ∃ q' r', op q = .ok q' ∧ mapOp op r = .ok r' ∧ rs = q' :: r' := by
  rw [mapOp] at h
  cases hq : op q with
  | error e => rw [hq] at h; cases h
  | ok q' =>
    rw [hq] at h
    dsimp only at h
    cases hr : mapOp op r with
    | error e => rw [hr] at h; cases h
    | ok r' => rw [hr] at h; cases h; exact ⟨q', r', rfl, rfl, rfl⟩

theorem mapOp_ok (op : Json → Except ε Json) (qs rs : List Json)
    (h : qs.map op = rs.map Except.ok) : mapOp op qs = .ok rs := by
  induction qs generalizing rs with
  | nil => cases rs with
    | nil => rfl
    | cons a rs => cases h
  | cons q r ih =>
    cases rs with
    | nil => cases h
    | cons a rs =>
      obtain ⟨h1, h2⟩ := List.cons.inj h
      rw [mapOp, h1]
      dsimp only
      rw [ih rs h2]

theorem mapOp_ok_of_forall : ∀ (l : List Json), (∀ p ∈ l, ∃ r, op p = .ok r) → ∃ rs, mapOp op l = .ok rs
  | [], _ => ⟨[], rfl⟩
  | q :: r, h => by
    obtain ⟨q', hq⟩ := h q (List.mem_cons_self ..)
    obtain ⟨r', hr⟩ := mapOp_ok_of_forall r fun p hp => h p (List.mem_cons_of_mem _ hp)
    exact ⟨q' :: r', by rw [mapOp, hq]; dsimp only; rw [hr]⟩

theorem mapOp_append_error {x : Json} {e : ε} (hx : op x = .error e) (post : List Json) :
    ∀ (pre pre' : List Json), mapOp op pre = .ok pre' →
      mapOp op (pre ++ x :: post) = .error (.plugin x e)
  | [], _, _ => by rw [List.nil_append, mapOp, hx]
  | a :: r, _, h => by
    obtain ⟨a', r', ha, hr, _⟩ := mapOp_cons_ok h
    rw [List.cons_append, mapOp, ha]
    dsimp only
    rw [mapOp_append_error hx post r r' hr]

theorem mapOp_error {items : List Json} {pe : PipeErr ε} (h : mapOp op items = .error pe) :
    ∃ x e, x ∈ items ∧ op x = .error e ∧ pe = .plugin x e := by
  induction items with
  | nil => cases h
  | cons q r ih =>
    rw [mapOp] at h
    cases hq : op q with
    | error e =>
      rw [hq] at h; cases h
      exact ⟨q, e, List.mem_cons_self .., hq, rfl⟩
    | ok q' =>
      rw [hq] at h
      dsimp only at h
      cases hr : mapOp op r with
      | ok r' => rw [hr] at h; cases h
      | error e =>
        rw [hr] at h; cases h
        obtain ⟨x, e', hx, h1, h2⟩ := ih hr
        exact ⟨x, e', List.mem_cons_of_mem _ hx, h1, h2⟩

theorem mapOp_singleton_ok {q r : Json} (h : op q = .ok r) : mapOp op [q] = .ok [r] := by
  rw [mapOp, h]
  rfl

end pipeline

theorem flatten1_of_no_array : ∀ l : List Json, l.all (fun v => !v.isArray) = true → flatten1 l = l
  | [], _ => rfl
  | v :: r, h => by
    simp only [List.all_cons, Bool.and_eq_true, Bool.not_eq_true'] at h
    have ih := flatten1_of_no_array r h.2
    cases v with
    | arr xs => cases h.1
    | _ => exact congrArg (List.cons _) ih

/-- `flatten1` is `flatMap` of "the elements of an array, anything else itself" (that function is written
twice: `Batch.expand1` in the model, `C17.standsFor` in the property file) -/
theorem flatten1_eq_flatMap_of {f : Json → List Json}
    (hf : ∀ v, f v = match v with | .arr sub => sub | v => [v]) :
    ∀ rs : List Json, flatten1 rs = rs.flatMap f
  | [] => rfl
  | r :: rs => by
    rw [List.flatMap_cons, hf, ← flatten1_eq_flatMap_of hf rs]
    cases r <;> rfl

/-- an array state is de-nested by one level (the test for "nothing to do" only saves the copy) -/
theorem flattenInPlace_arr {ε : Type} (rs : List Json) :
    (flattenInPlace (.arr rs) : Except (PipeErr ε) Json) = .ok (.arr (flatten1 rs)) := by
  simp only [flattenInPlace]
  split
  · next h => rw [flatten1_of_no_array rs h]
  · rfl

theorem jsonArrayOp_of_mapOp_ok {ε : Type} {op : Json → Except ε Json} {items rs : List Json}
    (h : mapOp op items = .ok rs) : jsonArrayOp op (.arr items) = .ok (.arr (flatten1 rs)) := by
  rw [jsonArrayOp, h]
  exact flattenInPlace_arr rs

/-! ### the plugin stage (`applyOps`) on an array state, `apply_input_plugins` on an object -/

section stage
variable {ε : Type} {op : Json → Except ε Json} {ops : List (Json → Except ε Json)}

theorem isNoRequest_noRequest : isNoRequest noRequest = true := by decide +kernel

theorem withRequest_plugin_self (q : Json) (e : ε) :
    withRequest q (PipeErr.plugin q e) = PipeErr.plugin q e := by
  simp only [withRequest]
  split <;> rfl

theorem applyOps_cons_of_mapOp_ok {items rs : List Json} (h : mapOp op items = .ok rs) :
    applyOps (op :: ops) (.arr items) = applyOps ops (.arr (flatten1 rs)) := by
  rw [applyOps, jsonArrayOp_of_mapOp_ok h]

theorem applyOps_cons_of_mapOp_error {items : List Json} {e : PipeErr ε} (h : mapOp op items = .error e) :
    applyOps (op :: ops) (.arr items) = .error e := by
  rw [applyOps, jsonArrayOp, h]

theorem applyOps_cons_arr_ok {items : List Json} {s : Json}
    (h : applyOps (op :: ops) (.arr items) = .ok s) :
    ∃ rs, mapOp op items = .ok rs ∧ applyOps ops (.arr (flatten1 rs)) = .ok s := by
  cases hm : mapOp op items with
  | error e => rw [applyOps_cons_of_mapOp_error hm] at h; cases h
  | ok rs => rw [applyOps_cons_of_mapOp_ok hm] at h; exact ⟨rs, rfl, h⟩

theorem applyOps_ok_arr : ∀ (ops : List (Json → Except ε Json)) (items : List Json) (s : Json),
    applyOps ops (.arr items) = .ok s → ∃ final, s = .arr final
  | [], items, s, h => by
    simp only [applyOps, Except.ok.injEq] at h
    exact ⟨items, h.symm⟩
  | op :: ops, items, s, h => by
    obtain ⟨rs, _, h⟩ := applyOps_cons_arr_ok h
    exact applyOps_ok_arr ops _ s h

/-- the plugin stage got through: the final state must hold objects only, else an invariant error that
names the query (the placeholder request of `json_array_flatten` is replaced by `with_request`) -/
theorem applyInputPlugins_of_ok {q : Json} {final : List Json} (ho : q.isObject = true)
    (h : applyOps ops (.arr [q]) = .ok (.arr final)) :
    applyInputPlugins ops q = if final.all Json.isObject then .ok final else .error (.invariant q) := by
  rw [applyInputPlugins, if_pos ho, h]
  cases hall : final.all Json.isObject with
  | true => simp only [jsonArrayFlatten, hall, if_true]
  | false =>
    simp only [jsonArrayFlatten, hall, Bool.false_eq_true, if_false, withRequest, isNoRequest_noRequest,
      if_true]

theorem applyInputPlugins_of_not_object (ops : List (Json → Except ε Json)) {q : Json}
    (h : q.isObject = false) : applyInputPlugins ops q = .error (.notObject q) := by
  rw [applyInputPlugins, h]
  rfl

theorem applyInputPlugins_of_error {q : Json} {e : PipeErr ε} (ho : q.isObject = true)
    (h : applyOps ops (.arr [q]) = .error e) : applyInputPlugins ops q = .error (withRequest q e) := by
  rw [applyInputPlugins, if_pos ho, h]

end stage

/-- the plugin stage on a grid query: grid search hands its expansion to the plugins after it -/
theorem applyOps_process_grid {q : Json} {kvs sec : List (String × Json)} (h : GridQuery q kvs sec)
    (ops : List (Json → Except ErrKind Json)) :
    applyOps (process :: ops) (.arr [q])
      = applyOps ops (.arr (expand (Json.swapRemoveKv kvs gridKey) (axes sec))) :=
  (applyOps_cons_of_mapOp_ok (mapOp_singleton_ok (process_grid h))).trans
    (by rw [flatten1, flatten1, List.append_nil])

end GridSearch
end Compass
