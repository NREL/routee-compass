/-
Proofs about the batch model (`Model/Batch.lean`): the code with explicit panic / divergence outcomes computes
the total functions; chunking is invisible; load balancing is a partition; the result of `run` is, as a
multiset, the union of the per-query answers.  (Worker interleavings: `Proofs/Sched.lean`.)
-/
import Compass.Model.Batch
import Compass.Proofs.GridSearch
import Mathlib.Data.List.Flatten

namespace Compass
namespace Batch
open MultiSet (Outcome)
open GridSearch (PipeErr noRequest flatten1 flattenInPlace jsonArrayFlatten mapOp jsonArrayOp applyOps
  applyInputPlugins)

/-! ### the code is the function: plugins -/

theorem injectGuard_none_isObject {key : String} {overwrite : Bool} {q : Json}
    (h : injectGuard key overwrite q = none) : ∃ kvs, q = .obj kvs := by
  cases q with
  | obj kvs => exact ⟨kvs, rfl⟩
  | _ =>
    -- not an object: the guard answers with an error in either mode
    cases overwrite <;> cases h

/-- every plugin of the model is total: no panic, no divergence (grid search: C17) -/
theorem processO_eq (p : Plugin) (q : Json) : processO p q = .ok (processT p q) := by
  cases p with
  | gridSearch =>
    simp only [processO, processT, GridSearch.processO_eq]
    cases GridSearch.process q <;> rfl
  | inject key value overwrite =>
    simp only [processO, processT]
    cases hg : injectGuard key overwrite q with
    | some e => rfl
    | none =>
      obtain ⟨kvs, rfl⟩ := injectGuard_none_isObject hg
      simp [Json.indexAssign]
  | lbNumeric col fmt =>
    simp only [processO, processT]
    cases customWeight (.lbNumeric col fmt) q <;> rfl
  | lbCategorical col m d fmt =>
    simp only [processO, processT]
    cases customWeight (.lbCategorical col m d fmt) q <;> rfl
  | table t =>
    simp only [processO, processT]
    cases lookupStr t q.toCompact with
    | none => rfl
    | some e => cases e <;> rfl
  | userSplit key => rfl
  | userFailOn m => rfl
  | userBreaker key => rfl

/-! ### the code is the function: pipeline -/

section pipeline
variable {ε : Type}

theorem mapOpO_eq (opO : Json → Outcome (Except ε Json)) (op : Json → Except ε Json)
    (h : ∀ q, opO q = .ok (op q)) : ∀ l, mapOpO opO l = .ok (mapOp op l)
  | [] => rfl
  | q :: r => by
    simp only [mapOpO, mapOp, h q]
    cases op q with
    | error e => rfl
    | ok q' =>
      simp only [mapOpO_eq opO op h r]
      cases mapOp op r <;> rfl

theorem jsonArrayOpO_eq (opO : Json → Outcome (Except ε Json)) (op : Json → Except ε Json)
    (h : ∀ q, opO q = .ok (op q)) (s : Json) : jsonArrayOpO opO s = .ok (jsonArrayOp op s) := by
  cases s with
  | arr qs =>
    simp only [jsonArrayOpO, jsonArrayOp, mapOpO_eq opO op h qs]
    cases mapOp op qs <;> rfl
  | _ => rfl

theorem applyOpsO_eq {ι : Type} (fO : ι → Json → Outcome (Except ε Json)) (f : ι → Json → Except ε Json)
    (h : ∀ i q, fO i q = .ok (f i q)) :
    ∀ (ps : List ι) (s : Json), applyOpsO (ps.map fO) s = .ok (applyOps (ps.map f) s)
  | [], _ => rfl
  | p :: ps, s => by
    simp only [List.map_cons, applyOpsO, applyOps, jsonArrayOpO_eq (fO p) (f p) (h p) s]
    cases jsonArrayOp (f p) s with
    | error e => rfl
    | ok s' => exact applyOpsO_eq fO f h ps s'

theorem applyInputPluginsO_eq {ι : Type} (fO : ι → Json → Outcome (Except ε Json))
    (f : ι → Json → Except ε Json) (h : ∀ i q, fO i q = .ok (f i q)) (ps : List ι) (q : Json) :
    applyInputPluginsO (ps.map fO) q = .ok (applyInputPlugins (ps.map f) q) := by
  simp only [applyInputPluginsO, applyInputPlugins, applyOpsO_eq fO f h ps]
  cases q.isObject with
  | false => rfl
  | true =>
    simp only [if_true]
    cases applyOps (ps.map f) (.arr [q]) with
    | error e => rfl
    | ok s =>
      simp only
      cases (jsonArrayFlatten s : Except (PipeErr ε) (List Json)) <;> rfl

end pipeline

theorem prepO_eq (plugins : List Plugin) (q : Json) : prepO plugins q = .ok (prepT plugins q) := by
  simp only [prepO, prepT, applyInputPluginsO_eq processO processT processO_eq plugins q]
  cases applyInputPlugins (plugins.map processT) q <;> rfl

theorem processChunkO_eq (plugins : List Plugin) :
    ∀ l, processChunkO plugins l = .ok (processChunkT plugins l)
  | [] => rfl
  | q :: r => by
    simp only [processChunkO, processChunkT, prepO_eq, processChunkO_eq plugins r]
    cases prepT plugins q <;> rfl

theorem mapChunksO_eq (plugins : List Plugin) :
    ∀ cs, mapChunksO plugins cs = .ok (cs.map (processChunkT plugins))
  | [] => rfl
  | c :: cs => by simp only [mapChunksO, processChunkO_eq, mapChunksO_eq plugins cs, List.map_cons]

/-! ### partition into processed / error responses -/

/-- the expanded queries of the queries that pass input processing, in order -/
def oks (plugins : List Plugin) (l : List Json) : List (List Json) :=
  l.filterMap (fun q => match prepT plugins q with | .ok qs => some qs | .error _ => none)

/-- the error responses of the queries that fail input processing, in order -/
def errs (plugins : List Plugin) (l : List Json) : List Json :=
  l.filterMap (fun q => match prepT plugins q with | .ok _ => none | .error e => some e)

theorem processChunkT_eq (plugins : List Plugin) :
    ∀ l, processChunkT plugins l = (oks plugins l, errs plugins l)
  | [] => rfl
  | q :: r => by
    simp only [processChunkT, processChunkT_eq plugins r, oks, errs, List.filterMap_cons]
    cases prepT plugins q <;> rfl

/-! ### chunking -/

theorem chunkSize_pos (len p : Nat) : 1 ≤ chunkSize len p := by
  unfold chunkSize; exact Nat.le_max_right _ _

theorem chunks_induction {α : Type} (n : Nat) (hn : 1 ≤ n) (P : List α → Prop) (h0 : P [])
    (hs : ∀ x r, P ((x :: r).drop n) → P (x :: r)) : ∀ l, P l := by
  intro l
  induction hl : l.length using Nat.strong_induction_on generalizing l with
  | _ k ih =>
    cases l with
    | nil => exact h0
    | cons x r =>
      apply hs
      apply ih ((x :: r).drop n).length _ _ rfl
      subst hl
      simp only [List.length_drop, List.length_cons]; omega

/-- the fuel of `chunksAux` is only there for termination: any fuel that covers the list gives the
chunks -/
theorem chunksAux_eq_chunks {α : Type} (n : Nat) (hn : 1 ≤ n) :
    ∀ (l : List α) (fuel : Nat), l.length ≤ fuel → chunksAux n fuel l = chunks n l := by
  refine chunks_induction n hn _ ?_ ?_
  · intro fuel _; cases fuel <;> rfl
  · intro x r ih fuel hf
    have hd : ((x :: r).drop n).length ≤ r.length := by
      simp only [List.length_drop, List.length_cons]; omega
    obtain ⟨fuel, rfl⟩ : ∃ k, fuel = k + 1 := ⟨fuel - 1, by rw [List.length_cons] at hf; omega⟩
    rw [chunks, List.length_cons, chunksAux, chunksAux,
      ih fuel (Nat.le_trans hd (Nat.le_of_succ_le_succ hf)), ih r.length hd]

theorem chunks_nil {α : Type} (n : Nat) : chunks n ([] : List α) = [] := rfl

theorem chunks_cons {α : Type} (n : Nat) (hn : 1 ≤ n) (x : α) (r : List α) :
    chunks n (x :: r) = (x :: r).take n :: chunks n ((x :: r).drop n) := by
  rw [chunks, List.length_cons, chunksAux, chunksAux_eq_chunks n hn]
  simp only [List.length_drop, List.length_cons]; omega

/-- the chunks, joined, are the batch: chunking loses, duplicates and reorders nothing -/
theorem chunks_flatten {α : Type} (n : Nat) (hn : 1 ≤ n) : ∀ l : List α, (chunks n l).flatten = l := by
  refine chunks_induction n hn _ rfl ?_
  intro x r ih
  rw [chunks_cons n hn, List.flatten_cons, ih, List.take_append_drop]

/-- … so a `filterMap` chunk by chunk is the `filterMap` of the batch -/
theorem filterMap_chunks {α β : Type} (f : α → Option β) {n : Nat} (hn : 1 ≤ n) (l : List α) :
    ((chunks n l).map (List.filterMap f)).flatten = l.filterMap f := by
  rw [← List.filterMap_flatten, chunks_flatten n hn]

theorem chunks_mem {α : Type} (n : Nat) (hn : 1 ≤ n) (l : List α) :
    ∀ c ∈ chunks n l, c ≠ [] ∧ c.length ≤ n := by
  refine chunks_induction n hn (fun l => ∀ c ∈ chunks n l, c ≠ [] ∧ c.length ≤ n) ?_ ?_ l
  · intro c hc; simp [chunks_nil] at hc
  · intro x r ih c hc
    rw [chunks_cons n hn] at hc
    rcases List.mem_cons.mp hc with h | h
    · subst h
      refine ⟨?_, by simp [List.length_take]; omega⟩
      intro h0
      have : ((x :: r).take n).length = 0 := by rw [h0]; rfl
      simp only [List.length_take, List.length_cons] at this
      omega
    · exact ih c h

theorem chunks_full {α : Type} (n : Nat) (hn : 1 ≤ n) (l : List α) :
    ∀ i, i + 1 < (chunks n l).length → ∃ c, (chunks n l)[i]? = some c ∧ c.length = n := by
  refine chunks_induction n hn
    (fun l => ∀ i, i + 1 < (chunks n l).length → ∃ c, (chunks n l)[i]? = some c ∧ c.length = n) ?_ ?_ l
  · intro i hi; simp [chunks_nil] at hi
  · intro x r ih i hi
    rw [chunks_cons n hn] at hi ⊢
    cases i with
    | zero =>
      refine ⟨_, rfl, ?_⟩
      simp only [List.length_cons] at hi
      have hne : chunks n ((x :: r).drop n) ≠ [] := by
        intro h; rw [h] at hi; simp at hi
      have hd : (x :: r).drop n ≠ [] := by
        intro h; rw [h, chunks_nil] at hne; exact hne rfl
      have : n < (x :: r).length := by
        by_contra hc
        exact hd (List.drop_eq_nil_of_le (by omega))
      simp only [List.length_take]; omega
    | succ j =>
      simp only [List.length_cons] at hi
      obtain ⟨c, hc, hlen⟩ := ih j (by omega)
      exact ⟨c, by simpa using hc, hlen⟩

/-- chunking looks at no element: it commutes with any map over the elements (for `n = 0` both sides
are one empty chunk per element) -/
theorem chunksAux_map {α β : Type} (f : α → β) (n : Nat) :
    ∀ (fuel : Nat) (l : List α), chunksAux n fuel (l.map f) = (chunksAux n fuel l).map (List.map f)
  | 0, _ => rfl
  | _ + 1, [] => rfl
  | fuel + 1, x :: r => by
    rw [List.map_cons, chunksAux, chunksAux, ← List.map_cons, ← List.map_take, ← List.map_drop,
      chunksAux_map f n fuel, List.map_cons]

theorem chunks_map {α β : Type} (f : α → β) (n : Nat) (l : List α) :
    chunks n (l.map f) = (chunks n l).map (List.map f) := by
  unfold chunks
  rw [List.length_map, chunksAux_map]

/-! ### load balancing -/

section balance
variable {α : Type} (W : WOps α)

theorem minBinAux_lt (r : List α) : ∀ (i best : Nat) (bv : α), best < i →
    minBinAux W i best bv r < i + r.length := by
  induction r with
  | nil => intro i best _ h; exact Nat.lt_add_right _ h
  | cons x r ih =>
    intro i best bv h
    simp only [minBinAux, List.length_cons]
    split
    · have := ih (i + 1) i x (Nat.lt_succ_self i); omega
    · have := ih (i + 1) best bv (Nat.lt_succ_of_lt h); omega

theorem minBin_lt {t : List α} {i : Nat} (h : minBin W t = some i) : i < t.length := by
  cases t with
  | nil => simp [minBin] at h
  | cons x r =>
    simp only [minBin, Option.some.injEq] at h
    have := minBinAux_lt W r 1 0 x (by omega)
    simp only [List.length_cons]; omega

theorem addAt_some (t : List α) : ∀ (i : Nat) (w : α), i < t.length →
    ∃ t', addAt W i w t = some t' ∧ t'.length = t.length := by
  induction t with
  | nil => intro _ _ h; cases h
  | cons x r ih =>
    intro i w h
    cases i with
    | zero => exact ⟨_, rfl, rfl⟩
    | succ i =>
      obtain ⟨t', h1, h2⟩ := ih i w (Nat.lt_of_succ_lt_succ h)
      exact ⟨x :: t', by rw [addAt, h1], by rw [List.length_cons, h2, List.length_cons]⟩

theorem pushAt_some {β : Type} (b : List (List β)) : ∀ (i : Nat) (q : β), i < b.length →
    ∃ b', pushAt i q b = some b' ∧ b'.length = b.length ∧ b'.flatten.Perm (b.flatten ++ [q]) := by
  induction b with
  | nil => intro _ _ h; cases h
  | cons x r ih =>
    intro i q h
    cases i with
    | zero =>
      refine ⟨_, rfl, rfl, ?_⟩
      simp only [List.flatten_cons, List.append_assoc]
      exact List.Perm.append_left x List.perm_append_comm
    | succ i =>
      obtain ⟨b', h1, h2, h3⟩ := ih i q (Nat.lt_of_succ_lt_succ h)
      refine ⟨x :: b', by rw [pushAt, h1], by rw [List.length_cons, h2, List.length_cons], ?_⟩
      simp only [List.flatten_cons, List.append_assoc]
      exact List.Perm.append_left x h3

/-- the loop: with `p ≥ 1` bins it never fails, keeps `p` bins, and adds every query to exactly one bin -/
theorem balanceLoopO_spec : ∀ (qs : List Json) (totals : List α) (bins : List (List Json)),
    totals.length = bins.length → 0 < bins.length →
    ∃ bins', balanceLoopO W qs totals bins = .ok (.ok bins') ∧ bins'.length = bins.length ∧
      bins'.flatten.Perm (bins.flatten ++ qs)
  | [], totals, bins, _, _ => ⟨bins, rfl, rfl, by rw [List.append_nil]⟩
  | q :: r, totals, bins, hl, hb => by
    obtain ⟨i, hi⟩ : ∃ i, minBin W totals = some i := by
      cases totals with
      | nil => rw [← hl] at hb; cases hb
      | cons x r => exact ⟨_, rfl⟩
    have hlt := minBin_lt W hi
    obtain ⟨t', ht1, ht2⟩ := addAt_some W totals i (weightOf W q) hlt
    obtain ⟨b', hb1, hb2, hb3⟩ := pushAt_some bins i q (by rw [← hl]; exact hlt)
    obtain ⟨bins', h1, h2, h3⟩ := balanceLoopO_spec r t' b' (ht2.trans (hl.trans hb2.symm))
      (by rw [hb2]; exact hb)
    refine ⟨bins', ?_, h2.trans hb2, ?_⟩
    · simp only [balanceLoopO, hi, ht1, hb1, h1]
    · have : (b'.flatten ++ r).Perm ((bins.flatten ++ [q]) ++ r) := List.Perm.append_right r hb3
      rw [List.append_assoc] at this
      exact h3.trans this

/-- with no bins at all the first `min_bin` fails -/
theorem balanceLoopO_zero (q : Json) (r : List Json) :
    balanceLoopO W (q :: r) [] [] = .ok (.error .minBinEmpty) := rfl

theorem flatten_replicate_nil {β : Type} (n : Nat) : (List.replicate n ([] : List β)).flatten = [] := by
  induction n with
  | zero => rfl
  | succ n ih => simp [List.replicate_succ, ih]

/-- load balancing, every parallelism: the `Err` of no bins for a query to place, or else bins that
partition the queries — none exactly when there is no query, `min p n` of them for `n ≥ 1` queries -/
theorem balanceO_cases (p : Nat) (qs : List Json) :
    (p = 0 ∧ qs ≠ [] ∧ balanceO W p qs = .ok (.error .minBinEmpty)) ∨
    ((1 ≤ p ∨ qs = []) ∧ ∃ bins, balanceO W p qs = .ok (.ok bins) ∧ bins.flatten.Perm qs ∧
      (bins = [] ↔ qs = []) ∧ (qs ≠ [] → bins.length = min p qs.length)) := by
  cases qs with
  | nil => exact Or.inr ⟨Or.inr rfl, [], rfl, .refl _, ⟨fun _ => rfl, fun _ => rfl⟩, fun h => absurd rfl h⟩
  | cons q r =>
    cases p with
    | zero => exact Or.inl ⟨rfl, List.cons_ne_nil _ _, rfl⟩
    | succ n =>
      have hn : 0 < min (n + 1) (q :: r).length := by rw [List.length_cons]; omega
      obtain ⟨bins, h1, h2, h3⟩ := balanceLoopO_spec W (q :: r)
        (List.replicate (min (n + 1) (q :: r).length) W.zero) (List.replicate (min (n + 1) (q :: r).length) [])
        (by rw [List.length_replicate, List.length_replicate]) (by rw [List.length_replicate]; exact hn)
      rw [flatten_replicate_nil, List.nil_append] at h3
      rw [List.length_replicate] at h2
      refine Or.inr ⟨Or.inl (Nat.succ_pos n), bins, h1, h3, ⟨fun hb => ?_, fun hq => nomatch hq⟩, fun _ => h2⟩
      rw [hb, List.length_nil] at h2
      omega

end balance

/-! ### `run` -/

/-- the queries that reach the search, in batch order -/
def processed (plugins : List Plugin) (batch : List Json) : List Json := (oks plugins batch).flatten

/-! The input stage over the chunks of a batch is the input stage over the batch, whatever the chunk size
`n ≥ 1`: every chunk is processed, and the results joined are those of the whole batch. -/

theorem parChunksO_of_pos {α : Type} {n : Nat} (hn : 1 ≤ n) (l : List α) :
    parChunksO n l = .ok (chunks n l) :=
  if_neg (Nat.ne_of_gt hn)

theorem oks_of_chunks (plugins : List Plugin) {n : Nat} (hn : 1 ≤ n) (batch : List Json) :
    (((chunks n batch).map (processChunkT plugins)).map (·.1)).flatten = oks plugins batch := by
  simp only [List.map_map, Function.comp_def, processChunkT_eq]
  exact filterMap_chunks _ hn batch

theorem errs_of_chunks (plugins : List Plugin) {n : Nat} (hn : 1 ≤ n) (batch : List Json) :
    (((chunks n batch).map (processChunkT plugins)).map (·.2)).flatten = errs plugins batch := by
  simp only [List.map_map, Function.comp_def, processChunkT_eq]
  exact filterMap_chunks _ hn batch

/-- `run` as a function of the whole batch: chunking and the input stage's outcomes have disappeared, what
is left is load balancing over the processed queries and the assembly -/
theorem runO_eq {α : Type} (W : WOps α) (cfg : Config) (respond : Json → Json) (batch : List Json) :
    runO W cfg respond batch =
      match balanceO W cfg.parallelism (processed cfg.plugins batch) with
      | .panic s => .panic s
      | .diverges => .diverges
      | .ok (.error e) => .ok (.error e)
      | .ok (.ok bins) => .ok (.ok (assemble cfg.persist respond bins (errs cfg.plugins batch))) := by
  simp only [runO, parChunksO_of_pos (chunkSize_pos _ _), mapChunksO_eq,
    oks_of_chunks _ (chunkSize_pos _ _), errs_of_chunks _ (chunkSize_pos _ _)]
  rfl

/-- what a batch returns, query by query -/
def answers (plugins : List Plugin) (respond : Json → Json) (batch : List Json) : List Json :=
  batch.flatMap (answer plugins respond)

/-- … under the discard policy: the error responses of the input stage only -/
def answersErr (plugins : List Plugin) (batch : List Json) : List Json :=
  batch.flatMap (answerErr plugins)

theorem answers_append (plugins : List Plugin) (respond : Json → Json) (a b : List Json) :
    answers plugins respond (a ++ b) = answers plugins respond a ++ answers plugins respond b :=
  List.flatMap_append ..

theorem answers_cons (plugins : List Plugin) (respond : Json → Json) (q : Json) (r : List Json) :
    answers plugins respond (q :: r) = answer plugins respond q ++ answers plugins respond r :=
  List.flatMap_cons ..

theorem answersErr_append (plugins : List Plugin) (a b : List Json) :
    answersErr plugins (a ++ b) = answersErr plugins a ++ answersErr plugins b :=
  List.flatMap_append ..

theorem answersErr_cons (plugins : List Plugin) (q : Json) (r : List Json) :
    answersErr plugins (q :: r) = answerErr plugins q ++ answersErr plugins r :=
  List.flatMap_cons ..

theorem answersErr_eq (plugins : List Plugin) : ∀ batch, answersErr plugins batch = errs plugins batch
  | [] => rfl
  | q :: r => by
    have ih := answersErr_eq plugins r
    simp only [answersErr, List.flatMap_cons, errs, List.filterMap_cons, answerErr] at ih ⊢
    cases prepT plugins q <;> simp [ih]

/-- responses of the processed queries followed by the error responses: a permutation of the per-query
answers -/
theorem answers_perm (plugins : List Plugin) (respond : Json → Json) : ∀ batch,
    ((processed plugins batch).map respond ++ errs plugins batch).Perm (answers plugins respond batch)
  | [] => by simp [processed, oks, errs, answers]
  | q :: r => by
    have ih := answers_perm plugins respond r
    simp only [processed, oks, errs, answers, List.filterMap_cons, List.flatMap_cons, answer] at ih ⊢
    cases prepT plugins q with
    | ok qs =>
      simp only [List.flatten_cons, List.map_append, List.append_assoc]
      exact List.Perm.append_left _ ih
    | error e =>
      simp only [List.singleton_append]
      exact (List.perm_middle).trans (List.Perm.cons e ih)

theorem assemble_perm (persist : Bool) (respond : Json → Json) (bins : List (List Json))
    (qs errors : List Json) (hb : bins.flatten.Perm qs) :
    (assemble persist respond bins errors).Perm
      (if persist then qs.map respond ++ errors else errors) := by
  unfold assemble
  by_cases hbe : bins.isEmpty = true
  · have : bins = [] := List.isEmpty_iff.mp hbe
    subst this
    have : qs = [] := by simpa using hb.symm
    subst this
    cases persist <;> simp
  · simp only [hbe]
    cases persist with
    | false => simp
    | true =>
      simp only [Bool.false_eq_true, if_true, if_false]
      refine List.Perm.append_right errors ?_
      rw [← List.map_flatten]
      exact hb.map respond

theorem ite_answers_eq_flatMap (cfg : Config) (respond : Json → Json) (batch : List Json) :
    (if cfg.persist then answers cfg.plugins respond batch else answersErr cfg.plugins batch)
      = batch.flatMap fun q =>
          if cfg.persist then answer cfg.plugins respond q else answerErr cfg.plugins q := by
  cases cfg.persist <;> rfl

/-- `run`, every configuration: the whole-batch `Err` of parallelism 0 with a query to run, or else — never a
panic, never a divergence — the per-query answers as a multiset (under the discard policy: the error responses
of the input stage) -/
theorem runO_cases {α : Type} (W : WOps α) (cfg : Config) (respond : Json → Json) (batch : List Json) :
    (cfg.parallelism = 0 ∧ processed cfg.plugins batch ≠ [] ∧
      runO W cfg respond batch = .ok (.error .minBinEmpty)) ∨
    ((1 ≤ cfg.parallelism ∨ processed cfg.plugins batch = []) ∧
      ∃ out, runO W cfg respond batch = .ok (.ok out) ∧
        out.Perm (if cfg.persist then answers cfg.plugins respond batch
                  else answersErr cfg.plugins batch)) := by
  rw [runO_eq]
  rcases balanceO_cases W cfg.parallelism (processed cfg.plugins batch) with
    ⟨h0, hq, hb⟩ | ⟨hp, bins, hb, hperm, _⟩
  · exact Or.inl ⟨h0, hq, by rw [hb]⟩
  · refine Or.inr ⟨hp, _, by rw [hb],
      (assemble_perm cfg.persist respond bins _ _ hperm).trans ?_⟩
    -- the processed queries' responses and the error responses, regrouped query by query
    cases cfg.persist with
    | true => exact answers_perm cfg.plugins respond batch
    | false => exact (answersErr_eq cfg.plugins batch).symm ▸ List.Perm.refl _

/-- the only whole-batch `Err`: parallelism 0 with at least one processed query -/
theorem runO_error_iff {α : Type} (W : WOps α) (cfg : Config) (respond : Json → Json)
    (batch : List Json) (e : AppErr) :
    runO W cfg respond batch = .ok (.error e) ↔
      (cfg.parallelism = 0 ∧ processed cfg.plugins batch ≠ []) := by
  rcases runO_cases W cfg respond batch with ⟨h0, hq, h⟩ | ⟨hp, _, h, _⟩
  · cases e
    exact ⟨fun _ => ⟨h0, hq⟩, fun _ => h⟩
  · rw [h]
    refine ⟨(nomatch ·), fun ⟨h0, hq⟩ => ?_⟩
    rcases hp with hp | hp
    · omega
    · exact absurd hp hq

/-! ### the code against the item-by-item semantics -/

theorem itemwise_nil (ops : List (Json → Except PErr Json)) : itemwise ops [] = [] := by
  cases ops <;> rfl

theorem itemwise_append (ops : List (Json → Except PErr Json)) (a b : List Json) :
    itemwise ops (a ++ b) = itemwise ops a ++ itemwise ops b := by
  cases ops <;> simp [itemwise]

theorem flatten1_eq_flatMap : ∀ rs : List Json, flatten1 rs = rs.flatMap expand1 :=
  GridSearch.flatten1_eq_flatMap_of fun v => by cases v <;> rfl

/-- one successful `json_array_op` is one item-by-item step -/
theorem itemwise_step (op : Json → Except PErr Json) (ops : List (Json → Except PErr Json)) :
    ∀ (items rs : List Json), mapOp op items = .ok rs →
      itemwise (op :: ops) items = itemwise ops (rs.flatMap expand1) := by
  intro items
  induction items with
  | nil => intro rs h; cases h; rw [List.flatMap_nil, itemwise_nil, itemwise_nil]
  | cons q r ih =>
    intro rs h
    obtain ⟨q', r', hq, hr, rfl⟩ := GridSearch.mapOp_cons_ok h
    have ih := ih r' hr
    simp only [itemwise, List.flatMap_cons, hq] at ih ⊢
    rw [ih, itemwise_append]

/-- when no plugin fails and the final state is an array of objects, the code computes the item-by-item
expansion -/
theorem applyOps_itemwise (ops : List (Json → Except PErr Json)) : ∀ (items final : List Json),
    applyOps ops (.arr items) = .ok (.arr final) → final.all Json.isObject = true →
    itemwise ops items = final.map .ok := by
  induction ops with
  | nil =>
    intro items final h hall
    cases h
    exact List.map_congr_left fun q hq => by rw [List.all_eq_true.mp hall q hq]; rfl
  | cons op ops ih =>
    intro items final h hall
    obtain ⟨rs, hm, h⟩ := GridSearch.applyOps_cons_arr_ok h
    rw [flatten1_eq_flatMap] at h
    rw [itemwise_step op ops items rs hm]
    exact ih _ final h hall

/-! ### the input stage on one query: `prepT`, `answer` -/

theorem isNoRequest_noRequest : GridSearch.isNoRequest noRequest = true :=
  GridSearch.isNoRequest_noRequest

/-- `with_request` on a packaged response: only a placeholder request is replaced -/
theorem fixRequest_response (q r k : Json) :
    fixRequest q (.obj [("request", r), ("error", k)])
      = .obj [("request", if GridSearch.isNoRequest r then q else r), ("error", k)] := by
  simp only [fixRequest]
  split <;> rfl

@[simp] theorem fixRequest_self (q k : Json) :
    fixRequest q (.obj [("request", q), ("error", k)]) = .obj [("request", q), ("error", k)] := by
  rw [fixRequest_response]; split <;> rfl

theorem prepT_non_object (plugins : List Plugin) (q : Json) (h : q.isObject = false) :
    prepT plugins q = .error (.obj [("request", q), ("error", .str "UnexpectedQueryStructure")]) := by
  rw [prepT, GridSearch.applyInputPlugins_of_not_object _ h]
  exact congrArg _ (fixRequest_self q _)

/-- the plugin stage gets through on an object query: its final state holds the expanded queries, or —
should it hold anything but objects — the query is answered with an invariant error that names it -/
theorem prepT_of_applyOps_ok {plugins : List Plugin} {q : Json} {final : List Json} (ho : q.isObject = true)
    (h : applyOps (plugins.map processT) (.arr [q]) = .ok (.arr final)) :
    prepT plugins q = if final.all Json.isObject then .ok final
      else .error (.obj [("request", q), ("error", .str invariantKind)]) := by
  rw [prepT, GridSearch.applyInputPlugins_of_ok ho h]
  cases final.all Json.isObject with
  | true => rfl
  | false => simp only [Bool.false_eq_true, if_false, errorResponse, fixRequest_self]

/-- the plugin stage fails on an object query: the packaged error, its placeholder request replaced -/
theorem prepT_of_applyOps_error {plugins : List Plugin} {q : Json} {pe : PipeErr PErr}
    (ho : q.isObject = true) (h : applyOps (plugins.map processT) (.arr [q]) = .error pe) :
    prepT plugins q = .error (fixRequest q (errorResponse (GridSearch.withRequest q pe))) := by
  rw [prepT, GridSearch.applyInputPlugins_of_error ho h]

/-- every way the input stage answers one query: a query that is not an object is echoed; the plugin stage
gets through and leaves objects only — the expanded queries —, or something else — an invariant error that names
the query; or the plugin stage fails — the packaged error, its placeholder request replaced -/
theorem prepT_cases (plugins : List Plugin) (q : Json) :
    (q.isObject = false ∧
      prepT plugins q = .error (.obj [("request", q), ("error", .str "UnexpectedQueryStructure")])) ∨
    (q.isObject = true ∧ ∃ final, applyOps (plugins.map processT) (.arr [q]) = .ok (.arr final) ∧
      final.all Json.isObject = true ∧ prepT plugins q = .ok final) ∨
    (q.isObject = true ∧ ∃ final, applyOps (plugins.map processT) (.arr [q]) = .ok (.arr final) ∧
      final.all Json.isObject = false ∧
      prepT plugins q = .error (.obj [("request", q), ("error", .str invariantKind)])) ∨
    (q.isObject = true ∧ ∃ pe, applyOps (plugins.map processT) (.arr [q]) = .error pe ∧
      prepT plugins q = .error (fixRequest q (errorResponse (GridSearch.withRequest q pe)))) := by
  cases ho : q.isObject with
  | false => exact Or.inl ⟨rfl, prepT_non_object plugins q ho⟩
  | true =>
    refine Or.inr ?_
    cases ha : applyOps (plugins.map processT) (.arr [q]) with
    | error pe => exact Or.inr (Or.inr ⟨rfl, pe, rfl, prepT_of_applyOps_error ho ha⟩)
    | ok s =>
      obtain ⟨final, rfl⟩ := GridSearch.applyOps_ok_arr _ _ s ha
      have h := prepT_of_applyOps_ok ho ha
      cases hall : final.all Json.isObject with
      | true => rw [hall] at h; exact Or.inl ⟨rfl, final, rfl, hall, h⟩
      | false => rw [hall] at h; exact Or.inr (Or.inl ⟨rfl, final, rfl, hall, h⟩)

/-- a query passes the input stage exactly when it is an object, the plugin stage gets through on it and
leaves objects only: these are its expanded queries -/
theorem prepT_ok_iff {plugins : List Plugin} {q : Json} {qs : List Json} :
    prepT plugins q = .ok qs ↔ q.isObject = true ∧
      applyOps (plugins.map processT) (.arr [q]) = .ok (.arr qs) ∧ qs.all Json.isObject = true := by
  constructor
  · intro h
    rcases prepT_cases plugins q with ⟨_, h'⟩ | ⟨ho, final, ha, hall, h'⟩ | ⟨_, _, _, _, h'⟩ | ⟨_, _, _, h'⟩
    · rw [h'] at h; cases h
    · rw [h'] at h; cases h; exact ⟨ho, ha, hall⟩
    · rw [h'] at h; cases h
    · rw [h'] at h; cases h
  · rintro ⟨ho, ha, hall⟩
    rw [prepT_of_applyOps_ok ho ha, hall]
    rfl

/-- the request shown when a plugin fails with `pe` on the query `x` of the state made from `q`: `with_request`
puts `q` for a request that is literally the placeholder, first on `x`, then (`fixRequest`) on what the plugin
left behind — so it is `x` as the plugin left it, or `q` -/
theorem fixRequest_plugin_error (q x : Json) (pe : PErr) :
    ∃ req, fixRequest q (errorResponse (GridSearch.withRequest q (.plugin x pe)))
        = .obj [("request", req), ("error", .str pe.kind)] ∧ (req = pe.left.getD x ∨ req = q) := by
  simp only [GridSearch.withRequest]
  split
  · rw [errorResponse, fixRequest_response]
    refine ⟨_, rfl, ?_⟩
    cases pe.left with
    | none => dsimp only [Option.getD_none]; split <;> simp
    | some l => dsimp only [Option.getD_some]; split <;> simp
  · rw [errorResponse, fixRequest_response]
    refine ⟨_, rfl, ?_⟩
    split <;> simp

theorem answer_of_ok {plugins : List Plugin} {q : Json} {qs : List Json} (respond : Json → Json)
    (h : prepT plugins q = .ok qs) : answer plugins respond q = qs.map respond := by
  rw [answer, h]

theorem answer_of_error {plugins : List Plugin} {q e : Json} (respond : Json → Json)
    (h : prepT plugins q = .error e) : answer plugins respond q = [e] := by
  rw [answer, h]

theorem prepT_ok_itemwise (plugins : List Plugin) (q : Json) (qs : List Json)
    (h : prepT plugins q = .ok qs) : itemwise (plugins.map processT) [q] = qs.map .ok :=
  applyOps_itemwise _ _ _ (prepT_ok_iff.mp h).2.1 (prepT_ok_iff.mp h).2.2

/-! ### what the plugins return, and how they fail -/

/-! The errors of `injectGuard`, `customWeight` and `addWeight` are raised before the query is touched:
they carry no modified query. -/

-- (every error literal of `injectGuard` and `customWeight` is `{ kind := … }`, whose `left` is the default `none`;
-- the `split`s below only walk to the literals)
theorem injectGuard_error_left {key : String} {overwrite : Bool} {q : Json} {e : PErr}
    (h : injectGuard key overwrite q = some e) : e.left = none := by
  unfold injectGuard at h
  split at h
  · split at h
    · split at h
      · cases h; rfl
      · cases h
    · cases h; rfl
  · split at h
    · cases h; rfl
    · cases h

theorem customWeight_error_left {p : Plugin} {q : Json} {e : PErr}
    (h : customWeight p q = .error e) : e.left = none := by
  unfold customWeight at h
  split at h
  · split at h
    · cases h
    · cases h; rfl
  · split at h
    · split at h
      · cases h
      · cases h
      · cases h; rfl
    · cases h; rfl
  · cases h; rfl

theorem addWeight_error_left {fmt : Nat → String} {q : Json} {b : Nat} {e : PErr}
    (h : addWeight fmt q b = .error e) : e.left = none := by
  cases q with
  | obj kvs => cases h
  | _ => cases h; rfl

theorem addWeight_isObject {fmt : Nat → String} {q r : Json} {b : Nat}
    (h : addWeight fmt q b = .ok r) : r.isObject = true := by
  cases q with
  | obj kvs => cases h; rfl
  | _ => cases h

/-- the inject plugin returns an object … -/
theorem processT_inject_isObject {key : String} {value : Json} {overwrite : Bool} {q r : Json}
    (h : processT (.inject key value overwrite) q = .ok r) : r.isObject = true := by
  simp only [processT] at h
  cases hg : injectGuard key overwrite q with
  | some e => rw [hg] at h; cases h
  | none =>
    obtain ⟨kvs, rfl⟩ := injectGuard_none_isObject hg
    rw [hg] at h
    cases h
    rfl

/-- … and fails before it touches the query -/
theorem processT_inject_error_left {key : String} {value : Json} {overwrite : Bool} {q : Json} {e : PErr}
    (h : processT (.inject key value overwrite) q = .error e) : e.left = none := by
  simp only [processT] at h
  cases hg : injectGuard key overwrite q with
  | some e' => rw [hg] at h; cases h; exact injectGuard_error_left hg
  | none =>
    obtain ⟨kvs, rfl⟩ := injectGuard_none_isObject hg
    rw [hg] at h
    cases h

/-- the same two facts for the custom load balancers: `processT` of `lbNumeric` / `lbCategorical` is this
`match` on `customWeight` -/
theorem addWeight_customWeight_isObject {p : Plugin} {fmt : Nat → String} {q r : Json}
    (h : (match customWeight p q with | .ok b => addWeight fmt q b | .error e => .error e) = .ok r) :
    r.isObject = true := by
  cases hc : customWeight p q with
  | error e => rw [hc] at h; cases h
  | ok b => rw [hc] at h; exact addWeight_isObject h

theorem addWeight_customWeight_error_left {p : Plugin} {fmt : Nat → String} {q : Json} {e : PErr}
    (h : (match customWeight p q with | .ok b => addWeight fmt q b | .error e => .error e) = .error e) :
    e.left = none := by
  cases hc : customWeight p q with
  | error e' => rw [hc] at h; cases h; exact customWeight_error_left hc
  | ok b => rw [hc] at h; exact addWeight_error_left h

theorem mem_of_lookupStr {β : Type} {t : List (String × β)} {k : String} {v : β}
    (h : lookupStr t k = some v) : (k, v) ∈ t := by
  unfold lookupStr at h
  cases hf : t.find? (fun p => p.1 == k) with
  | none => rw [hf] at h; cases h
  | some p =>
    rw [hf] at h; cases h
    have hk : p.1 = k := eq_of_beq (List.find?_some (p := fun p : String × β => p.1 == k) hf)
    exact hk ▸ List.mem_of_find?_eq_some hf

theorem splitChild_isObject (base : List (String × Json)) (v : Json) :
    (splitChild base v).isObject = true := by
  cases v <;> rfl

/-! ### where the plugin stage fails -/

/-- the only way the plugin stage fails on an array state: some plugin fails on some query of the state the
earlier plugins produced — and the error names exactly that query -/
theorem applyOps_error (ops : List (Json → Except PErr Json)) : ∀ (items : List Json)
    (pe : PipeErr PErr), applyOps ops (.arr items) = .error pe →
    ∃ pre op post xs x e, ops = pre ++ op :: post ∧ applyOps pre (.arr items) = .ok (.arr xs) ∧
      x ∈ xs ∧ op x = .error e ∧ pe = .plugin x e := by
  induction ops with
  | nil => intro items pe h; cases h
  | cons op ops ih =>
    intro items pe h
    cases hm : mapOp op items with
    | error e =>
      rw [GridSearch.applyOps_cons_of_mapOp_error hm] at h
      cases h
      obtain ⟨x, e', hx, h1, h2⟩ := GridSearch.mapOp_error hm
      exact ⟨[], op, ops, items, x, e', rfl, rfl, hx, h1, h2⟩
    | ok rs =>
      rw [GridSearch.applyOps_cons_of_mapOp_ok hm] at h
      obtain ⟨pre, op', post, xs, x, e, h1, h2, h3, h4, h5⟩ := ih _ pe h
      exact ⟨op :: pre, op', post, xs, x, e, by rw [h1, List.cons_append],
        (GridSearch.applyOps_cons_of_mapOp_ok hm).trans h2, h3, h4, h5⟩

/-! ### plugins that keep the query state an array of objects -/

/-- on an object, the plugin answers with an object or a non-empty array of objects (or fails) -/
def ObjOp (op : Json → Except PErr Json) : Prop :=
  ∀ q r, q.isObject = true → op q = .ok r →
    r.isObject = true ∨ ∃ xs, r = .arr xs ∧ xs ≠ [] ∧ xs.all Json.isObject = true

theorem expand1_objects {r : Json}
    (h : r.isObject = true ∨ ∃ xs, r = .arr xs ∧ xs ≠ [] ∧ xs.all Json.isObject = true) :
    expand1 r ≠ [] ∧ (expand1 r).all Json.isObject = true := by
  rcases h with h | ⟨xs, rfl, h1, h2⟩
  · cases r <;> simp_all [expand1, Json.isObject]
  · exact ⟨h1, h2⟩

theorem mapOp_objects {op : Json → Except PErr Json} (hop : ObjOp op) :
    ∀ (items rs : List Json), items.all Json.isObject = true → mapOp op items = .ok rs →
      (rs.flatMap expand1).all Json.isObject = true ∧ (items ≠ [] → rs.flatMap expand1 ≠ [])
  | [], rs, _, h => by
    simp only [mapOp, Except.ok.injEq] at h
    subst h; simp
  | q :: r, rs, hall, h => by
    simp only [List.all_cons, Bool.and_eq_true] at hall
    obtain ⟨q', r', hq, hr, rfl⟩ := GridSearch.mapOp_cons_ok h
    obtain ⟨h1, h2⟩ := expand1_objects (hop q q' hall.1 hq)
    obtain ⟨ih1, _⟩ := mapOp_objects hop r r' hall.2 hr
    refine ⟨by simp [List.flatMap_cons, List.all_append, h2, ih1], fun _ => ?_⟩
    simp only [List.flatMap_cons]
    intro hnil
    exact h1 (List.append_eq_nil_iff.mp hnil).1

/-- under object-preserving plugins the state stays a non-empty array of objects -/
theorem applyOps_objects (ops : List (Json → Except PErr Json)) (hops : ∀ op ∈ ops, ObjOp op) :
    ∀ (items : List Json) (s : Json), items.all Json.isObject = true → items ≠ [] →
      applyOps ops (.arr items) = .ok s →
      ∃ final, s = .arr final ∧ final.all Json.isObject = true ∧ final ≠ [] := by
  induction ops with
  | nil => intro items s hall hne h; cases h; exact ⟨items, rfl, hall, hne⟩
  | cons op ops ih =>
    intro items s hall hne h
    obtain ⟨rs, hm, h⟩ := GridSearch.applyOps_cons_arr_ok h
    rw [flatten1_eq_flatMap] at h
    obtain ⟨h1, h2⟩ := mapOp_objects (hops op (List.mem_cons_self ..)) items rs hall hm
    exact ih (fun o ho => hops o (List.mem_cons_of_mem _ ho)) _ s h1 (h2 hne) h

/-- an object query under object-preserving plugins expands into at least one query, all objects -/
theorem prepT_ok_objects {plugins : List Plugin} (hw : ∀ p ∈ plugins, ObjOp (processT p)) {q : Json}
    {qs : List Json} (h : prepT plugins q = .ok qs) : qs ≠ [] ∧ qs.all Json.isObject = true := by
  obtain ⟨ho, ha, hall⟩ := prepT_ok_iff.mp h
  obtain ⟨final, hf, _, hne⟩ := applyOps_objects (plugins.map processT)
    (fun op hop => by obtain ⟨p, hp, rfl⟩ := List.mem_map.mp hop; exact hw p hp)
    [q] _ (by simp [ho]) (by simp) ha
  cases hf
  exact ⟨hne, hall⟩

/-- every `wellBehaved` plugin — all but recorded tables and the invariant breaker — keeps objects objects
(grid search: an object, or its non-empty expansion) -/
theorem processT_objOp (p : Plugin) (hp : p.wellBehaved = true) : ObjOp (processT p) := by
  intro q r ho h
  cases p with
  | gridSearch =>
    simp only [processT] at h
    cases hg : GridSearch.process q with
    | error e => simp [hg] at h
    | ok v =>
      simp only [hg, Except.ok.injEq] at h
      subst h
      rcases GridSearch.process_cases q with ⟨_, h'⟩ | ⟨_, _, _, h'⟩ | ⟨_, _, _, _, h'⟩ |
        ⟨_, _, _, _, _, _, h'⟩ | ⟨kvs, sec, hgq, h'⟩
      · rw [h'] at hg
        cases hg
        exact Or.inl ho
      · rw [h'] at hg; cases hg
      · rw [h'] at hg; cases hg
      · rw [h'] at hg; cases hg
      · rw [h'] at hg
        cases hg
        exact Or.inr ⟨_, rfl, GridSearch.expand_nonempty_objects hgq.notDegenerate _⟩
  | inject key value overwrite => exact Or.inl (processT_inject_isObject h)
  | lbNumeric col fmt => exact Or.inl (addWeight_customWeight_isObject h)
  | lbCategorical col m d fmt => exact Or.inl (addWeight_customWeight_isObject h)
  | table t => simp [Plugin.wellBehaved] at hp
  | userBreaker key => simp [Plugin.wellBehaved] at hp
  | userFailOn m =>
    simp only [processT, userT] at h
    cases hm : q.get? m with
    | some v => simp [hm] at h
    | none => simp only [hm, Except.ok.injEq] at h; subst h; exact Or.inl ho
  | userSplit key =>
    simp only [processT, userT] at h
    cases q with
    | obj kvs =>
      simp only at h
      split at h
      · simp only [Except.ok.injEq] at h
        subst h
        right
        refine ⟨_, rfl, by simp, ?_⟩
        simp [List.all_map, Function.comp_def, splitChild_isObject]
      · simp only [Except.ok.injEq] at h; subst h; exact Or.inl rfl
    | _ => simp [Json.isObject] at ho

/-- a recorded table plugin keeps objects when every recorded result is an object -/
theorem processT_table_objOp (t : List (String × TableEntry))
    (h : ∀ k v, (k, TableEntry.ok v) ∈ t → v.isObject = true) : ObjOp (processT (.table t)) := by
  intro q r _ hr
  simp only [processT] at hr
  cases hl : lookupStr t q.toCompact with
  | none => simp [hl] at hr
  | some e =>
    cases e with
    | err k l => simp [hl] at hr
    | ok v =>
      simp only [hl, Except.ok.injEq] at hr
      subst hr
      exact Or.inl (h _ v (mem_of_lookupStr hl))

/-- the model's own plugins never leave a modified query behind when they fail (only a recorded table does) -/
theorem processT_error_left (p : Plugin) (q : Json) (e : PErr) (h : processT p q = .error e)
    (hp : ∀ t, p ≠ .table t) : e.left = none := by
  cases p with
  | gridSearch =>
    simp only [processT] at h
    cases hg : GridSearch.process q with
    | ok v => rw [hg] at h; cases h
    | error e' => rw [hg] at h; cases h; rfl
  | inject key value overwrite => exact processT_inject_error_left h
  | lbNumeric col fmt => exact addWeight_customWeight_error_left h
  | lbCategorical col m d fmt => exact addWeight_customWeight_error_left h
  | table t => exact absurd rfl (hp t)
  | userSplit key =>
    simp only [processT, userT] at h
    cases q with
    | obj kvs =>
      simp only at h
      split at h <;> cases h
    | _ => cases h
  | userFailOn m =>
    simp only [processT, userT] at h
    cases hm : q.get? m with
    | some v => rw [hm] at h; cases h; rfl
    | none => rw [hm] at h; cases h
  | userBreaker key =>
    simp only [processT, userT] at h
    split at h <;> cases h

end Batch
end Compass
