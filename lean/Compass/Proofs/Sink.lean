/-
Lemmas about the atomic model of the response sink (`Model/Sink.lean`), in which a `write_response` is one step.
Everything about a batch rests on one invariant, `Progress`: whatever the schedule, the file is what it was followed
by one record per response of a trace, and the trace together with the responses still queued is a permutation of the
batch (`exec_progress`; `Ready` is what it asks of a run).  `rowOf`, `postOf`, `recordOf`, `Writable` name what
`format_response` does to one response: the search for a free error key ends, and the formatter only ever adds an
entry.  `handBack` is the invariant behind what each worker gets back.  `foldl_stutter` turns a simulation of steps in
which the fine system may stand still into one of runs, for the refinement proofs of `Proofs/SinkFine.lean` and
`Proofs/SinkCombined.lean`.  `numsOk`: the condition on number lexemes under which a JSON record is one line and
reads back.  Also here: the TOML mapping and `build` (`build_ok_spec`), the device that refuses writes
(`failing_device_run`), the main thread's sequential writes, schedules seen from the queues alone, and the numbers a
CSV mapping can reach.  Core Lean only.
-/
import Compass.Model.Sink
import Compass.Proofs.AssocList

namespace Compass
namespace Sink

/-! ### text, lists and association lists -/

/-- a string literal is by definition `String.ofList` of its characters, whereas `"…".toList` is computed through the
UTF-8 byte encoding: a witness that compares a computed text with a long `txt "…"` rewrites with this lemma first,
so that character lists are compared -/
theorem txt_ofList (l : List Char) : txt (String.ofList l) = l := String.toList_ofList

theorem joinWith_cons_cons (sep x y : List Char) (r : List (List Char)) :
    joinWith sep (x :: y :: r) = x ++ sep ++ joinWith sep (y :: r) := rfl

theorem flatten_map_eq_nil {α β : Type} {f : α → List β} {l : List α} (h : ∀ x ∈ l, f x = []) :
    (l.map f).flatten = [] :=
  List.flatten_eq_nil_iff.2 fun t ht => by
    obtain ⟨x, hx, rfl⟩ := List.mem_map.1 ht
    exact h x hx

theorem lt_of_getElem? {α : Type} {l : List α} {i : Nat} {a : α} (h : l[i]? = some a) : i < l.length :=
  (List.getElem?_eq_some_iff.1 h).1

theorem map_insertBy {α β : Type} (f : α → β) (lt : α → α → Bool) (lt' : β → β → Bool)
    (h : ∀ a b, lt a b = lt' (f a) (f b)) (x : α) (l : List α) :
    (insertBy lt x l).map f = insertBy lt' (f x) (l.map f) := by
  induction l with
  | nil => rfl
  | cons y ys ih =>
    simp only [insertBy, List.map_cons, h x y]
    split
    · simp
    · simp [ih]

theorem map_sortBy {α β : Type} (f : α → β) (lt : α → α → Bool) (lt' : β → β → Bool)
    (h : ∀ a b, lt a b = lt' (f a) (f b)) (l : List α) :
    (sortBy lt l).map f = sortBy lt' (l.map f) := by
  induction l with
  | nil => rfl
  | cons y ys ih => simp only [sortBy, List.map_cons, map_insertBy f lt lt' h, ih]

theorem insertBy_perm {α : Type} (lt : α → α → Bool) (x : α) (l : List α) :
    (insertBy lt x l).Perm (x :: l) := by
  induction l with
  | nil => exact List.Perm.refl _
  | cons y ys ih =>
    simp only [insertBy]
    split
    · exact List.Perm.refl _
    · exact (List.Perm.cons y ih).trans (List.Perm.swap x y ys)

theorem sortBy_perm {α : Type} (lt : α → α → Bool) (l : List α) : (sortBy lt l).Perm l := by
  induction l with
  | nil => exact List.Perm.refl _
  | cons y ys ih => exact (insertBy_perm lt y _).trans (List.Perm.cons y ih)

theorem map_set_same {α β : Type} (f : α → β) {l : List α} {i : Nat} {a a' : α} (h : l[i]? = some a)
    (hf : f a' = f a) : (l.set i a').map f = l.map f := by
  obtain ⟨hlt, rfl⟩ := List.getElem?_eq_some_iff.1 h
  rw [List.map_set, hf, ← List.getElem_map f (h := by simpa using hlt), List.set_getElem_self]

theorem map_modify_eq_set {α β : Type} (f : α → β) (g : β → β) {l : List α} {i : Nat} {a a' : α}
    (h : l[i]? = some a) (hf : f a' = g (f a)) : (l.map f).modify i g = (l.set i a').map f := by
  apply List.ext_getElem?
  intro j
  by_cases hj : i = j
  · subst hj
    rw [List.getElem?_modify_eq, List.getElem?_map, h, List.getElem?_map,
      List.getElem?_set_self (lt_of_getElem? h), Option.map_some, Option.map_some, hf]
    rfl
  · rw [List.getElem?_modify_ne _ _ hj, List.map_set, List.getElem?_set_ne hj]

theorem get?_indexAssign_new (r r' : Json) (k : String) (v : Json) (hnew : r.get? k = none)
    (h : Json.indexAssign r k v = some r') (k' : String) (v' : Json) (hk : r.get? k' = some v') :
    r'.get? k' = some v' := by
  cases r with
  | obj kvs =>
    simp only [Json.indexAssign, Option.some.injEq] at h
    subst h
    simp only [Json.get?] at *
    exact (Json.lookup_insertKv_other kvs k v k' fun e => by rw [e, hnew] at hk; cases hk).trans hk
  | _ => simp [Json.get?] at hk

/-! ### one response: `format_response` and `write_response` -/

/-- the row text `format_response` produces (empty when it does not return) -/
def rowOf (N : NumOps) (f : Format) (r : Json) : List Char :=
  match formatResponse N f r with
  | .ok (row, _) => row
  | _ => []

/-- the response `format_response` leaves behind -/
def postOf (N : NumOps) (f : Format) (r : Json) : Json :=
  match formatResponse N f r with
  | .ok (_, r') => r'
  | _ => r

/-- the chunk `write_response` appends for `r` -/
def recordOf (N : NumOps) (f : Format) (r : Json) : List Char := record (rowOf N f r)

/-- `format_response` returns on `r` (it neither panics nor loops) -/
def Writable (N : NumOps) (f : Format) (r : Json) : Prop := ∃ p, formatResponse N f r = .ok p

theorem formatResponse_of_writable {N : NumOps} {f : Format} {r : Json} (h : Writable N f r) :
    formatResponse N f r = .ok (rowOf N f r, postOf N f r) := by
  obtain ⟨p, hp⟩ := h
  unfold rowOf postOf
  rw [hp]

theorem rowOf_postOf_of_ok {N : NumOps} {f : Format} {r : Json} {row : List Char} {post : Json}
    (h : formatResponse N f r = .ok (row, post)) : rowOf N f r = row ∧ postOf N f r = post := by
  unfold rowOf postOf
  rw [h]
  exact ⟨rfl, rfl⟩

theorem rowOf_json (N : NumOps) (r : Json) : rowOf N (.json true) r = compact r := rfl

theorem postOf_json (N : NumOps) (nd : Bool) (r : Json) : postOf N (.json nd) r = r := rfl

theorem writable_json (N : NumOps) (nd : Bool) (r : Json) : Writable N (.json nd) r :=
  ⟨_, rfl⟩

theorem exists_indexAssign_of_obj_or_null (r : Json) (k : String) (v : Json)
    (h : r.isObject = true ∨ r.isNull = true) : ∃ r', Json.indexAssign r k v = some r' := by
  cases r <;> simp_all [Json.indexAssign, Json.isObject, Json.isNull]

/-! ### the search for a free error key ends, and finds a key that is not there -/

/-- the first two names, `error` and `csv_error`, have 5 and 9 characters -/
theorem errorKeyName_length_of_le_one : ∀ a, a ≤ 1 → (errorKeyName a).toList.length = 5 + 4 * a := by
  decide +kernel

theorem errorKeyName_toList (a : Nat) (h : 2 ≤ a) :
    (errorKeyName a).toList = "csv_error_".toList ++ Nat.toDigits 10 a := by
  rw [errorKeyName, if_neg (by omega), if_neg (by omega), String.toList_append, Nat.toString_eq_repr,
    Nat.toList_repr]

/-- the first two names are the short ones: all others begin with the ten characters of `csv_error_` -/
theorem errorKeyName_length_le_iff (a : Nat) : (errorKeyName a).toList.length ≤ 9 ↔ a ≤ 1 := by
  by_cases h : a ≤ 1
  · rw [errorKeyName_length_of_le_one a h]
    omega
  · have h10 : "csv_error_".toList.length = 10 := by decide +kernel
    rw [errorKeyName_toList a (by omega), List.length_append, h10]
    omega

/-- the key names are pairwise different: the first two differ in length, the others in their digits -/
theorem errorKeyName_inj (a b : Nat) (h : errorKeyName a = errorKeyName b) : a = b := by
  have hiff : a ≤ 1 ↔ b ≤ 1 := by rw [← errorKeyName_length_le_iff, ← errorKeyName_length_le_iff, h]
  by_cases ha : a ≤ 1
  · have hl := congrArg (·.toList.length) h
    simp only [errorKeyName_length_of_le_one a ha, errorKeyName_length_of_le_one b (hiff.1 ha)] at hl
    omega
  · have hd := congrArg String.toList h
    rw [errorKeyName_toList a (by omega), errorKeyName_toList b (by omega)] at hd
    have := congrArg (Nat.ofDigitChars 10 · 0) (List.append_cancel_left hd)
    simpa only [Nat.ofDigitChars_ten_toDigits] using this

theorem freshErrorKey_new (r : Json) (fuel a : Nat) (k : String) (h : freshErrorKey r fuel a = some k) :
    r.get? k = none := by
  induction fuel generalizing a with
  | zero => simp [freshErrorKey] at h
  | succ f ih =>
    simp only [freshErrorKey] at h
    split at h
    · rename_i hn
      simp only [Option.some.injEq] at h
      rw [← h]
      simpa using hn
    · exact ih (a + 1) h

theorem freshErrorKey_none (r : Json) (fuel a : Nat) (h : freshErrorKey r fuel a = none) :
    ∀ i, a ≤ i → i < a + fuel → r.get? (errorKeyName i) ≠ none := by
  induction fuel generalizing a with
  | zero => intro i h1 h2; omega
  | succ f ih =>
    simp only [freshErrorKey] at h
    split at h
    · simp at h
    · rename_i hn
      intro i h1 h2
      by_cases hi : i = a
      · subst hi; simpa using hn
      · exact ih (a + 1) h i (by omega) (by omega)

/-- the `while` loop ends: an object with `n` entries cannot hold all of the first `n + 2` key names (they
are pairwise different) -/
theorem freshErrorKey_terminates (r : Json) : ∃ k, csvErrorKey r = some k := by
  unfold csvErrorKey
  cases h : freshErrorKey r (entryCount r + 2) 0 with
  | some k => exact ⟨k, rfl⟩
  | none =>
    exfalso
    have hall := freshErrorKey_none r _ 0 h
    cases r with
    | obj kvs =>
      simp only [entryCount] at hall
      have hnd : ((List.range (kvs.length + 2)).map errorKeyName).Nodup := by
        refine List.Pairwise.map errorKeyName ?_ List.nodup_range
        intro a b hab e
        exact hab (errorKeyName_inj a b e)
      have hsub : (List.range (kvs.length + 2)).map errorKeyName ⊆ kvs.map (·.1) := by
        intro k hk
        obtain ⟨i, hi, rfl⟩ := List.mem_map.1 hk
        have := hall i (Nat.zero_le _) (by simpa using List.mem_range.1 hi)
        exact Classical.not_not.mp (mt (Json.lookup_eq_none_iff kvs _).mpr (by simpa [Json.get?] using this))
      have := hnd.length_le_of_subset hsub
      simp at this
      omega
    | _ => exact hall 0 (Nat.le_refl _) (by simp [entryCount]) rfl

theorem csvErrorKey_new (r : Json) (k : String) (h : csvErrorKey r = some k) : r.get? k = none :=
  freshErrorKey_new r _ 0 k h

/-! ### what the formatter and one write do to a response -/

theorem writable_of_obj_or_null (N : NumOps) (f : Format) (r : Json)
    (h : r.isObject = true ∨ r.isNull = true) : Writable N f r := by
  cases f with
  | json nd => exact writable_json N nd r
  | csv m s =>
    unfold Writable formatResponse
    simp only
    split
    · exact ⟨_, rfl⟩
    · obtain ⟨k, hk⟩ := freshErrorKey_terminates r
      obtain ⟨r', hr'⟩ := exists_indexAssign_of_obj_or_null r k
        (csvErrorValue (failedKeys N (rowColumns m s) r)) h
      rw [hk]
      simp only [hr']
      exact ⟨_, rfl⟩

theorem formatResponse_csv_cases (N : NumOps) (m : List (String × CsvMapping)) (s : Bool) (r : Json)
    (row : List Char) (r' : Json) (h : formatResponse N (.csv m s) r = .ok (row, r')) :
    row = csvRow N (rowColumns m s) r ∧
    (r' = r ∨ ∃ k, csvErrorKey r = some k ∧ failedKeys N (rowColumns m s) r ≠ [] ∧
      Json.indexAssign r k (csvErrorValue (failedKeys N (rowColumns m s) r)) = some r') := by
  unfold formatResponse at h
  simp only at h
  split at h
  · simp only [Outcome.ok.injEq, Prod.mk.injEq] at h
    exact ⟨h.1.symm, Or.inl h.2.symm⟩
  · rename_i hne
    split at h
    · exact absurd h (by simp)
    · rename_i k hk
      split at h
      · rename_i r'' hr''
        simp only [Outcome.ok.injEq, Prod.mk.injEq] at h
        refine ⟨h.1.symm, Or.inr ⟨k, hk, ?_, by rw [hr'', h.2]⟩⟩
        intro e; rw [e] at hne; exact hne rfl
      · exact absurd h (by simp)

theorem rowOf_csv {N : NumOps} {m : List (String × CsvMapping)} {s : Bool} {r : Json}
    (h : Writable N (.csv m s) r) : rowOf N (.csv m s) r = csvRow N (rowColumns m s) r :=
  (formatResponse_csv_cases N m s r _ _ (formatResponse_of_writable h)).1

theorem csvRow_eq (N : NumOps) (cols : List (String × CsvMapping)) (r : Json) :
    csvRow N cols r = joinWith [','] ((cols.map fun c => cellValue N c.2 r).map csvField) := by
  rw [csvRow, List.map_map]
  congr 1
  apply List.map_congr_left
  intro c _
  simp only [Function.comp, cellText, cellValue]
  cases c.2.apply N r <;> rfl

theorem rowColumns_ne_nil (mapping : List (String × CsvMapping)) (sorted : Bool) (hne : mapping ≠ []) :
    rowColumns mapping sorted ≠ [] := by
  intro h
  have hlen : (rowColumns mapping sorted).length = mapping.length := by
    unfold rowColumns
    cases sorted
    · exact List.length_reverse
    · exact (sortBy_perm _ _).length_eq
  rw [h] at hlen
  exact hne (List.length_eq_zero_iff.1 hlen.symm)

theorem headerText_csv (m : List (String × CsvMapping)) (s : Bool) :
    headerText (.csv m s) = record (joinWith [','] (((headerKeys m s).map String.toList).map csvField)) := by
  simp only [headerText, initialContents, Option.getD_some, List.map_map, record]
  rfl

theorem formatResponse_keeps (N : NumOps) (f : Format) (r : Json) (row : List Char) (r' : Json)
    (h : formatResponse N f r = .ok (row, r')) (k : String) (v : Json) (hk : r.get? k = some v) :
    r'.get? k = some v := by
  cases f with
  | json nd =>
    simp only [formatResponse, Outcome.ok.injEq, Prod.mk.injEq] at h
    rw [← h.2]; exact hk
  | csv m s =>
    rcases (formatResponse_csv_cases N m s r row r' h).2 with rfl | ⟨key, hkey, _, hassign⟩
    · exact hk
    · exact get?_indexAssign_new r r' _ _ (csvErrorKey_new r key hkey) hassign k v hk

theorem postOf_keeps (N : NumOps) (f : Format) (r : Json) (k : String) (v : Json) (hk : r.get? k = some v) :
    (postOf N f r).get? k = some v := by
  unfold postOf
  cases h : formatResponse N f r with
  | ok p => exact formatResponse_keeps N f r p.1 p.2 h k v hk
  | _ => exact hk

/-- `write_response` on a lock that is not poisoned and a response the formatter returns on: the device takes the
record, or refuses it -/
theorem write_of_writable (N : NumOps) (s : FileSink) (r : Json) (hp : s.poisoned = false)
    (hw : Writable N s.format r) :
    s.write N r =
      if s.failing then .ioError s (postOf N s.format r) else
        .ok { s with file := s.file ++ [recordOf N s.format r], iterations := s.iterations + 1,
                     flushes := if (s.iterations + 1) % s.flushEvery = 0 then s.flushes + 1 else s.flushes }
          (postOf N s.format r) := by
  rw [FileSink.write, hp, formatResponse_of_writable hw]
  rfl

theorem write_ok_of_writable (N : NumOps) (s : FileSink) (r : Json) (hp : s.Healthy)
    (hw : Writable N s.format r) :
    ∃ s', s.write N r = .ok s' (postOf N s.format r) ∧
      s'.file = s.file ++ [recordOf N s.format r] ∧ s'.iterations = s.iterations + 1 ∧
      s'.format = s.format ∧ s'.Healthy := by
  rw [write_of_writable N s r hp.1 hw, hp.2]
  exact ⟨_, rfl, rfl, rfl, rfl, hp.1, rfl⟩

theorem write_ok_resp {N : NumOps} {s s' : FileSink} {r r' : Json} (h : s.write N r = .ok s' r') :
    r' = postOf N s.format r := by
  unfold FileSink.write at h
  unfold postOf
  cases hp : s.poisoned with
  | true => simp [hp] at h
  | false =>
    cases hf : formatResponse N s.format r with
    | ok p =>
      cases hfl : s.failing <;> simp [hp, hf, hfl] at h
      exact h.2.symm
    | panic => simp [hp, hf] at h
    | diverges => simp [hp, hf] at h

theorem isObject_postOf (N : NumOps) (f : Format) (r : Json) (h : r.isObject = true) :
    (postOf N f r).isObject = true := by
  have hw := writable_of_obj_or_null N f r (Or.inl h)
  have hf := formatResponse_of_writable hw
  cases f with
  | json nd =>
    rw [postOf_json]
    exact h
  | csv m s =>
    rcases (formatResponse_csv_cases N m s r _ _ hf).2 with e | e
    · rw [e]; exact h
    · obtain ⟨k, _, _, e⟩ := e
      cases r with
      | obj kvs =>
        simp only [Json.indexAssign, Option.some.injEq] at e
        rw [← e]; rfl
      | _ => simp [Json.isObject] at h

/-! ### a mapping from the application's TOML; `build` -/

/-- a fold of `insertColumn` over names that are lower-case already and pairwise different (also from those in `acc`)
appends them -/
theorem foldl_insertColumn_of_nodup : ∀ (rest acc : List (String × CsvMapping)),
    (∀ c ∈ rest, lowerName c.1 = c.1) → ((acc ++ rest).map (·.1)).Nodup →
    rest.foldl (fun acc c => insertColumn acc (lowerName c.1) c.2) acc = acc ++ rest := by
  intro rest
  induction rest with
  | nil => intro acc _ _; simp
  | cons c cs ih =>
    intro acc hl hn
    have hc : lowerName c.1 = c.1 := hl c (List.mem_cons_self ..)
    have hnot : acc.any (fun p => p.1 == c.1) = false := by
      rw [List.any_eq_false]
      intro p hp
      simp only [beq_iff_eq]
      intro e
      rw [List.map_append, List.map_cons] at hn
      have := (List.nodup_append.1 hn).2.2 p.1 (List.mem_map.2 ⟨p, hp, rfl⟩) c.1 (List.mem_cons_self ..)
      exact this e
    have hstep : insertColumn acc (lowerName c.1) c.2 = acc ++ [(c.1, c.2)] := by
      simp only [insertColumn, hc, hnot, Bool.false_eq_true, if_false]
    rw [List.foldl_cons, hstep,
      ih (acc ++ [(c.1, c.2)]) (fun x hx => hl x (List.mem_cons_of_mem _ hx)) (by simpa using hn)]
    simp

/-- a successful `build` yields a healthy sink on the opened contents, and never `flushEvery = 0` -/
theorem build_ok_spec (mode : WriteMode) (f : Format) (rate : Option Int) (existing : Option (List Char))
    (s : FileSink) (h : build mode f rate existing = .ok s) :
    (∃ c, openFile mode f existing = some c ∧ s.file = [c]) ∧ s.format = f ∧ s.Healthy ∧ 0 < s.flushEvery := by
  unfold build at h
  split at h
  · simp at h
  · rename_i c hc
    split at h
    · simp at h
    · rename_i n hn
      simp only [BuildResult.ok.injEq] at h
      subst h
      refine ⟨⟨c, hc, rfl⟩, rfl, ⟨rfl, rfl⟩, ?_⟩
      unfold flushEvery at hn
      split at hn
      · simp only [Option.some.injEq] at hn
        show 0 < n
        omega
      · rename_i r
        split at hn
        · simp at hn
        · rename_i hr
          simp only [Option.some.injEq] at hn
          show 0 < n
          omega

/-! ### one step of a worker -/

theorem flatten_set_perm {α : Type} (qs : List (List α)) (w : Nat) (r : α) (rest : List α)
    (h : qs[w]? = some (r :: rest)) : (r :: (qs.set w rest).flatten).Perm qs.flatten := by
  induction qs generalizing w with
  | nil => simp at h
  | cons q qs ih =>
    cases w with
    | zero =>
      simp only [List.getElem?_cons_zero, Option.some.injEq] at h
      subst h
      simp
    | succ w =>
      simp only [List.getElem?_cons_succ] at h
      simp only [List.set_cons_succ, List.flatten_cons]
      have := ih w h
      exact (List.perm_middle (a := r) (l₁ := q) (l₂ := (qs.set w rest).flatten)).symm.trans
        (List.Perm.append_left q this)

theorem mem_flatten_of_head {α : Type} {qs : List (List α)} {w : Nat} {r : α} {rest : List α}
    (h : qs[w]? = some (r :: rest)) : r ∈ qs.flatten :=
  (flatten_set_perm qs w r rest h).subset (List.mem_cons_self ..)

theorem head_cases {α : Type} (qs : List (List α)) (w : Nat) :
    (qs[w]? = none ∨ qs[w]? = some []) ∨ ∃ r rest, qs[w]? = some (r :: rest) := by
  rcases qs[w]? with _ | _ | ⟨r, rest⟩
  · exact .inl (.inl rfl)
  · exact .inl (.inr rfl)
  · exact .inr ⟨r, rest, rfl⟩

theorem Run.step_idle {N : NumOps} {persist : Bool} {s : Run} {w : Nat}
    (h : s.queues[w]? = none ∨ s.queues[w]? = some []) : s.step N persist w = s := by
  unfold Run.step
  rcases h with h | h <;> rw [h]

theorem Run.step_of_write {N : NumOps} (persist : Bool) {s : Run} {w : Nat} {r r' : Json} {rest : List Json}
    {s' : FileSink} (hq : s.queues[w]? = some (r :: rest)) (hw : s.sink.write N r = .ok s' r') :
    s.step N persist w = { s with
      sink := s', queues := s.queues.set w rest, returned := if persist then pushAt s.returned w r' else s.returned } := by
  simp only [Run.step, hq, hw]

/-- what the batch theorems ask of a run: a healthy sink, queued responses on which the formatter returns, and one
list of handed-back responses per queue -/
structure Ready (N : NumOps) (s : Run) : Prop where
  healthy : s.sink.Healthy
  writable : ∀ r ∈ s.queues.flatten, Writable N s.sink.format r
  width : s.returned.length = s.queues.length

theorem ready_init {N : NumOps} {sink : FileSink} {queues : List (List Json)} (hp : sink.Healthy)
    (hw : ∀ r ∈ queues.flatten, Writable N sink.format r) : Ready N (Run.init sink queues) :=
  ⟨hp, hw, by simp [Run.init]⟩

/-- a step of a run that is `Ready`: nothing, or the write of the head of `w`'s queue -/
theorem Run.step_cases {N : NumOps} (persist : Bool) {s : Run} (hr : Ready N s) (w : Nat) :
    s.step N persist w = s ∨
    ∃ r rest s', s.queues[w]? = some (r :: rest) ∧
      s'.file = s.sink.file ++ [recordOf N s.sink.format r] ∧ s'.iterations = s.sink.iterations + 1 ∧
      s'.format = s.sink.format ∧ s'.Healthy ∧
      s.step N persist w = { s with
        sink := s', queues := s.queues.set w rest,
        returned := if persist then pushAt s.returned w (postOf N s.sink.format r) else s.returned } := by
  rcases head_cases s.queues w with h | ⟨r, rest, hq⟩
  · exact .inl (Run.step_idle h)
  · obtain ⟨s', hs', h⟩ := write_ok_of_writable N s.sink r hr.healthy (hr.writable r (mem_flatten_of_head hq))
    exact .inr ⟨r, rest, s', hq, h.1, h.2.1, h.2.2.1, h.2.2.2, Run.step_of_write persist hq hs'⟩

/-! ### a batch under any schedule: none lost, none duplicated -/

theorem flatten_modify_perm {α : Type} (xs : List (List α)) (w : Nat) (r : α) (h : w < xs.length) :
    (xs.modify w (fun l => l ++ [r])).flatten.Perm (xs.flatten ++ [r]) := by
  induction xs generalizing w with
  | nil => simp at h
  | cons x xs ih =>
    cases w with
    | zero =>
      simp only [List.modify_zero_cons, List.flatten_cons, List.append_assoc]
      exact List.Perm.append_left x List.perm_append_comm
    | succ w =>
      simp only [List.modify_succ_cons, List.flatten_cons, List.append_assoc]
      exact List.Perm.append_left x (ih w (by simpa using h))

/-- what a run has done so far, seen from the state it started in -/
structure Progress (N : NumOps) (persist : Bool) (s s' : Run) (trace : List Json) : Prop where
  file : s'.sink.file = s.sink.file ++ trace.map (recordOf N s.sink.format)
  queues : (trace ++ s'.queues.flatten).Perm s.queues.flatten
  iterations : s'.sink.iterations = s.sink.iterations + trace.length
  format : s'.sink.format = s.sink.format
  /-- (not poisoned, that is) -/
  poisoned : s'.sink.Healthy
  failed : s'.failed = s.failed
  width : s'.queues.length = s.queues.length
  retWidth : s'.returned.length = s.returned.length
  returned : s'.returned.flatten.Perm
    (s.returned.flatten ++ if persist then trace.map (postOf N s.sink.format) else [])

theorem Progress.refl {N : NumOps} {persist : Bool} {s : Run} (hp : s.sink.Healthy) : Progress N persist s s [] := by
  constructor <;> simp [hp]

theorem Progress.ready {N : NumOps} {persist : Bool} {s s' : Run} {t : List Json} (h : Progress N persist s s' t)
    (hr : Ready N s) : Ready N s' :=
  ⟨h.poisoned,
    fun r hq => by rw [h.format]; exact hr.writable r (h.queues.subset (List.mem_append_right _ hq)),
    by rw [h.retWidth, h.width, hr.width]⟩

theorem step_progress (N : NumOps) (persist : Bool) (s : Run) (w : Nat) (hr : Ready N s) :
    ∃ t, Progress N persist s (s.step N persist w) t := by
  rcases Run.step_cases persist hr w with h | ⟨r, rest, s', hq, hfile, hit, hfmt, hpo, hstep⟩
  · rw [h]
    exact ⟨[], .refl hr.healthy⟩
  · have hwlt : w < s.returned.length := hr.width ▸ lt_of_getElem? hq
    rw [hstep]
    exact ⟨[r],
      { file := hfile
        queues := flatten_set_perm s.queues w r rest hq
        iterations := hit
        format := hfmt
        poisoned := hpo
        failed := rfl
        width := List.length_set
        retWidth := by cases persist <;> simp [pushAt]
        returned := by
          cases persist with
          | false => simp
          | true => exact flatten_modify_perm s.returned w _ hwlt }⟩

theorem Progress.trans {N : NumOps} {persist : Bool} {s s₁ s₂ : Run} {t₁ t₂ : List Json}
    (h₁ : Progress N persist s s₁ t₁) (h₂ : Progress N persist s₁ s₂ t₂) :
    Progress N persist s s₂ (t₁ ++ t₂) where
  file := by rw [h₂.file, h₁.file, h₁.format]; simp
  queues := ((List.append_assoc t₁ t₂ _).symm ▸ List.Perm.append_left t₁ h₂.queues).trans h₁.queues
  iterations := by rw [h₂.iterations, h₁.iterations, List.length_append, Nat.add_assoc]
  format := h₂.format.trans h₁.format
  poisoned := h₂.poisoned
  failed := h₂.failed.trans h₁.failed
  width := h₂.width.trans h₁.width
  retWidth := h₂.retWidth.trans h₁.retWidth
  returned := by
    refine h₂.returned.trans ?_
    rw [h₁.format]
    cases persist with
    | false => simpa using h₁.returned
    | true =>
      simp only [if_true, List.map_append] at *
      rw [← List.append_assoc]
      exact List.Perm.append_right _ h₁.returned

theorem exec_progress (N : NumOps) (persist : Bool) (sched : List Nat) (s : Run) (hr : Ready N s) :
    ∃ t, Progress N persist s (s.exec N persist sched) t := by
  induction sched generalizing s with
  | nil => exact ⟨[], .refl hr.healthy⟩
  | cons w ws ih =>
    obtain ⟨t₁, h₁⟩ := step_progress N persist s w hr
    obtain ⟨t₂, h₂⟩ := ih (s.step N persist w) (h₁.ready hr)
    exact ⟨t₁ ++ t₂, by simpa [Run.exec] using h₁.trans h₂⟩

/-! ### what each worker hands back, in order -/

/-- per worker: what it has handed back so far followed by what its remaining queue will give -/
def handBack (N : NumOps) (f : Format) (ret qs : List (List Json)) : List (List Json) :=
  List.zipWith (fun a q => a ++ q.map (postOf N f)) ret qs

theorem handBack_pushAt_set (N : NumOps) (f : Format) (ret qs : List (List Json)) (w : Nat) (r : Json)
    (rest : List Json) (h : qs[w]? = some (r :: rest)) :
    handBack N f (pushAt ret w (postOf N f r)) (qs.set w rest) = handBack N f ret qs := by
  unfold handBack pushAt
  induction qs generalizing ret w with
  | nil => simp at h
  | cons q qs ih =>
    cases ret with
    | nil => simp
    | cons a ret =>
      cases w with
      | zero =>
        simp only [List.getElem?_cons_zero, Option.some.injEq] at h
        subst h
        simp
      | succ w =>
        simp only [List.getElem?_cons_succ] at h
        simp only [List.modify_succ_cons, List.set_cons_succ, List.zipWith_cons_cons, ih ret w h]

/-- `handBack` does not change: a write moves `postOf r` from the queue side to the returned side of worker `w` -/
theorem step_handBack (N : NumOps) (s : Run) (w : Nat) (hr : Ready N s) :
    handBack N s.sink.format (s.step N true w).returned (s.step N true w).queues
      = handBack N s.sink.format s.returned s.queues := by
  rcases Run.step_cases true hr w with h | ⟨r, rest, s', hq, _, _, _, _, hstep⟩
  · rw [h]
  · rw [hstep]
    exact handBack_pushAt_set N s.sink.format s.returned s.queues w r rest hq

theorem exec_handBack (N : NumOps) (sched : List Nat) (s : Run) (hr : Ready N s) :
    handBack N s.sink.format (s.exec N true sched).returned (s.exec N true sched).queues
      = handBack N s.sink.format s.returned s.queues := by
  induction sched generalizing s with
  | nil => rfl
  | cons w ws ih =>
    obtain ⟨t₁, h₁⟩ := step_progress N true s w hr
    have := ih (s.step N true w) (h₁.ready hr)
    rw [h₁.format] at this
    simp only [Run.exec, List.foldl_cons] at this ⊢
    rw [this]
    exact step_handBack N s w hr

theorem handBack_of_all_nil (N : NumOps) (f : Format) (ret qs : List (List Json))
    (hlen : ret.length = qs.length) (h : ∀ q ∈ qs, q = []) : handBack N f ret qs = ret := by
  unfold handBack
  induction qs generalizing ret with
  | nil => cases ret with
    | nil => rfl
    | cons a r => simp at hlen
  | cons q qs ih =>
    cases ret with
    | nil => simp at hlen
    | cons a ret =>
      have hq : q = [] := h q (List.mem_cons_self ..)
      subst hq
      simp only [List.zipWith_cons_cons, List.map_nil, List.append_nil]
      rw [ih ret (by simpa using hlen) (fun q' hq' => h q' (List.mem_cons_of_mem _ hq'))]

theorem handBack_init (N : NumOps) (f : Format) (qs : List (List Json)) :
    handBack N f (qs.map (fun _ => [])) qs = qs.map (fun q => q.map (postOf N f)) := by
  unfold handBack
  induction qs with
  | nil => rfl
  | cons q qs ih => simp only [List.map_cons, List.zipWith_cons_cons, List.nil_append, ih]

/-! ### a batch on a device that refuses writes -/

/-- whatever the schedule, a batch run on a device that refuses writes leaves the file as it was and counts every
write as failed -/
theorem failing_device_run (N : NumOps) (persist : Bool) (s : Run) (schedule : List Nat)
    (hp : s.sink.poisoned = false) (hf : s.sink.failing = true)
    (hw : ∀ r ∈ s.queues.flatten, Writable N s.sink.format r) :
    (s.exec N persist schedule).sink = s.sink ∧ (s.exec N persist schedule).returned = s.returned ∧
    (s.exec N persist schedule).failed + (s.exec N persist schedule).queues.flatten.length
      = s.failed + s.queues.flatten.length := by
  induction schedule generalizing s with
  | nil => exact ⟨rfl, rfl, rfl⟩
  | cons w ws ih =>
    rcases head_cases s.queues w with h | ⟨r, rest, hq⟩
    · simp only [Run.exec, List.foldl_cons, Run.step_idle h]
      exact ih s hp hf hw
    · have hlen := (flatten_set_perm s.queues w r rest hq).length_eq
      simp only [Run.exec, List.foldl_cons, Run.step, hq, write_of_writable N s.sink r hp (hw r (mem_flatten_of_head hq)), hf,
        if_true]
      obtain ⟨h1, h2, h3⟩ := ih { s with queues := s.queues.set w rest, failed := s.failed + 1 } hp hf
        fun x hx => hw x ((flatten_set_perm s.queues w r rest hq).subset (List.mem_cons_of_mem _ hx))
      refine ⟨h1, h2, h3.trans ?_⟩
      simp only [List.length_cons] at hlen
      show s.failed + 1 + (s.queues.set w rest).flatten.length = _
      omega


/-! ### the main thread's sequential writes -/

theorem writeSeq_spec (N : NumOps) (rs : List Json) (s : FileSink) (hp : s.Healthy)
    (hw : ∀ r ∈ rs, Writable N s.format r) :
    ∃ s', writeSeq N s rs = some (s', rs.map (postOf N s.format)) ∧
      s'.file = s.file ++ rs.map (recordOf N s.format) ∧ s'.iterations = s.iterations + rs.length ∧
      s'.format = s.format ∧ s'.Healthy := by
  induction rs generalizing s with
  | nil => exact ⟨s, rfl, by simp, rfl, rfl, hp⟩
  | cons r rs ih =>
    obtain ⟨s₁, hs₁, hfile, hit, hfmt, hpo⟩ :=
      write_ok_of_writable N s r hp (hw r (List.mem_cons_self ..))
    obtain ⟨s₂, hs₂, hfile₂, hit₂, hfmt₂, hpo₂⟩ :=
      ih s₁ hpo (fun x hx => by rw [hfmt]; exact hw x (List.mem_cons_of_mem _ hx))
    refine ⟨s₂, ?_, ?_, ?_, by rw [hfmt₂, hfmt], hpo₂⟩
    · simp only [writeSeq, hs₁, hs₂, hfmt, List.map_cons]
    · rw [hfile₂, hfile, hfmt]; simp
    · rw [hit₂, hit]; simp; omega

/-! ### schedules seen from the queues alone -/

/-- one scheduled step, seen from the queues alone -/
def drainStep (qs : List (List Json)) (w : Nat) : List (List Json) :=
  match qs[w]? with
  | some (_ :: rest) => qs.set w rest
  | _ => qs

/-- how a schedule empties the queues — the sink plays no part in it -/
def drain (queues : List (List Json)) (schedule : List Nat) : List (List Json) :=
  schedule.foldl drainStep queues

/-- the schedule lets every worker finish its queue -/
def Complete (queues : List (List Json)) (schedule : List Nat) : Prop :=
  (drain queues schedule).all List.isEmpty = true

theorem step_queues (N : NumOps) (persist : Bool) (s : Run) (w : Nat) :
    (s.step N persist w).queues = drainStep s.queues w := by
  unfold Run.step drainStep
  cases s.queues[w]? with
  | none => rfl
  | some q =>
    cases q with
    | nil => rfl
    | cons r rest => simp only; split <;> rfl

theorem exec_queues (N : NumOps) (persist : Bool) (sched : List Nat) (s : Run) :
    (s.exec N persist sched).queues = drain s.queues sched :=
  (List.foldl_hom Run.queues fun x w => (step_queues N persist x w).symm).symm

theorem mem_flatten_drainStep (qs : List (List Json)) (w : Nat) (r : Json)
    (h : r ∈ (drainStep qs w).flatten) : r ∈ qs.flatten := by
  unfold drainStep at h
  split at h
  · next r0 rest hq => exact (flatten_set_perm qs w r0 rest hq).subset (List.mem_cons_of_mem _ h)
  · exact h

theorem step_persist_irrelevant (N : NumOps) (p p' : Bool) (a b : Run) (w : Nat) (hs : a.sink = b.sink)
    (hq : a.queues = b.queues) :
    (a.step N p w).sink = (b.step N p' w).sink ∧ (a.step N p w).queues = (b.step N p' w).queues := by
  unfold Run.step
  rw [hs, hq]
  cases b.queues[w]? with
  | none => exact ⟨hs, hq⟩
  | some q =>
    cases q with
    | nil => exact ⟨hs, hq⟩
    | cons r rest => simp only; split <;> exact ⟨rfl, rfl⟩

theorem done_of_complete (N : NumOps) (persist : Bool) (sink : FileSink) (queues : List (List Json))
    (schedule : List Nat) (h : Complete queues schedule) :
    ((Run.init sink queues).exec N persist schedule).done = true := by
  unfold Run.done
  rw [exec_queues]
  exact h

theorem done_flatten_nil (s : Run) (h : s.done = true) : s.queues.flatten = [] := by
  unfold Run.done at h
  rw [List.all_eq_true] at h
  apply List.flatten_eq_nil_iff.2
  intro l hl
  simpa using h l hl

/-! ### from steps to runs, for the refinement proofs -/

/-- a simulation in which the fine system may also stand still, step by step, is one run by run: the coarse
schedule consists of the steps that were visible -/
theorem foldl_stutter {σ τ : Type} (f : σ → Nat → σ) (g : τ → Nat → τ) (R : σ → τ → Prop)
    (h : ∀ s a w, R s a → R (f s w) a ∨ R (f s w) (g a w)) (sched : List Nat) (s : σ) (a : τ) (hR : R s a) :
    ∃ coarse : List Nat, R (sched.foldl f s) (coarse.foldl g a) := by
  induction sched generalizing s a with
  | nil => exact ⟨[], hR⟩
  | cons w ws ih =>
    rcases h s a w hR with h1 | h1
    · exact ih _ _ h1
    · obtain ⟨as, has⟩ := ih _ _ h1
      exact ⟨w :: as, has⟩

/-! ### a record is one line -/

theorem record_has_exactly_one_newline (row : List Char) (h : '\n' ∉ row) : (record row).count '\n' = 1 := by
  rw [record, List.count_append, List.count_eq_zero.2 h]
  rfl

theorem count_newline_records (N : NumOps) (f : Format) (l : List Json) (hl : ∀ r ∈ l, '\n' ∉ rowOf N f r) :
    ((l.map (recordOf N f)).flatten).count '\n' = l.length := by
  induction l with
  | nil => rfl
  | cons r rs ih =>
    simp only [List.map_cons, List.flatten_cons, List.count_append, List.length_cons, recordOf]
    rw [ih (fun x hx => hl x (List.mem_cons_of_mem _ hx)),
      record_has_exactly_one_newline _ (hl r (List.mem_cons_self ..))]
    omega


/-- a number lexeme: not empty, number characters only -/
def lexOk (l : String) : Bool := !l.toList.isEmpty && l.toList.all isNumChar

theorem lexOk_all (l : String) (h : lexOk l = true) : ∀ c ∈ l.toList, isNumChar c = true := by
  simp only [lexOk, Bool.and_eq_true] at h
  exact List.all_eq_true.1 h.2

theorem lexOk_ne_nil (l : String) (h : lexOk l = true) : l.toList ≠ [] := by
  intro e
  simp [lexOk, e] at h

theorem lexOk_no_newline (l : String) (h : lexOk l = true) : '\n' ∉ l.toList := by
  intro hm
  have := lexOk_all l h _ hm
  revert this
  decide

mutual
/-- every number lexeme inside the value consists of number characters -/
def numsOk : Json → Bool
  | .num l _ => lexOk l
  | .arr xs => numsOkList xs
  | .obj kvs => numsOkKvs kvs
  | _ => true
def numsOkList : List Json → Bool
  | [] => true
  | x :: xs => numsOk x && numsOkList xs
def numsOkKvs : List (String × Json) → Bool
  | [] => true
  | (_, v) :: r => numsOk v && numsOkKvs r
end

theorem numsOkList_cons {x : Json} {xs : List Json} :
    numsOkList (x :: xs) = true ↔ numsOk x = true ∧ numsOkList xs = true := Bool.and_eq_true_iff
theorem numsOkKvs_cons {k : String} {v : Json} {r : List (String × Json)} :
    numsOkKvs ((k, v) :: r) = true ↔ numsOk v = true ∧ numsOkKvs r = true := Bool.and_eq_true_iff

theorem hexDigit_mem (n : Nat) : hexDigit n ∈ hexChars := by
  unfold hexDigit
  rw [List.getD_eq_getElem?_getD]
  cases h : hexChars[n]? with
  | none => simp [hexChars]
  | some c => simpa using List.mem_of_getElem? h

/-- the characters `escapeChar` writes as a backslash and one letter, each with its letter -/
def shortEscapes : List (Char × Char) :=
  [('"', '"'), ('\\', '\\'), ('\n', 'n'), ('\r', 'r'), ('\t', 't'), (Char.ofNat 8, 'b'), (Char.ofNat 12, 'f')]

/-- the three forms an escaped character takes (the eight tests of the definition are taken one at a time) -/
theorem escapeChar_cases (c : Char) :
    (∃ e, (c, e) ∈ shortEscapes ∧ escapeChar c = ['\\', e]) ∨
    (c.toNat < 32 ∧
      escapeChar c = ['\\', 'u', '0', '0', hexDigit (c.toNat / 16), hexDigit (c.toNat % 16)]) ∨
    (c ≠ '"' ∧ c ≠ '\\' ∧ ¬ c.toNat < 32 ∧ escapeChar c = [c]) := by
  rw [escapeChar]
  by_cases h1 : c = '"'
  · rw [if_pos h1]; subst h1; exact .inl ⟨'"', by decide, rfl⟩
  rw [if_neg h1]
  by_cases h2 : c = '\\'
  · rw [if_pos h2]; subst h2; exact .inl ⟨'\\', by decide, rfl⟩
  rw [if_neg h2]
  by_cases h3 : c = '\n'
  · rw [if_pos h3]; subst h3; exact .inl ⟨'n', by decide, rfl⟩
  rw [if_neg h3]
  by_cases h4 : c = '\r'
  · rw [if_pos h4]; subst h4; exact .inl ⟨'r', by decide, rfl⟩
  rw [if_neg h4]
  by_cases h5 : c = '\t'
  · rw [if_pos h5]; subst h5; exact .inl ⟨'t', by decide, rfl⟩
  rw [if_neg h5]
  by_cases h6 : c.toNat = 8
  · rw [if_pos h6]; exact .inl ⟨'b', by rw [← c.ofNat_toNat, h6]; decide, rfl⟩
  rw [if_neg h6]
  by_cases h7 : c.toNat = 12
  · rw [if_pos h7]; exact .inl ⟨'f', by rw [← c.ofNat_toNat, h7]; decide, rfl⟩
  rw [if_neg h7]
  by_cases h8 : c.toNat < 32
  · rw [if_pos h8]; exact .inr (.inl ⟨h8, rfl⟩)
  · rw [if_neg h8]; exact .inr (.inr ⟨h1, h2, h8, rfl⟩)

theorem escapeChar_no_newline (c : Char) : '\n' ∉ escapeChar c := by
  rcases escapeChar_cases c with ⟨e, he, h⟩ | ⟨_, h⟩ | ⟨_, _, h32, h⟩ <;> rw [h]
  · have := (by decide : ∀ p ∈ shortEscapes, '\n' ≠ p.2) _ he
    simp [this]
  · have hx : ∀ n, '\n' ≠ hexDigit n := fun n => ((by decide : ∀ c ∈ hexChars, c ≠ '\n') _ (hexDigit_mem n)).symm
    simp [hx]
  · intro hm
    rw [← List.mem_singleton.1 hm] at h32
    exact h32 (by decide)

theorem escapeChars_no_newline (cs : List Char) : '\n' ∉ escapeChars cs := by
  induction cs with
  | nil => exact List.not_mem_nil
  | cons c cs ih => exact fun h => (List.mem_append.1 h).elim (escapeChar_no_newline c) ih

/-- strings, arrays and objects are written as `o :: (body ++ [c])` -/
theorem not_mem_bracket {a o c : Char} {body : List Char} (ho : a ≠ o) (hc : a ≠ c) (hb : a ∉ body) :
    a ∉ o :: (body ++ [c]) := by
  intro h
  rcases List.mem_cons.1 h with e | h
  · exact ho e
  · exact (List.mem_append.1 h).elim hb (fun h => hc (List.mem_singleton.1 h))

theorem quoteStr_no_newline (s : String) : '\n' ∉ quoteStr s :=
  not_mem_bracket (by decide) (by decide) (escapeChars_no_newline _)

theorem joinWith_not_mem (c : Char) (sep : List Char) (ts : List (List Char)) (hs : c ∉ sep)
    (ht : ∀ t ∈ ts, c ∉ t) : c ∉ joinWith sep ts := by
  induction ts with
  | nil => exact List.not_mem_nil
  | cons x r ih =>
    cases r with
    | nil => exact ht x (List.mem_cons_self ..)
    | cons y r' =>
      intro h
      rw [joinWith_cons_cons] at h
      rcases List.mem_append.1 h with h | h
      · exact (List.mem_append.1 h).elim (ht x (List.mem_cons_self ..)) hs
      · exact ih (fun t h => ht t (List.mem_cons_of_mem _ h)) h

mutual
theorem compact_no_newline : ∀ j : Json, numsOk j = true → '\n' ∉ compact j
  | .null, _ => by decide +kernel
  | .bool true, _ => by decide +kernel
  | .bool false, _ => by decide +kernel
  | .num l _, h => lexOk_no_newline l h
  | .str s, _ => quoteStr_no_newline s
  | .arr xs, h =>
    not_mem_bracket (by decide) (by decide) (joinWith_not_mem _ _ _ (by decide) (compactList_no_newline xs h))
  | .obj kvs, h =>
    not_mem_bracket (by decide) (by decide) (joinWith_not_mem _ _ _ (by decide) (compactKvs_no_newline kvs h))
theorem compactList_no_newline : ∀ xs : List Json, numsOkList xs = true → ∀ t ∈ compactList xs, '\n' ∉ t
  | [], _ => fun _ ht => nomatch ht
  | x :: xs, h => fun t ht => by
    rcases List.mem_cons.1 ht with rfl | ht
    · exact compact_no_newline x (numsOkList_cons.1 h).1
    · exact compactList_no_newline xs (numsOkList_cons.1 h).2 t ht
theorem compactKvs_no_newline : ∀ kvs : List (String × Json), numsOkKvs kvs = true → ∀ t ∈ compactKvs kvs, '\n' ∉ t
  | [], _ => fun _ ht => nomatch ht
  | (k, v) :: r, h => fun t ht => by
    rcases List.mem_cons.1 ht with rfl | ht
    · exact fun hm => (List.mem_append.1 hm).elim (quoteStr_no_newline k)
        (fun hm => (List.mem_cons.1 hm).elim (by decide) (compact_no_newline v (numsOkKvs_cons.1 h).1))
    · exact compactKvs_no_newline r (numsOkKvs_cons.1 h).2 t ht
end

/-! ### what a CSV mapping picks has well-formed numbers

`numsOk_apply`: with a number printer that prints number characters only, a mapped value of a response with well-formed
numbers has well-formed numbers. -/

theorem numsOk_lookup (kvs : List (String × Json)) (k : String) (v : Json)
    (h : numsOkKvs kvs = true) (hl : Json.lookup kvs k = some v) : numsOk v = true := by
  unfold Json.lookup at hl
  induction kvs with
  | nil => simp at hl
  | cons p ps ih =>
    obtain ⟨k', v'⟩ := p
    have h := numsOkKvs_cons.1 h
    simp only [List.find?_cons] at hl
    cases hk : (k' == k) with
    | true => simp [hk] at hl; rw [← hl]; exact h.1
    | false => simp only [hk] at hl; exact ih h.2 hl

theorem numsOk_traverse (ks : List String) (j v : Json) (h : numsOk j = true)
    (ht : traverse j ks = some v) : numsOk v = true := by
  induction ks generalizing j with
  | nil => simp [traverse] at ht; rw [← ht]; exact h
  | cons k ks ih =>
    simp only [traverse] at ht
    split at ht
    · simp at ht
    · rename_i c hc
      refine ih c ?_ ht
      cases j with
      | obj kvs => exact numsOk_lookup kvs k c h hc
      | _ => simp [Json.get?] at hc

/-- the number printer only prints number characters (third-party: `zmij`/`ryu` behind `serde_json`) -/
def NumOps.FmtOk (N : NumOps) : Prop := ∀ b, lexOk (N.fmt b) = true

theorem numsOk_number (N : NumOps) (h : N.FmtOk) (b : Nat) : numsOk (N.number b) = true := by
  unfold NumOps.number
  split
  · exact h b
  · rfl

theorem numsOk_apply (N : NumOps) (hN : N.FmtOk) : ∀ (m : CsvMapping) (j v : Json), numsOk j = true →
    m.apply N j = some v → numsOk v = true
  | .path p, j, v, h, ha => by
    simp only [CsvMapping.apply] at ha
    exact numsOk_traverse _ j v h ha
  | .sum ms, j, v, _, ha => by
    simp only [CsvMapping.apply] at ha
    split at ha
    · simp at ha
    · split at ha
      · simp at ha
      · simp only [Option.some.injEq] at ha
        rw [← ha]
        exact numsOk_number N hN _
  | .optional m, j, v, h, ha => by
    simp only [CsvMapping.apply] at ha
    split at ha
    · rename_i v' hv'
      simp only [Option.some.injEq] at ha
      rw [← ha]
      exact numsOk_apply N hN m j v' h hv'
    · simp only [Option.some.injEq] at ha
      rw [← ha]; rfl

end Sink
end Compass
