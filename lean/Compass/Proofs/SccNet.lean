/-
Proofs for C18, the link to the network container of C15 (`Model/Graph.lean`, lemmas of `Proofs/Graph.lean`):
`Scc.Graph.ofNet net`, what `scc.rs` reads of a network value, accessor by accessor; the graph the loader assembles,
hence every network `Graph::from_files` returns, is well formed in the sense of `Proofs/Scc.lean` (`ofNet_loaded_wf`),
which is the hypothesis of the Kosaraju proof.
-/
import Compass.Proofs.Scc
import Compass.Proofs.Graph

namespace Compass
namespace Scc

variable {α : Type}

theorem ofNet_outEdges (g : Compass.Graph α) (v : Nat) : (Graph.ofNet g).outEdges v = g.outEdges v := by
  simp only [Graph.outEdges, Graph.ofNet, Compass.Graph.outEdges, List.getElem?_toArray, List.getElem?_map]
  cases g.adj[v]? <;> rfl

theorem ofNet_inEdges (g : Compass.Graph α) (v : Nat) : (Graph.ofNet g).inEdges v = g.inEdges v := by
  simp only [Graph.inEdges, Graph.ofNet, Compass.Graph.inEdges, List.getElem?_toArray, List.getElem?_map]
  cases g.rev[v]? <;> rfl

theorem ofNet_edges_get (g : Compass.Graph α) (e : Nat) :
    (Graph.ofNet g).edges[e]? = (g.edges[e]?).map (fun x => (x.src, x.dst)) := by
  unfold Graph.ofNet
  rw [List.getElem?_toArray, List.getElem?_map]

theorem ofNet_edges_get_some {g : Compass.Graph α} {e s d : Nat} :
    (Graph.ofNet g).edges[e]? = some (s, d) ↔ ∃ x, g.edges[e]? = some x ∧ x.src = s ∧ x.dst = d := by
  rw [ofNet_edges_get]
  cases g.edges[e]? with
  | none => exact ⟨fun h => (by cases h), fun ⟨x, hx, _⟩ => (by cases hx)⟩
  | some x =>
    refine ⟨fun h => ⟨x, rfl, ?_⟩, fun ⟨y, hy, h1, h2⟩ => ?_⟩
    · cases h; exact ⟨rfl, rfl⟩
    · cases hy; rw [← h1, ← h2]; rfl

theorem ofNet_srcOf (g : Compass.Graph α) (e : Nat) : (Graph.ofNet g).srcOf e = (g.edges[e]?).map (·.src) := by
  simp only [Graph.srcOf, ofNet_edges_get]
  cases g.edges[e]? <;> rfl

theorem ofNet_dstOf (g : Compass.Graph α) (e : Nat) : (Graph.ofNet g).dstOf e = (g.edges[e]?).map (·.dst) := by
  simp only [Graph.dstOf, ofNet_edges_get]
  cases g.edges[e]? <;> rfl

/-- `?` on `src_vertex_id` / `dst_vertex_id`: the model's `none` is the accessor's `EdgeNotFound` -/
theorem ofNet_srcOf_accessor (g : Compass.Graph α) (e : Nat) :
    (Graph.ofNet g).srcOf e = (match g.srcVertexId e with | .ok v => some v | .error _ => none) := by
  rw [ofNet_srcOf]
  simp only [Compass.Graph.srcVertexId, Compass.Graph.getEdge]
  cases g.edges[e]? <;> rfl

theorem ofNet_dstOf_accessor (g : Compass.Graph α) (e : Nat) :
    (Graph.ofNet g).dstOf e = (match g.dstVertexId e with | .ok v => some v | .error _ => none) := by
  rw [ofNet_dstOf]
  simp only [Compass.Graph.dstVertexId, Compass.Graph.getEdge]
  cases g.edges[e]? <;> rfl

theorem ofNet_edge (g : Compass.Graph α) (u v : Nat) :
    (Graph.ofNet g).Edge u v ↔ ∃ x ∈ g.edges, x.src = u ∧ x.dst = v := by
  constructor
  · rintro ⟨e, he⟩
    obtain ⟨x, hx, h1, h2⟩ := ofNet_edges_get_some.1 he
    exact ⟨x, List.mem_of_getElem? hx, h1, h2⟩
  · rintro ⟨x, hx, h1, h2⟩
    obtain ⟨e, he⟩ := List.mem_iff_getElem?.1 hx
    exact ⟨e, ofNet_edges_get_some.2 ⟨x, he, h1, h2⟩⟩

/-- the graph the loader assembles from rows in the documented format is well formed, whatever count sized
its tables -/
theorem ofNet_buildGraph_wf (es : List (Edge α)) (vs : List (Vertex α)) (nV : Nat) (h : RowIds es)
    (hb : EndpointsBelow es nV) (hb' : EndpointsBelow es vs.length) :
    (Graph.ofNet (buildGraph es vs nV)).WF := by
  have hedges : (buildGraph es vs nV).edges = es := rfl
  refine {
    range := fun e s d he => ?range
    out_src := fun v e he => ?out_src
    in_dst := fun v e he => ?in_dst
    listed := fun e s d he => ?listed }
  case range =>
    obtain ⟨x, hx, rfl, rfl⟩ := ofNet_edges_get_some.1 he
    exact hb' x (List.mem_of_getElem? hx)
  case out_src =>
    rw [ofNet_outEdges] at he
    obtain ⟨hx, hs⟩ := (mem_out_edges_iff es vs nV h hb v e).1 he
    rw [ofNet_srcOf, hedges, List.getElem?_eq_getElem hx, Option.map_some, hs]
  case in_dst =>
    rw [ofNet_inEdges] at he
    obtain ⟨hx, hs⟩ := (mem_in_edges_iff es vs nV h hb v e).1 he
    rw [ofNet_dstOf, hedges, List.getElem?_eq_getElem hx, Option.map_some, hs]
  case listed =>
    obtain ⟨x, hx, rfl, rfl⟩ := ofNet_edges_get_some.1 he
    obtain ⟨hlt, hget⟩ := List.getElem?_eq_some_iff.1 (hedges ▸ hx)
    rw [ofNet_outEdges, ofNet_inEdges]
    exact ⟨(mem_out_edges_iff es vs nV h hb _ e).2 ⟨hlt, by rw [hget]⟩,
      (mem_in_edges_iff es vs nV h hb _ e).2 ⟨hlt, by rw [hget]⟩⟩

theorem ofNet_loaded_wf (ef : CsvFile (Edge α)) (vf : CsvFile (Vertex α)) (nE nV : Option Nat)
    (net : Compass.Graph α) (h : graphFromFiles ef vf nE nV = .ok net) : (Graph.ofNet net).WF := by
  obtain ⟨es, vs, n, rfl, l⟩ := from_files_ok_inv ef vf nE nV net h
  exact ofNet_buildGraph_wf es vs n l.rowIds l.below l.belowRows

end Scc
end Compass
