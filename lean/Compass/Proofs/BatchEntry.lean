/-
Proofs about the entry points (`Model/BatchEntry.lean`): the call with a sink is `run` plus the sink's failures;
`run` over a single-query function that may panic or not return; the packaging of a response (output plugins
that keep the `request` field).
-/
import Compass.Model.BatchEntry
import Compass.Proofs.Batch

namespace Compass
namespace Batch
open MultiSet (Outcome)

/-- an error of `run` as an error of the call -/
def liftRun : Outcome (Except AppErr (List Json)) → Outcome (Except CallErr (List Json))
  | .ok (.ok rs) => .ok (.ok rs)
  | .ok (.error e) => .ok (.error (.app e))
  | .panic s => .panic s
  | .diverges => .diverges

/-! `runO`, `callCoreO` and `searchedO` open with the same input stage (the model writes it out three times);
each normal form below, like `runO_eq`, is obtained by the same rewriting. -/

/-- the call after its configuration: chunking has disappeared, what is left is load balancing, the writes of
the error responses and of the search responses -/
theorem callCoreO_eq {α : Type} (W : WOps α) (cfg : Config) (sink : OutPolicy) (respond : Json → Json)
    (batch : List Json) :
    callCoreO W cfg sink respond batch =
      match balanceO W cfg.parallelism (processed cfg.plugins batch) with
      | .panic s => .panic s
      | .diverges => .diverges
      | .ok (.error e) => .ok (.error (.app e))
      | .ok (.ok bins) =>
        if sinkFails sink && !(errs cfg.plugins batch).isEmpty then .ok (.error .sinkWrite)
        else if bins.isEmpty then .ok (.ok (errs cfg.plugins batch))
        else if sinkFails sink then .ok (.error .sinkWrite)
        else .ok (.ok (assemble cfg.persist respond bins (errs cfg.plugins batch))) := by
  simp only [callCoreO, parChunksO_of_pos (chunkSize_pos _ _), mapChunksO_eq,
    oks_of_chunks _ (chunkSize_pos _ _), errs_of_chunks _ (chunkSize_pos _ _)]
  rfl

/-- the call with a sink is `run` plus the sink: a sink whose writes fail turns a returning `run` that has
something to write (an input-stage error response, or a query to run) into `Err(sinkWrite)`; nothing else
differs -/
theorem callCoreO_eq_run {α : Type} (W : WOps α) (cfg : Config) (sink : OutPolicy) (respond : Json → Json)
    (batch : List Json) :
    callCoreO W cfg sink respond batch =
      match runO W cfg respond batch with
      | .ok (.ok out) =>
        if sinkFails sink ∧ (errs cfg.plugins batch ≠ [] ∨ processed cfg.plugins batch ≠ [])
        then .ok (.error .sinkWrite) else .ok (.ok out)
      | r => liftRun r := by
  rw [callCoreO_eq, runO_eq]
  rcases balanceO_cases W cfg.parallelism (processed cfg.plugins batch) with
    ⟨_, _, hb⟩ | ⟨_, bins, hb, _, hnil, _⟩
  · rw [hb]; rfl
  · rw [hb]
    cases hs : sinkFails sink with
    | false =>
      -- the early return on "no bins" gives the errors, and so does `assemble` on no bins
      cases bins with
      | nil => simp [assemble]
      | cons b bs => simp [assemble]
    | true =>
      cases he : errs cfg.plugins batch with
      | cons e es => simp
      | nil =>
        -- no error response to write: the sink fails at the first search response, if there is a bin
        cases bins with
        | nil => simp [assemble, hnil.mp rfl]
        | cons b bs => simp [show processed cfg.plugins batch ≠ [] from fun h => nomatch hnil.mpr h]

theorem callCoreO_returns {α : Type} (W : WOps α) (cfg : Config) (sink : OutPolicy) (respond : Json → Json)
    (batch : List Json) : ∃ r, callCoreO W cfg sink respond batch = .ok r := by
  rw [callCoreO_eq_run]
  rcases runO_cases W cfg respond batch with ⟨_, _, h⟩ | ⟨_, _, h, _⟩
  · rw [h]; exact ⟨_, rfl⟩
  · rw [h]
    dsimp only
    split <;> exact ⟨_, rfl⟩

/-- the call, by what its configuration stage does: a per-run value that does not deserialize, a sink that
cannot be built, or else the call proper under the overridden configuration -/
theorem callO_cases {α : Type} (W : WOps α) (env : String → Bool × Bool) (app : App)
    (runCfg : Option Json) (respond : Json → Json) (batch : List Json) :
    (parseRunConfig env runCfg = none ∧ callO W env app runCfg respond batch = .ok (.error .runConfig)) ∨
    ∃ o, parseRunConfig env runCfg = some o ∧
      ((∃ e, buildSink (o.policy.getD app.policy) = .error e ∧
          callO W env app runCfg respond batch = .ok (.error e)) ∨
       (buildSink (o.policy.getD app.policy) = .ok () ∧
          callO W env app runCfg respond batch
            = callCoreO W (app.config o) (o.policy.getD app.policy) respond batch)) := by
  unfold callO
  cases hp : parseRunConfig env runCfg with
  | none => exact .inl ⟨rfl, rfl⟩
  | some o =>
    refine .inr ⟨o, rfl, ?_⟩
    cases hb : buildSink (o.policy.getD app.policy) with
    | error e => exact .inl ⟨e, rfl, by simp only [hb]⟩
    | ok u => exact .inr ⟨rfl, by simp only [hb]⟩

theorem callO_returns {α : Type} (W : WOps α) (env : String → Bool × Bool) (app : App)
    (runCfg : Option Json) (respond : Json → Json) (batch : List Json) :
    ∃ r, callO W env app runCfg respond batch = .ok r := by
  rcases callO_cases W env app runCfg respond batch with ⟨_, h⟩ | ⟨o, _, ⟨e, _, h⟩ | ⟨_, h⟩⟩
  · exact ⟨_, h⟩
  · exact ⟨_, h⟩
  · rw [h]; exact callCoreO_returns ..

/-- a sink whose writes succeed (or no sink) is invisible: the call is `run` -/
theorem callCoreO_of_sink_ok {α : Type} (W : WOps α) (cfg : Config) (sink : OutPolicy)
    (respond : Json → Json) (batch : List Json) (hs : sinkFails sink = false) :
    callCoreO W cfg sink respond batch = liftRun (runO W cfg respond batch) := by
  rw [callCoreO_eq_run]
  rcases runO_cases W cfg respond batch with ⟨_, _, h⟩ | ⟨_, _, h, _⟩
  · rw [h]
  · rw [h]
    simp [hs, liftRun]

/-- a batch without a query to run and without an input-stage error: nothing is written, `Ok []`, whatever
the sink and the parallelism -/
theorem callCoreO_nothing_to_write {α : Type} (W : WOps α) (cfg : Config) (sink : OutPolicy)
    (respond : Json → Json) (batch : List Json) (he : errs cfg.plugins batch = [])
    (hq : processed cfg.plugins batch = []) : callCoreO W cfg sink respond batch = .ok (.ok []) := by
  rw [callCoreO_eq, hq, he]
  cases sinkFails sink <;> rfl

/-! ### the single-query function with outcomes -/

theorem searchedO_eq {α : Type} (W : WOps α) (cfg : Config) (batch : List Json) :
    searchedO W cfg batch =
      match balanceO W cfg.parallelism (processed cfg.plugins batch) with
      | .panic s => .panic s
      | .diverges => .diverges
      | .ok (.error e) => .ok (.error e)
      | .ok (.ok bins) => .ok (.ok (bins, errs cfg.plugins batch)) := by
  simp only [searchedO, parChunksO_of_pos (chunkSize_pos _ _), mapChunksO_eq,
    oks_of_chunks _ (chunkSize_pos _ _), errs_of_chunks _ (chunkSize_pos _ _)]
  rfl

/-- `run` over a single-query function with outcomes: the early return on "no bins" is invisible (the searches
of no bins return no response) -/
theorem runRO_eq {α : Type} (W : WOps α) (cfg : Config) (respondO : Json → Outcome Json) (batch : List Json) :
    runRO W cfg respondO batch =
      match balanceO W cfg.parallelism (processed cfg.plugins batch) with
      | .panic s => .panic s
      | .diverges => .diverges
      | .ok (.error e) => .ok (.error e)
      | .ok (.ok bins) =>
        match respondAllO respondO bins.flatten with
        | .panic s => .panic s
        | .diverges => .diverges
        | .ok vs =>
          .ok (.ok (if cfg.persist then vs ++ errs cfg.plugins batch else errs cfg.plugins batch)) := by
  rw [runRO, searchedO_eq]
  cases balanceO W cfg.parallelism (processed cfg.plugins batch) with
  | panic s => rfl
  | diverges => rfl
  | ok r =>
    cases r with
    | error e => rfl
    | ok bins =>
      cases bins with
      | nil => cases cfg.persist <;> rfl
      | cons b bs => rfl

theorem respondAllO_ok_iff (respondO : Json → Outcome Json) (qs : List Json) :
    (∃ vs, respondAllO respondO qs = .ok vs) ↔ ∀ q ∈ qs, ∃ v, respondO q = .ok v := by
  induction qs with
  | nil => simp [respondAllO]
  | cons q r ih =>
    simp only [respondAllO, List.mem_cons, forall_eq_or_imp]
    cases hq : respondO q with
    | panic s => simp
    | diverges => simp
    | ok v =>
      simp only [Outcome.ok.injEq, exists_eq', true_and]
      rw [← ih]
      cases respondAllO respondO r <;> simp

theorem respondAllO_total (respond : Json → Json) : ∀ qs : List Json,
    respondAllO (fun q => .ok (respond q)) qs = .ok (qs.map respond)
  | [] => rfl
  | q :: r => by simp [respondAllO, respondAllO_total respond r]

/-! ### the packaging of a response -/

/-- an output plugin that leaves the `request` field of the output alone -/
def KeepsRequest (p : Json → Json → Except String Json) : Prop :=
  ∀ q out out', p q out = .ok out' → out.get? "request" = some q → out'.get? "request" = some q

theorem applyOut_request (ps : List (Json → Json → Except String Json)) (q : Json)
    (hk : ∀ p ∈ ps, KeepsRequest p) : ∀ out : Json, out.get? "request" = some q →
    (applyOut ps q out).get? "request" = some q := by
  induction ps with
  | nil => intro _ h; exact h
  | cons p ps ih =>
    intro out h
    simp only [applyOut]
    cases hp : p q out with
    | error e => rfl
    | ok out' =>
      exact ih (fun p' hp' => hk p' (List.mem_cons_of_mem _ hp')) out'
        (hk p (List.mem_cons_self ..) q out out' hp h)

end Batch
end Compass
