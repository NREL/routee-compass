/-
Proofs about the `MultiSet` model: the carry loop is a mixed-radix increment
(`val (next pos) = val pos + 1`), "finished" exactly at `val = Πn − 1`, `val` is a bijection between
in-range digit vectors and `range (Πn)`; hence the enumeration is `combos`, of length `Πn`, without
repetition and complete, and fuel `Πn + 1` suffices — for every input, the two boundary cases included
(no set: the single empty combination; an empty set: no combination).
-/
import Compass.Model.MultiSet
import Mathlib.Data.List.Nodup
import Mathlib.Data.List.Range

namespace Compass
namespace MultiSet

/-! ### the list-recursive form of the carry loop -/

/-- mixed-radix increment; `none` = "finished" -/
def incr : List Nat → List Nat → Option (List Nat)
  | p :: ps, f :: fs => if p < f then some ((p + 1) :: ps) else (incr ps fs).map (0 :: ·)
  | _, _ => none

theorem zeroPrefix_zeros (i : Nat) (p : Nat) (ps : List Nat) :
    zeroPrefix (i + 1) (List.replicate i 0 ++ p :: ps) = List.replicate (i + 1) 0 ++ ps := by
  induction i with
  | zero => rfl
  | succ i ih => rw [List.replicate_succ, List.cons_append, zeroPrefix, ih]; rfl

/-- the loop of the code, run from `idx` on a position whose first `idx` digits are already zero,
computes `incr` of the remaining digits: it leaves that position, or reports "finished".  With no digit
left the loop body never runs and the answer is `finished0`: that is `sets.is_empty()` in the code, which
makes the empty digit vector (no set at all) its own last combination. -/
theorem carry_eq (finalPos : List Nat) (len : Nat) (f0 : Bool) (ps : List Nat) :
    ∀ (idx : Nat), idx + ps.length = len → finalPos.length = len → (ps = [] → f0 = true) →
      ∃ np fin, carry finalPos len f0 ps.length idx (List.replicate idx 0 ++ ps) = some (np, fin) ∧
        (if fin then none else some np)
          = (incr ps (finalPos.drop idx)).map (List.replicate idx 0 ++ ·) := by
  induction ps with
  | nil => intro idx _ _ h; exact ⟨_, f0, rfl, by rw [h rfl]; rfl⟩
  | cons p ps ih =>
    intro idx hlen hfl _
    rw [List.length_cons] at hlen
    have hidx : idx < finalPos.length := by omega
    have hrep : (List.replicate idx 0).length ≤ idx := by rw [List.length_replicate]
    have hget : (List.replicate idx 0 ++ p :: ps)[idx]? = some p := by
      rw [List.getElem?_append_right hrep, List.length_replicate, Nat.sub_self]
      rfl
    rw [List.drop_eq_getElem_cons hidx, List.length_cons, carry, hget,
      List.getElem?_eq_getElem hidx, incr]
    dsimp only
    by_cases hlt : p < finalPos[idx]
    · rw [if_pos hlt, if_pos hlt]
      refine ⟨_, false, rfl, ?_⟩
      rw [List.set_append_right _ _ hrep, List.length_replicate, Nat.sub_self]; rfl
    · rw [if_neg hlt, if_neg hlt]
      by_cases hlast : idx = len - 1
      · have hps : ps = [] := List.eq_nil_of_length_eq_zero (by omega)
        subst hps
        rw [if_pos hlast]
        exact ⟨_, true, rfl, rfl⟩
      · have hps : ps ≠ [] := fun h => by subst h; rw [List.length_nil] at hlen; omega
        rw [if_neg hlast, zeroPrefix_zeros]
        obtain ⟨np, fin, h1, h2⟩ := ih (idx + 1) (by omega) hfl (fun h => absurd h hps)
        refine ⟨np, fin, h1, h2.trans ?_⟩
        rw [Option.map_map]
        refine congrArg (fun g => Option.map g _) (funext fun r => ?_)
        -- the one real step: a zero more in front, `replicate (idx + 1) 0 ++ r = replicate idx 0 ++ 0 :: r`
        simp only [Function.comp_def, List.replicate_succ', List.append_assoc, List.singleton_append]

/-! ### mixed-radix arithmetic -/

/-- `final_pos` for sets of sizes `ns` -/
def finals (ns : List Nat) : List Nat := ns.map (· - 1)

@[simp] theorem inRange_cons_cons (n p : Nat) (ns ps : List Nat) :
    inRange (n :: ns) (p :: ps) = true ↔ p < n ∧ inRange ns ps = true := by simp [inRange]

@[simp] theorem inRange_nil_iff (p : List Nat) : inRange [] p = true ↔ p = [] := by
  cases p <;> simp [inRange]

theorem inRange_cons_iff (n : Nat) (ns p : List Nat) :
    inRange (n :: ns) p = true ↔ ∃ d ps, p = d :: ps ∧ d < n ∧ inRange ns ps = true := by
  cases p with
  | nil => simp [inRange]
  | cons d ps => simp

theorem inRange_length : ∀ (ns p : List Nat), inRange ns p = true → p.length = ns.length
  | [], p, h => by simp at h; simp [h]
  | n :: ns, p, h => by
    obtain ⟨d, ps, rfl, _, h'⟩ := (inRange_cons_iff n ns p).mp h
    simp [inRange_length ns ps h']

theorem inRange_pos : ∀ (ns p : List Nat), inRange ns p = true → ∀ n ∈ ns, 0 < n
  | [], _, _ => by simp
  | n :: ns, p, h => by
    obtain ⟨d, ps, rfl, hd, h'⟩ := (inRange_cons_iff n ns p).mp h
    intro m hm
    rcases List.mem_cons.mp hm with rfl | hm
    · omega
    · exact inRange_pos ns ps h' m hm

theorem prod_pos_iff : ∀ (ns : List Nat), 0 < prod ns ↔ ∀ n ∈ ns, 0 < n
  | [] => by simp [prod]
  | n :: ns => by
    rw [prod, Nat.pos_iff_ne_zero, Nat.mul_ne_zero_iff, ← Nat.pos_iff_ne_zero, ← Nat.pos_iff_ne_zero,
      prod_pos_iff ns, List.forall_mem_cons]

theorem val_lt : ∀ (ns p : List Nat), inRange ns p = true → val ns p < prod ns
  | [], p, _ => by simp [val, prod]
  | n :: ns, p, h => by
    obtain ⟨d, ps, rfl, hd, h'⟩ := (inRange_cons_iff n ns p).mp h
    have ih := val_lt ns ps h'
    simp only [val, prod]
    have : n * (val ns ps + 1) ≤ n * prod ns := Nat.mul_le_mul_left n ih
    rw [Nat.mul_succ] at this
    omega

theorem inRange_digits : ∀ (ns : List Nat) (k : Nat), (∀ n ∈ ns, 0 < n) → inRange ns (digits ns k) = true
  | [], _, _ => by simp [digits, inRange]
  | n :: ns, k, h => by
    have h1 : 0 < n := h n (by simp)
    simp only [digits, inRange_cons_cons]
    exact ⟨Nat.mod_lt _ h1, inRange_digits ns (k / n) (fun m hm => h m (by simp [hm]))⟩

theorem val_digits : ∀ (ns : List Nat) (k : Nat), k < prod ns → val ns (digits ns k) = k
  | [], k, h => by simp [prod] at h; simp [val, h]
  | n :: ns, k, h => by
    simp only [prod] at h
    have hk : k / n < prod ns := Nat.div_lt_of_lt_mul h
    simp only [digits, val, val_digits ns (k / n) hk]
    exact Nat.mod_add_div k n

theorem digits_val : ∀ (ns p : List Nat), inRange ns p = true → digits ns (val ns p) = p
  | [], p, h => by simp at h; simp [h, digits]
  | n :: ns, p, h => by
    obtain ⟨d, ps, rfl, hd, h'⟩ := (inRange_cons_iff n ns p).mp h
    have hn : 0 < n := by omega
    simp only [val, digits]
    rw [Nat.add_mul_mod_self_left, Nat.mod_eq_of_lt hd, Nat.add_mul_div_left _ _ hn,
      Nat.div_eq_of_lt hd, Nat.zero_add, digits_val ns ps h']

theorem inRange_zeros : ∀ (ns : List Nat), (∀ n ∈ ns, 0 < n) →
    inRange ns (List.replicate ns.length 0) = true
  | [], _ => by simp [inRange]
  | n :: ns, h => by
    simp only [List.length_cons, List.replicate_succ, inRange_cons_cons]
    exact ⟨h n (by simp), inRange_zeros ns (fun m hm => h m (by simp [hm]))⟩

theorem val_zeros : ∀ (ns : List Nat), val ns (List.replicate ns.length 0) = 0
  | [] => by simp [val]
  | n :: ns => by simp [List.replicate_succ, val, val_zeros ns]

/-- one step of the counter, both outcomes: a successor that is again an index vector, of value one more; or
"finished", reported exactly at the last combination, `val = Πn − 1` -/
theorem incr_spec (ns : List Nat) : ∀ (p : List Nat), inRange ns p = true →
    match incr p (finals ns) with
    | some p' => inRange ns p' = true ∧ val ns p' = val ns p + 1
    | none => val ns p + 1 = prod ns := by
  induction ns with
  | nil => intro p h; simp at h; subst h; simp [incr, val, prod]
  | cons n ns ih =>
    intro p h
    obtain ⟨d, ps, rfl, hd, h'⟩ := (inRange_cons_iff n ns p).mp h
    have hn : 0 < n := by omega
    simp only [show finals (n :: ns) = (n - 1) :: finals ns from rfl, incr]
    by_cases hlt : d < n - 1
    · simp only [hlt, if_true, inRange_cons_cons, val]
      exact ⟨⟨by omega, h'⟩, by omega⟩
    · have ih := ih ps h'
      simp only [hlt, if_false]
      -- the carry: this digit goes back to 0 and the rest of the counter takes the step
      cases hr : incr ps (finals ns) with
      | none =>
        rw [hr] at ih
        simp only [Option.map_none, val, prod, ← ih, Nat.mul_succ]
        omega
      | some r =>
        rw [hr] at ih
        simp only [Option.map_some, inRange_cons_cons, val, ih.2, Nat.mul_succ]
        exact ⟨⟨hn, ih.1⟩, by omega⟩

theorem incr_some (ns p p' : List Nat) (h : inRange ns p = true) (hi : incr p (finals ns) = some p') :
    inRange ns p' = true ∧ val ns p' = val ns p + 1 := by
  have hs := incr_spec ns p h
  rwa [hi] at hs

theorem incr_eq_none_iff (ns p : List Nat) (h : inRange ns p = true) :
    incr p (finals ns) = none ↔ val ns p + 1 = prod ns := by
  have hs := incr_spec ns p h
  cases hi : incr p (finals ns) with
  | none => rw [hi] at hs; exact ⟨fun _ => hs, fun _ => rfl⟩
  | some p' =>
    rw [hi] at hs
    have := val_lt ns p' hs.1
    exact ⟨nofun, fun hv => by omega⟩

/-! ### the iterator -/

section iterator
variable {α β : Type}

abbrev sizesOf (sets : List (List α)) : List Nat := sets.map List.length

theorem sizes_pos (sets : List (List α)) (h : ∀ s ∈ sets, s ≠ []) : ∀ n ∈ sizesOf sets, 0 < n := by
  intro n hn
  obtain ⟨s, hs, rfl⟩ := List.mem_map.mp hn
  exact List.length_pos_iff.mpr (h s hs)

theorem prod_sizesOf_eq_zero {sets : List (List α)} (h : [] ∈ sets) : prod (sizesOf sets) = 0 :=
  Nat.eq_zero_of_not_pos fun hp =>
    Nat.lt_irrefl 0 ((prod_pos_iff _).mp hp 0 (List.mem_map.mpr ⟨[], h, rfl⟩))

theorem any_isEmpty_iff (sets : List (List α)) : sets.any List.isEmpty = true ↔ [] ∈ sets := by
  rw [List.any_eq_true]
  exact ⟨fun ⟨s, hs, he⟩ => List.isEmpty_iff.mp he ▸ hs, fun h => ⟨[], h, rfl⟩⟩

@[simp] theorem pick_nil_right (sets : List (List α)) : pick sets [] = [] := by
  cases sets <;> simp [pick]

/-- the selection of the code over the sets `sets`, the sets `pre` already passed -/
theorem pickFrom_eq (p : List Nat) : ∀ (pre sets : List (List α)),
    inRange (sizesOf sets) p = true → pickFrom (pre ++ sets) pre.length p = some (pick sets p) := by
  induction p with
  | nil => intro _ _ _; rw [pick_nil_right]; rfl
  | cons j r ih =>
    intro pre sets h
    cases sets with
    | nil => cases h
    | cons s rest =>
      obtain ⟨hj, hr⟩ := (inRange_cons_cons _ _ _ _).mp h
      have ih := ih (pre ++ [s]) rest hr
      rw [List.append_assoc, List.length_append, List.length_singleton] at ih
      simp only [pickFrom, List.getElem?_append_right (Nat.le_refl _), Nat.sub_self,
        List.getElem?_cons_zero, List.getElem?_eq_getElem hj, pick]
      rw [show pre ++ s :: rest = pre ++ ([s] ++ rest) from rfl, ih]

theorem pick_cons {s : List α} {d : Nat} (hd : d < s.length) (ss : List (List α)) (ps : List Nat) :
    pick (s :: ss) (d :: ps) = s[d] :: pick ss ps := by
  simp only [pick, List.getElem?_eq_getElem hd]

theorem pick_length : ∀ (sets : List (List α)) (p : List Nat), inRange (sizesOf sets) p = true →
    (pick sets p).length = sets.length
  | [], p, h => by simp at h; simp [h]
  | s :: ss, p, h => by
    obtain ⟨d, ps, rfl, hd, h'⟩ := (inRange_cons_iff _ _ p).mp h
    rw [pick_cons hd, List.length_cons, pick_length ss ps h', List.length_cons]

/-- on index sets `0..n` the picked items are the indices themselves -/
theorem pick_ranges : ∀ (ns p : List Nat), inRange ns p = true → pick (ns.map List.range) p = p
  | [], p, h => by simp at h; simp [h]
  | n :: ns, p, h => by
    obtain ⟨d, ps, rfl, hd, h'⟩ := (inRange_cons_iff _ _ p).mp h
    rw [List.map_cons, pick_cons (by rw [List.length_range]; exact hd), pick_ranges ns ps h',
      List.getElem_range]

/-! ### a run that ends, from any iterator state -/

/-- a run that ends: the iterator was at its end, or it handed out an item, `f` accepted it and the
rest of the run ended with one unit of fuel less -/
theorem collectMap_succ_ok {f : List α → Outcome β} {n : Nat} {ms : MultiSet α} {l : List β}
    (h : collectMap f (n + 1) ms = .ok l) :
    (∃ ms', next ms = .ok (none, ms') ∧ l = []) ∨
    ∃ x ms' y ys, next ms = .ok (some x, ms') ∧ f x = .ok y ∧ collectMap f n ms' = .ok ys ∧
      l = y :: ys := by
  rw [collectMap] at h
  cases hn : next ms with
  | panic s => rw [hn] at h; cases h
  | diverges => rw [hn] at h; cases h
  | ok r =>
    obtain ⟨o, ms'⟩ := r
    rw [hn] at h
    cases o with
    | none => cases h; exact Or.inl ⟨ms', rfl, rfl⟩
    | some x =>
      refine Or.inr ?_
      dsimp only at h
      cases hfx : f x with
      | panic s => rw [hfx] at h; cases h
      | diverges => rw [hfx] at h; cases h
      | ok y =>
        rw [hfx] at h
        dsimp only at h
        cases hc : collectMap f n ms' with
        | panic s => rw [hc] at h; cases h
        | diverges => rw [hc] at h; cases h
        | ok ys => rw [hc] at h; cases h; exact ⟨x, ms', y, ys, rfl, hfx, hc, rfl⟩

/-- more fuel never changes a finished run -/
theorem collectMap_fuel_mono (f : List α → Outcome β) (n : Nat) : ∀ (ms : MultiSet α) (l : List β),
    collectMap f n ms = .ok l → ∀ k, collectMap f (n + k) ms = .ok l := by
  induction n with
  | zero => intro _ _ h; cases h
  | succ n ih =>
    intro ms l h k
    rw [Nat.add_right_comm, collectMap]
    rcases collectMap_succ_ok h with ⟨ms', hn, rfl⟩ | ⟨x, ms', y, ys, hn, hfx, hc, rfl⟩
    · rw [hn]
    · rw [hn]
      simp only [hfx, ih ms' ys hc k]

theorem takeN_of_collect (fuel : Nat) : ∀ (ms : MultiSet α) (l : List (List α)),
    collect fuel ms = .ok l → ∀ k, takeN k ms = .ok (l.take k, decide (l.length < k)) := by
  induction fuel with
  | zero => intro _ _ h; cases h
  | succ fuel ih =>
    intro ms l h k
    cases k with
    | zero => rw [List.take_zero]; rfl
    | succ k =>
      rw [takeN]
      rcases collectMap_succ_ok h with ⟨ms', hn, rfl⟩ | ⟨x, ms', y, ys, hn, hfx, hc, rfl⟩
      · rw [hn]; rfl
      · cases hfx
        rw [hn]
        simp only [ih ms' ys hc k, List.take_succ_cons, List.length_cons, Nat.add_lt_add_iff_right]

/-! ### the iterator at a position -/

/-- the iterator over `sets` at position `pos` (`some p`: at the index vector `p`; `none`: finished) -/
def at_ (sets : List (List α)) (pos : Option (List Nat)) : MultiSet α :=
  { sets := sets, pos := pos, finalPos := finals (sizesOf sets) }

theorem from_eq (sets : List (List α)) :
    MultiSet.from sets
      = at_ sets (if sets.any List.isEmpty then none else some (List.replicate sets.length 0)) := by
  simp [MultiSet.from, at_, finals, List.map_map, Function.comp_def]

/-- `next` hands out the items at `p` and moves to the successor of `p` (no panic) -/
theorem next_at (sets : List (List α)) (p : List Nat) (hr : inRange (sizesOf sets) p = true) :
    next (at_ sets (some p)) = .ok (some (pick sets p), at_ sets (incr p (finals (sizesOf sets)))) := by
  have hlen : p.length = sets.length := by simpa using inRange_length _ _ hr
  have hp : p = [] → sets.isEmpty = true := fun h => by
    subst h; exact List.isEmpty_iff.mpr (List.length_eq_zero_iff.mp hlen.symm)
  have hpick : pickFrom sets 0 p = some (pick sets p) := pickFrom_eq p [] sets hr
  obtain ⟨np, fin, hcar, hpos⟩ := carry_eq (finals (sizesOf sets)) sets.length sets.isEmpty p 0
    (by omega) (by simp [finals]) hp
  rw [hlen, List.replicate_zero, List.nil_append] at hcar
  rw [List.drop_zero] at hpos
  simp only [next, at_, hpick, hcar, hpos, List.replicate_zero, List.nil_append, Option.map_id']

theorem next_done (sets : List (List α)) : next (at_ sets none) = .ok (none, at_ sets none) := rfl

/-- from an index vector `p` with `j + 1` combinations left, fuel `j + 2` yields exactly the
combinations of value `val p, …, val p + j`, mapped through `f` -/
theorem collectMap_at (sets : List (List α)) (f : List α → Outcome β)
    (g : List α → β)
    (hf : ∀ c, inRange (sizesOf sets) c = true → f (pick sets c) = .ok (g (pick sets c))) :
    ∀ (j : Nat) (p : List Nat), inRange (sizesOf sets) p = true →
      val (sizesOf sets) p + j + 1 = prod (sizesOf sets) →
      collectMap f (j + 2) (at_ sets (some p))
        = .ok ((List.range' (val (sizesOf sets) p) (j + 1)).map
            (fun k => g (pick sets (digits (sizesOf sets) k)))) := by
  intro j
  induction j with
  | zero =>
    intro p hr hv
    have hnone : incr p (finals (sizesOf sets)) = none := (incr_eq_none_iff _ p hr).mpr (by omega)
    simp only [collectMap, next_at sets p hr, hf p hr, hnone, next_done]
    simp [List.range', digits_val _ p hr]
  | succ j ih =>
    intro p hr hv
    cases hi : incr p (finals (sizesOf sets)) with
    | none => have := (incr_eq_none_iff _ p hr).mp hi; omega
    | some p' =>
      obtain ⟨h1, h2⟩ := incr_some _ p p' hr hi
      have ih' := ih p' h1 (by omega)
      rw [collectMap, next_at sets p hr, hi]
      simp only [hf p hr, ih']
      have e : List.range' (val (sizesOf sets) p) (j + 1 + 1)
          = val (sizesOf sets) p :: List.range' (val (sizesOf sets) p + 1) (j + 1) := List.range'_succ
      rw [e, h2]
      simp [digits_val _ p hr]

/-! ### the enumeration for every input -/

/-- an empty set: no combination (`pos` is `None` from the start) -/
theorem collectMap_empty_set (f : List α → Outcome β) (sets : List (List α)) (h : [] ∈ sets)
    (fuel : Nat) : collectMap f (fuel + 1) (MultiSet.from sets) = .ok [] := by
  rw [from_eq, (any_isEmpty_iff sets).mpr h]
  simp only [if_true]
  rw [collectMap, next_done]

/-- `map f` over the iterator ends within fuel `Πn + 1`, never panics, and yields the combinations in the
order of `combos` — none when a set is empty, the single empty one when there is no set -/
theorem collectMap_from_all (sets : List (List α)) (f : List α → Outcome β) (g : List α → β)
    (hf : ∀ c, inRange (sizesOf sets) c = true → f (pick sets c) = .ok (g (pick sets c))) :
    collectMap f (fuelFor (sizesOf sets)) (MultiSet.from sets)
      = .ok ((combos (sizesOf sets)).map (fun c => g (pick sets c))) := by
  by_cases hem : [] ∈ sets
  · have := collectMap_empty_set f sets hem 0
    simpa [fuelFor, prod_sizesOf_eq_zero hem, combos] using this
  · -- no empty set: the counter starts at the zero vector, of value 0, with `Πn ≥ 1` combinations to go
    have hpos : ∀ s ∈ sets, s ≠ [] := fun s hs e => hem (e ▸ hs)
    have hp := sizes_pos sets hpos
    have hprod := (prod_pos_iff _).mpr hp
    have hz := inRange_zeros _ hp
    have hv := val_zeros (sizesOf sets)
    simp only [sizesOf, List.length_map] at hz hv
    obtain ⟨j, hj⟩ : ∃ j, prod (sizesOf sets) = j + 1 := ⟨prod (sizesOf sets) - 1, by omega⟩
    have := collectMap_at sets f g hf j _ hz (by rw [hv]; omega)
    rw [from_eq, Bool.eq_false_iff.mpr (mt (any_isEmpty_iff sets).mp hem)]
    simp only [Bool.false_eq_true, if_false]
    rw [fuelFor, hj, this, hv, combos, hj, List.range_eq_range', List.map_map]
    rfl

theorem toList_eq (sets : List (List α)) :
    toList sets = .ok ((combos (sizesOf sets)).map (pick sets)) :=
  collectMap_from_all sets .ok id (fun _ _ => rfl)

theorem collect_from (sets : List (List α)) (hne : sets ≠ []) (hpos : ∀ s ∈ sets, s ≠ []) :
    toList sets = .ok ((combos (sizesOf sets)).map (pick sets)) :=
  toList_eq sets

end iterator

/-! ### the closed form: length, no repetition, completeness, order -/

theorem combos_length (ns : List Nat) : (combos ns).length = prod ns := by simp [combos]

theorem combos_getElem? (ns : List Nat) (k : Nat) (h : k < prod ns) :
    (combos ns)[k]? = some (digits ns k) := by
  simp [combos, List.getElem?_range h]

theorem mem_combos (ns c : List Nat) : c ∈ combos ns ↔ inRange ns c = true := by
  constructor
  · intro h
    obtain ⟨k, hk, rfl⟩ := List.mem_map.mp h
    have hk' : k < prod ns := List.mem_range.mp hk
    exact inRange_digits ns k ((prod_pos_iff ns).mp (by omega))
  · intro h
    exact List.mem_map.mpr ⟨val ns c, List.mem_range.mpr (val_lt ns c h), digits_val ns c h⟩

theorem combos_nodup (ns : List Nat) : (combos ns).Nodup := by
  refine List.Nodup.map_on ?_ List.nodup_range
  intro x hx y hy hxy
  rw [← val_digits ns x (List.mem_range.mp hx), ← val_digits ns y (List.mem_range.mp hy), hxy]

theorem sizesOf_map_range (ns : List Nat) : sizesOf (ns.map List.range) = ns := by
  simp [sizesOf, List.map_map, Function.comp_def]

/-- over the index sets `0..nᵢ` the iterator hands `f` the index vectors themselves -/
theorem collectMap_from_ranges {β : Type} (ns : List Nat) (f : List Nat → Outcome β) (g : List Nat → β)
    (hf : ∀ c, inRange ns c = true → f c = .ok (g c)) :
    collectMap f (fuelFor ns) (MultiSet.from (ns.map List.range)) = .ok ((combos ns).map g) := by
  have := collectMap_from_all (ns.map List.range) f g
  rw [sizesOf_map_range] at this
  rw [this fun c hc => by rw [pick_ranges ns c hc]; exact hf c hc]
  exact congrArg _ (List.map_congr_left fun c hc => by rw [pick_ranges ns c ((mem_combos ns c).mp hc)])

theorem toList_ranges (ns : List Nat) : toList (ns.map List.range) = .ok (combos ns) := by
  show collectMap .ok (fuelFor (sizesOf (ns.map List.range))) _ = _
  rw [sizesOf_map_range, collectMap_from_ranges ns .ok id fun _ _ => rfl, List.map_id]

end MultiSet
end Compass
