/-
The readers of `Model/SinkRead.lean` give back what the sink wrote.  JSON: `parse (compact j) = some (eraseBits j)`
(`parse_compact`) — first strings (`parseStrBody` on escaped characters), then values, elements and members by
mutual recursion with enough fuel (`need`).  CSV, RFC 4180: `readRow` gives back the fields of a written row
(`readRow_join`), and `splitRecords` cuts a file back into the rows that were written (`Balanced`,
`splitRecords_records`).  Core Lean only.
-/
import Compass.Model.SinkRead
import Compass.Proofs.Sink

namespace Compass
namespace SinkRead
open Sink

theorem hexVal_hexDigit : ∀ n, n < 16 → hexVal (hexDigit n) = some n := by decide +kernel

/-- `parseStrBody` on a non-empty text, as the definition reads.  The function only unfolds once the tail is known
five deep (the `\uXXXX` pattern of its recursion), so the tail is taken apart that far; each shape holds by `rfl`. -/
theorem parseStrBody_cons (c : Char) (rest : List Char) :
    parseStrBody (c :: rest) =
      if c = '"' then some ([], rest)
      else if c = '\\' then
        match rest with
        | [] => none
        | e :: rest' =>
          if e = 'u' then
            match rest' with
            | a :: b :: c' :: d :: rest'' =>
              match hexVal a, hexVal b, hexVal c', hexVal d, parseStrBody rest'' with
              | some x, some y, some z, some w, some (s, r) =>
                some (Char.ofNat (((x * 16 + y) * 16 + z) * 16 + w) :: s, r)
              | _, _, _, _, _ => none
            | _ => none
          else
            match unescape1 e, parseStrBody rest' with
            | some ch, some (s, r) => some (ch :: s, r)
            | _, _ => none
      else if c.toNat < 32 then none
      else
        match parseStrBody rest with
        | some (s, r) => some (c :: s, r)
        | none => none := by
  rcases rest with _ | ⟨a, _ | ⟨b, _ | ⟨c, _ | ⟨d, _ | ⟨e, r⟩⟩⟩⟩⟩ <;> rfl

/-- reading an escaped character gives the character back, in front of what the rest reads as -/
theorem parseStrBody_escapeChar (c : Char) (tail : List Char) :
    parseStrBody (escapeChar c ++ tail) = (parseStrBody tail).map (Prod.map (c :: ·) id) := by
  rcases escapeChar_cases c with ⟨e, he, h⟩ | ⟨h32, h⟩ | ⟨h1, h2, h32, h⟩ <;> rw [h]
  · -- a backslash and one letter
    obtain ⟨hu, hc⟩ := (by decide : ∀ p ∈ shortEscapes, p.2 ≠ 'u' ∧ unescape1 p.2 = some p.1) _ he
    show parseStrBody ('\\' :: e :: tail) = _
    rw [parseStrBody_cons, if_neg (by decide), if_pos rfl]
    simp only [hu, hc, if_false]
    cases parseStrBody tail <;> rfl
  · -- `\u00XY`: the two hex digits read back as the character's code
    show parseStrBody ('\\' :: 'u' :: '0' :: '0' :: hexDigit (c.toNat / 16) :: hexDigit (c.toNat % 16) :: tail) = _
    rw [parseStrBody_cons, if_neg (by decide), if_pos rfl]
    simp only [if_true]
    rw [show hexVal '0' = some 0 by decide,
      hexVal_hexDigit _ (Nat.div_lt_of_lt_mul (Nat.lt_trans h32 (by decide))),
      hexVal_hexDigit _ (Nat.mod_lt _ (by decide))]
    have hval : ((0 * 16 + 0) * 16 + c.toNat / 16) * 16 + c.toNat % 16 = c.toNat := by
      rw [Nat.zero_mul, Nat.zero_add]
      exact Nat.div_add_mod' _ _
    cases parseStrBody tail with
    | none => rfl
    | some p => simp only [hval, Char.ofNat_toNat]; rfl
  · -- the character itself
    show parseStrBody (c :: tail) = _
    rw [parseStrBody_cons, if_neg h1, if_neg h2, if_neg h32]
    cases parseStrBody tail <;> rfl

theorem parseStrBody_escapeChars (cs rest : List Char) :
    parseStrBody (escapeChars cs ++ '"' :: rest) = some (cs, rest) := by
  induction cs with
  | nil => exact (parseStrBody_cons '"' rest).trans (if_pos rfl)
  | cons c cs ih =>
    simp only [escapeChars, List.append_assoc]
    rw [parseStrBody_escapeChar, ih]
    rfl

/-- `expect` takes exactly the word it is given off the front of the text -/
theorem expect_append (w t : List Char) : expect w (w ++ t) = some t := by
  induction w with
  | nil => cases t <;> rfl
  | cons c cs ih =>
    show (if c = c then expect cs (cs ++ t) else none) = _
    rw [if_pos rfl, ih]

/-- `parseValue` on a non-empty text, as the definition reads; the cases of the round trip rewrite with it -/
theorem parseValue_cons (fuel : Nat) (c : Char) (rest : List Char) :
    parseValue (fuel + 1) (c :: rest) =
      if c = '"' then
        match parseStrBody rest with
        | some (s, r) => some (.str (String.ofList s), r)
        | none => none
      else if c = '[' then
        match expect [']'] rest with
        | some r => some (.arr [], r)
        | none =>
          match parseElems fuel rest with
          | some (xs, r) => some (.arr xs, r)
          | none => none
      else if c = '{' then
        match expect ['}'] rest with
        | some r => some (.obj [], r)
        | none =>
          match parseMembers fuel rest with
          | some (kvs, r) => some (.obj kvs, r)
          | none => none
      else if c = 'n' then (expect ['u', 'l', 'l'] rest).map fun r => (.null, r)
      else if c = 't' then (expect ['r', 'u', 'e'] rest).map fun r => (.bool true, r)
      else if c = 'f' then (expect ['a', 'l', 's', 'e'] rest).map fun r => (.bool false, r)
      else if isNumChar c then
        some (.num (String.ofList ((c :: rest).takeWhile isNumChar)) 0, (c :: rest).dropWhile isNumChar)
      else none := rfl

/-- an element and what follows it: `,` and more elements, or `]` -/
theorem parseElems_of_value (fuel : Nat) (t r : List Char) (x : Json) (d : Char)
    (h : parseValue fuel t = some (x, d :: r)) :
    parseElems (fuel + 1) t =
      if d = ',' then
        match parseElems fuel r with
        | some (xs, r') => some (x :: xs, r')
        | none => none
      else if d = ']' then some ([x], r) else none := by
  rw [parseElems, h]
  rfl

/-- a member and what follows it: `,` and more members, or `}` -/
theorem parseMembers_of_value (fuel : Nat) (k : String) (t r : List Char) (v : Json) (d : Char)
    (h : parseValue fuel t = some (v, d :: r)) :
    parseMembers (fuel + 1) ('"' :: (escapeChars k.toList ++ '"' :: ':' :: t)) =
      if d = ',' then
        match parseMembers fuel r with
        | some (kvs, r') => some ((k, v) :: kvs, r')
        | none => none
      else if d = '}' then some ([(k, v)], r) else none := by
  rw [parseMembers, if_pos rfl, parseStrBody_escapeChars]
  dsimp only
  rw [if_pos rfl, h, String.ofList_toList]
  rfl

/-! ### numbers: where a lexeme ends -/

theorem special_not_numChar : ∀ d ∈ ['"', '[', '{', 'n', 't', 'f', ']', '}'], isNumChar d = false := by decide

/-- a number character is none of the characters `parseValue` tests before it, nor a closing bracket -/
theorem numChar_ne {c d : Char} (h : isNumChar c = true) (hd : d ∈ ['"', '[', '{', 'n', 't', 'f', ']', '}']) :
    c ≠ d := by
  intro e
  rw [e, special_not_numChar d hd] at h
  cases h

/-- what may follow a value: nothing, or a character that cannot continue a number -/
def Delim (rest : List Char) : Prop := ∀ c r, rest = c :: r → isNumChar c = false

theorem delim_nil : Delim [] := by intro c r h; cases h
theorem delim_cons (c : Char) (r : List Char) (h : isNumChar c = false) : Delim (c :: r) := by
  intro c' r' e; cases e; exact h

theorem takeWhile_delim (rest : List Char) (h : Delim rest) :
    rest.takeWhile isNumChar = [] ∧ rest.dropWhile isNumChar = rest := by
  cases rest with
  | nil => simp
  | cons c r => simp [h c r rfl]

theorem parseValue_num (l : String) (h : lexOk l = true) (fuel : Nat) (rest : List Char)
    (hd : Delim rest) : parseValue (fuel + 1) (l.toList ++ rest) = some (.num l 0, rest) := by
  have hall := lexOk_all l h
  cases hl : l.toList with
  | nil => exact absurd hl (lexOk_ne_nil l h)
  | cons c t =>
    have hc : isNumChar c = true := hall c (hl ▸ List.mem_cons_self ..)
    rw [List.cons_append, parseValue_cons, if_neg (numChar_ne hc (by decide)), if_neg (numChar_ne hc (by decide)),
      if_neg (numChar_ne hc (by decide)), if_neg (numChar_ne hc (by decide)), if_neg (numChar_ne hc (by decide)),
      if_neg (numChar_ne hc (by decide)), if_pos hc]
    have hall' : ∀ a ∈ c :: t, isNumChar a = true := hl ▸ hall
    rw [← List.cons_append, List.takeWhile_append_of_pos hall', List.dropWhile_append_of_pos hall',
      (takeWhile_delim rest hd).1, (takeWhile_delim rest hd).2, List.append_nil, ← hl, String.ofList_toList]

/-! ### fuel -/

mutual
/-- fuel that suffices to read a value back -/
def need : Json → Nat
  | .arr xs => 1 + needList xs
  | .obj kvs => 1 + needKvs kvs
  | _ => 1
def needList : List Json → Nat
  | [] => 0
  | x :: xs => 1 + need x + needList xs
def needKvs : List (String × Json) → Nat
  | [] => 0
  | (_, v) :: r => 1 + need v + needKvs r
end

theorem need_pos : ∀ j : Json, 0 < need j
  | .arr _ | .obj _ => Nat.lt_of_lt_of_le Nat.zero_lt_one (Nat.le_add_right 1 _)
  | .null | .bool _ | .num _ _ | .str _ => Nat.zero_lt_one

/-! The fuel left for the parts of a nested value: `need (.arr xs) ≤ f + 1` and `needList (x :: xs) ≤ f + 1` are, by
unfolding, hypotheses of these two shapes. -/

theorem le_of_one_add_le_succ {a f : Nat} (h : 1 + a ≤ f + 1) : a ≤ f := by omega
theorem le_of_one_add_add_le_succ {a b f : Nat} (h : 1 + a + b ≤ f + 1) : a ≤ f ∧ b ≤ f := by omega

/-! ### the shapes of the written text -/

theorem txt_null : txt "null" = ['n', 'u', 'l', 'l'] := by decide +kernel
theorem txt_true : txt "true" = ['t', 'r', 'u', 'e'] := by decide +kernel
theorem txt_false : txt "false" = ['f', 'a', 'l', 's', 'e'] := by decide +kernel


/-- text that follows a bracketed text `o :: (body ++ [c])` (see `Sink.not_mem_bracket`) moves inside the bracket -/
theorem bracket_append (o c : Char) (body rest : List Char) :
    (o :: (body ++ [c])) ++ rest = o :: (body ++ c :: rest) :=
  congrArg (o :: ·) (List.append_assoc body [c] rest)

theorem joinWith_cons_append (c : Char) (x : List Char) (l : List (List Char)) (hl : l ≠ []) (t : List Char) :
    joinWith [c] (x :: l) ++ t = x ++ c :: (joinWith [c] l ++ t) := by
  cases l with
  | nil => exact absurd rfl hl
  | cons y r =>
    rw [joinWith_cons_cons, List.append_assoc, List.append_assoc]
    rfl

theorem member_text (k : String) (body tail : List Char) :
    (quoteStr k ++ ':' :: body) ++ tail = '"' :: (escapeChars k.toList ++ '"' :: ':' :: (body ++ tail)) := by
  rw [List.append_assoc]
  exact bracket_append '"' '"' _ _

/-! ### a written value does not begin with `]` -/

/-- after `[` the reader first tries `]`, to detect the empty array; on a written non-empty array that attempt must
fail: the text of the first element does not begin with `]` -/
theorem expect_compact (j : Json) (h : numsOk j = true) (t : List Char) : expect [']'] (compact j ++ t) = none := by
  cases j with
  | null =>
    show expect _ (txt "null" ++ t) = none
    rw [txt_null]
    rfl
  | bool b =>
    cases b with
    | false =>
      show expect _ (txt "false" ++ t) = none
      rw [txt_false]
      rfl
    | true =>
      show expect _ (txt "true" ++ t) = none
      rw [txt_true]
      rfl
  | num l b =>
    show expect [']'] (l.toList ++ t) = none
    cases hl : l.toList with
    | nil => exact absurd hl (lexOk_ne_nil l h)
    | cons a as => exact if_neg (numChar_ne (lexOk_all l h a (hl ▸ List.mem_cons_self ..)) (by decide)).symm
  | str s => rfl
  | arr xs => rfl
  | obj kvs => rfl

/-- if `expect [c]` fails on the first part, whatever follows it, it fails on the joined text -/
theorem expect_joinWith (c : Char) (x : List Char) (r : List (List Char)) (t : List Char)
    (h : ∀ t', expect [c] (x ++ t') = none) : expect [c] (joinWith [','] (x :: r) ++ t) = none := by
  cases r with
  | nil => exact h t
  | cons y r => rw [joinWith_cons_append _ _ _ (List.cons_ne_nil _ _)]; exact h _

mutual
/-- the reader gives back a value's text, whatever (delimiting) text follows -/
theorem parseValue_compact : ∀ (j : Json), numsOk j = true → ∀ (fuel : Nat) (rest : List Char),
    need j ≤ fuel → Delim rest → parseValue fuel (compact j ++ rest) = some (eraseBits j, rest)
  | .null, _, f + 1, rest, _, _ => by
    show parseValue _ (txt "null" ++ rest) = _
    rw [txt_null]; rfl
  | .bool true, _, f + 1, rest, _, _ => by
    show parseValue _ (txt "true" ++ rest) = _
    rw [txt_true]; rfl
  | .bool false, _, f + 1, rest, _, _ => by
    show parseValue _ (txt "false" ++ rest) = _
    rw [txt_false]; rfl
  | .num l _, h, f + 1, rest, _, hd => parseValue_num l h f rest hd
  | .str s, _, f + 1, rest, _, _ => by
    rw [show compact (.str s) ++ rest = _ from bracket_append '"' '"' _ rest, parseValue_cons, if_pos rfl,
      parseStrBody_escapeChars]
    show some (Json.str (String.ofList s.toList), rest) = _
    rw [String.ofList_toList]; rfl
  | .arr [], _, f + 1, rest, _, _ => rfl
  | .arr (x :: xs), h, f + 1, rest, hf, _ => by
    have hexp : expect [']'] (joinWith [','] (compactList (x :: xs)) ++ ']' :: rest) = none :=
      expect_joinWith ']' (compact x) (compactList xs) _ (expect_compact x (numsOkList_cons.1 h).1)
    rw [show compact (.arr (x :: xs)) ++ rest = _ from bracket_append '[' ']' _ rest, parseValue_cons,
      if_neg (by decide), if_pos rfl, hexp,
      parseElems_compact (x :: xs) (List.cons_ne_nil _ _) h f rest (le_of_one_add_le_succ hf)]
    rfl
  | .obj [], _, f + 1, rest, _, _ => rfl
  | .obj ((k, v) :: kvs), h, f + 1, rest, hf, _ => by
    have hexp : expect ['}'] (joinWith [','] (compactKvs ((k, v) :: kvs)) ++ '}' :: rest) = none :=
      expect_joinWith '}' (quoteStr k ++ ':' :: compact v) (compactKvs kvs) _ (fun _ => rfl)
    rw [show compact (.obj ((k, v) :: kvs)) ++ rest = _ from bracket_append '{' '}' _ rest, parseValue_cons,
      if_neg (by decide), if_neg (by decide), if_pos rfl, hexp,
      parseMembers_compact ((k, v) :: kvs) (List.cons_ne_nil _ _) h f rest (le_of_one_add_le_succ hf)]
    rfl
  | j, _, 0, _, hf, _ => absurd hf (Nat.not_le_of_gt (need_pos j))
/-- `v,v,…,v]` -/
theorem parseElems_compact : ∀ (xs : List Json), xs ≠ [] → numsOkList xs = true → ∀ (fuel : Nat) (rest : List Char),
    needList xs ≤ fuel →
    parseElems fuel (joinWith [','] (compactList xs) ++ ']' :: rest) = some (eraseBitsList xs, rest)
  | [], hne, _, _, _, _ => absurd rfl hne
  | [x], _, h, f + 1, rest, hf => by
    rw [show joinWith [','] (compactList [x]) = compact x from rfl,
      parseElems_of_value f _ _ _ _ (parseValue_compact x (numsOkList_cons.1 h).1 f (']' :: rest)
        (le_of_one_add_add_le_succ hf).1 (delim_cons _ _ (by decide))),
      if_neg (by decide), if_pos rfl]
    rfl
  | x :: y :: ys, _, h, f + 1, rest, hf => by
    obtain ⟨hx, hys⟩ := numsOkList_cons.1 h
    obtain ⟨hnx, hny⟩ := le_of_one_add_add_le_succ hf
    rw [show compactList (x :: y :: ys) = compact x :: compactList (y :: ys) from rfl,
      joinWith_cons_append ',' (compact x) (compactList (y :: ys)) (List.cons_ne_nil _ _),
      parseElems_of_value f _ _ _ _ (parseValue_compact x hx f _ hnx (delim_cons _ _ (by decide))), if_pos rfl,
      parseElems_compact (y :: ys) (List.cons_ne_nil _ _) hys f rest hny]
    rfl
  | x :: xs, _, _, 0, _, hf => absurd (show 1 + need x + needList xs ≤ 0 from hf) (by omega)
/-- `"k":v,…,"k":v}` -/
theorem parseMembers_compact : ∀ (kvs : List (String × Json)), kvs ≠ [] → numsOkKvs kvs = true →
    ∀ (fuel : Nat) (rest : List Char), needKvs kvs ≤ fuel →
    parseMembers fuel (joinWith [','] (compactKvs kvs) ++ '}' :: rest) = some (eraseBitsKvs kvs, rest)
  | [], hne, _, _, _, _ => absurd rfl hne
  | [(k, v)], _, h, f + 1, rest, hf => by
    rw [show joinWith [','] (compactKvs [(k, v)]) = quoteStr k ++ ':' :: compact v from rfl, member_text,
      parseMembers_of_value f _ _ _ _ _ (parseValue_compact v (numsOkKvs_cons.1 h).1 f ('}' :: rest)
        (le_of_one_add_add_le_succ hf).1 (delim_cons _ _ (by decide))),
      if_neg (by decide), if_pos rfl]
    rfl
  | (k, v) :: (k2, v2) :: kvs, _, h, f + 1, rest, hf => by
    obtain ⟨hv, hr⟩ := numsOkKvs_cons.1 h
    obtain ⟨hnv, hnr⟩ := le_of_one_add_add_le_succ hf
    rw [show compactKvs ((k, v) :: (k2, v2) :: kvs)
          = (quoteStr k ++ ':' :: compact v) :: compactKvs ((k2, v2) :: kvs) from rfl,
      joinWith_cons_append ',' _ (compactKvs ((k2, v2) :: kvs)) (List.cons_ne_nil _ _), member_text,
      parseMembers_of_value f _ _ _ _ _ (parseValue_compact v hv f _ hnv (delim_cons _ _ (by decide))), if_pos rfl,
      parseMembers_compact ((k2, v2) :: kvs) (List.cons_ne_nil _ _) hr f rest hnr]
    rfl
  | (k, v) :: kvs, _, _, 0, _, hf => absurd (show 1 + need v + needKvs kvs ≤ 0 from hf) (by omega)
end

mutual
/-- the text of a value is at least as long as the fuel reading it takes, so the fuel `t.length + 1` of `parse`
suffices -/
theorem need_le_length : ∀ (j : Json), numsOk j = true → need j ≤ (compact j).length
  | .null, _ => by decide +kernel
  | .bool true, _ => by decide +kernel
  | .bool false, _ => by decide +kernel
  | .num l _, h => List.length_pos_iff.2 (lexOk_ne_nil l h)
  | .str s, _ => Nat.succ_le_succ (Nat.zero_le _)
  | .arr xs, h => by
    have := needList_le_length xs h
    show 1 + needList xs ≤ ('[' :: (joinWith [','] (compactList xs) ++ [']'])).length
    rw [List.length_cons, List.length_append, List.length_singleton]
    omega
  | .obj kvs, h => by
    have := needKvs_le_length kvs h
    show 1 + needKvs kvs ≤ ('{' :: (joinWith [','] (compactKvs kvs) ++ ['}'])).length
    rw [List.length_cons, List.length_append, List.length_singleton]
    omega
theorem needList_le_length : ∀ (xs : List Json), numsOkList xs = true →
    needList xs ≤ (joinWith [','] (compactList xs)).length + 1
  | [], _ => Nat.zero_le _
  | [x], h => by
    have := need_le_length x (numsOkList_cons.1 h).1
    show 1 + need x + 0 ≤ (compact x).length + 1
    omega
  | x :: y :: ys, h => by
    have h1 := need_le_length x (numsOkList_cons.1 h).1
    have h2 := needList_le_length (y :: ys) (numsOkList_cons.1 h).2
    show 1 + need x + needList (y :: ys)
      ≤ (compact x ++ [','] ++ joinWith [','] (compactList (y :: ys))).length + 1
    rw [List.length_append, List.length_append, List.length_singleton]
    omega
theorem needKvs_le_length : ∀ (kvs : List (String × Json)), numsOkKvs kvs = true →
    needKvs kvs ≤ (joinWith [','] (compactKvs kvs)).length + 1
  | [], _ => Nat.zero_le _
  | [(k, v)], h => by
    have := need_le_length v (numsOkKvs_cons.1 h).1
    show 1 + need v + 0 ≤ (quoteStr k ++ ':' :: compact v).length + 1
    rw [List.length_append, List.length_cons]
    omega
  | (k, v) :: (k2, v2) :: kvs, h => by
    have h1 := need_le_length v (numsOkKvs_cons.1 h).1
    have h2 := needKvs_le_length ((k2, v2) :: kvs) (numsOkKvs_cons.1 h).2
    show 1 + need v + needKvs ((k2, v2) :: kvs)
      ≤ ((quoteStr k ++ ':' :: compact v) ++ [','] ++ joinWith [','] (compactKvs ((k2, v2) :: kvs))).length + 1
    rw [List.length_append, List.length_append, List.length_append, List.length_cons, List.length_singleton]
    omega
end

/-- the round trip: reading the compact text of a value gives the value back (numbers as their lexemes) -/
theorem parse_compact (j : Json) (h : numsOk j = true) : parse (compact j) = some (eraseBits j) := by
  unfold parse
  have := parseValue_compact j h ((compact j).length + 1) [] (by have := need_le_length j h; omega) delim_nil
  rw [List.append_nil] at this
  rw [this]

mutual
theorem depth_eraseBits : ∀ j : Json, depth (eraseBits j) = depth j
  | .null | .bool _ | .num _ _ | .str _ => rfl
  | .arr xs => congrArg (1 + ·) (depthList_eraseBits xs)
  | .obj kvs => congrArg (1 + ·) (depthKvs_eraseBits kvs)
theorem depthList_eraseBits : ∀ xs : List Json, depthList (eraseBitsList xs) = depthList xs
  | [] => rfl
  | x :: xs => by
    show max _ _ = max _ _
    rw [depth_eraseBits x, depthList_eraseBits xs]
theorem depthKvs_eraseBits : ∀ kvs : List (String × Json), depthKvs (eraseBitsKvs kvs) = depthKvs kvs
  | [] => rfl
  | (_, v) :: r => by
    show max _ _ = max _ _
    rw [depth_eraseBits v, depthKvs_eraseBits r]
end

/-- the record of a response reads back with `serde_json`'s limit exactly when it is nested less than 128 deep -/
theorem parseSerde_compact (j : Json) (h : numsOk j = true) :
    parseSerde (compact j) = if depth j ≤ serdeDepthLimit then some (eraseBits j) else none := by
  unfold parseSerde
  rw [parse_compact j h]
  simp only [depth_eraseBits]

/-! ### CSV: a reader gets back the fields that were written -/

theorem not_special_of_not_needsQuotes (t : List Char) (h : needsQuotes t = false) :
    ∀ c ∈ t, c ≠ ',' ∧ c ≠ '"' ∧ c ≠ '\n' := by
  intro c hc
  unfold needsQuotes at h
  have := List.any_eq_false.1 h c hc
  simp only [Bool.or_eq_true, beq_iff_eq, not_or] at this
  exact ⟨this.1.1.1, this.1.1.2, this.1.2⟩

theorem readAux_plain_run (t rest cur : List Char) (acc : List (List Char)) (h : ∀ c ∈ t, c ≠ ',') :
    readAux (t ++ rest) .plain cur acc = readAux rest .plain (t.reverse ++ cur) acc := by
  induction t generalizing cur with
  | nil => rfl
  | cons c cs ih =>
    show (if c = ',' then _ else readAux (cs ++ rest) .plain (c :: cur) acc) = _
    rw [if_neg (h c (List.mem_cons_self ..)), ih _ (fun x hx => h x (List.mem_cons_of_mem _ hx)),
      List.reverse_cons, List.append_assoc]
    rfl

theorem readAux_quoted_run (t tail cur : List Char) (acc : List (List Char)) :
    readAux (doubleQuotes t ++ '"' :: tail) .quoted cur acc = readAux tail .quoteSeen (t.reverse ++ cur) acc := by
  induction t generalizing cur with
  | nil => rfl
  | cons c cs ih =>
    have e : readAux (doubleQuotes (c :: cs) ++ '"' :: tail) .quoted cur acc
        = readAux (doubleQuotes cs ++ '"' :: tail) .quoted (c :: cur) acc := by
      show readAux ((if c = '"' then '"' :: '"' :: doubleQuotes cs else c :: doubleQuotes cs) ++ _) _ _ _ = _
      by_cases hc : c = '"'
      · subst hc; rfl
      · rw [if_neg hc]
        show (if c = '"' then _ else readAux _ .quoted (c :: cur) acc) = _
        rw [if_neg hc]
        rfl
    rw [e, ih, List.reverse_cons, List.append_assoc]
    rfl

/-- reading a written field leaves the reader at the end of a field with the field's text collected
(reversed, in `cur`) -/
theorem readAux_field (t tail : List Char) (acc : List (List Char)) :
    ∃ m cur, cur.reverse = t ∧ (m = .quoteSeen ∨ m = .plain ∨ (m = .start ∧ cur = [])) ∧
      readAux (csvField t ++ tail) .start [] acc = readAux tail m cur acc := by
  unfold csvField
  cases hq : needsQuotes t with
  | true =>
    refine ⟨.quoteSeen, t.reverse, List.reverse_reverse t, .inl rfl, ?_⟩
    rw [if_pos rfl]
    show readAux ((doubleQuotes t ++ ['"']) ++ tail) .quoted [] acc = _
    rw [List.append_assoc]
    exact (readAux_quoted_run t tail [] acc).trans (by rw [List.append_nil])
  | false =>
    rw [if_neg Bool.false_ne_true]
    cases t with
    | nil => exact ⟨.start, [], rfl, .inr (.inr ⟨rfl, rfl⟩), rfl⟩
    | cons c cs =>
      have hs := not_special_of_not_needsQuotes _ hq
      have hc := hs c (List.mem_cons_self ..)
      refine ⟨.plain, cs.reverse ++ [c], by simp, .inr (.inl rfl), ?_⟩
      show (if c = '"' then _ else if c = ',' then _ else readAux (cs ++ tail) .plain [c] acc) = _
      rw [if_neg hc.2.1, if_neg hc.1,
        readAux_plain_run cs tail [c] acc (fun x hx => (hs x (List.mem_cons_of_mem _ hx)).1)]

theorem readAux_field_end (t : List Char) (acc : List (List Char)) :
    readAux (csvField t) .start [] acc = some ((t :: acc).reverse) := by
  obtain ⟨m, cur, rfl, hm, h⟩ := readAux_field t [] acc
  rw [List.append_nil] at h
  rw [h]
  rcases hm with rfl | rfl | ⟨rfl, rfl⟩ <;> rfl

theorem readAux_field_comma (t r : List Char) (acc : List (List Char)) :
    readAux (csvField t ++ ',' :: r) .start [] acc = readAux r .start [] (t :: acc) := by
  obtain ⟨m, cur, rfl, hm, h⟩ := readAux_field t (',' :: r) acc
  rw [h]
  rcases hm with rfl | rfl | ⟨rfl, rfl⟩ <;> rfl

theorem readAux_join (cells : List (List Char)) (hne : cells ≠ []) (acc : List (List Char)) :
    readAux (joinWith [','] (cells.map csvField)) .start [] acc = some (acc.reverse ++ cells) := by
  induction cells generalizing acc with
  | nil => exact absurd rfl hne
  | cons x r ih =>
    cases r with
    | nil => simp [joinWith, readAux_field_end]
    | cons y r' =>
      rw [List.map_cons, List.map_cons, joinWith_cons_cons, List.append_assoc, List.singleton_append,
        ← List.map_cons, readAux_field_comma, ih (by simp)]
      simp

/-- the round trip of a row: the escaped, comma-joined fields read back as exactly those fields -/
theorem readRow_join (cells : List (List Char)) (hne : cells ≠ []) :
    readRow (joinWith [','] (cells.map csvField)) = some cells := by
  simpa [readRow] using readAux_join cells hne []

theorem readRow_csvRow (N : NumOps) (cols : List (String × CsvMapping)) (r : Json) (hne : cols ≠ []) :
    readRow (csvRow N cols r) = some (cols.map fun c => cellValue N c.2 r) := by
  rw [csvRow_eq]
  exact readRow_join _ (by simpa using hne)

/-! ### CSV: a file cuts back into the records that were written -/

/-- text that leaves the record splitter where it was: outside quotes, no record ended -/
def Balanced (t : List Char) : Prop :=
  ∀ (rest cur : List Char) (acc : List (List Char)),
    splitRecordsAux (t ++ rest) false cur acc = splitRecordsAux rest false (t.reverse ++ cur) acc

theorem balanced_append (a b : List Char) (ha : Balanced a) (hb : Balanced b) : Balanced (a ++ b) := by
  intro rest cur acc
  rw [List.append_assoc, ha, hb]
  simp

theorem balanced_plain (t : List Char) (h : ∀ c ∈ t, c ≠ '"' ∧ c ≠ '\n') : Balanced t := by
  intro rest cur acc
  induction t generalizing cur with
  | nil => rfl
  | cons c cs ih =>
    have hc := h c (List.mem_cons_self ..)
    show (if c = '"' then _ else if c = '\n' ∧ false = false then _
      else splitRecordsAux (cs ++ rest) false (c :: cur) acc) = _
    rw [if_neg hc.1, if_neg (fun h => hc.2 h.1), ih (fun x hx => h x (List.mem_cons_of_mem _ hx)),
      List.reverse_cons, List.append_assoc]
    rfl

theorem splitRecordsAux_quoted_run (t rest cur : List Char) (acc : List (List Char)) :
    splitRecordsAux (doubleQuotes t ++ rest) true cur acc
      = splitRecordsAux rest true ((doubleQuotes t).reverse ++ cur) acc := by
  induction t generalizing cur with
  | nil => rfl
  | cons c cs ih =>
    show splitRecordsAux ((if c = '"' then '"' :: '"' :: doubleQuotes cs else c :: doubleQuotes cs) ++ rest) _ _ _
      = splitRecordsAux rest true
          ((if c = '"' then '"' :: '"' :: doubleQuotes cs else c :: doubleQuotes cs).reverse ++ cur) acc
    by_cases hc : c = '"'
    · rw [if_pos hc]
      show splitRecordsAux (doubleQuotes cs ++ rest) true ('"' :: '"' :: cur) acc = _
      rw [ih, List.reverse_cons, List.reverse_cons, List.append_assoc, List.append_assoc]
      rfl
    · rw [if_neg hc]
      show (if c = '"' then _ else if c = '\n' ∧ true = false then _
        else splitRecordsAux (doubleQuotes cs ++ rest) true (c :: cur) acc) = _
      rw [if_neg hc, if_neg (fun h => Bool.noConfusion h.2), ih, List.reverse_cons, List.append_assoc]
      rfl

theorem balanced_csvField (t : List Char) : Balanced (csvField t) := by
  unfold csvField
  cases hq : needsQuotes t with
  | false =>
    rw [if_neg Bool.false_ne_true]
    exact balanced_plain t (fun c hc =>
      ⟨(not_special_of_not_needsQuotes t hq c hc).2.1, (not_special_of_not_needsQuotes t hq c hc).2.2⟩)
  | true =>
    rw [if_pos rfl]
    intro rest cur acc
    show splitRecordsAux ((doubleQuotes t ++ ['"']) ++ rest) true ('"' :: cur) acc = _
    rw [List.append_assoc, splitRecordsAux_quoted_run]
    show splitRecordsAux rest false ('"' :: ((doubleQuotes t).reverse ++ '"' :: cur)) acc = _
    rw [List.reverse_cons, List.reverse_append, List.append_assoc]
    rfl

theorem balanced_join (cells : List (List Char)) : Balanced (joinWith [','] (cells.map csvField)) := by
  induction cells with
  | nil => exact fun _ _ _ => rfl
  | cons x r ih =>
    cases r with
    | nil => simpa [joinWith] using balanced_csvField x
    | cons y r' =>
      rw [List.map_cons, List.map_cons, joinWith_cons_cons, List.append_assoc, ← List.map_cons]
      exact balanced_append _ _ (balanced_csvField x)
        (balanced_append _ _ (balanced_plain [','] (by decide)) ih)

theorem balanced_csvRow (N : NumOps) (cols : List (String × CsvMapping)) (r : Json) :
    Balanced (csvRow N cols r) := by
  rw [csvRow_eq]
  exact balanced_join _

theorem splitRecordsAux_records (rows : List (List Char)) (h : ∀ r ∈ rows, Balanced r)
    (acc : List (List Char)) :
    splitRecordsAux ((rows.map record).flatten) false [] acc = (acc.reverse ++ rows, []) := by
  induction rows generalizing acc with
  | nil => exact congrArg (·, []) (List.append_nil _).symm
  | cons r rs ih =>
    show splitRecordsAux ((r ++ ['\n']) ++ (rs.map record).flatten) false [] acc = _
    rw [List.append_assoc, h r (List.mem_cons_self ..)]
    show splitRecordsAux ((rs.map record).flatten) false [] ((r.reverse ++ []).reverse :: acc) = _
    rw [ih (fun x hx => h x (List.mem_cons_of_mem _ hx)), List.append_nil, List.reverse_reverse,
      List.reverse_cons, List.append_assoc]
    rfl

/-- the round trip of a file: the concatenated records of balanced rows cut back into exactly those rows -/
theorem splitRecords_records (rows : List (List Char)) (h : ∀ r ∈ rows, Balanced r) :
    splitRecords ((rows.map record).flatten) = (rows, []) := by
  simpa [splitRecords] using splitRecordsAux_records rows h []

end SinkRead
end Compass
