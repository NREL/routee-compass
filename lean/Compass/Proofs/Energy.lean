/-
What C08 uses of `Model/Energy.lean` over a linearly ordered field, in this order: `clamp`; each unit conversion as
multiplication by a rational (`eK`, `tK`, `dK`, `sK`; `eK_pos`); the state layer field by field; the two percent
functions built on `clamp`; the range check of a starting charge; membership in the LRU cache's list;
`consumeEnergy` arm by arm; and the inversions — what an accepted `traverse`, `traverseEdge`, `traverseRoute`,
`estimateTraversal` did, step by step.
-/
import Compass.Proofs.Units
import Compass.Model.Energy

namespace Compass
namespace Energy

set_option linter.unusedSectionVars false

section
variable {α : Type} [Field α] [LinearOrder α] [IsStrictOrderedRing α] [Lit α] [LawfulLit α]

@[simp] theorem hundred_eq : (hundred : α) = 100 := by
  simp [hundred, LawfulLit.lit_eq]

/-! ### `clamp` -/

theorem clamp_bounds (x lo hi : α) (h : lo ≤ hi) : lo ≤ clamp x lo hi ∧ clamp x lo hi ≤ hi := by
  unfold clamp
  split
  · exact ⟨le_refl _, h⟩
  · split
    · exact ⟨h, le_refl _⟩
    · exact ⟨not_lt.mp ‹_›, not_lt.mp ‹_›⟩

theorem clamp_of_mem {x lo hi : α} (h1 : lo ≤ x) (h2 : x ≤ hi) : clamp x lo hi = x := by
  unfold clamp
  rw [if_neg (not_lt.mpr h1), if_neg (not_lt.mpr h2)]

theorem clamp_interior {x lo hi : α} (h1 : lo < clamp x lo hi) (h2 : clamp x lo hi < hi) :
    clamp x lo hi = x := by
  unfold clamp at *
  by_cases a : x < lo
  · simp [a] at h1
  · by_cases b : hi < x
    · simp [a, b] at h2
    · simp [a, b]

theorem clamp_lo {x lo hi : α} (h : x ≤ lo) (hlh : lo ≤ hi) : clamp x lo hi = lo := by
  unfold clamp
  by_cases a : x < lo
  · simp [a]
  · have : x = lo := le_antisymm h (not_lt.mp a)
    subst this
    simp [not_lt.mpr hlh]

theorem clamp_hi {x lo hi : α} (h : hi ≤ x) (hlh : lo ≤ hi) : clamp x lo hi = hi := by
  unfold clamp
  by_cases a : x < lo
  · exact absurd (lt_of_lt_of_le a (le_trans hlh h)) (lt_irrefl _)
  · by_cases b : hi < x
    · simp [a, b]
    · have : x = hi := le_antisymm (not_lt.mp b) h
      subst this
      simp [a]

/-! ### conversions as multiplication by a rational -/

@[simp] theorem energy_conv_self (u : EnergyUnit) (x : α) : u.convert u x = x := C09.energy_convert_id u x
@[simp] theorem time_conv_self (u : TimeUnit) (x : α) : u.convert u x = x := C09.time_convert_id u x
@[simp] theorem distance_conv_self (u : DistanceUnit) (x : α) : u.convert u x = x := C09.distance_convert_id u x

/-- the rational factor of an energy conversion (`C09` writes it `(EnergyUnit.factor u v).ratio`) -/
def eK (u v : EnergyUnit) : ℚ := (EnergyUnit.factor u v).ratio
/-- … of a time conversion -/
def tK (u v : TimeUnit) : ℚ := (TimeUnit.factor u v).ratio
/-- … of a distance conversion -/
def dK (u v : DistanceUnit) : ℚ := (DistanceUnit.factor u v).ratio
/-- … of a speed conversion -/
def sK (u v : SpeedUnit) : ℚ := (SpeedUnit.factor u v).ratio

theorem energy_conv_eq (u v : EnergyUnit) (x : α) : u.convert v x = x * (eK u v : α) := Factor.apply_eq _ _
theorem time_conv_eq (u v : TimeUnit) (x : α) : u.convert v x = x * (tK u v : α) := Factor.apply_eq _ _
theorem distance_conv_eq (u v : DistanceUnit) (x : α) : u.convert v x = x * (dK u v : α) := Factor.apply_eq _ _
theorem speed_conv_eq (u v : SpeedUnit) (x : α) : u.convert v x = x * (sK u v : α) := Factor.apply_eq _ _

theorem energy_conv_zero (u v : EnergyUnit) : u.convert v (zero : α) = 0 := by
  rw [energy_conv_eq, zero_eq, zero_mul]

theorem eK_pos (u v : EnergyUnit) : (0 : α) < (eK u v : α) := C09.ratio_cast_pos _ (C09.energy_wf u v)

/-! ### the state layer field by field

Each `addX` and `updateSocPercent` changes one field; with these `simp` reads a field off an updated state without
unfolding the update. -/

@[simp] theorem addTime_time (fu : FeatureUnits) (s : VState α) (t : α) (u : TimeUnit) :
    (addTime fu s t u).time = s.time + u.convert fu.time t := rfl
@[simp] theorem addTime_distance (fu : FeatureUnits) (s : VState α) (t : α) (u : TimeUnit) :
    (addTime fu s t u).distance = s.distance := rfl
@[simp] theorem addTime_liquid (fu : FeatureUnits) (s : VState α) (t : α) (u : TimeUnit) :
    (addTime fu s t u).liquid = s.liquid := rfl
@[simp] theorem addTime_electric (fu : FeatureUnits) (s : VState α) (t : α) (u : TimeUnit) :
    (addTime fu s t u).electric = s.electric := rfl
@[simp] theorem addTime_soc (fu : FeatureUnits) (s : VState α) (t : α) (u : TimeUnit) :
    (addTime fu s t u).soc = s.soc := rfl

@[simp] theorem addDistance_time (fu : FeatureUnits) (s : VState α) (d : α) (u : DistanceUnit) :
    (addDistance fu s d u).time = s.time := rfl
@[simp] theorem addDistance_distance (fu : FeatureUnits) (s : VState α) (d : α) (u : DistanceUnit) :
    (addDistance fu s d u).distance = s.distance + u.convert fu.distance d := rfl
@[simp] theorem addDistance_liquid (fu : FeatureUnits) (s : VState α) (d : α) (u : DistanceUnit) :
    (addDistance fu s d u).liquid = s.liquid := rfl
@[simp] theorem addDistance_electric (fu : FeatureUnits) (s : VState α) (d : α) (u : DistanceUnit) :
    (addDistance fu s d u).electric = s.electric := rfl
@[simp] theorem addDistance_soc (fu : FeatureUnits) (s : VState α) (d : α) (u : DistanceUnit) :
    (addDistance fu s d u).soc = s.soc := rfl

@[simp] theorem addLiquid_time (fu : FeatureUnits) (s : VState α) (e : α) (u : EnergyUnit) :
    (addLiquid fu s e u).time = s.time := rfl
@[simp] theorem addLiquid_distance (fu : FeatureUnits) (s : VState α) (e : α) (u : EnergyUnit) :
    (addLiquid fu s e u).distance = s.distance := rfl
@[simp] theorem addLiquid_liquid (fu : FeatureUnits) (s : VState α) (e : α) (u : EnergyUnit) :
    (addLiquid fu s e u).liquid = s.liquid + u.convert fu.liquid e := rfl
@[simp] theorem addLiquid_electric (fu : FeatureUnits) (s : VState α) (e : α) (u : EnergyUnit) :
    (addLiquid fu s e u).electric = s.electric := rfl
@[simp] theorem addLiquid_soc (fu : FeatureUnits) (s : VState α) (e : α) (u : EnergyUnit) :
    (addLiquid fu s e u).soc = s.soc := rfl

@[simp] theorem addElectric_time (fu : FeatureUnits) (s : VState α) (e : α) (u : EnergyUnit) :
    (addElectric fu s e u).time = s.time := rfl
@[simp] theorem addElectric_distance (fu : FeatureUnits) (s : VState α) (e : α) (u : EnergyUnit) :
    (addElectric fu s e u).distance = s.distance := rfl
@[simp] theorem addElectric_liquid (fu : FeatureUnits) (s : VState α) (e : α) (u : EnergyUnit) :
    (addElectric fu s e u).liquid = s.liquid := rfl
@[simp] theorem addElectric_electric (fu : FeatureUnits) (s : VState α) (e : α) (u : EnergyUnit) :
    (addElectric fu s e u).electric = s.electric + u.convert fu.electric e := rfl
@[simp] theorem addElectric_soc (fu : FeatureUnits) (s : VState α) (e : α) (u : EnergyUnit) :
    (addElectric fu s e u).soc = s.soc := rfl

@[simp] theorem updateSoc_time (s : VState α) (d m : α) : (updateSocPercent s d m).time = s.time := rfl
@[simp] theorem updateSoc_distance (s : VState α) (d m : α) : (updateSocPercent s d m).distance = s.distance := rfl
@[simp] theorem updateSoc_liquid (s : VState α) (d m : α) : (updateSocPercent s d m).liquid = s.liquid := rfl
@[simp] theorem updateSoc_electric (s : VState α) (d m : α) : (updateSocPercent s d m).electric = s.electric := rfl

/-! ### the charge in percent -/

/-- `update_soc_percent` in closed form: the charge moves by `-100 · delta / capacity` and is clamped -/
theorem updateSoc_soc (s : VState α) (delta cap : α) (hcap : cap ≠ 0) :
    (updateSocPercent s delta cap).soc = clamp (s.soc - 100 * delta / cap) 0 100 := by
  simp only [updateSocPercent, socFromBatteryAndDelta, hundred_eq, zero_eq]
  rw [sub_div, mul_div_cancel_left₀ _ hcap, sub_mul, div_mul_cancel₀ _ (by norm_num : (100 : α) ≠ 0),
    div_mul_eq_mul_div, mul_comm delta]

theorem updateSoc_bounds (s : VState α) (delta cap : α) :
    0 ≤ (updateSocPercent s delta cap).soc ∧ (updateSocPercent s delta cap).soc ≤ 100 := by
  simp only [updateSocPercent, socFromBatteryAndDelta, hundred_eq, zero_eq]
  exact clamp_bounds _ _ _ (by norm_num)

theorem asSoc_bounds (r m : α) : 0 ≤ asSocPercent r m ∧ asSocPercent r m ≤ 100 := by
  simp only [asSocPercent, hundred_eq, zero_eq]
  exact clamp_bounds _ _ _ (by norm_num)

end

section
variable {K α : Type} [DecidableEq K] [Field α] [LinearOrder α] [IsStrictOrderedRing α] [Lit α] [LawfulLit α]

@[simp] theorem predict_unit (r : PredRecord α) (c : Option (Cache K α)) (speed : α) (su : SpeedUnit)
    (grade : α) (gu : GradeUnit) (d : α) (du : DistanceUnit) :
    (r.predict c speed su grade gu d du).1.2 = r.rateUnit.associatedEnergyUnit := rfl

/-! ### the starting charge -/

/-- the battery capacity is positive (nothing to say for an ICE) -/
def CapacityPos : Vehicle α → Prop
  | .ice _ => True
  | .bev _ b => 0 < b.capacity
  | .phev _ _ b => 0 < b.capacity

theorem withStartSoc_eq (b : Battery α) (x : α) :
    b.withStartSoc x = if 0 ≤ x ∧ x ≤ 100 then .ok { b with startEnergy := Lit.lit 1 100 * x * b.capacity }
      else .error .build := by
  simp only [Battery.withStartSoc, zero_eq, hundred_eq]

/-- the `match` by which `update_from_query` passes the checked battery on, in closed form -/
theorem withStartSoc_match_eq (b : Battery α) (x : α) (f : Battery α → Vehicle α) :
    (match b.withStartSoc x with | .ok b' => Except.ok (f b') | .error e => .error e)
      = if 0 ≤ x ∧ x ≤ 100 then .ok (f { b with startEnergy := Lit.lit 1 100 * x * b.capacity }) else .error .build := by
  rw [withStartSoc_eq]
  split_ifs <;> rfl

/-- an accepted charge was within 0–100 and only sets the start energy; stated through the `match` by which
`update_from_query` passes the new battery on, so that it applies to the result of a query as it stands -/
theorem withStartSoc_ok {b : Battery α} {x : α} {f : Battery α → Vehicle α} {v' : Vehicle α}
    (h : (match b.withStartSoc x with | .ok b' => Except.ok (f b') | .error e => .error e) = .ok v') :
    (0 ≤ x ∧ x ≤ 100) ∧ v' = f { b with startEnergy := Lit.lit 1 100 * x * b.capacity } := by
  rw [withStartSoc_match_eq] at h
  split at h
  · cases h
    exact ⟨‹_›, rfl⟩
  · cases h

/-- through the same `match`: a numeric charge is accepted exactly when it is within 0–100 -/
theorem withStartSoc_isOk_iff {b : Battery α} {x : α} {f : Battery α → Vehicle α} :
    (∃ v', (match b.withStartSoc x with | .ok b' => Except.ok (f b') | .error e => .error e) = .ok v')
      ↔ (0 ≤ x ∧ x ≤ 100) := by
  rw [withStartSoc_match_eq]
  split_ifs with hx
  · exact iff_of_true ⟨_, rfl⟩ hx
  · exact iff_of_false (fun ⟨_, h⟩ => by cases h) hx

theorem Battery.ofConfig_eq (cap : α) (u : EnergyUnit) :
    Battery.ofConfig cap u = if 0 < cap then .ok (Battery.unchecked cap u) else .error .build := by
  rw [Battery.ofConfig, zero_eq]
  rfl

theorem updateFromQuery_capacityPos {v v' : Vehicle α} {q : SocQuery α}
    (h : v.updateFromQuery q = .ok v') (hp : CapacityPos v) : CapacityPos v' := by
  cases v with
  | ice r => cases h; exact hp
  | bev r b =>
    cases q with
    | nonNumeric => cases h
    | absent => obtain ⟨_, rfl⟩ := withStartSoc_ok h; exact hp
    | num x => obtain ⟨_, rfl⟩ := withStartSoc_ok h; exact hp
  | phev s d b =>
    cases q with
    | nonNumeric => cases h
    | absent => cases h
    | num x => obtain ⟨_, rfl⟩ := withStartSoc_ok h; exact hp

theorem asSoc_of_start (cap x : α) (hcap : cap ≠ 0) (hx : 0 ≤ x ∧ x ≤ 100) :
    asSocPercent (Lit.lit 1 100 * x * cap) cap = x := by
  simp only [asSocPercent, hundred_eq, zero_eq, LawfulLit.lit_eq, Nat.cast_one, Nat.cast_ofNat]
  rw [mul_div_cancel_right₀ _ hcap, mul_comm, ← mul_assoc, mul_one_div_cancel (by norm_num : (100 : α) ≠ 0),
    one_mul]
  exact clamp_of_mem hx.1 hx.2

/-! ### the cache's list -/

theorem Cache.mem_of_find {k : K} {v : α} : ∀ {es : List (K × α)}, Cache.find k es = some v → (k, v) ∈ es
  | [], h => by simp [Cache.find] at h
  | (k', v') :: r, h => by
    simp only [Cache.find] at h
    split at h
    · rename_i hk; cases h; subst hk; exact List.mem_cons_self
    · exact List.mem_cons_of_mem _ (Cache.mem_of_find h)

theorem Cache.mem_of_mem_remove {k : K} {x : K × α} : ∀ {es : List (K × α)}, x ∈ Cache.remove k es → x ∈ es
  | [], h => by simp [Cache.remove] at h
  | (k', v') :: r, h => by
    simp only [Cache.remove] at h
    split at h
    · exact List.mem_cons_of_mem _ h
    · rcases List.mem_cons.mp h with h | h
      · rw [h]; exact List.mem_cons_self
      · exact List.mem_cons_of_mem _ (Cache.mem_of_mem_remove h)

/-! ### `consumeEnergy` arm by arm -/

theorem phevApply_liquid (b : Battery α) (fu : FeatureUnits) (s : VState α) (el : α) (elU : EnergyUnit) (liq : α)
    (liqU : EnergyUnit) : (phevApply b fu s el elU liq liqU).liquid = s.liquid + liqU.convert fu.liquid liq := rfl
theorem phevApply_electric (b : Battery α) (fu : FeatureUnits) (s : VState α) (el : α) (elU : EnergyUnit) (liq : α)
    (liqU : EnergyUnit) : (phevApply b fu s el elU liq liqU).electric = s.electric + elU.convert fu.electric el := rfl

theorem consumeEnergy_ice (r : PredRecord α) (fu : FeatureUnits) (c : Caches K α) (speed : α) (su : SpeedUnit)
    (grade : α) (gu : GradeUnit) (d : α) (du : DistanceUnit) (s : VState α) :
    (Vehicle.ice r).consumeEnergy fu c speed su grade gu d du s
      = (iceApply r fu s (r.predict c.main speed su grade gu d du).1,
         { c with main := (r.predict c.main speed su grade gu d du).2 }) := rfl

theorem consumeEnergy_bev (r : PredRecord α) (b : Battery α) (fu : FeatureUnits) (c : Caches K α) (speed : α)
    (su : SpeedUnit) (grade : α) (gu : GradeUnit) (d : α) (du : DistanceUnit) (s : VState α) :
    (Vehicle.bev r b).consumeEnergy fu c speed su grade gu d du s
      = (bevApply b fu s (r.predict c.main speed su grade gu d du).1,
         { c with main := (r.predict c.main speed su grade gu d du).2 }) := rfl

/-- a plug-in hybrid with charge left draws on the charge-depleting record through the main cache … -/
theorem consumeEnergy_phev_pos (sus dep : PredRecord α) (b : Battery α) (fu : FeatureUnits) (c : Caches K α)
    (speed : α) (su : SpeedUnit) (grade : α) (gu : GradeUnit) (d : α) (du : DistanceUnit) {s : VState α}
    (h : 0 < s.soc) :
    (Vehicle.phev sus dep b).consumeEnergy fu c speed su grade gu d du s
      = (phevApply b fu s (dep.predict c.main speed su grade gu d du).1.1
            (dep.predict c.main speed su grade gu d du).1.2 zero sus.rateUnit.associatedEnergyUnit,
         { c with main := (dep.predict c.main speed su grade gu d du).2 }) := by
  rw [Vehicle.consumeEnergy, if_pos (zero_eq (α := α) ▸ h)]

/-- … and once it is empty on the charge-sustaining record through its own cache -/
theorem consumeEnergy_phev_nonpos (sus dep : PredRecord α) (b : Battery α) (fu : FeatureUnits) (c : Caches K α)
    (speed : α) (su : SpeedUnit) (grade : α) (gu : GradeUnit) (d : α) (du : DistanceUnit) {s : VState α}
    (h : s.soc ≤ 0) :
    (Vehicle.phev sus dep b).consumeEnergy fu c speed su grade gu d du s
      = (phevApply b fu s zero dep.rateUnit.associatedEnergyUnit
            (sus.predict c.sustain speed su grade gu d du).1.1 (sus.predict c.sustain speed su grade gu d du).1.2,
         { c with sustain := (sus.predict c.sustain speed su grade gu d du).2 }) := by
  rw [Vehicle.consumeEnergy, if_neg (zero_eq (α := α) ▸ not_lt.mpr h)]

/-! ### what an accepted call did -/

theorem traverse_ok {eng : SpeedEngine α} {fu : FeatureUnits} {e : Edge α} {s s1 : VState α}
    (h : eng.traverse fu e s = .ok s1) :
    ∃ speed t, eng.speedTable[e.id]? = some speed ∧
      createTime speed eng.speedUnit (baseDistanceUnit.convert eng.distanceUnit e.distance)
        eng.distanceUnit eng.timeUnit = some t ∧
      s1 = addDistance fu (addTime fu s t eng.timeUnit)
            (baseDistanceUnit.convert eng.distanceUnit e.distance) eng.distanceUnit := by
  simp only [SpeedEngine.traverse] at h
  split at h
  · cases h
  · rename_i speed hs
    split at h
    · cases h
    · rename_i t ht
      refine ⟨speed, t, hs, ht, ?_⟩
      cases h; rfl

theorem traverseEdge_ok {svc : Service α} {eng : SpeedEngine α} {v : Vehicle α} {fu : FeatureUnits}
    {e : Edge α} {st st' : VState α × Caches K α}
    (h : traverseEdge svc eng v fu e st = .ok st') :
    ∃ s1 grade, eng.traverse fu e st.1 = .ok s1 ∧ getGrade svc.gradeTable e.id = .ok grade ∧
      cacheAccepts (v.cacheInUse st.2 s1) = true ∧
      st' = v.consumeEnergy fu st.2 (reconstructSpeed svc fu e st.1 s1) svc.timeModelSpeedUnit
              grade svc.gradeUnit (baseDistanceUnit.convert svc.distanceUnit e.distance)
              svc.distanceUnit s1 := by
  simp only [traverseEdge] at h
  split at h
  · cases h
  · rename_i s1 hs1
    split at h
    · cases h
    · rename_i grade hg
      split at h
      · refine ⟨s1, grade, hs1, hg, ‹_›, ?_⟩
        cases h; rfl
      · cases h

theorem traverse_leaves_energy {eng : SpeedEngine α} {fu : FeatureUnits} {e : Edge α} {s s1 : VState α}
    (h : eng.traverse fu e s = .ok s1) :
    s1.liquid = s.liquid ∧ s1.electric = s.electric ∧ s1.soc = s.soc := by
  obtain ⟨_, _, _, _, rfl⟩ := traverse_ok h
  exact ⟨rfl, rfl, rfl⟩

/-- after an edge the charge is within 0–100: a battery vehicle's is clamped there whatever it was, an
ICE's is the one before the edge -/
theorem traverseEdge_socOk {svc : Service α} {eng : SpeedEngine α} {v : Vehicle α} {fu : FeatureUnits}
    {e : Edge α} {st st' : VState α × Caches K α} (h : traverseEdge svc eng v fu e st = .ok st')
    (hs : (0 ≤ st.1.soc ∧ st.1.soc ≤ 100) ∨ ∀ r, v ≠ .ice r) : 0 ≤ st'.1.soc ∧ st'.1.soc ≤ 100 := by
  obtain ⟨s1, grade, h1, _, _, rfl⟩ := traverseEdge_ok h
  cases v with
  | ice r =>
    have := hs.resolve_right (fun hv => hv r rfl)
    rwa [← (traverse_leaves_energy h1).2.2] at this
  | bev r b => exact updateSoc_bounds (α := α) _ _ _
  | phev sus dep b =>
    rcases lt_or_ge 0 s1.soc with hsoc | hsoc
    · rw [consumeEnergy_phev_pos _ _ _ _ _ _ _ _ _ _ _ hsoc]
      exact updateSoc_bounds (α := α) _ _ _
    · rw [consumeEnergy_phev_nonpos _ _ _ _ _ _ _ _ _ _ _ hsoc]
      exact updateSoc_bounds (α := α) _ _ _

theorem traverseRoute_cons_ok {svc : Service α} {eng : SpeedEngine α} {v : Vehicle α} {fu : FeatureUnits}
    {e : Edge α} {es : List (Edge α)} {st st' : VState α × Caches K α}
    (h : traverseRoute svc eng v fu (e :: es) st = .ok st') :
    ∃ st1, traverseEdge svc eng v fu e st = .ok st1 ∧ traverseRoute svc eng v fu es st1 = .ok st' := by
  simp only [traverseRoute] at h
  split at h
  · cases h
  · exact ⟨_, ‹_›, h⟩

theorem estimate_leaves_energy {eng : SpeedEngine α} {ms : α} {fu : FeatureUnits} {hm : α} {s s1 : VState α}
    (h : eng.estimate ms fu hm s = .ok s1) : s1.liquid = s.liquid ∧ s1.electric = s.electric ∧ s1.soc = s.soc := by
  simp only [SpeedEngine.estimate] at h
  split at h
  · cases h
    exact ⟨rfl, rfl, rfl⟩
  · split at h
    · cases h
    · cases h
      exact ⟨rfl, rfl, rfl⟩

/-- `estimate_traversal` (the A* heuristic; `hm` = great-circle distance in metres): a zero distance
leaves the state alone; otherwise, after the time model's estimate, it is `best_case_energy_state` over that
distance in the service's distance unit. -/
theorem estimate_ok {svc : Service α} {eng : SpeedEngine α} {ms : α} {v : Vehicle α} {fu : FeatureUnits}
    {hm : α} {s s' : VState α} (h : estimateTraversal svc eng ms v fu hm s = .ok s') :
    (isZero (DistanceUnit.meters.convert svc.distanceUnit hm) = true ∧ s' = s)
      ∨ (isZero (DistanceUnit.meters.convert svc.distanceUnit hm) = false ∧
          ∃ s1, s1.liquid = s.liquid ∧ s1.electric = s.electric ∧ s1.soc = s.soc ∧
            s' = v.bestCaseEnergyState fu (DistanceUnit.meters.convert svc.distanceUnit hm) svc.distanceUnit s1) := by
  simp only [estimateTraversal] at h
  split at h
  · rename_i hz
    cases h
    exact Or.inl ⟨hz, rfl⟩
  · rename_i hz
    refine Or.inr ⟨by simpa using hz, ?_⟩
    split at h
    · cases h
    · rename_i s1 h1
      cases h
      obtain ⟨hl, hel, hsoc⟩ := estimate_leaves_energy h1
      exact ⟨s1, hl, hel, hsoc, rfl⟩

end

end Energy
end Compass
