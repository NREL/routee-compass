/-
What C07 and C02 use of `Model/CostIO.lean`, function by function: `optField` and `firstNone` read back, what a cost
model the service returned went through (`CostService.build_ok`), `forward_traversal` / `reverse_traversal` as
`CostModel.edgeTraversal` on the pair the direction makes (`edgeTraversalE_ok`), and the list of a combined builder.
-/
import Compass.Proofs.Cost
import Compass.Proofs.AssocList
import Compass.Model.CostIO

namespace Compass

set_option linter.unusedSectionVars false

theorem optField_some {β : Type} {p : Json → Option β} {j : Json} {key : String} {o : Option β}
    (h : optField p j key = some o) :
    (j.get? key = none → o = none) ∧ (∀ v, j.get? key = some v → ∃ b, p v = some b ∧ o = some b) := by
  unfold optField at h
  cases hg : j.get? key with
  | none =>
    simp only [hg, Option.some.injEq] at h
    exact ⟨fun _ => h.symm, fun v hv => (by cases hv)⟩
  | some v =>
    simp only [hg] at h
    refine ⟨fun h0 => (by cases h0), fun v' hv' => ?_⟩
    cases hv'
    cases hp : p v with
    | none => simp [hp] at h
    | some b =>
      simp only [hp, Option.map_some, Option.some.injEq] at h
      exact ⟨b, rfl, h.symm⟩

theorem firstNone_eq_some {β : Type} {items : List (Option β)} {k : Nat} (h : firstNone items = some k) :
    items[k]? = some none ∧ ∀ j, j < k → ∃ c, items[j]? = some (some c) := by
  induction items generalizing k with
  | nil => cases h
  | cons x r ih =>
    cases x with
    | none =>
      cases h
      exact ⟨rfl, fun j hj => absurd hj (Nat.not_lt_zero j)⟩
    | some c =>
      obtain ⟨k', hk', rfl⟩ := Option.map_eq_some_iff.mp h
      refine ⟨(ih hk').1, fun j hj => ?_⟩
      cases j with
      | zero => exact ⟨c, rfl⟩
      | succ j' => exact (ih hk').2 j' (Nat.lt_of_succ_lt_succ hj)

theorem firstNone_eq_none_iff {β : Type} (items : List (Option β)) :
    firstNone items = none ↔ ∀ x ∈ items, x ≠ none := by
  induction items with
  | nil => exact iff_of_true rfl (fun _ h => nomatch h)
  | cons x r ih =>
    cases x with
    | none => exact iff_of_false nofun (fun h => h none List.mem_cons_self rfl)
    | some c =>
      rw [firstNone, Option.map_eq_none_iff, ih, List.forall_mem_cons]
      exact (and_iff_right (Option.some_ne_none c)).symm

section
variable {α : Type} [Add α] [Sub α] [Mul α] [LT α] [LE α] [DecidableLT α] [DecidableLE α] [Lit α]

/-- a cost model the service returns: the three query fields deserialised (`wq`, `vq`, `aq`: `none` for an absent
field), unknown weights did not fail the query, and `CostModel::new` accepted the features assembled from the mappings
in force — the query's where it has the field, the configured ones otherwise -/
theorem CostService.build_ok {s : CostService α} {num : Json → Option α} {query : Json} {names : List String}
    {m : CostModel α} (h : s.build num query names = .ok m) :
    ∃ wq vq aq, optField (parseMap num) query "weights" = some wq
      ∧ optField (parseMap (parseVehicleRate num)) query "vehicle_rates" = some vq
      ∧ optField parseAggregation query "cost_aggregation" = some aq
      ∧ ¬ ((wq.getD s.weights).length ≠ (names.filter fun n => (wq.getD s.weights).any fun p => p.1 == n).length
            ∧ s.ignoreUnknownWeights = false)
      ∧ CostModel.new (names.map fun n => (assocGet (wq.getD s.weights) n, assocGet (vq.getD s.vehicleRates) n,
            assocGet s.networkRates n)) (aq.getD s.agg) = some m := by
  unfold CostService.build at h
  split at h
  · cases h
  · dsimp only at h
    split at h
    · cases h
    · split at h
      · cases h
      · split at h
        · cases h
        · split at h
          · cases h
          · cases h
            exact ⟨_, _, _, ‹_›, ‹_›, ‹_›, ‹_›, ‹_›⟩

end

section
variable {α : Type} [Field α] [LinearOrder α] [IsStrictOrderedRing α] [Lit α] [LawfulLit α]

/-- the edge pair the constructor hands to `access_cost` -/
def etPair (forward : Bool) (trav : Nat) (nbr : Option Nat) : Option (Nat × Nat) :=
  nbr.map fun k => if forward then (k, trav) else (trav, k)

/-- a successful access step is the access share `CostModel.edgeTraversal` computes, on the state the access model
left -/
theorem accessStep_ok {m : CostModel α} {env : ETEnv α} {forward : Bool} {trav : Nat} {nbr : Option Nat}
    {prev : List α} {acc : α} (h : m.accessStep env forward trav nbr prev = .ok acc) :
    (etPair forward trav nbr).all (fun pn => (m.accessCost pn.1 pn.2 prev (env.access.getD [])).isSome) = true ∧
      acc = edgeAccessShare ((etPair forward trav nbr).bind fun pn => m.accessCost pn.1 pn.2 prev (env.access.getD [])) := by
  unfold CostModel.accessStep at h
  split at h
  · cases h
    exact ⟨rfl, rfl⟩
  · split at h
    · cases h
    · rename_i sd _
      by_cases hv : env.vertex (if forward = true then sd.1 else sd.2) = false
      · rw [if_pos hv] at h
        cases h
      · rw [if_neg hv] at h
        split at h
        · cases h
        · rename_i accessed ha
          generalize hc : m.accessCost _ _ prev accessed = ac at h
          cases ac with
          | none => cases h
          | some a =>
            cases h
            cases forward <;> simp only [Bool.false_eq_true, if_false, if_true] at hc <;> simp [etPair, hc, ha]

/-- a record of `forward_traversal` / `reverse_traversal` is a record of `CostModel.edgeTraversal`: on the pair
the direction makes of the neighbouring edge, the state the access model left and the state the traversal model left -/
theorem edgeTraversalE_ok {m : CostModel α} {env : ETEnv α} {forward : Bool} {trav : Nat} {nbr : Option Nat}
    {prev : List α} {r : α × α} (h : m.edgeTraversalE env forward trav nbr prev = .ok r) :
    ∃ next, env.traverse = some next ∧
      m.edgeTraversal trav (etPair forward trav nbr) prev (env.access.getD []) next = some r := by
  unfold CostModel.edgeTraversalE at h
  split at h
  · cases h
  · split at h
    · cases h
    · rename_i acc hacc
      obtain ⟨hall, rfl⟩ := accessStep_ok hacc
      split at h
      · cases h
      · rename_i next hnext
        refine ⟨next, hnext, ?_⟩
        rw [CostModel.edgeTraversal_eq, hall, cond_true]
        split at h
        · cases h
        · rename_i t ht
          cases h
          rw [ht]
          rfl

theorem NetworkCostRateBuilder.buildList_eq (finite : α → Bool) (l : List (NetworkCostRateBuilder α)) :
    NetworkCostRateBuilder.buildList finite l = allSome (l.map fun b => b.build finite) := by
  induction l with
  | nil => rfl
  | cons b r ih =>
    rw [NetworkCostRateBuilder.buildList, ih, List.map_cons]
    cases b.build finite with
    | none => rfl
    | some x =>
      rw [allSome_cons_some]
      cases allSome (r.map fun b => b.build finite) <;> rfl

end

end Compass
