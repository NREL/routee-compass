/-
Total-correctness complement to `Proofs/ConfigUniform.lean` (distance traversal model): on a
well-formed configuration the calls the search makes do not fail.

`ConfigUniform` needs no well-formedness because its premises are about calls that answer, and it
meets `UniformCostOn` / `UniformOn` with the invariant constantly true.  Here the invariant of the
(last edge, state) pairs is

  `Config.StateOK lastEdge state := state.length = number of features ∧ lastEdge is an edge of the graph`

(true of the initial pair, passed on by every traversal: `Config.pairInv_stateOK`).  On the pairs
satisfying it the frontier models, `forward_traversal` / `reverse_traversal` and
`estimate_traversal_cost` all return on every listed edge / known vertex, with the verdict `okOf`, the
cost `costOf` and the estimate `hOf`: `Config.valid_total`, `Config.trav_total` are the total forms of
the clauses `valid_eq`, `trav_eq` of `UniformCostOn`, `Config.h_total` of the clause `h_eq` of
`UniformOn`.  Run level: for any instance an error of a run is located
(`SearchLimits.runVertexOriented_error_located`: "no path", a replay error, the limit test at a loop
head the run reached, or a call for a listed edge on a pair satisfying the invariant); on a
well-formed configuration the located call answers, so only the first three remain
(`config_error_wf`, `config_run_benign`).  There is no such statement for the speed-table model.
-/
import Compass.Proofs.ConfigUniform

namespace Compass

set_option linter.unusedSectionVars false

section
variable {α : Type} [Field α] [LinearOrder α] [IsStrictOrderedRing α] [Lit α] [LawfulLit α]

/-- well-formedness for the distance model, the part that reads neither the source nor whether there
is a target (the graph side is `Config.GraphOK`): what the configuration loader guarantees, and one
premise on the network that it does not (`gc_nonneg`).  With `GraphOK.adj` it gives `Config.EdgeLocal`
(`SearchTermination.edgeLocal_of_wellFormed`). -/
structure Config.WellFormedDistance (c : Config α) (du : DistanceUnit) : Prop where
  trav : c.trav = .distance du
  noAccess : c.access = .noAccess
  noTurn : c.frontier.all FrontierM.prevFree = true
  /-- a distance feature called "distance" exists -/
  slot : ∃ j fu, distSlot c.feats "distance" = some (j, fu)
  /-- the cost model's vectors cover every feature index it iterates over -/
  cost_range : ∀ i ∈ c.cost.indices, i < c.feats.length ∧ i < c.cost.weights.length ∧
    i < c.cost.vehicleRates.length ∧ i < c.cost.networkRates.length
  /-- no frontier model errs on an edge of the graph (road-class tables are long enough) -/
  frontier_total : ∀ e, e < c.edges.length → ∃ b, frontierValid c.frontier e none = .ok b
  /-- the great-circle table holds distances: no entry is the marker "the haversine function refused
  the coordinates" (every vertex lies in [-180, 180] × [-90, 90]).  NOT something the loader
  guarantees — the vertex file is read without a range check —, a premise on the network: with one
  vertex out of range the estimate of that vertex is a traversal error and the run fails, Dijkstra
  included (`Model/Instance.lean`, `estimate`) -/
  gc_nonneg : ∀ x ∈ c.gc, 0 ≤ x

/-- the invariant of the (last edge, state) pairs -/
def Config.StateOK (c : Config α) (le : Option Nat) (st : List α) : Prop :=
  st.length = c.feats.length ∧ ∀ l, le = some l → l < c.edges.length

theorem Config.stateOK_init (c : Config α) : c.StateOK none (initialState c.feats) :=
  ⟨by simp [initialState], fun l h => by cases h⟩

theorem distSlot_lt {fs : List (Feat α)} {name : String} {j : Nat} {fu : DistanceUnit}
    (h : distSlot fs name = some (j, fu)) : j < fs.length := by
  have h2 := (distSlot_some h).2
  cases hf : fs[j]? with
  | none => rw [hf] at h2; cases h2
  | some f => exact (List.getElem?_eq_some_iff.1 hf).1

theorem addDistance_total {fs : List (Feat α)} {name : String} {j : Nat} {fu : DistanceUnit}
    (h : distSlot fs name = some (j, fu)) (st : List α) (hst : st.length = fs.length) (d : α)
    (fromU : DistanceUnit) :
    ∃ st', addDistance fs st name d fromU = some st' ∧ st'.length = st.length := by
  have hj : j < st.length := hst ▸ distSlot_lt h
  refine ⟨st.set j (st[j] + fromU.convert fu d), ?_, List.length_set⟩
  rw [addDistance_eq, h, Option.bind_some, List.getElem?_eq_getElem hj, Option.map_some]

theorem Config.inRange_of_wf (c : Config α) {du : DistanceUnit} (W : c.WellFormedDistance du)
    {st st' : List α} (h1 : st.length = c.feats.length) (h2 : st'.length = c.feats.length) :
    c.cost.InRange st st' := by
  intro i hi
  obtain ⟨a, b, d, e⟩ := W.cost_range i hi
  exact ⟨h1 ▸ a, h2 ▸ a, d, b, e⟩

/-- on state vectors of the right length the cost model answers whatever it is asked -/
theorem Config.charged_total (c : Config α) {du : DistanceUnit} (W : c.WellFormedDistance du)
    (q : CostQuery) {st st' : List α} (h1 : st.length = c.feats.length)
    (h2 : st'.length = c.feats.length) : ∃ t, c.cost.charged q st st' = some t := by
  refine Option.isSome_iff_exists.1 ((c.cost.charged_isSome_iff q st st').mpr ?_)
  cases q
  · exact c.inRange_of_wf W h1 h2
  · exact (c.inRange_of_wf W h1 h2).toV
  · exact (c.inRange_of_wf W h1 h2).toV

/-- **the frontier models answer** on every edge of the graph, with `okOf` -/
theorem Config.valid_total (c : Config α) {du : DistanceUnit} (W : c.WellFormedDistance du)
    {e : Nat} (he : e < c.edges.length) (le : Option Nat) (st : List α) :
    c.inst.valid e st le = .ok (c.okOf e) := by
  obtain ⟨b, hb⟩ := W.frontier_total e he
  rw [Config.inst_valid_eq he, frontierValid_prevFree c.frontier W.noTurn e le, hb]
  simp [Config.okOf, hb]

/-- **`forward_traversal` / `reverse_traversal` answer** on every edge of the graph from every pair
satisfying the invariant, charge `costOf`, and pass the invariant on -/
theorem Config.trav_total (c : Config α) {du : DistanceUnit} (W : c.WellFormedDistance du)
    {e : Nat} (he : e < c.edges.length) {le : Option Nat} {st : List α} (hS : c.StateOK le st) :
    ∃ ac tc st', c.inst.trav e le st = .ok (ac, tc, st') ∧ ac + tc = c.costOf e ∧
      c.StateOK (some e) st' := by
  obtain ⟨j, fu, hslot⟩ := W.slot
  obtain ⟨hlen, hle⟩ := hS
  have hee : c.edges[e]? = some c.edges[e] := List.getElem?_eq_getElem he
  -- the access part
  have hacc : ∃ ac, edgeAccess c e le st = .ok (ac, st) := by
    unfold edgeAccess
    cases le with
    | none => exact ⟨_, rfl⟩
    | some l =>
      have hl := hle l rfl
      simp only [List.getElem?_eq_getElem hl, W.noAccess, AccessModel.access]
      obtain ⟨a, (ha : c.cost.accessCost _ _ st st = some a)⟩ := c.charged_total W
        (.access (if c.reverse then e else l) (if c.reverse then l else e)) hlen hlen
      exact ⟨_, by rw [ha]⟩
  obtain ⟨ac, hac⟩ := hacc
  -- the traversal
  obtain ⟨st2, htr, hlen2⟩ := addDistance_total hslot st hlen
    (baseDistanceUnit.convert du c.edges[e].dist) du
  have htrav : c.trav.traverse c.feats c.edges e st = some st2 := by
    simp only [TravModel.traverse, hee, W.trav]
    exact htr
  -- the cost
  obtain ⟨total, (htot : c.cost.traversalCost e st st2 = some total)⟩ :=
    c.charged_total W (.traversal e) hlen (hlen2.trans hlen)
  have hres : edgeTraversal c e le st = .ok (ac, total - ac, st2) := by
    simp only [edgeTraversal, hee, hac, htrav, htot]
  refine ⟨ac, total - ac, st2, hres, ?_, hlen2.trans hlen, fun l hl => ?_⟩
  · exact edgeTraversal_noAccess c W.noAccess e le st _ _ _ hres
  · cases hl; exact he

/-- **`estimate_traversal_cost` answers** on every vertex of the great-circle table from every state
of the right length, with `hOf` -/
theorem Config.h_total (c : Config α) {du : DistanceUnit} (W : c.WellFormedDistance du)
    {v : Nat} (hv : v < c.gc.length) {st : List α} (hlen : st.length = c.feats.length) :
    c.inst.h v st = .ok (c.hOf v) := by
  obtain ⟨j, fu, hslot⟩ := W.slot
  obtain ⟨dst, hd, hlen2⟩ := addDistance_total hslot st hlen
    (DistanceUnit.meters.convert du c.gc[v]) du
  have hest : c.trav.estimate c.feats c.gc[v] st = some dst := by
    simp only [TravModel.estimate, W.trav]
    exact hd
  obtain ⟨est, (hes : c.cost.costEstimate st dst = some est)⟩ :=
    c.charged_total W .estimate hlen (hlen2.trans hlen)
  have hnn : ¬ (c.gc[v] < (zero : α)) := by
    rw [zero_eq]; exact not_lt.mpr (W.gc_nonneg _ (List.getElem_mem hv))
  have hx : estimate c v st = .ok (est * (match c.wf with | some w => w | none => one)) := by
    simp only [estimate, List.getElem?_eq_getElem hv, hnn, if_false, hest, hes]
    rfl
  -- the value is not computed here: an answer of `estimate` is `hOf` whatever the state
  exact hx.trans (congrArg _ (estimate_eq c v st _ hx))

/-! ### Run level: a well-formed configuration never ends in a model error

The only errors a run can end in are "no path", the explicit termination (`terminated`, or the
`iteration % 0` panic of a zero-frequency runtime limit) and the two schedule errors of the model's
replay mechanism (no counterpart in the code).  In particular none of `network`, `frontier`,
`traversal`, `access`, `cost`, `state`, `internal` — the "expected vertex missing from solution" and
the backtrack errors included. -/

/-- the graph side of well-formedness: listed edge ids are edges of the graph, and (with a target)
the great-circle table covers the source and every edge's far end -/
structure Config.GraphOK (c : Config α) (source : Nat) (hasTarget : Bool) : Prop where
  adj : c.AdjConsistent
  inc_range : ∀ v e, e ∈ c.inst.incident v → e < c.edges.length
  gc_source : hasTarget = true → source < c.gc.length
  gc_range : hasTarget = true → ∀ e, e < c.edges.length → c.inst.keyV e < c.gc.length

/-- the search keeps the invariant of the pairs: an answered traversal is the traversal of an edge
of the graph, and from a pair satisfying the invariant it answers with one (`trav_total`) -/
theorem Config.pairInv_stateOK (c : Config α) {du : DistanceUnit} (W : c.WellFormedDistance du) :
    SearchLimits.PairInv c.inst c.StateOK where
  init := c.stateOK_init
  step := by
    intro e le st ac tc st' hS _ htr
    obtain ⟨er, _, _, her, _⟩ := edgeTraversal_ok (c := c) htr
    obtain ⟨_, _, _, h', _, hS'⟩ := c.trav_total W (List.getElem?_eq_some_iff.1 her).1 hS
    rw [htr] at h'
    cases h'
    exact hS'

/-- **how a run on a well-formed configuration fails**: with "no path", a replay error, or the answer
of the termination model at a loop head the run reached from the initial state — never in a call of
a component (each answers on the pairs satisfying `StateOK`), in the lookup of a popped vertex or in
the backtrack -/
theorem config_error_wf (c : Config α) {du : DistanceUnit} (W : c.WellFormedDistance du)
    {source : Nat} {target : Option Nat} (G : c.GraphOK source target.isSome) {sched : List Nat}
    {k : ErrKind} (h : c.runVertex source target sched = .error k) :
    k = .noPath ∨ k = .scheduleExhausted ∨ k = .badSchedule ∨
      ∃ f0 pre hd, SearchLimits.startF c.inst source target = .ok f0 ∧
        SearchLimits.Reach c.inst source target pre (initState source f0) hd ∧
        c.term.test hd.solSize hd.iters = .error k := by
  rcases SearchLimits.runVertexOriented_error_located (c.inst_wf G.adj) (c.pairInv_stateOK W)
    ((runVertex_error_iff c source target sched k).1 h) with
    h | h | h | h | ⟨ht, h0⟩ | ⟨v, e, le, st, he, hS, h1 | h1 | ⟨ht, h1⟩⟩
  · exact Or.inl h
  · exact Or.inr (Or.inl h)
  · exact Or.inr (Or.inr (Or.inl h))
  · exact Or.inr (Or.inr (Or.inr h))
  · rw [show c.inst.h source c.inst.init = .ok (c.hOf source) from
      c.h_total W (G.gc_source ht) c.stateOK_init.1] at h0
    cases h0
  · rw [c.valid_total W (G.inc_range v e he)] at h1
    cases h1
  · obtain ⟨_, _, _, h', _⟩ := c.trav_total W (G.inc_range v e he) hS
    rw [h'] at h1
    cases h1
  · rw [c.h_total W (G.gc_range ht e (G.inc_range v e he)) hS.1] at h1
    cases h1

/-- **a run on a well-formed configuration returns a result or ends in a benign error**: "no path",
a termination, a replay error.  (`SearchTermination.Ended` classifies whole outcomes instead: with the
component errors, without the two replay errors.) -/
theorem config_run_benign (c : Config α) {du : DistanceUnit} (W : c.WellFormedDistance du)
    {source : Nat} {target : Option Nat} (G : c.GraphOK source target.isSome) (sched : List Nat)
    (k : ErrKind) (h : c.runVertex source target sched = .error k) :
    k = .noPath ∨ (∃ ks, k = .terminated ks) ∨ k = .panic "termination-frequency-zero" ∨
      k = .badSchedule ∨ k = .scheduleExhausted := by
  rcases config_error_wf c W G h with rfl | rfl | rfl | ⟨_, _, _, _, _, hk⟩
  · exact Or.inl rfl
  · exact Or.inr (Or.inr (Or.inr (Or.inr rfl)))
  · exact Or.inr (Or.inr (Or.inr (Or.inl rfl)))
  · rcases SearchLimits.test_error_kinds c.term _ _ k hk with ⟨ks, rfl, _⟩ | rfl
    · exact Or.inr (Or.inl ⟨ks, rfl⟩)
    · exact Or.inr (Or.inr (Or.inl rfl))

/-- well-formedness and `GraphOK` do not read the termination model -/
theorem Config.WellFormedDistance.withTerm {c : Config α} {du : DistanceUnit}
    (W : c.WellFormedDistance du) (m : TermM) :
    ({ c with term := m } : Config α).WellFormedDistance du :=
  ⟨W.trav, W.noAccess, W.noTurn, W.slot, W.cost_range, W.frontier_total, W.gc_nonneg⟩

theorem Config.GraphOK.withTerm {c : Config α} {source : Nat} {hasTarget : Bool}
    (G : c.GraphOK source hasTarget) (m : TermM) :
    ({ c with term := m } : Config α).GraphOK source hasTarget :=
  ⟨G.adj, G.inc_range, G.gc_source, G.gc_range⟩

end

/-! ### Non-vacuity: `ConfigUniform.Example.exC` is well formed -/

namespace ConfigUniform.Example

theorem exC_wellFormed : exC.WellFormedDistance .meters where
  trav := rfl
  noAccess := rfl
  noTurn := rfl
  slot := ⟨0, .kilometers, by decide +kernel⟩
  cost_range := by
    intro i hi
    simp only [exC, List.mem_singleton] at hi
    subst hi
    simp [exC]
  frontier_total := by
    intro e _
    by_cases h : e = 6 <;> simp [frontierValid, FrontierM.valid, exC, h]
  gc_nonneg := by decide +kernel

theorem exC_graphOK (source : Nat) (hs : source < 5) (hasT : Bool) : exC.GraphOK source hasT where
  adj := exC_edgeLocal.adj
  inc_range := exC.forall_incident (P := fun _ l => ∀ e ∈ l, e < exC.edges.length)
    (fun _ _ he => nomatch he) (by decide +kernel)
  gc_source := fun _ => by simpa [exC] using hs
  gc_range := fun _ => by decide +kernel

end ConfigUniform.Example

end Compass
