/-
The generic interpolators of `Model/Interp.lean` over any linearly ordered field: the vocabulary the C14 theorems are
stated in, and the facts about the model they rest on (the speed/grade model and the loaders: `Proofs/SpeedGrade.lean`).

One dimension first: a strictly increasing grid with at least two points (`GoodGrid`), a point within it (`InAxis`), the cell
`find_nearest_index` selects for it (`Sel`, as a function `selOf`), and what linear interpolation on that cell does
(reproduces grid values, does not depend on which of two adjacent cells is used, stays between the end values); `bil`
is that fact nested for two axes.
`validate_inputs` is one loop over the axes whatever the variant, so "rejects outside" and "never panics" are proved
once for all variants (`interpolate_eq_cases`).  The value is one statement for all variants too: the sequential
interpolation `ndVal` of the table over the cells of the point.  `InterpND::linear` is evaluated by it on every axis
`InterpND::new` accepts (`linearN_eq`); with at least two points per axis so are the 1-D, 2-D and 3-D methods
(`linear1_eq/2_eq/3_eq`, together `Valid.method_eq`), and agreement of two interpolators over the same data and
exactness on multi-affine data are facts about `ndVal` (`Valid.agree`, `Valid.exact`).
Then the N-D interpolators over row-major copies of 1-D/2-D/3-D data (`nd1/2/3_valid`, for "N-D agrees"), what
`InterpND::new` accepts (`AcceptedND`), and never-panics variant by variant, one-point axes included.
Only the bounds on `lerp` and on the fraction of a point in its cell, and what follows from them, use that the order is
compatible with the ring; everything else — the search, the selected cell, `validate_inputs`, the evaluators,
exactness — holds for a field with an unrelated linear order.
-/
import Compass.Proofs.Num
import Compass.Model.Interp

namespace Compass
namespace Interp

-- one setting for the file; many lemmas use less of it (the search no arithmetic, `lerp` identities no order)
set_option linter.unusedSectionVars false

/-! ### `Res`, and access to lists -/

theorem Res.ok_bind {β γ : Type} (v : β) (f : β → Res γ) : (Res.ok v).bind f = f v := rfl
theorem Res.err_bind {β γ : Type} (e : Err) (f : β → Res γ) : (Res.err e : Res β).bind f = .err e := rfl

theorem Res.bind_eq_ok {β γ : Type} {r : Res β} {f : β → Res γ} {v : γ} (h : r.bind f = .ok v) :
    ∃ a, r = .ok a ∧ f a = .ok v := by
  cases r with
  | ok a => exact ⟨a, rfl, h⟩
  | err e => cases h
  | panic s => cases h
  | diverges => cases h

theorem Res.bind_assoc {β γ δ : Type} (r : Res β) (f : β → Res γ) (g : γ → Res δ) :
    (r.bind f).bind g = r.bind fun a => (f a).bind g := by
  cases r <;> rfl

def Res.getD {β : Type} (r : Res β) (d : β) : β :=
  match r with
  | .ok v => v
  | _ => d

theorem Res.eq_ok_getD {β : Type} {r : Res β} (h : ∃ v, r = .ok v) (d : β) : r = .ok (r.getD d) := by
  obtain ⟨v, rfl⟩ := h
  rfl

/-- one link of a validator's chain `if c then Err(..) else …`: it is `Ok` exactly when the condition fails and the
rest is `Ok` -/
theorem Res.ite_err_eq_ok {β : Type} {c : Prop} [Decidable c] {e : Err} {r : Res β} {v : β} :
    (if c then .err e else r) = .ok v ↔ ¬ c ∧ r = .ok v := by
  split <;> simp [*]

/-- a result that is a value or an `Err`, never a panic or divergence -/
def Res.Graceful {β : Type} (r : Res β) : Prop := (∃ v, r = .ok v) ∨ (∃ e, r = .err e)

theorem Res.Graceful.ok {β : Type} (v : β) : (Res.ok v).Graceful := Or.inl ⟨v, rfl⟩
theorem Res.Graceful.err {β : Type} (e : Err) : (Res.err e : Res β).Graceful := Or.inr ⟨e, rfl⟩

theorem Res.Graceful.ite {β : Type} {c : Prop} [Decidable c] {a b : Res β} (ha : a.Graceful) (hb : b.Graceful) :
    (if c then a else b).Graceful := by
  split
  · exact ha
  · exact hb

theorem Res.Graceful.bind {β γ : Type} {r : Res β} {f : β → Res γ} (hr : r.Graceful)
    (hf : ∀ v, r = .ok v → (f v).Graceful) : (r.bind f).Graceful := by
  rcases hr with ⟨v, rfl⟩ | ⟨e, rfl⟩
  · exact hf v rfl
  · exact .err e

theorem Res.Graceful.unit_cases {r : Res Unit} (h : r.Graceful) : r = .ok () ∨ ∃ e, r = .err e :=
  h.imp (fun ⟨_, h⟩ => h) id

theorem idx_eq {β : Type} {xs : List β} {i : Nat} {v : β} (h : xs[i]? = some v) : idx xs i = .ok v := by
  simp [idx, h]

theorem idx_head {β : Type} (a : β) (t : List β) : idx (a :: t) 0 = .ok a := rfl

theorem forall₂_mem_left {β γ : Type} {R : β → γ → Prop} {l₁ : List β} {l₂ : List γ}
    (h : List.Forall₂ R l₁ l₂) {a : β} (ha : a ∈ l₁) : ∃ b ∈ l₂, R a b := by
  induction h with
  | nil => cases ha
  | @cons a' c l₁' l₂' hac _ ih =>
    rcases List.mem_cons.mp ha with rfl | ha'
    · exact ⟨c, List.mem_cons_self, hac⟩
    · obtain ⟨b, hb, hr⟩ := ih ha'
      exact ⟨b, List.mem_cons_of_mem _ hb, hr⟩

theorem forall₂_and_right {β γ : Type} {R : β → γ → Prop} {P : γ → Prop} {l₁ : List β} {l₂ : List γ}
    (h : List.Forall₂ R l₁ l₂) (hp : ∀ b ∈ l₂, P b) : List.Forall₂ (fun a b => R a b ∧ P b) l₁ l₂ := by
  induction h with
  | nil => exact List.Forall₂.nil
  | @cons a b l₁' l₂' hab _ ih =>
    exact List.Forall₂.cons ⟨hab, hp b (List.mem_cons_self)⟩
      (ih (fun c hc => hp c (List.mem_cons_of_mem _ hc)))

theorem forall₂_one {β γ : Type} {R : β → γ → Prop} {a : β} {l : List γ} (h : List.Forall₂ R [a] l) :
    ∃ b, l = [b] ∧ R a b := by
  cases h with | cons h0 h => cases h; exact ⟨_, rfl, h0⟩

theorem forall₂_two {β γ : Type} {R : β → γ → Prop} {a1 a2 : β} {l : List γ} (h : List.Forall₂ R [a1, a2] l) :
    ∃ b1 b2, l = [b1, b2] ∧ R a1 b1 ∧ R a2 b2 := by
  cases h with | cons h1 h => obtain ⟨_, rfl, h2⟩ := forall₂_one h; exact ⟨_, _, rfl, h1, h2⟩

theorem forall₂_three {β γ : Type} {R : β → γ → Prop} {a1 a2 a3 : β} {l : List γ}
    (h : List.Forall₂ R [a1, a2, a3] l) : ∃ b1 b2 b3, l = [b1, b2, b3] ∧ R a1 b1 ∧ R a2 b2 ∧ R a3 b3 := by
  cases h with | cons h1 h => obtain ⟨_, _, rfl, h2, h3⟩ := forall₂_two h; exact ⟨_, _, _, rfl, h1, h2, h3⟩

section
variable {α : Type} [Field α] [LinearOrder α] [Lit α] [LawfulLit α]

@[simp] theorem eqv_iff (a b : α) : eqv a b = true ↔ a = b := by
  simp only [eqv, Bool.and_eq_true, decide_eq_true_eq]
  exact le_antisymm_iff.symm

/-! ### strictly increasing lists -/

section
variable {g : List α} {i j : Nat} {a b : α}

theorem si_pairwise : ∀ {g : List α}, strictlyIncreasing g = true → g.Pairwise (· < ·)
  | [], _ => .nil
  | [_], _ => List.pairwise_singleton _ _
  | a :: b :: r, hs => by
    simp only [strictlyIncreasing, Bool.and_eq_true, decide_eq_true_eq] at hs
    have ih := si_pairwise hs.2
    refine List.pairwise_cons.mpr ⟨fun c hc => ?_, ih⟩
    rcases List.mem_cons.mp hc with rfl | hc
    · exact hs.1
    · exact lt_trans hs.1 ((List.pairwise_cons.mp ih).1 c hc)

theorem si_lt (hs : strictlyIncreasing g = true) (hi : g[i]? = some a) (hj : g[j]? = some b)
    (h : i < j) : a < b := by
  obtain ⟨hi', rfl⟩ := List.getElem?_eq_some_iff.mp hi
  obtain ⟨hj', rfl⟩ := List.getElem?_eq_some_iff.mp hj
  exact List.pairwise_iff_getElem.mp (si_pairwise hs) i j hi' hj' h

/-- positions and values of a strictly increasing list are ordered alike -/
theorem si_le_iff (hs : strictlyIncreasing g = true) (hi : g[i]? = some a) (hj : g[j]? = some b) :
    a ≤ b ↔ i ≤ j := by
  constructor
  · intro h
    by_contra hn
    exact absurd (si_lt hs hj hi (Nat.lt_of_not_le hn)) (not_lt.mpr h)
  · intro h
    rcases Nat.lt_or_eq_of_le h with h | rfl
    · exact (si_lt hs hi hj h).le
    · rw [hi] at hj; cases hj; exact le_refl _

theorem si_lt_iff (hs : strictlyIncreasing g = true) (hi : g[i]? = some a) (hj : g[j]? = some b) :
    a < b ↔ i < j := by
  rw [← not_le, si_le_iff hs hj hi, Nat.not_le]

/-- a grid the property quantifies over: strictly increasing, at least two points -/
def GoodGrid (g : List α) : Prop := strictlyIncreasing g = true ∧ 2 ≤ g.length

theorem GoodGrid.ne_nil {g : List α} (hg : GoodGrid g) : g ≠ [] :=
  List.ne_nil_of_length_pos (Nat.lt_of_lt_of_le Nat.two_pos hg.2)

/-- an axis `Interp1D::new` and `InterpND::new` accept (one point is enough): not empty, strictly increasing, as long
as the table's extent -/
def AxisOk (g : List α) (s : Nat) : Prop := g ≠ [] ∧ strictlyIncreasing g = true ∧ g.length = s

end

/-! ### the binary search -/

section
variable {g : List α}

/-- the two loop invariants of `find_nearest_index` (no sortedness needed): everything left of
`low` is below the target, and the element at `high` is not -/
theorem bsearch_spec (arr : List α) (t : α) : ∀ (fuel low high : Nat), low ≤ high → high < arr.length →
    high - low < fuel →
    ∃ r, bsearch arr t fuel low high = .ok r ∧ r ≤ high ∧
      ((low = 0 ∨ ∃ v, arr[low - 1]? = some v ∧ v < t) → (r = 0 ∨ ∃ v, arr[r - 1]? = some v ∧ v < t)) ∧
      ((∃ v, arr[high]? = some v ∧ t ≤ v) → ∃ v, arr[r]? = some v ∧ t ≤ v) := by
  intro fuel
  induction fuel with
  | zero => intro _ _ _ _ h; exact absurd h (Nat.not_lt_zero _)
  | succ fuel ih =>
    intro low high hlh hh hf
    rw [bsearch]
    by_cases hlt : low < high
    · rw [if_pos hlt]
      have hk : (high - low) / 2 < high - low := Nat.div_lt_self (Nat.sub_pos_of_lt hlt) (by decide)
      generalize (high - low) / 2 = k at hk ⊢
      have hm : low + k < high := by omega
      obtain ⟨v, hget⟩ : ∃ v, arr[low + k]? = some v := ⟨_, List.getElem?_eq_getElem (hm.trans hh)⟩
      simp only [hget]
      by_cases hc : t ≤ v
      · obtain ⟨r, hr, h2, h3, h4⟩ := ih low _ (Nat.le_add_right _ _) (hm.trans hh) (by omega)
        exact ⟨r, (if_pos hc).trans hr, h2.trans hm.le, h3, fun _ => h4 ⟨v, hget, hc⟩⟩
      · obtain ⟨r, hr, h2, h3, h4⟩ := ih (low + k + 1) high hm hh (by omega)
        exact ⟨r, (if_neg hc).trans hr, h2, fun _ => h3 (Or.inr ⟨v, hget, not_le.mp hc⟩), h4⟩
    · obtain rfl : low = high := Nat.le_antisymm hlh (Nat.le_of_not_lt hlt)
      exact ⟨low, if_neg hlt, le_refl _, id, id⟩

/-- the search as `find_nearest_index` starts it, over the whole grid: an index of the grid with
everything to its left below the target and, when the last grid value is not, a value at it that is not -/
theorem bsearch_whole (g : List α) (t : α) (hne : 0 < g.length) :
    ∃ r, bsearch g t (g.length + 1) 0 (g.length - 1) = .ok r ∧ r < g.length ∧
      (r = 0 ∨ ∃ v, g[r - 1]? = some v ∧ v < t) ∧
      (∀ hi, g.getLast? = some hi → t ≤ hi → ∃ v, g[r]? = some v ∧ t ≤ v) := by
  have hl := Nat.sub_lt hne Nat.one_pos
  obtain ⟨r, hr, hrh, hA, hB⟩ :=
    bsearch_spec g t (g.length + 1) 0 (g.length - 1) (Nat.zero_le _) hl (Nat.lt_succ_of_lt hl)
  exact ⟨r, hr, Nat.lt_of_le_of_lt hrh hl, hA (Or.inl rfl),
    fun hi hhi h => hB ⟨hi, List.getLast?_eq_getElem? ▸ hhi, h⟩⟩

/-- `find_nearest_index` on at least two grid points, its guards resolved -/
theorem findNearestIndex_eq (g : List α) (t hi : α) (hlen : 2 ≤ g.length) (hhi : g.getLast? = some hi) :
    findNearestIndex g t =
      if eqv t hi then .ok (g.length - 2)
      else (bsearch g t (g.length + 1) 0 (g.length - 1)).bind fun low =>
        (idx g low).bind fun v => if 0 < low ∧ t ≤ v then .ok (low - 1) else .ok low := by
  rw [findNearestIndex, if_neg (Nat.ne_of_gt hlen), hhi]
  dsimp only
  rw [if_neg (Nat.not_lt_of_le hlen)]

theorem findNearestIndex_ge_two (g : List α) (t : α) (hlen : 2 ≤ g.length) :
    ∃ i, findNearestIndex g t = .ok i ∧ i < g.length := by
  have hpos : 0 < g.length := Nat.lt_of_lt_of_le Nat.two_pos hlen
  obtain ⟨hi, hlast⟩ : ∃ hi, g.getLast? = some hi :=
    ⟨_, List.getLast?_eq_some_getLast (List.ne_nil_of_length_pos hpos)⟩
  rw [findNearestIndex_eq g t hi hlen hlast]
  by_cases he : eqv t hi = true
  · exact ⟨_, if_pos he, Nat.sub_lt hpos Nat.two_pos⟩
  · obtain ⟨r, hr, hrl, _, _⟩ := bsearch_whole g t hpos
    rw [if_neg he, hr, Res.ok_bind, idx_eq (List.getElem?_eq_getElem hrl), Res.ok_bind]
    by_cases hc : 0 < r ∧ t ≤ g[r]
    · exact ⟨_, if_pos hc, Nat.lt_of_le_of_lt (Nat.sub_le _ _) hrl⟩
    · exact ⟨_, if_neg hc, hrl⟩

theorem findNearestIndex_lt_two (g : List α) (t : α) (h : g.length < 2) : ∃ e, findNearestIndex g t = .err e := by
  rw [findNearestIndex]
  by_cases h1 : g.length = 1
  · exact ⟨_, if_pos h1⟩
  · obtain rfl : g = [] := List.length_eq_zero_iff.mp (by omega)
    exact ⟨_, rfl⟩

/-- `find_nearest_index` on a good grid and an in-range target: the index of a cell that contains the
target; the target is strictly above the cell's lower end except at the very first grid point -/
theorem findNearestIndex_spec (g : List α) (t lo hi : α) (hg : GoodGrid g)
    (hlo : g[0]? = some lo) (hhi : g.getLast? = some hi) (h1 : lo ≤ t) (h2 : t ≤ hi) :
    ∃ l a b, findNearestIndex g t = .ok l ∧ g[l]? = some a ∧ g[l + 1]? = some b ∧
      ((a < t ∧ t ≤ b) ∨ (l = 0 ∧ t = a)) := by
  obtain ⟨hs, hlen⟩ := hg
  rw [findNearestIndex_eq g t hi hlen hhi]
  by_cases he : eqv t hi = true
  · -- the upper boundary: the last cell
    obtain rfl := (eqv_iff t hi).mp he
    obtain ⟨a, ha⟩ : ∃ a, g[g.length - 2]? = some a :=
      ⟨_, List.getElem?_eq_getElem (Nat.sub_lt (Nat.lt_of_lt_of_le Nat.two_pos hlen) Nat.two_pos)⟩
    have hb : g[g.length - 2 + 1]? = some t := by
      rw [← hhi, List.getLast?_eq_getElem?, show g.length - 2 + 1 = g.length - 1 by omega]
    exact ⟨_, a, t, if_pos he, ha, hb, Or.inl ⟨si_lt hs ha hb (Nat.lt_succ_self _), le_refl _⟩⟩
  · obtain ⟨r, hr, hrl, hA, hB⟩ := bsearch_whole g t (Nat.lt_of_lt_of_le Nat.two_pos hlen)
    obtain ⟨v, hv, htv⟩ := hB hi hhi h2
    rw [if_neg he, hr, Res.ok_bind, idx_eq hv, Res.ok_bind]
    by_cases hr0 : 0 < r
    · rcases hA with rfl | ⟨w, hw, hwt⟩
      · exact absurd hr0 (Nat.lt_irrefl 0)
      · exact ⟨r - 1, w, v, if_pos ⟨hr0, htv⟩, hw, by rwa [Nat.sub_add_cancel hr0], Or.inl ⟨hwt, htv⟩⟩
    · -- the search ended on the first grid point, which is not below the target: the target is that point
      obtain rfl : r = 0 := Nat.eq_zero_of_not_pos hr0
      obtain rfl : lo = v := Option.some.inj (hlo.symm.trans hv)
      obtain ⟨b, hb⟩ : ∃ b, g[0 + 1]? = some b := ⟨_, List.getElem?_eq_getElem hlen⟩
      exact ⟨0, lo, b, if_neg (fun h => hr0 h.1), hlo, hb, Or.inr ⟨rfl, le_antisymm htv h1⟩⟩

end

/-! ### `lerp` -/

theorem lerp_eq (a b d : α) : lerp a b d = a * (1 - d) + b * d := by
  simp [lerp]

theorem lerp_zero (a b : α) : lerp a b 0 = a := by rw [lerp_eq]; ring
theorem lerp_one (a b : α) : lerp a b 1 = b := by rw [lerp_eq]; ring

variable [IsStrictOrderedRing α] in
theorem lerp_mem (a b d lo hi : α) (h0 : 0 ≤ d) (h1 : d ≤ 1)
    (ha : lo ≤ a ∧ a ≤ hi) (hb : lo ≤ b ∧ b ≤ hi) : lo ≤ lerp a b d ∧ lerp a b d ≤ hi := by
  rw [lerp_eq]
  have hd : 0 ≤ 1 - d := sub_nonneg.mpr h1
  constructor
  · calc lo = lo * (1 - d) + lo * d := by ring
      _ ≤ _ := add_le_add (mul_le_mul_of_nonneg_right ha.1 hd) (mul_le_mul_of_nonneg_right hb.1 h0)
  · calc _ ≤ hi * (1 - d) + hi * d :=
          add_le_add (mul_le_mul_of_nonneg_right ha.2 hd) (mul_le_mul_of_nonneg_right hb.2 h0)
      _ = hi := by ring

variable [IsStrictOrderedRing α] in
theorem lerp_between (a b d : α) (h0 : 0 ≤ d) (h1 : d ≤ 1) :
    min a b ≤ lerp a b d ∧ lerp a b d ≤ max a b :=
  lerp_mem a b d _ _ h0 h1 ⟨min_le_left a b, le_max_left a b⟩ ⟨min_le_right a b, le_max_right a b⟩

variable [IsStrictOrderedRing α] in
theorem abs_lerp_le (a b d : α) (h0 : 0 ≤ d) (h1 : d ≤ 1) : |lerp a b d| ≤ max |a| |b| :=
  abs_le.mpr (lerp_mem a b d _ _ h0 h1 (abs_le.mp (le_max_left _ _)) (abs_le.mp (le_max_right _ _)))

variable [IsStrictOrderedRing α] in
theorem lerp_lerp_between (a b c e d t : α) (hd : 0 ≤ d ∧ d ≤ 1) (ht : 0 ≤ t ∧ t ≤ 1) :
    min (min a b) (min c e) ≤ lerp (lerp a b d) (lerp c e d) t ∧
      lerp (lerp a b d) (lerp c e d) t ≤ max (max a b) (max c e) := by
  have h1 := lerp_between a b d hd.1 hd.2
  have h2 := lerp_between c e d hd.1 hd.2
  have h3 := lerp_between (lerp a b d) (lerp c e d) t ht.1 ht.2
  exact ⟨le_trans (min_le_min h1.1 h2.1) h3.1, le_trans h3.2 (max_le_max h1.2 h2.2)⟩

theorem lerp_sub_frac (a b s s' : α) : lerp a b s - lerp a b s' = (s - s') * (b - a) := by
  simp only [lerp_eq]; ring

theorem lerp_sub_lerp (a b a' b' d : α) : lerp a b d - lerp a' b' d = lerp (a - a') (b - b') d := by
  simp only [lerp_eq]; ring

theorem lerp_mul_left (k a b d : α) : lerp (k * a) (k * b) d = k * lerp a b d := by
  simp only [lerp_eq]; ring

/-- bilinear interpolation does not depend on which axis is interpolated first -/
theorem lerp_lerp_comm (a b c d s t : α) : lerp (lerp a b s) (lerp c d s) t = lerp (lerp a c t) (lerp b d t) s := by
  simp only [lerp_eq]; ring

theorem frac_point (a b p : α) (hab : a ≠ b) : a * (1 - (p - a) / (b - a)) + b * ((p - a) / (b - a)) = p := by
  have : b - a ≠ 0 := sub_ne_zero.mpr (Ne.symm hab)
  field_simp
  ring

variable [IsStrictOrderedRing α] in
theorem frac_mem {a b p : α} (hab : a < b) (h1 : a ≤ p) (h2 : p ≤ b) :
    0 ≤ (p - a) / (b - a) ∧ (p - a) / (b - a) ≤ 1 :=
  ⟨div_nonneg (sub_nonneg.mpr h1) (sub_pos.mpr hab).le,
    (div_le_one (sub_pos.mpr hab)).mpr (sub_le_sub_right h2 a)⟩

/-! ### the selected cell in one dimension

A cell is a lower index and a fraction.  The model returns them as a pair (`cellOf`), and so do `selOf` and `bil`
here; the relation `Sel`, which the statements about one axis are written in, takes the two apart; the model's N-D code
wraps them in its own type `Cell`. -/

section
variable {g : List α} {p : α} {l : Nat} {d : α}

/-- `(l, d)` is what `cellOf g p` selects: cell `[g[l], g[l+1]]` contains `p`, strictly above its lower
end except at the first grid point, and `d` is the fraction -/
def Sel (g : List α) (p : α) (l : Nat) (d : α) : Prop :=
  ∃ a b, g[l]? = some a ∧ g[l + 1]? = some b ∧ a < b ∧ d = (p - a) / (b - a) ∧
    ((a < p ∧ p ≤ b) ∨ (l = 0 ∧ p = a))

/-- the closed cell: what the clauses of `Sel` give when the first grid point needs no special mention -/
theorem Sel.bracket (h : Sel g p l d) :
    ∃ a b, g[l]? = some a ∧ g[l + 1]? = some b ∧ a < b ∧ d = (p - a) / (b - a) ∧ a ≤ p ∧ p ≤ b := by
  obtain ⟨a, b, ha, hb, hab, hd, hc⟩ := h
  refine ⟨a, b, ha, hb, hab, hd, ?_⟩
  rcases hc with ⟨h1, h2⟩ | ⟨_, rfl⟩
  · exact ⟨h1.le, h2⟩
  · exact ⟨le_refl _, hab.le⟩

variable [IsStrictOrderedRing α] in
theorem Sel.range (h : Sel g p l d) : 0 ≤ d ∧ d ≤ 1 := by
  obtain ⟨a, b, _, _, hab, rfl, h1, h2⟩ := h.bracket
  exact frac_mem hab h1 h2

theorem Sel.lt_length (h : Sel g p l d) : l + 1 < g.length := by
  obtain ⟨_, b, _, hb, _⟩ := h
  exact (List.getElem?_eq_some_iff.mp hb).1

theorem Sel.lower_lt (h : Sel g p l d) : l < g.length := Nat.lt_of_succ_lt h.lt_length

/-- on a grid point the selected cell reproduces the value at that grid point -/
theorem Sel.on_grid (h : Sel g p l d) (hs : strictlyIncreasing g = true) (i : Nat) (hi : g[i]? = some p)
    (v : Nat → α) : lerp (v l) (v (l + 1)) d = v i := by
  obtain ⟨a, b, ha, hb, hab, rfl, hc⟩ := h
  rcases hc with ⟨h1, h2⟩ | ⟨_, rfl⟩
  · -- `g[l] < g[i] ≤ g[l+1]`: the point is the upper end
    obtain rfl : i = l + 1 :=
      Nat.le_antisymm ((si_le_iff hs hi hb).mp h2) ((si_lt_iff hs ha hi).mp h1)
    obtain rfl : b = p := Option.some.inj (hb.symm.trans hi)
    rw [div_self (sub_ne_zero.mpr hab.ne'), lerp_one]
  · obtain rfl : i = l := Nat.le_antisymm ((si_le_iff hs hi ha).mp (le_refl _)) ((si_le_iff hs ha hi).mp (le_refl _))
    rw [sub_self, zero_div, lerp_zero]

/-- any other cell that contains the point gives the same interpolated value: the pieces agree on
their common border -/
theorem Sel.indep (h : Sel g p l d) (hs : strictlyIncreasing g = true) (l' : Nat) (a' b' : α)
    (ha' : g[l']? = some a') (hb' : g[l' + 1]? = some b') (h1 : a' ≤ p) (h2 : p ≤ b') (v : Nat → α) :
    lerp (v l) (v (l + 1)) d = lerp (v l') (v (l' + 1)) ((p - a') / (b' - a')) := by
  rcases h2.eq_or_lt with rfl | hlt2
  · -- the point is the upper end of the other cell
    rw [h.on_grid hs (l' + 1) hb' v, div_self (sub_ne_zero.mpr (si_lt hs ha' hb' (Nat.lt_succ_self _)).ne'),
      lerp_one]
  rcases h1.eq_or_lt with rfl | hlt1
  · rw [h.on_grid hs l' ha' v, sub_self, zero_div, lerp_zero]
  -- strictly inside the other cell: it is the same cell
  obtain ⟨a, b, ha, hb, hab, rfl, hc⟩ := h
  obtain rfl : l = l' := by
    rcases hc with ⟨c1, c2⟩ | ⟨rfl, rfl⟩
    · have := (si_lt_iff hs ha hb').mp (c1.trans hlt2)
      have := (si_lt_iff hs ha' hb).mp (hlt1.trans_le c2)
      omega
    · exact absurd hlt1 (not_lt.mpr ((si_le_iff hs ha ha').mpr (Nat.zero_le _)))
  rw [Option.some.inj (ha.symm.trans ha'), Option.some.inj (hb.symm.trans hb')]

section
variable {α : Type} [Field α] [LinearOrder α] [IsStrictOrderedRing α] [Lit α] [LawfulLit α]

/-- values that are an affine function `m * x + c` of the grid coordinate are interpolated to `m * p + c` on the
selected cell -/
theorem Sel.affine {g : List α} {p : α} {l : Nat} {d : α} (h : Sel g p l d) (v : Nat → α) (m c : α)
    (hv : ∀ i x, g[i]? = some x → v i = m * x + c) :
    lerp (v l) (v (l + 1)) d = m * p + c := by
  obtain ⟨a, b, ha, hb, hab, hd, _⟩ := h
  have e : (m * a + c) * (1 - d) + (m * b + c) * d = m * (a * (1 - d) + b * d) + c := by ring
  rw [hv l a ha, hv (l + 1) b hb, lerp_eq, e, hd, frac_point a b p hab.ne]

end

/-- the point as the weighted mean of the ends of its cell, the ends read off the grid by `getD` -/
theorem Sel.point_eq (h : Sel g p l d) : g.getD l 0 * (1 - d) + g.getD (l + 1) 0 * d = p := by
  obtain ⟨a, b, ha, hb, hab, rfl, _⟩ := h
  rw [List.getD_eq_getElem?_getD, List.getD_eq_getElem?_getD, ha, hb, Option.getD_some, Option.getD_some,
    frac_point a b p hab.ne]

end

/-! ### in-range points -/

section
variable {g : List α} {i : Nat} {p : α}

/-- the in-grid test of `validate_inputs` on one axis (`inAxis`) answers `true` -/
def InAxis (g : List α) (p : α) : Prop :=
  ∃ lo hi, g[0]? = some lo ∧ g.getLast? = some hi ∧ lo ≤ p ∧ p ≤ hi

theorem inAxis_eq_true (h : InAxis g p) : inAxis g p = .ok true := by
  obtain ⟨lo, hi, h0, hl, h1, h2⟩ := h
  simp [inAxis, idx_eq h0, Res.bind, hl, h1, h2]

theorem inAxis_eq_false (hne : g ≠ []) (h : ¬ InAxis g p) : inAxis g p = .ok false := by
  obtain ⟨lo, h0⟩ : ∃ lo, g[0]? = some lo := ⟨_, List.getElem?_eq_getElem (List.length_pos_iff.mpr hne)⟩
  have hl := List.getLast?_eq_some_getLast hne
  rw [inAxis, idx_eq h0, Res.ok_bind, hl]
  refine congrArg Res.ok (Bool.eq_false_iff.mpr fun hc => h ?_)
  rw [Bool.and_eq_true, decide_eq_true_eq, decide_eq_true_eq] at hc
  exact ⟨lo, _, h0, hl, hc⟩

theorem InAxis.of_mem (hs : strictlyIncreasing g = true) (hi : g[i]? = some p) : InAxis g p := by
  have hlt := (List.getElem?_eq_some_iff.mp hi).1
  have hpos : 0 < g.length := Nat.zero_lt_of_lt hlt
  have h0 := List.getElem?_eq_getElem hpos
  have hl := List.getElem?_eq_getElem (Nat.sub_lt hpos Nat.one_pos)
  exact ⟨_, _, h0, List.getLast?_eq_getElem? ▸ hl, (si_le_iff hs h0 hi).mpr (Nat.zero_le _),
    (si_le_iff hs hi hl).mpr (Nat.le_sub_one_of_lt hlt)⟩

/-- the range of an axis is an interval -/
theorem InAxis.of_between {lo hi : α} (hlo : InAxis g lo) (hhi : InAxis g hi) (h1 : lo ≤ p) (h2 : p ≤ hi) :
    InAxis g p := by
  obtain ⟨a, b, ha, hb, hal, _⟩ := hlo
  obtain ⟨_, b', _, hb', _, hbu⟩ := hhi
  obtain rfl : b = b' := Option.some.inj (hb.symm.trans hb')
  exact ⟨a, b, ha, hb, hal.trans h1, h2.trans hbu⟩

/-- what `cellOf` selects (a default where it fails); used through the three equations below -/
def selOf (g : List α) (p : α) : Nat × α := (cellOf g p).getD (0, 0)

private theorem cellOf_inAxis (hg : GoodGrid g) (h : InAxis g p) :
    ∃ c, findNearestIndex g p = .ok c.1 ∧ cellOf g p = .ok c ∧ selOf g p = c ∧ Sel g p c.1 c.2 := by
  obtain ⟨lo, hi, h0, hl, h1, h2⟩ := h
  obtain ⟨l, a, b, hf, ha, hb, hc⟩ := findNearestIndex_spec g p lo hi hg h0 hl h1 h2
  have hcell : cellOf g p = .ok (l, (p - a) / (b - a)) := by
    rw [cellOf, hf, Res.ok_bind, idx_eq ha, Res.ok_bind, idx_eq hb, Res.ok_bind]
  exact ⟨_, hf, hcell, by rw [selOf, hcell]; rfl, a, b, ha, hb, si_lt hg.1 ha hb (Nat.lt_succ_self l), rfl, hc⟩

/-- on a good grid every in-range point has its cell: the index `find_nearest_index` returns, the pair `cellOf`
returns, and it is the selected cell -/
theorem findNearestIndex_selOf (hg : GoodGrid g) (h : InAxis g p) : findNearestIndex g p = .ok (selOf g p).1 := by
  obtain ⟨c, hf, _, rfl, _⟩ := cellOf_inAxis hg h
  exact hf

theorem cellOf_eq (hg : GoodGrid g) (h : InAxis g p) : cellOf g p = .ok (selOf g p) := by
  obtain ⟨c, _, hc, rfl, _⟩ := cellOf_inAxis hg h
  exact hc

theorem sel_selOf (hg : GoodGrid g) (h : InAxis g p) : Sel g p (selOf g p).1 (selOf g p).2 := by
  obtain ⟨c, _, _, rfl, hs⟩ := cellOf_inAxis hg h
  exact hs

/-! ### the grid-line shortcut of the 1-D and N-D code (`position`) -/

theorem position_some {β : Type} (q : β → Bool) : ∀ (xs : List β) (i : Nat), position q xs = some i →
    ∃ v, xs[i]? = some v ∧ q v = true
  | a :: t, i, h => by
    rw [position] at h
    by_cases hq : q a = true
    · rw [if_pos hq] at h; cases h; exact ⟨a, rfl, hq⟩
    · rw [if_neg hq] at h
      obtain ⟨k, hk, rfl⟩ := Option.map_eq_some_iff.mp h
      exact position_some q t k hk

theorem position_none {β : Type} (q : β → Bool) : ∀ (xs : List β), position q xs = none →
    ∀ (i : Nat) (v : β), xs[i]? = some v → q v = false
  | a :: t, h, i, v, hv => by
    rw [position] at h
    by_cases hq : q a = true
    · rw [if_pos hq] at h; cases h
    · rw [if_neg hq, Option.map_eq_none_iff] at h
      cases i with
      | zero => cases hv; exact Bool.eq_false_iff.mpr hq
      | succ i => exact position_none q t h i v hv

/-- an accepted axis and an in-range coordinate: `position` finds the grid line the point lies on, inside the extent,
or finds none and the axis has at least two points -/
theorem onGrid_cases {s : Nat} (hg : AxisOk g s) (hp : InAxis g p) :
    (∃ pos, position (fun v => eqv v p) g = some pos ∧ g[pos]? = some p ∧ pos < s) ∨
      (position (fun v => eqv v p) g = none ∧ GoodGrid g) := by
  cases hpos : position (fun v => eqv v p) g with
  | some pos =>
    obtain ⟨v, hv, hq⟩ := position_some _ g pos hpos
    obtain rfl := (eqv_iff v p).mp hq
    exact Or.inl ⟨pos, rfl, hv, hg.2.2 ▸ (List.getElem?_eq_some_iff.mp hv).1⟩
  | none =>
    refine Or.inr ⟨rfl, hg.2.1, ?_⟩
    -- a one-point axis: its point is the only in-range value, and `position` would have found it
    obtain ⟨lo, hi, h0, hl, h1, h2⟩ := hp
    by_contra hlen
    have hlen1 : g.length = 1 := by have := (List.getElem?_eq_some_iff.mp h0).1; omega
    rw [List.getLast?_eq_getElem?, hlen1] at hl
    obtain rfl : lo = hi := Option.some.inj (h0.symm.trans hl)
    have := position_none _ g hpos 0 lo h0
    rw [← Bool.not_eq_true, eqv_iff] at this
    exact this (le_antisymm h1 h2)

end

/-! ### tables and their accessors

A table is read in two ways.  `F1/F2/F3` are its total accessors with one argument per axis (default 0 outside): what the
model's `idx/idx2/idx3` answer inside the extents, and what the 2-D formula `bil` takes.  `G1/G2/G3` are the same
values as a function of the index *list*, which is what the N-D evaluator `ndVal` and `Valid` take for a table of any
dimension: `G2 f [i, j]` is `F2 f i j` by definition. -/

section
variable {i j k nx ny nz : Nat}

def F1 (f : List α) (i : Nat) : α := f.getD i 0
def F2 (f : List (List α)) (i j : Nat) : α := (f.getD i []).getD j 0
def F3 (f : List (List (List α))) (i j k : Nat) : α := ((f.getD i []).getD j []).getD k 0

def G1 (f : List α) : List Nat → α
  | [i] => F1 f i
  | _ => 0
def G2 (f : List (List α)) : List Nat → α
  | [i, j] => F2 f i j
  | _ => 0
def G3 (f : List (List (List α))) : List Nat → α
  | [i, j, k] => F3 f i j k
  | _ => 0

theorem getElem?_getD {l : List α} {i : Nat} (h : i < l.length) : l[i]? = some (l.getD i 0) := by
  rw [List.getD_eq_getElem?_getD, List.getElem?_eq_getElem h, Option.getD_some]

theorem idx1_ok {f : List α} (hi : i < f.length) : idx f i = .ok (F1 f i) := idx_eq (getElem?_getD hi)

/-- `f` has `nx` rows of `ny` values -/
def Rect2 (f : List (List α)) (nx ny : Nat) : Prop := f.length = nx ∧ ∀ r ∈ f, r.length = ny

def Rect3 (f : List (List (List α))) (nx ny nz : Nat) : Prop := f.length = nx ∧ ∀ r ∈ f, Rect2 r ny nz

theorem idx2_ok {f : List (List α)} (hr : Rect2 f nx ny) (hi : i < nx) (hj : j < ny) :
    idx2 f i j = .ok (F2 f i j) := by
  obtain ⟨rfl, h2⟩ := hr
  have hj' : j < f[i].length := (h2 _ (List.getElem_mem hi)).symm ▸ hj
  simp [idx2, idx, Res.bind, F2, List.getElem?_eq_getElem hi, List.getElem?_eq_getElem hj',
    List.getD_eq_getElem?_getD]

theorem idx3_ok {f : List (List (List α))} (hr : Rect3 f nx ny nz) (hi : i < nx) (hj : j < ny)
    (hk : k < nz) : idx3 f i j k = .ok (F3 f i j k) := by
  obtain ⟨rfl, h2⟩ := hr
  rw [idx3, idx_eq (List.getElem?_eq_getElem hi), Res.ok_bind, idx2_ok (h2 _ (List.getElem_mem hi)) hj hk]
  simp [F3, F2, List.getD_eq_getElem?_getD, List.getElem?_eq_getElem hi]

end

/-! ### the bilinear formula -/

section
variable {x y : List α} {p0 p1 : α} {cx cy : Nat × α} {i j : Nat}

/-- the bilinear formula on the cell `(cx.1, cy.1)` with fractions `cx.2`, `cy.2`, in the code's operation
order -/
def bil (F : Nat → Nat → α) (cx cy : Nat × α) : α :=
  lerp (lerp (F cx.1 cy.1) (F (cx.1 + 1) cy.1) cx.2) (lerp (F cx.1 (cy.1 + 1)) (F (cx.1 + 1) (cy.1 + 1)) cx.2) cy.2

/-! Consequences for the bilinear formula: each is the 1-D fact along `y` applied to the values interpolated along `x`. -/

theorem bil_on_grid (F : Nat → Nat → α) (sx : Sel x p0 cx.1 cx.2) (sy : Sel y p1 cy.1 cy.2)
    (hx : strictlyIncreasing x = true) (hy : strictlyIncreasing y = true)
    (hi : x[i]? = some p0) (hj : y[j]? = some p1) : bil F cx cy = F i j :=
  (sy.on_grid hy j hj fun j => lerp (F cx.1 j) (F (cx.1 + 1) j) cx.2).trans
    (sx.on_grid hx i hi fun i => F i j)

theorem bil_indep (F : Nat → Nat → α) (sx : Sel x p0 cx.1 cx.2) (sy : Sel y p1 cy.1 cy.2)
    (hx : strictlyIncreasing x = true) (hy : strictlyIncreasing y = true) (lx' ly' : Nat) (ax bx ay by' : α)
    (hax : x[lx']? = some ax) (hbx : x[lx' + 1]? = some bx) (hay : y[ly']? = some ay)
    (hby : y[ly' + 1]? = some by') (h1 : ax ≤ p0) (h2 : p0 ≤ bx) (h3 : ay ≤ p1) (h4 : p1 ≤ by') :
    bil F cx cy = bil F (lx', (p0 - ax) / (bx - ax)) (ly', (p1 - ay) / (by' - ay)) := by
  unfold bil
  rw [sy.indep hy ly' ay by' hay hby h3 h4 fun j => lerp (F cx.1 j) (F (cx.1 + 1) j) cx.2,
    sx.indep hx lx' ax bx hax hbx h1 h2 fun i => F i ly',
    sx.indep hx lx' ax bx hax hbx h1 h2 fun i => F i (ly' + 1)]

end

/-! ### what the 1-D, 2-D and 3-D constructors accept, and that they never panic -/

theorem validate1_ok {x f : List α} (hv : validate1 x f = .ok ()) : AxisOk x f.length := by
  simp only [validate1, Res.ite_err_eq_ok, Bool.not_eq_true', Bool.not_eq_false, ne_eq, not_not,
    and_true, List.length_eq_zero_iff] at hv
  exact hv

/-- `validate2` accepts exactly the well-formed tables: at least two points per axis, strictly
increasing, rectangular values -/
theorem validate2_ok_iff (x y : List α) (f : List (List α)) :
    validate2 x y f = .ok () ↔ GoodGrid x ∧ GoodGrid y ∧ Rect2 f x.length y.length := by
  simp only [validate2, Res.ite_err_eq_ok, GoodGrid, Rect2, Bool.not_eq_true', Bool.not_eq_false,
    Bool.and_eq_true, decide_eq_true_eq, List.all_eq_true, not_or, not_lt, and_true]
  constructor
  · rintro ⟨_, ⟨hx, hy⟩, ⟨sx, sy⟩, hl, hr⟩
    exact ⟨⟨sx, hx⟩, ⟨sy, hy⟩, hl.symm, hr⟩
  · rintro ⟨⟨sx, hx⟩, ⟨sy, hy⟩, hl, hr⟩
    exact ⟨⟨by omega, by omega⟩, ⟨hx, hy⟩, ⟨sx, sy⟩, hl.symm, hr⟩

theorem validate3_ok {x y z : List α} {f : List (List (List α))} (hv : validate3 x y z f = .ok ()) :
    GoodGrid x ∧ GoodGrid y ∧ GoodGrid z ∧ Rect3 f x.length y.length z.length := by
  simp only [validate3, Res.ite_err_eq_ok, Bool.not_eq_true', Bool.not_eq_false,
    Bool.and_eq_true, decide_eq_true_eq, List.all_eq_true, not_or, not_lt, and_true] at hv
  obtain ⟨_, ⟨hx, hy, hz⟩, ⟨⟨sx, sy⟩, sz⟩, ⟨hl, hr⟩, hr'⟩ := hv
  exact ⟨⟨sx, hx⟩, ⟨sy, hy⟩, ⟨sz, hz⟩, hl.symm, fun r hm => ⟨hr r hm, hr' r hm⟩⟩

-- every arm of the two validators is an `Err`, the last one `Ok`

theorem validate2_graceful (x y : List α) (f : List (List α)) : (validate2 x y f).Graceful :=
  .ite (.err _) (.ite (.err _) (.ite (.err _) (.ite (.err _) (.ok ()))))

theorem validate3_graceful (x y z : List α) (f : List (List (List α))) : (validate3 x y z f).Graceful :=
  .ite (.err _) (.ite (.err _) (.ite (.err _) (.ite (.err _) (.ok ()))))

/-! ### `validate_inputs`, the same in every dimension -/

section
variable {it : Interpolator α} {pt : List α}

theorem ndInGrid_ok : ∀ (grid : List (List α)) (pt : List α), List.Forall₂ InAxis grid pt →
    ndInGrid grid.length grid pt = .ok ()
  | _, _, .nil => rfl
  | _, _, .cons hgp h => by
    rw [List.length_cons, ndInGrid, inAxis_eq_true hgp, Res.ok_bind]
    exact ndInGrid_ok _ _ h

theorem ndInGrid_err : ∀ (grid : List (List α)) (pt : List α), [] ∉ grid → pt.length = grid.length →
    ¬ List.Forall₂ InAxis grid pt → ndInGrid grid.length grid pt = .err .outside
  | [], [], _, _, h => absurd .nil h
  | g :: gs, p :: ps, hne, hl, h => by
    rw [List.length_cons, ndInGrid]
    by_cases hgp : InAxis g p
    · rw [inAxis_eq_true hgp, Res.ok_bind]
      exact ndInGrid_err gs ps (fun hm => hne (List.mem_cons_of_mem _ hm)) (Nat.succ.inj hl)
        fun h' => h (.cons hgp h')
    · rw [inAxis_eq_false (fun hg => hne (hg ▸ List.mem_cons_self)) hgp]; rfl

/-- the axes of an interpolator, first to last.  The lemmas below ask `it.grids.length = it.ndim`, one axis per
dimension: true by definition in 0 to 3 dimensions; of an N-D interpolator it fails when the table is a single value
(`ndim` is 0 then) and it carries grids nevertheless, or when `InterpND::new` would have refused it -/
def Interpolator.grids : Interpolator α → List (List α)
  | .d0 _ => []
  | .d1 x _ => [x]
  | .d2 x y _ => [x, y]
  | .d3 x y z _ => [x, y, z]
  | .dn m => m.grid

/-- on a point of the right length `validate_inputs` is the N-D loop over the axes, whatever the variant: the 2-D
and 3-D arms test one conjunction (`&&`: after the first coordinate outside its axis the remaining axes are not
looked at) and return `outside` once at the end, the loop returns at that coordinate; by cases on each `inAxis`
result, the outcome is the same -/
theorem validateInputs_eq : ∀ (it : Interpolator α) (pt : List α), pt.length = it.ndim →
    it.validateInputs pt = ndInGrid it.ndim it.grids pt
  | .d0 _, [], _ => rfl
  | .d1 _ _, [_], _ => rfl
  | .d2 x _ _, [p0, _], _ => by
    show (inAxis x p0).bind _ = (inAxis x p0).bind _
    cases inAxis x p0 with
    | ok b => cases b <;> rfl
    | _ => rfl
  | .d3 x y z _, [p0, p1, p2], _ => by
    show (inAxis x p0).bind _ = (inAxis x p0).bind _
    cases inAxis x p0 with
    | ok b =>
      cases b
      · rfl
      · simp only [Res.ok_bind, Bool.not_true, Bool.false_eq_true, if_false,
          show idx [p0, p1, p2] 1 = .ok p1 from rfl, ndInGrid]
        cases inAxis y p1 with
        | ok b => cases b <;> rfl
        | _ => rfl
    | _ => rfl
  | .dn m, pt, h => by
    unfold Interpolator.validateInputs
    rw [if_neg (by rw [h]; omega)]
    rfl

theorem validateInputs_pointLen (it : Interpolator α) (pt : List α) (h : pt.length ≠ it.ndim) :
    it.validateInputs pt = .err .pointLen := by
  unfold Interpolator.validateInputs
  exact if_pos (by omega)

theorem validateInputs_ok (hn : it.grids.length = it.ndim) (hp : List.Forall₂ InAxis it.grids pt) :
    it.validateInputs pt = .ok () := by
  rw [validateInputs_eq it pt (hp.length_eq.symm.trans hn), ← hn]
  exact ndInGrid_ok _ _ hp

/-- what `interpolate` goes on to once `validate_inputs` has passed: the variant's method for the strategy -/
def Interpolator.method (it : Interpolator α) (pt : List α) (s : Strategy) : Res α :=
  match it with
  | .d0 v => if s = .none then .ok v else .err .strategy
  | .d1 x f =>
    (match s with
     | .linear => (idx pt 0).bind fun p => linear1 x f p
     | .leftNearest => (idx pt 0).bind fun p => leftNearest1 x f p
     | .rightNearest => (idx pt 0).bind fun p => rightNearest1 x f p
     | .nearest => (idx pt 0).bind fun p => nearest1 x f p
     | .none => .err .strategy)
  | .d2 x y f => if s = .linear then linear2 x y f pt else .err .strategy
  | .d3 x y z f => if s = .linear then linear3 x y z f pt else .err .strategy
  | .dn m => if s = .none ∨ s = .linear then linearN m pt else .err .strategy

theorem interpolate_eq_bind (it : Interpolator α) (pt : List α) (s : Strategy) :
    it.interpolate pt s = (it.validateInputs pt).bind fun _ => it.method pt s := rfl

/-- `Interpolator::interpolate` rejects a point of the right length with a coordinate outside its axis -/
theorem interpolate_outside (s : Strategy) (hn : it.grids.length = it.ndim) (hne : [] ∉ it.grids)
    (hl : pt.length = it.ndim) (hp : ¬ List.Forall₂ InAxis it.grids pt) :
    it.interpolate pt s = .err .outside := by
  have hv : it.validateInputs pt = .err .outside := by
    rw [validateInputs_eq it pt hl, ← hn]
    exact ndInGrid_err _ _ hne (hl.trans hn.symm) hp
  rw [interpolate_eq_bind, hv]
  rfl

open Classical in
/-- `Interpolator::interpolate` in one equation: wrong length, in range (the variant's method), outside -/
theorem interpolate_eq_cases (hn : it.grids.length = it.ndim) (hne : [] ∉ it.grids) (pt : List α) (s : Strategy) :
    it.interpolate pt s =
      if pt.length ≠ it.ndim then .err .pointLen
      else if List.Forall₂ InAxis it.grids pt then it.method pt s else .err .outside := by
  by_cases hl : pt.length = it.ndim
  · rw [if_neg (not_not.mpr hl)]
    by_cases hp : List.Forall₂ InAxis it.grids pt
    · rw [if_pos hp, interpolate_eq_bind, validateInputs_ok hn hp]
      rfl
    · rw [if_neg hp]
      exact interpolate_outside s hn hne hl hp
  · rw [if_pos hl, interpolate_eq_bind, validateInputs_pointLen it pt hl]
    rfl

/-- `Interpolator::interpolate` never panics provided the variant's own method does not on in-range points:
any other point is refused by `validate_inputs` -/
theorem interpolate_graceful (s : Strategy) (hn : it.grids.length = it.ndim) (hne : [] ∉ it.grids)
    (h : List.Forall₂ InAxis it.grids pt → (it.method pt s).Graceful) : (it.interpolate pt s).Graceful := by
  rw [interpolate_eq_cases hn hne]
  split
  · exact .err _
  · split
    · exact h ‹_›
    · exact .err _

end

/-! ### `prod`, `InterpND::ndim` and the grid count of `InterpND::validate` -/

theorem prod_ge_two : ∀ (shape : List Nat), (∀ s ∈ shape, 2 ≤ s) → shape ≠ [] → 2 ≤ prod shape
  | s :: ss, h, _ => by
    have hp : 1 ≤ prod ss := by
      cases ss with
      | nil => exact Nat.le_refl 1
      | cons t ts =>
        exact Nat.le_of_succ_le
          (prod_ge_two (t :: ts) (fun x hx => h x (List.mem_cons_of_mem _ hx)) (List.cons_ne_nil _ _))
    exact Nat.le_trans (h s List.mem_cons_self) (Nat.le_mul_of_pos_right s hp)

theorem ND.ndim_cases (m : ND α) : m.ndim = 0 ∨ m.ndim = m.shape.length := by
  unfold ND.ndim
  split
  · exact Or.inl rfl
  · exact Or.inr rfl

theorem ND.ndim_eq_length_of_two_le (m : ND α) (h2 : ∀ s ∈ m.shape, 2 ≤ s) : m.ndim = m.shape.length := by
  by_cases he : m.shape = []
  · simp [ND.ndim, he, prod]
  · have := prod_ge_two m.shape h2 he
    rw [ND.ndim, if_neg (by omega)]

/-- the grid count `InterpND::validate` compares with `ndim` is 0 or the number of grids -/
theorem ndGridLen_cases (grid : List (List α)) : ndGridLen grid = 0 ∨ ndGridLen grid = grid.length := by
  cases grid with
  | nil => exact Or.inl rfl
  | cons g gs =>
    rw [ndGridLen]
    split
    · exact Or.inl rfl
    · exact Or.inr rfl

/-! ### `InterpND::linear` on the axes `InterpND::new` accepts, one-point axes included -/

section
variable {g : List α} {p : α}

/-- what `InterpND::new` establishes of an interpolator that has a dimension (one-point axes included): one
accepted axis per dimension of the table -/
structure AcceptedND (m : ND α) : Prop where
  ndim_eq : m.ndim = m.shape.length
  axes : List.Forall₂ AxisOk m.grid m.shape

theorem AcceptedND.grids_length {m : ND α} (h : AcceptedND m) :
    (Interpolator.dn m).grids.length = (Interpolator.dn m).ndim :=
  h.axes.length_eq.trans h.ndim_eq.symm

theorem AcceptedND.nil_not_mem {m : ND α} (h : AcceptedND m) : [] ∉ m.grid := fun hm => by
  obtain ⟨_, _, hne, _⟩ := forall₂_mem_left h.axes hm
  exact hne rfl

/-- the cell of a point in a dimension that interpolates -/
def selCell (g : List α) (p : α) : Cell α := .cell (selOf g p).1 (selOf g p).2

/-- the first loop of `InterpND::linear` on one axis (`ndPlan`): the grid line the point lies on, else the
axis stays free -/
def planAt (g : List α) (p : α) : Plan α :=
  match position (fun v => eqv v p) g with
  | some pos => .fixed pos
  | none => .free g (some p)

/-- one axis after the second loop of `InterpND::linear` (`ndCells`): the grid line again, or the cell `cellOf`
selects on a free axis -/
def cellAt (g : List α) (p : α) : Cell α :=
  match position (fun v => eqv v p) g with
  | some pos => .fixed pos
  | none => selCell g p

theorem ndPlan_cons {k : Nat} {g : List α} {gs : List (List α)} {p : α} {ps : List α} (hne : g ≠ []) :
    ndPlan (k + 1) (g :: gs) (p :: ps) = (ndPlan k gs ps).bind fun r => .ok (planAt g p :: r) := by
  have hemp : g.isEmpty = false := by
    cases g with
    | nil => exact absurd rfl hne
    | cons _ _ => rfl
  simp only [ndPlan, hemp, Bool.false_eq_true, if_false, planAt]
  cases position (fun v => eqv v p) g <;> rfl

/-- one accepted axis and an in-range coordinate: the point is on a grid line inside the extent and both loops fix
the axis, or the axis stays free, has at least two points and gets the selected cell -/
theorem axis_cases {s : Nat} (hg : AxisOk g s) (hp : InAxis g p) :
    (∃ pos, planAt g p = .fixed pos ∧ cellAt g p = .fixed pos ∧ pos < s) ∨
      (planAt g p = .free g (some p) ∧ cellAt g p = selCell g p ∧ GoodGrid g) := by
  unfold planAt cellAt
  rcases onGrid_cases hg hp with ⟨pos, h, _, hlt⟩ | ⟨h, gg⟩
  · rw [h]; exact Or.inl ⟨pos, rfl, rfl, hlt⟩
  · rw [h]; exact Or.inr ⟨rfl, rfl, gg⟩

/-- interpolation along one dimension of values `v` given by index: the value on the grid line, or `lerp`
across the cell -/
def Cell.along (c : Cell α) (v : Nat → α) : α :=
  match c with
  | .fixed pos => v pos
  | .cell l d => lerp (v l) (v (l + 1)) d

/-- the sequential interpolation as a pure function of the table `G` (same recursion as `ndEvalRev`) -/
def ndVal (G : List Nat → α) : List (Cell α) → List Nat → α
  | [], suffix => G suffix
  | c :: cs, suffix => c.along fun i => ndVal G cs (i :: suffix)

/-- a cell stays inside its dimension's extent -/
def CellOk (c : Cell α) (s : Nat) : Prop :=
  match c with
  | .fixed pos => pos < s
  | .cell l _ => l + 1 < s

theorem ndSliceOk_of_cellOk : ∀ {cs : List (Cell α)} {sh : List Nat}, List.Forall₂ CellOk cs sh →
    ndSliceOk cs sh = true
  | _, _, .nil => rfl
  | .fixed _ :: _, _ :: _, .cons h hs => by
    rw [ndSliceOk, ndSliceOk_of_cellOk hs, Bool.and_true, decide_eq_true_eq]; exact h
  | .cell _ _ :: _, _ :: _, .cons h hs => by
    rw [ndSliceOk, ndSliceOk_of_cellOk hs, Bool.and_true, decide_eq_true_eq]; exact h

theorem isNan_false (v : α) : isNan v = false := by
  simp [isNan]

/-- on a table that answers inside its shape the evaluation is the pure one, and the NaN guard of the first
pass never fires (no value of a linear order is NaN) -/
theorem ndEvalRev_eq_ndVal (get : List Nat → Res α) (G : List Nat → α) :
    ∀ (rc : List (Cell α)) (rsh : List Nat), List.Forall₂ CellOk rc rsh →
    ∀ (suffix ssh : List Nat), List.Forall₂ (· < ·) suffix ssh →
      (∀ ix, List.Forall₂ (· < ·) ix (rsh.reverse ++ ssh) → get ix = .ok (G ix)) →
      ndEvalRev get rc suffix = .ok (ndVal G rc suffix) ∧ ndAnyNaN get rc suffix = .ok false := by
  intro rc rsh h
  induction h with
  | nil =>
    intro suffix ssh hs hget
    have := hget suffix hs
    exact ⟨this, by rw [ndAnyNaN, this, Res.ok_bind, isNan_false]⟩
  | @cons c s rc' rsh' hcs _ ih =>
    intro suffix ssh hs hget
    have hget' : ∀ ix, List.Forall₂ (· < ·) ix (rsh'.reverse ++ (s :: ssh)) → get ix = .ok (G ix) := by
      intro ix hix
      apply hget
      rwa [List.reverse_cons, List.append_assoc]
    cases c with
    | fixed pos => exact ih (pos :: suffix) (s :: ssh) (.cons hcs hs) hget'
    | cell l d =>
      obtain ⟨a1, a2⟩ := ih (l :: suffix) (s :: ssh) (.cons (Nat.lt_of_succ_lt hcs) hs) hget'
      obtain ⟨b1, b2⟩ := ih ((l + 1) :: suffix) (s :: ssh) (.cons hcs hs) hget'
      exact ⟨by rw [ndEvalRev, a1, Res.ok_bind, b1]; rfl, by rw [ndAnyNaN, a2, Res.ok_bind, b2]; rfl⟩

/-- the two loops on accepted axes and an in-range point: they succeed, with `planAt` and `cellAt` per axis,
and the cells stay inside the table -/
theorem plan_cells_eq : ∀ (grid : List (List α)) (shape : List Nat) (pt : List α),
    List.Forall₂ AxisOk grid shape → List.Forall₂ InAxis grid pt →
    ndPlan grid.length grid pt = .ok (List.zipWith planAt grid pt) ∧
      ndCells (List.zipWith planAt grid pt) = .ok (List.zipWith cellAt grid pt) ∧
      List.Forall₂ CellOk (List.zipWith cellAt grid pt) shape := by
  intro grid shape pt hgs
  induction hgs generalizing pt with
  | nil => intro hp; cases hp; exact ⟨rfl, rfl, .nil⟩
  | @cons g s gs ss hg _ ih =>
    intro hp
    cases hp with
    | @cons _ p _ ps hin hps =>
      obtain ⟨h1, h2, h3⟩ := ih ps hps
      rw [List.zipWith_cons_cons, List.zipWith_cons_cons, List.length_cons, ndPlan_cons hg.1, h1, Res.ok_bind]
      rcases axis_cases hg hin with ⟨pos, hpl, hce, hlt⟩ | ⟨hpl, hce, gg⟩
      · rw [hpl, hce, ndCells, h2, Res.ok_bind]
        exact ⟨rfl, rfl, .cons hlt h3⟩
      · rw [hpl, hce, ndCells, cellOf_eq gg hin, Res.ok_bind, h2, Res.ok_bind]
        exact ⟨rfl, rfl, .cons (hg.2.2 ▸ (sel_selOf gg hin).lt_length) h3⟩

/-- `linearN` evaluates the *reversed* cell list, so the first axis is the last cell: a fixed one there only moves
into the accessor -/
theorem ndEvalRev_snoc_fixed (get : List Nat → Res α) (pos : Nat) : ∀ (rc : List (Cell α)) (suffix : List Nat),
    ndEvalRev get (rc ++ [.fixed pos]) suffix = ndEvalRev (fun ix => get (pos :: ix)) rc suffix
  | [], _ => rfl
  | .fixed _ :: rc, suffix => ndEvalRev_snoc_fixed get pos rc _
  | .cell l d :: rc, suffix => by
    rw [List.cons_append, ndEvalRev, ndEvalRev, ndEvalRev_snoc_fixed get pos rc,
      ndEvalRev_snoc_fixed get pos rc]

/-- a view of one element: every free dimension would have at least two, so every dimension is fixed and the
evaluation reads the table at `values_view.first()` -/
theorem ndEvalRev_all_fixed : ∀ (grid : List (List α)) (shape : List Nat) (pt : List α),
    List.Forall₂ AxisOk grid shape → List.Forall₂ InAxis grid pt →
    ndViewLen (List.zipWith planAt grid pt) shape = 1 → ∀ (get : List Nat → Res α) (suffix : List Nat),
    ndEvalRev get (List.zipWith cellAt grid pt).reverse suffix =
      get (ndFirstIndex (List.zipWith planAt grid pt) ++ suffix) := by
  intro grid shape pt hgs
  induction hgs generalizing pt with
  | nil => intro hp; cases hp; intro _ get suffix; rfl
  | @cons g s gs ss hg _ ih =>
    intro hp
    cases hp with
    | @cons _ p _ ps hin hps =>
      rw [List.zipWith_cons_cons, List.zipWith_cons_cons]
      rcases axis_cases hg hin with ⟨pos, hpl, hce, _⟩ | ⟨hpl, _, gg⟩
      · rw [hpl, hce]
        intro hv get suffix
        rw [List.reverse_cons, ndEvalRev_snoc_fixed, ih ps hps hv]
        rfl
      · rw [hpl, ndViewLen]
        intro hv
        -- a free axis has at least two points, so the view has at least two elements
        have h1 := Nat.eq_one_of_mul_eq_one_right hv
        have h2 := gg.2
        have h3 := hg.2.2
        omega

/-- `InterpND::linear` on accepted axes (one-point axes included), a table that answers inside its shape, and
an in-range point: the sequential interpolation over the cells of the point -/
theorem linearN_eq (m : ND α) (G : List Nat → α) (pt : List α) (ha : AcceptedND m)
    (hget : ∀ ix, List.Forall₂ (· < ·) ix m.shape → m.get ix = .ok (G ix))
    (hp : List.Forall₂ InAxis m.grid pt) :
    linearN m pt = .ok (ndVal G (List.zipWith cellAt m.grid.reverse pt.reverse) []) := by
  rw [← List.reverse_zipWith hp.length_eq]
  obtain ⟨h1, h2, h4⟩ := plan_cells_eq m.grid m.shape pt ha.axes hp
  have hlen : m.grid.length = m.shape.length := ha.axes.length_eq
  obtain ⟨heval, hnan⟩ := ndEvalRev_eq_ndVal m.get G _ _ (List.rel_reverse h4) [] [] .nil
    (by rwa [List.reverse_reverse, List.append_nil])
  unfold linearN
  simp only
  rw [ha.ndim_eq, ← hlen, h1, Res.ok_bind]
  by_cases hvl : ndViewLen (List.zipWith planAt m.grid pt) m.shape = 1
  · -- every axis fixed: the code reads `values_view.first()`, which is what the evaluation over fixed cells reads
    have hz : m.grid.length - (List.zipWith planAt m.grid pt).length = 0 := by
      rw [List.length_zipWith, ← hp.length_eq, Nat.min_self, Nat.sub_self]
    have := ndEvalRev_all_fixed m.grid m.shape pt ha.axes hp hvl m.get []
    rw [List.append_nil] at this
    rw [if_pos hvl, hz, List.replicate_zero, List.append_nil, ← this, heval]
  · -- the general path: cells, slices inside the table, no NaN, the sequential interpolation
    rw [if_neg hvl, h2, Res.ok_bind]
    simp only [ndSliceOk_of_cellOk h4, Bool.not_true, Bool.false_eq_true, if_false]
    rw [hnan, Res.ok_bind]
    simp only [Bool.false_eq_true, if_false]
    exact heval

/-- `InterpND::linear` over a single value (`ndim() = 0`): no grid and no coordinate is read, `values_view.first()` is
the element at index 0 of every dimension, and whatever else the accessor answers becomes `Err(extract)` -/
theorem linearN_single (m : ND α) (h : m.ndim = 0) (pt : List α) :
    linearN m pt = match m.get (List.replicate m.shape.length 0) with
      | .ok v => .ok v
      | _ => .err .extract := by
  unfold linearN
  simp only [h, ndPlan, Res.ok_bind, ndViewLen, if_true, ndFirstIndex, List.nil_append, List.length_nil, Nat.sub_zero]
  cases m.get (List.replicate m.shape.length 0) <;> rfl

/-! ### at least two points per axis: every dimension interpolates -/

/-- on a good grid the code's shortcut on a grid line gives what the selected cell gives -/
theorem cellAt_along (hg : GoodGrid g) (hp : InAxis g p) (v : Nat → α) :
    (cellAt g p).along v = (selCell g p).along v := by
  unfold cellAt
  rcases onGrid_cases ⟨hg.ne_nil, hg.1, rfl⟩ hp with ⟨pos, h, hi, _⟩ | ⟨h, _⟩
  · rw [h]; exact ((sel_selOf hg hp).on_grid hg.1 pos hi v).symm
  · rw [h]

theorem ndVal_cellAt (G : List Nat → α) : ∀ (rg : List (List α)) (rp : List α), (∀ g ∈ rg, GoodGrid g) →
    List.Forall₂ InAxis rg rp → ∀ suffix,
    ndVal G (List.zipWith cellAt rg rp) suffix = ndVal G (List.zipWith selCell rg rp) suffix := by
  intro rg rp hg hp
  induction hp with
  | nil => intro _; rfl
  | @cons g p gs ps hin _ ih =>
    intro suffix
    rw [List.zipWith_cons_cons, List.zipWith_cons_cons, ndVal, ndVal,
      cellAt_along (hg g List.mem_cons_self) hin]
    exact congrArg _ (funext fun i => ih (fun g' h' => hg g' (List.mem_cons_of_mem _ h')) _)

/-- an N-D interpolator the property quantifies over: every axis a good grid of the table's extent,
`G` the table -/
structure ValidND (m : ND α) (G : List Nat → α) : Prop where
  axes : List.Forall₂ (fun g s => GoodGrid g ∧ g.length = s) m.grid m.shape
  get_ok : ∀ ix, List.Forall₂ (· < ·) ix m.shape → m.get ix = .ok (G ix)

theorem ValidND.accepted {m : ND α} {G : List Nat → α} (hv : ValidND m G) : AcceptedND m := by
  refine ⟨m.ndim_eq_length_of_two_le fun s hs => ?_, hv.axes.imp fun _ _ h => ⟨h.1.ne_nil, h.1.1, h.2⟩⟩
  obtain ⟨g, _, hg⟩ := forall₂_mem_left hv.axes.flip hs
  exact hg.2 ▸ hg.1.2

theorem ValidND.good {m : ND α} {G : List Nat → α} (hv : ValidND m G) : ∀ g ∈ m.grid, GoodGrid g := fun g hg => by
  obtain ⟨_, _, h, _⟩ := forall₂_mem_left hv.axes hg
  exact h

/-- `InterpND::linear` on a valid interpolator and an in-range point: the full sequential
interpolation over all dimensions (the grid-coincident shortcuts of the code give the same value) -/
theorem linearN_eq_of_valid (m : ND α) (G : List Nat → α) (pt : List α) (hv : ValidND m G)
    (hp : List.Forall₂ InAxis m.grid pt) :
    linearN m pt = .ok (ndVal G (List.zipWith selCell m.grid.reverse pt.reverse) []) := by
  rw [linearN_eq m G pt hv.accepted hv.get_ok hp,
    ndVal_cellAt G _ _ (fun g hg => hv.good g (List.mem_reverse.mp hg)) (List.rel_reverse hp)]

end

/-! ### multilinear functions in N dimensions -/

/-- grid coordinates of an index list -/
def coords : List (List α) → List Nat → List α
  | g :: gs, i :: is => g.getD i 0 :: coords gs is
  | _, _ => []

/-- `M` is affine in each coordinate separately (a multilinear polynomial) -/
def MultiAffine (M : List α → α) : Prop :=
  ∀ (pre post : List α) (a b t : α),
    M (pre ++ (a * (1 - t) + b * t) :: post) = M (pre ++ a :: post) * (1 - t) + M (pre ++ b :: post) * t

/-- N-D exactness: on a table sampled from `M`, affine in each coordinate, the interpolation over the cells of a
point gives `M` at the point.  `ndVal` works from the last axis inwards, hence the axes `rg` and the point `rp` in
reverse order; `sgrid`/`suffix` are the axes already passed with the indices chosen on them, so the induction
hypothesis applies to both ends of a cell, and `hM` with `Sel.point_eq` joins the two values -/
theorem ndVal_multiaffine (M : List α → α) (hM : MultiAffine M) :
    ∀ (rg : List (List α)) (rp : List α), (∀ g ∈ rg, GoodGrid g) → List.Forall₂ InAxis rg rp →
    ∀ (sgrid : List (List α)) (suffix : List Nat),
      ndVal (fun ix => M (coords (rg.reverse ++ sgrid) ix)) (List.zipWith selCell rg rp) suffix =
        M (rp.reverse ++ coords sgrid suffix) := by
  intro rg rp hg hp
  induction hp with
  | nil => intro _ _; rfl
  | @cons g p gs ps hin _ ih =>
    intro sgrid suffix
    have ih' := ih (fun g' h' => hg g' (List.mem_cons_of_mem _ h')) (g :: sgrid)
    rw [List.zipWith_cons_cons, ndVal, List.reverse_cons, List.append_assoc, List.reverse_cons,
      List.append_assoc, List.singleton_append, List.singleton_append]
    simp only [selCell, Cell.along, ih', coords, lerp_eq]
    rw [← hM, (sel_selOf (hg g List.mem_cons_self) hin).point_eq]

/-- `φ` is affine: what a multilinear polynomial is in each coordinate separately (`MultiAffine.cons`) -/
def AffineFn (φ : α → α) : Prop := ∃ m c, ∀ x, φ x = m * x + c

theorem AffineFn.lerp {φ : α → α} (h : AffineFn φ) (a b t : α) :
    φ (a * (1 - t) + b * t) = φ a * (1 - t) + φ b * t := by
  obtain ⟨m, c, h⟩ := h
  rw [h, h a, h b]
  ring

theorem MultiAffine.const {M : List α → α} (h : ∀ v, M v = M []) : MultiAffine M := fun pre post a b t => by
  rw [h (pre ++ _ :: post), h (pre ++ a :: post), h (pre ++ b :: post)]
  ring

theorem MultiAffine.cons {M : List α → α} (h0 : ∀ post, AffineFn fun a => M (a :: post))
    (hr : ∀ a, MultiAffine fun v => M (a :: v)) : MultiAffine M := by
  intro pre post a b t
  cases pre with
  | nil => exact (h0 post).lerp a b t
  | cons c pre => exact hr c pre post a b t

/-- the multilinear polynomials in two and in three coordinates, as functions of the coordinate list -/
theorem MultiAffine.of₂ (Φ : α → α → α) (h1 : ∀ b, AffineFn (Φ · b)) (h2 : ∀ a, AffineFn (Φ a)) :
    MultiAffine fun v => Φ (v.getD 0 0) (v.getD 1 0) :=
  .cons (fun post => h1 (post.getD 0 0)) fun a => .cons (fun _ => h2 a) fun _ => .const fun _ => rfl

theorem MultiAffine.of₃ (Φ : α → α → α → α) (h1 : ∀ b c, AffineFn (Φ · b c)) (h2 : ∀ a c, AffineFn (Φ a · c))
    (h3 : ∀ a b, AffineFn (Φ a b)) : MultiAffine fun v => Φ (v.getD 0 0) (v.getD 1 0) (v.getD 2 0) :=
  .cons (fun post => h1 (post.getD 0 0) (post.getD 1 0)) fun a => .cons (fun post => h2 a (post.getD 0 0)) fun b =>
    .cons (fun _ => h3 a b) fun _ => .const fun _ => rfl

/-! ### the 1-D, 2-D and 3-D methods on in-range points -/

section
variable {x y z : List α} {p p0 p1 p2 : α}

/-- `Interp1D::linear` on an accepted axis (one point is enough) and a table that answers on its extent: the stored
value on a grid line, else `lerp` across the selected cell -/
theorem linear1_eq {f : List α} {F : Nat → α} {n : Nat} (hx : AxisOk x n)
    (hget : ∀ i, i < n → idx f i = .ok (F i)) (h : InAxis x p) : linear1 x f p = .ok ((cellAt x p).along F) := by
  rw [linear1, cellAt]
  rcases onGrid_cases hx h with ⟨i, hpos, _, hlt⟩ | ⟨hpos, gg⟩
  · rw [hpos]
    exact hget i hlt
  · have sl := sel_selOf gg h
    simp only [hpos, cellOf_eq gg h, Res.ok_bind, hget _ (hx.2.2 ▸ sl.lower_lt), hget _ (hx.2.2 ▸ sl.lt_length)]
    rfl

/-- `Interp2D::linear` on good grids and a table that answers on its extents -/
theorem linear2_eq {f : List (List α)} {F : Nat → Nat → α} (hx : GoodGrid x) (hy : GoodGrid y)
    (hget : ∀ i j, i < x.length → j < y.length → idx2 f i j = .ok (F i j)) (h0 : InAxis x p0) (h1 : InAxis y p1) :
    linear2 x y f [p0, p1] = .ok (bil F (selOf x p0) (selOf y p1)) := by
  have sx := sel_selOf hx h0
  have sy := sel_selOf hy h1
  simp only [linear2, idx_head, show idx [p0, p1] 1 = .ok p1 from rfl, Res.ok_bind, cellOf_eq hx h0,
    cellOf_eq hy h1, hget _ _ sx.lower_lt sy.lower_lt, hget _ _ sx.lt_length sy.lower_lt,
    hget _ _ sx.lower_lt sy.lt_length, hget _ _ sx.lt_length sy.lt_length]
  -- what is left are the code's three `lerp`s, x first
  rfl

/-- `Interp3D::linear` on good grids and a table that answers on its extents -/
theorem linear3_eq {f : List (List (List α))} {G : List Nat → α} (hx : GoodGrid x) (hy : GoodGrid y) (hz : GoodGrid z)
    (hget : ∀ i j k, i < x.length → j < y.length → k < z.length → idx3 f i j k = .ok (G [i, j, k]))
    (h0 : InAxis x p0) (h1 : InAxis y p1) (h2 : InAxis z p2) :
    linear3 x y z f [p0, p1, p2] = .ok (ndVal G [selCell z p2, selCell y p1, selCell x p0] []) := by
  have sx := sel_selOf hx h0
  have sy := sel_selOf hy h1
  have sz := sel_selOf hz h2
  simp only [linear3, idx_head, show idx [p0, p1, p2] 1 = .ok p1 from rfl,
    show idx [p0, p1, p2] 2 = .ok p2 from rfl, Res.ok_bind, cellOf_eq hx h0, cellOf_eq hy h1, cellOf_eq hz h2,
    hget _ _ _ sx.lower_lt sy.lower_lt sz.lower_lt, hget _ _ _ sx.lt_length sy.lower_lt sz.lower_lt,
    hget _ _ _ sx.lower_lt sy.lt_length sz.lower_lt, hget _ _ _ sx.lt_length sy.lt_length sz.lower_lt,
    hget _ _ _ sx.lower_lt sy.lower_lt sz.lt_length, hget _ _ _ sx.lt_length sy.lower_lt sz.lt_length,
    hget _ _ _ sx.lower_lt sy.lt_length sz.lt_length, hget _ _ _ sx.lt_length sy.lt_length sz.lt_length]
  -- the code's seven `lerp`s, x first, then y, then z: `ndVal` over the cells of `z`, `y`, `x`, unfolded
  rfl

end

/-! ### every variant at once: the interpolator as the sequential interpolation of its table -/

section
variable {it it' : Interpolator α} {G : List Nat → α} {pt : List α}

/-- an interpolator over good grids (at least two points per axis) whose table answers `G` at every index inside its extents:
what the 2-D and 3-D constructors establish, and what the N-D theorems ask (`ValidND`).  `G` is chosen by the user:
the stored table (`G2 f`), or the function it samples (`fun ix => M (coords grids ix)`) -/
inductive Valid : Interpolator α → (List Nat → α) → Prop
  | d1 {x f : List α} {G} : GoodGrid x → (∀ i, i < x.length → idx f i = .ok (G [i])) → Valid (.d1 x f) G
  | d2 {x y : List α} {f} {G} : GoodGrid x → GoodGrid y →
      (∀ i j, i < x.length → j < y.length → idx2 f i j = .ok (G [i, j])) → Valid (.d2 x y f) G
  | d3 {x y z : List α} {f} {G} : GoodGrid x → GoodGrid y → GoodGrid z →
      (∀ i j k, i < x.length → j < y.length → k < z.length → idx3 f i j k = .ok (G [i, j, k])) →
      Valid (.d3 x y z f) G
  | dn {m : ND α} {G} : ValidND m G → Valid (.dn m) G

theorem Valid.grids_length (h : Valid it G) : it.grids.length = it.ndim := by
  cases h with
  | dn hv => exact hv.accepted.grids_length
  | _ => rfl

theorem Valid.good (h : Valid it G) : ∀ g ∈ it.grids, GoodGrid g := by
  cases h with
  | d1 hx _ => simpa [Interpolator.grids] using hx
  | d2 hx hy _ => simpa [Interpolator.grids] using ⟨hx, hy⟩
  | d3 hx hy hz _ => simpa [Interpolator.grids] using ⟨hx, hy, hz⟩
  | dn hv => exact hv.good

theorem Valid.nil_not_mem (h : Valid it G) : [] ∉ it.grids := fun hm => (h.good _ hm).ne_nil rfl

/-- on a valid interpolator of any variant and an in-range point the linear method is the sequential interpolation of
the table over the selected cells, last axis outermost: the four methods' own equations (`linear1_eq`, `linear2_eq`,
`linear3_eq`, `linearN_eq_of_valid`) under one statement.  For two cells `ndVal` is `bil` by definition -/
theorem Valid.method_eq (h : Valid it G) (hp : List.Forall₂ InAxis it.grids pt) :
    it.method pt .linear = .ok (ndVal G (List.zipWith selCell it.grids.reverse pt.reverse) []) := by
  cases h with
  | @d1 x f G hx hget =>
    obtain ⟨p, rfl, h0⟩ := forall₂_one hp
    -- the code returns the stored value on a grid line: what the selected cell gives there (`cellAt_along`)
    exact (linear1_eq ⟨hx.ne_nil, hx.1, rfl⟩ hget h0).trans (congrArg _ (cellAt_along hx h0 fun i => G [i]))
  | @d2 x y f G hx hy hget =>
    obtain ⟨p0, p1, rfl, h0, h1⟩ := forall₂_two hp
    exact linear2_eq (F := fun i j => G [i, j]) hx hy hget h0 h1
  | @d3 x y z f G hx hy hz hget =>
    obtain ⟨p0, p1, p2, rfl, h0, h1, h2⟩ := forall₂_three hp
    exact linear3_eq hx hy hz hget h0 h1 h2
  | @dn m G hv => exact linearN_eq_of_valid m G pt hv hp

theorem Valid.interpolate_eq (h : Valid it G) (hp : List.Forall₂ InAxis it.grids pt) :
    it.interpolate pt .linear = .ok (ndVal G (List.zipWith selCell it.grids.reverse pt.reverse) []) := by
  rw [interpolate_eq_bind, validateInputs_ok h.grids_length hp]
  exact h.method_eq hp

theorem Valid.method_linear_graceful (h : Valid it G) (hp : List.Forall₂ InAxis it.grids pt) :
    (it.method pt .linear).Graceful :=
  h.method_eq hp ▸ .ok _

theorem Valid.agree (h : Valid it G) (h' : Valid it' G) (hg : it.grids = it'.grids) (pt : List α) :
    it.interpolate pt .linear = it'.interpolate pt .linear := by
  have hn : it.ndim = it'.ndim := h.grids_length.symm.trans ((congrArg _ hg).trans h'.grids_length)
  rw [interpolate_eq_cases h.grids_length h.nil_not_mem, interpolate_eq_cases h'.grids_length h'.nil_not_mem,
    ← hg, ← hn]
  split
  · rfl
  · split
    · rw [h.method_eq ‹_›, h'.method_eq (hg ▸ ‹_›), hg]
    · rfl

/-- exactness: a valid interpolator of any variant whose table samples a function `M`, affine in each coordinate
separately, at the grid coordinates, gives `M` at every in-range point -/
theorem Valid.exact (M : List α → α) (hM : MultiAffine M) (h : Valid it fun ix => M (coords it.grids ix))
    (hp : List.Forall₂ InAxis it.grids pt) : it.interpolate pt .linear = .ok (M pt) := by
  have := ndVal_multiaffine M hM it.grids.reverse pt.reverse
    (fun g hg => h.good g (List.mem_reverse.mp hg)) (List.rel_reverse hp) [] []
  rw [List.reverse_reverse, List.reverse_reverse, List.append_nil, show coords [] [] = ([] : List α) from rfl,
    List.append_nil] at this
  rw [h.interpolate_eq hp, this]

theorem Valid.of_rect2 {x y : List α} {f : List (List α)} (hx : GoodGrid x) (hy : GoodGrid y)
    (hr : Rect2 f x.length y.length) : Valid (.d2 x y f) (G2 f) :=
  .d2 hx hy fun _ _ => idx2_ok hr

theorem Valid.of_rect3 {x y z : List α} {f : List (List (List α))} (hx : GoodGrid x) (hy : GoodGrid y)
    (hz : GoodGrid z) (hr : Rect3 f x.length y.length z.length) : Valid (.d3 x y z f) (G3 f) :=
  .d3 hx hy hz fun _ _ _ => idx3_ok hr

end

/-! ### row-major tables -/

theorem getElem?_flatten_rect {β : Type} : ∀ (f : List (List β)) (ny : Nat), (∀ r ∈ f, r.length = ny) →
    ∀ (i j : Nat), j < ny → f.flatten[i * ny + j]? = (f[i]?).bind (·[j]?) := by
  intro f
  induction f with
  | nil => intro ny _ i j _; simp
  | cons r rs ih =>
    intro ny h i j hj
    have hr : r.length = ny := h r (List.mem_cons_self)
    cases i with
    | zero =>
      simp only [List.flatten_cons, Nat.zero_mul, Nat.zero_add, List.getElem?_cons_zero, Option.bind_some]
      rw [List.getElem?_append_left (by omega)]
    | succ i =>
      simp only [List.flatten_cons, List.getElem?_cons_succ]
      rw [Nat.succ_mul, List.getElem?_append_right (by omega),
        show i * ny + ny + j - r.length = i * ny + j by omega]
      exact ih ny (fun r hr => h r (List.mem_cons_of_mem _ hr)) i j hj

theorem getFlat_1 (n : Nat) (data : List α) (i : Nat) (hi : i < n) : getFlat [n] data [i] = idx data i := by
  simp [getFlat, flatIndexAux, hi]

theorem getFlat_2 (nx ny : Nat) (data : List α) (i j : Nat) (hi : i < nx) (hj : j < ny) :
    getFlat [nx, ny] data [i, j] = idx data (i * ny + j) := by
  simp [getFlat, flatIndexAux, hi, hj]

theorem getFlat_3 (nx ny nz : Nat) (data : List α) (i j k : Nat) (hi : i < nx) (hj : j < ny) (hk : k < nz) :
    getFlat [nx, ny, nz] data [i, j, k] = idx data ((i * ny + j) * nz + k) := by
  simp [getFlat, flatIndexAux, hi, hj, hk]

theorem idx_flatten_2 {f : List (List α)} {nx ny i j : Nat} (hr : Rect2 f nx ny) (hi : i < nx) (hj : j < ny) :
    idx f.flatten (i * ny + j) = .ok (F2 f i j) := by
  rw [← idx2_ok hr hi hj]
  unfold idx2 idx
  rw [getElem?_flatten_rect f ny hr.2 i j hj]
  cases f[i]? <;> rfl

theorem idx_flatten_3 {f : List (List (List α))} {nx ny nz i j k : Nat} (hr : Rect3 f nx ny nz)
    (hi : i < nx) (hj : j < ny) (hk : k < nz) :
    idx f.flatten.flatten ((i * ny + j) * nz + k) = .ok (F3 f i j k) := by
  have hall : ∀ r ∈ f.flatten, r.length = nz := by
    intro r hr'
    obtain ⟨pl, hpl, hrp⟩ := List.mem_flatten.mp hr'
    exact (hr.2 pl hpl).2 r hrp
  rw [← idx3_ok hr hi hj hk]
  unfold idx3 idx2 idx
  rw [getElem?_flatten_rect f.flatten nz hall (i * ny + j) k hk,
    getElem?_flatten_rect f ny (fun r hr' => (hr.2 r hr').1) i j hj]
  cases f[i]? with
  | none => rfl
  | some r =>
    simp only [Option.bind_some, Res.ok_bind]
    cases r[j]? <;> rfl

/-! The N-D interpolators over the data of a 1-D / 2-D / 3-D interpolator, stored row-major. -/

def nd1 (x f : List α) : ND α := { grid := [x], shape := [x.length], get := getFlat [x.length] f }
def nd2 (x y : List α) (f : List (List α)) : ND α :=
  { grid := [x, y], shape := [x.length, y.length], get := getFlat [x.length, y.length] f.flatten }
def nd3 (x y z : List α) (f : List (List (List α))) : ND α :=
  { grid := [x, y, z], shape := [x.length, y.length, z.length],
    get := getFlat [x.length, y.length, z.length] f.flatten.flatten }

theorem nd1_valid (x f : List α) (hx : GoodGrid x) (hf : x.length = f.length) : ValidND (nd1 x f) (G1 f) := by
  refine ⟨List.Forall₂.cons ⟨hx, rfl⟩ List.Forall₂.nil, ?_⟩
  intro ix hix
  obtain ⟨i, rfl, hi⟩ := forall₂_one hix.flip
  simp only [nd1, G1]
  rw [getFlat_1 _ _ _ hi, idx1_ok (hf ▸ hi)]

theorem nd2_valid (x y : List α) (f : List (List α)) (hx : GoodGrid x) (hy : GoodGrid y)
    (hr : Rect2 f x.length y.length) : ValidND (nd2 x y f) (G2 f) := by
  refine ⟨List.Forall₂.cons ⟨hx, rfl⟩ (List.Forall₂.cons ⟨hy, rfl⟩ List.Forall₂.nil), ?_⟩
  intro ix hix
  obtain ⟨i, j, rfl, hi, hj⟩ := forall₂_two hix.flip
  simp only [nd2, G2]
  rw [getFlat_2 _ _ _ _ _ hi hj, idx_flatten_2 hr hi hj]

theorem nd3_valid (x y z : List α) (f : List (List (List α))) (hx : GoodGrid x) (hy : GoodGrid y)
    (hz : GoodGrid z) (hr : Rect3 f x.length y.length z.length) : ValidND (nd3 x y z f) (G3 f) := by
  refine ⟨List.Forall₂.cons ⟨hx, rfl⟩ (List.Forall₂.cons ⟨hy, rfl⟩ (List.Forall₂.cons ⟨hz, rfl⟩
    List.Forall₂.nil)), ?_⟩
  intro ix hix
  obtain ⟨i, j, k, rfl, hi, hj, hk⟩ := forall₂_three hix.flip
  simp only [nd3, G3]
  rw [getFlat_3 _ _ _ _ _ _ _ hi hj hk, idx_flatten_3 hr hi hj hk]

/-! ### what `InterpND::new` guarantees -/

/-- the three loops of `InterpND::validate` passed over exactly `n` grids and `n` extents: every axis is accepted -/
theorem nd_checks_axisOk : ∀ (n : Nat) (grid : List (List α)) (shape : List Nat), grid.length = n →
    shape.length = n → ndCheckNonEmpty n grid = .ok () → ndCheckSorted n grid = .ok () →
    ndCheckShape n grid shape = .ok () → List.Forall₂ AxisOk grid shape
  | 0, [], [], _, _, _, _, _ => .nil
  | n + 1, g :: gs, s :: ss, hg, hs, hA, hB, hC => by
    rw [ndCheckNonEmpty, Res.ite_err_eq_ok] at hA
    rw [ndCheckSorted, Res.ite_err_eq_ok, Bool.not_eq_true', Bool.not_eq_false] at hB
    rw [ndCheckShape, Res.ite_err_eq_ok, not_not] at hC
    exact .cons ⟨fun h => hA.1 (h ▸ rfl), hB.1, hC.1⟩
      (nd_checks_axisOk n gs ss (Nat.succ.inj hg) (Nat.succ.inj hs) hA.2 hB.2 hC.2)

-- the three loops of `InterpND::validate` over grids that are there: every arm an `Err`, or the next turn

theorem ndCheckNonEmpty_graceful : ∀ (n : Nat) (grid : List (List α)), n ≤ grid.length →
    (ndCheckNonEmpty n grid).Graceful
  | 0, _, _ => .ok ()
  | n + 1, _ :: gs, h => .ite (.err _) (ndCheckNonEmpty_graceful n gs (Nat.le_of_succ_le_succ h))

theorem ndCheckSorted_graceful : ∀ (n : Nat) (grid : List (List α)), n ≤ grid.length →
    (ndCheckSorted n grid).Graceful
  | 0, _, _ => .ok ()
  | n + 1, _ :: gs, h => .ite (.err _) (ndCheckSorted_graceful n gs (Nat.le_of_succ_le_succ h))

theorem ndCheckShape_graceful : ∀ (n : Nat) (grid : List (List α)) (shape : List Nat), n ≤ grid.length →
    n ≤ shape.length → (ndCheckShape n grid shape).Graceful
  | 0, _, _, _, _ => .ok ()
  | n + 1, _ :: gs, _ :: ss, h, h' =>
    .ite (.err _) (ndCheckShape_graceful n gs ss (Nat.le_of_succ_le_succ h) (Nat.le_of_succ_le_succ h'))

/-- `InterpND::validate` never panics: a value or an `Err` for every grid vector and every shape.  Once the grid count
is `ndim`, the loops index grids and extents that are there -/
theorem validateN_graceful (m : ND α) : (validateN m).Graceful := by
  unfold validateN
  dsimp only
  split
  · exact .err _
  have hgd : ndGridLen m.grid = m.ndim := not_not.mp ‹_›
  have h1 : m.ndim ≤ m.grid.length :=
    hgd ▸ (ndGridLen_cases m.grid).elim (fun h => h.symm ▸ Nat.zero_le _) Nat.le_of_eq
  have h2 : m.ndim ≤ m.shape.length := (ND.ndim_cases m).elim (fun h => h.symm ▸ Nat.zero_le _) Nat.le_of_eq
  exact (ndCheckNonEmpty_graceful _ _ h1).bind fun _ _ =>
    (ndCheckSorted_graceful _ _ h1).bind fun _ _ => ndCheckShape_graceful _ _ _ h1 h2

theorem validateN_accepted (m : ND α) (hv : validateN m = .ok ()) (hpos : 0 < m.ndim) : AcceptedND m := by
  have hn := (ND.ndim_cases m).resolve_left hpos.ne'
  unfold validateN at hv
  simp only [Res.ite_err_eq_ok, not_not] at hv
  obtain ⟨hgd, hv⟩ := hv
  have hgl : m.grid.length = m.ndim :=
    ((ndGridLen_cases m.grid).resolve_left (hgd ▸ hpos.ne')).symm.trans hgd
  obtain ⟨_, hA, hv⟩ := Res.bind_eq_ok hv
  obtain ⟨_, hB, hC⟩ := Res.bind_eq_ok hv
  exact ⟨hn, nd_checks_axisOk m.ndim m.grid m.shape hgl hn.symm hA hB hC⟩

/-! ### never panics, variant by variant -/

/-- `Interpolator::interpolate` on every N-D interpolator `InterpND::new` accepts (one-point axes, a single
value with or without grids included), every point and every strategy: never a panic.  `hget` says the
table holds a value at every index of its shape (true of an `ArrayD`); over a single value it is not needed. -/
theorem interpolate_dn_graceful (m : ND α) (hv : validateN m = .ok ())
    (hget : ∀ ix, List.Forall₂ (· < ·) ix m.shape → ∃ v, m.get ix = .ok v) (pt : List α) (s : Strategy) :
    (Interpolator.interpolate (.dn m) pt s).Graceful := by
  by_cases hn0 : m.ndim = 0
  · -- a single value: the empty point
    by_cases hl : pt.length = (Interpolator.dn m).ndim
    · obtain rfl : pt = [] := List.length_eq_zero_iff.mp (hl.trans hn0)
      -- with `ndim = 0` the loop of `validate_inputs` over the axes runs zero times
      have hval : Interpolator.validateInputs (.dn m) [] = .ok () := by
        rw [validateInputs_eq _ _ hl]
        show ndInGrid m.ndim m.grid [] = .ok ()
        rw [hn0]
        rfl
      rw [interpolate_eq_bind, hval, Res.ok_bind]
      refine .ite (linearN_single m hn0 [] ▸ ?_) (.err _)
      split
      · exact .ok _
      · exact .err _
    · rw [interpolate_eq_bind, validateInputs_pointLen _ _ hl]
      exact .err _
  · have ha := validateN_accepted m hv (Nat.pos_of_ne_zero hn0)
    exact interpolate_graceful s ha.grids_length ha.nil_not_mem fun hp =>
      .ite (linearN_eq m (fun ix => (m.get ix).getD 0) pt ha (fun ix h => Res.eq_ok_getD (hget ix h) 0) hp ▸ .ok _)
        (.err _)

/-- `Interpolator::interpolate` never panics on a 1-D interpolator `Interp1D::new` accepted (a one-point axis
included): off the grid points the axis has two points and the cell lookup succeeds, for each of the four strategies -/
theorem interpolate_d1_graceful (x f : List α) (hv : validate1 x f = .ok ()) (pt : List α) (s : Strategy) :
    (Interpolator.interpolate (.d1 x f) pt s).Graceful := by
  obtain ⟨hne, hs, hf⟩ := validate1_ok hv
  refine interpolate_graceful s rfl (by simp [Interpolator.grids, hne.symm]) fun hp => ?_
  obtain ⟨p, rfl, h⟩ := forall₂_one hp
  have hmethod : ∀ k : Res α, (GoodGrid x → k.Graceful) →
      (match position (fun v => eqv v p) x with | some i => idx f i | none => k).Graceful := by
    intro k hk
    rcases onGrid_cases ⟨hne, hs, hf⟩ h with ⟨i, hpos, _, hi⟩ | ⟨hpos, gg⟩
    · rw [hpos]
      show (idx f i).Graceful
      rw [idx1_ok hi]
      exact .ok _
    · rw [hpos]
      exact hk gg
  have hcell : GoodGrid x → findNearestIndex x p = .ok (selOf x p).1 ∧ cellOf x p = .ok (selOf x p) ∧
      idx f (selOf x p).1 = .ok (F1 f (selOf x p).1) ∧
      idx f ((selOf x p).1 + 1) = .ok (F1 f ((selOf x p).1 + 1)) := fun gg =>
    ⟨findNearestIndex_selOf gg h, cellOf_eq gg h, idx1_ok (hf ▸ (sel_selOf gg h).lower_lt),
      idx1_ok (hf ▸ (sel_selOf gg h).lt_length)⟩
  cases s with
  | none => exact .err _
  | linear =>
    show (linear1 x f p).Graceful
    exact linear1_eq ⟨hne, hs, hf⟩ (fun i hi => idx1_ok hi) h ▸ .ok _
  | leftNearest =>
    refine hmethod _ fun gg => ?_
    obtain ⟨hfn, _, e0, _⟩ := hcell gg
    rw [hfn, Res.ok_bind, e0]; exact .ok _
  | rightNearest =>
    refine hmethod _ fun gg => ?_
    obtain ⟨hfn, _, _, e1⟩ := hcell gg
    rw [hfn, Res.ok_bind, e1]; exact .ok _
  | nearest =>
    refine hmethod _ fun gg => ?_
    obtain ⟨_, hc, e0, e1⟩ := hcell gg
    rw [hc, Res.ok_bind, e0, e1]; exact .ite (.ok _) (.ok _)

theorem interpolate_d2_graceful (x y : List α) (f : List (List α)) (hv : validate2 x y f = .ok ())
    (pt : List α) (s : Strategy) : (Interpolator.interpolate (.d2 x y f) pt s).Graceful := by
  obtain ⟨gx, gy, hr⟩ := (validate2_ok_iff x y f).mp hv
  have V := Valid.of_rect2 gx gy hr
  exact interpolate_graceful s V.grids_length V.nil_not_mem fun hp => .ite (V.method_linear_graceful hp) (.err _)

theorem interpolate_d3_graceful (x y z : List α) (f : List (List (List α)))
    (hv : validate3 x y z f = .ok ()) (pt : List α) (s : Strategy) :
    (Interpolator.interpolate (.d3 x y z f) pt s).Graceful := by
  obtain ⟨gx, gy, gz, hr⟩ := validate3_ok hv
  have V := Valid.of_rect3 gx gy gz hr
  exact interpolate_graceful s V.grids_length V.nil_not_mem fun hp => .ite (V.method_linear_graceful hp) (.err _)

end
end Interp
end Compass
