/-
What the frontier model was asked about a tree entry, with the *history* made explicit (C04).

`SearchRoute.runAStar_validInv` says of every tree entry only that *some* (state, previous edge) pair
exists for which its edge was accepted.  Here the pair is named: the entry was written in the loop
turn that expanded a vertex `u` (an element of the replayed schedule) at a loop head `h₀` the run
went through, and the pair is exactly what the loop read at `u` at that moment — the initial state
and no previous edge when `u` is the source, otherwise the state and edge of the tree entry `u` had
*at that loop head* (`SearchLimits.curOf`).  No hypothesis on the instance.

For general A* with re-opening, `u`'s entry at the end of the run may differ from the one it had at
`h₀` (that is the recorded finding `route/restricted-turn-after-reopening`); under the Dijkstra
discipline (consistent heuristic) it cannot: `SearchDiscipline.entry_fresh_of_heur`.

Second part: every configuration — every tree entry and every route element carries an edge with
`Config.okOf = true` (every model permits the edge as such: road class, vehicle restriction, edge
cut; a turn-restriction model forbids pairs, no edge), with `okOf` as the conjunction of the models'
verdicts (`okOf_iff`; model by model it is spelled out in Props/C04.lean, `EdgeAllowedBy`).
-/
import Compass.Proofs.ConfigUniform

namespace Compass
namespace SearchValid

set_option linter.unusedSectionVars false

open SearchLimits (Reach curOf popped Final startF WrittenAt)

variable {α : Type} [Field α] [LinearOrder α] [IsStrictOrderedRing α] [Lit α] [LawfulLit α]

/-! ### The history of every entry -/

/-- every entry of `sol` was written in a turn of the run that started at loop head `s₀` and has so
far expanded the vertices `pre` -/
def Hist (I : Inst α) (source : Nat) (target : Option Nat) (s₀ : SState α) (pre : List Nat)
    (sol : Nat → Option (Branch α)) : Prop :=
  ∀ v b, sol v = some b → v = I.keyV b.edge ∧
    ∃ (pre₀ : List Nat) (h₀ : SState α) (u : Nat), Reach I source target pre₀ s₀ h₀ ∧
      (pre₀ ++ [u]) <+: pre ∧ WrittenAt I source h₀ u b

/-- the history is kept along a run: `pp` are the vertices expanded from `s₀` to `s`, `pre` those
from `s` on -/
theorem reach_hist {I : Inst α} {source : Nat} {target : Option Nat} {s₀ : SState α} :
    ∀ {pre : List Nat} {s h : SState α}, Reach I source target pre s h →
      ∀ pp, Reach I source target pp s₀ s → Hist I source target s₀ pp s.sol →
        Hist I source target s₀ (pp ++ pre) h.sol := by
  intro pre s h hr
  induction hr with
  | here s =>
    intro pp _ hH
    simpa using hH
  | @turn v rest s s1 h ht _ ih =>
    intro pp hpp hH
    have h1 : Hist I source target s₀ (pp ++ [v]) s1.sol := by
      intro x b hb
      rcases ht.written x b hb with hold | ⟨hk, hw⟩
      · obtain ⟨hk, pre₀, h₀, u, hr₀, hpre, hw⟩ := hH x b hold
        exact ⟨hk, pre₀, h₀, u, hr₀, hpre.trans (List.prefix_append _ _), hw⟩
      · -- written in this turn: the pair is the one read at the head `s`, not the one the entry's
        -- parent has later
        exact ⟨hk, pp, s, v, hpp, List.prefix_refl _, hw⟩
    have := ih (pp ++ [v]) (hpp.snoc ht) h1
    simpa [List.append_assoc] using this

/-- **entry history** of `run_a_star`: every entry `v ↦ b` of the returned tree was written in a
loop turn of this very run — there are a prefix `pre₀ ++ [u]` of the schedule and the loop head `h₀`
reached after expanding `pre₀` such that `b.edge` is an edge iterated at `u` with far end `v`, and
the frontier model accepted `b.edge` (and the traversal produced `b`'s costs and state) for the
pair the loop read at `u` at `h₀`.  No hypothesis on instance, source, target or schedule. -/
theorem runAStar_entry_history (I : Inst α) (source : Nat) (target : Option Nat) (sched : List Nat)
    (s : SState α) (h : runAStar I source target sched = .ok s) :
    ∀ v b, s.sol v = some b → v = I.keyV b.edge ∧
      ∃ (f0 : α) (pre₀ : List Nat) (h₀ : SState α) (u : Nat),
        startF I source target = .ok f0 ∧
        Reach I source target pre₀ (initState source f0) h₀ ∧ (pre₀ ++ [u]) <+: sched ∧
        WrittenAt I source h₀ u b := by
  intro v b hb
  rcases SearchLimits.runAStar_ok_cases h with ⟨_, rfl⟩ |
    ⟨_, f0, pre, rest, hd, hf0, hs, hr, _, hfin⟩
  · simp [SearchLimits.emptyResult] at hb
  · have hH : Hist I source target (initState source f0) ([] ++ pre) hd.sol :=
      reach_hist hr [] (Reach.here _) (fun v b hb => by simp [initState] at hb)
    rw [hfin.sol_eq] at hb
    obtain ⟨hk, pre₀, h₀, u, hr₀, hpre, hw⟩ := hH v b hb
    refine ⟨hk, f0, pre₀, h₀, u, hf0, hr₀, ?_, hw⟩
    rw [hs]
    exact hpre.trans (List.prefix_append pre rest)

/-! ### No forbidden edge — every configuration -/

/-- a model that accepts an edge after some previous edge accepts it without previous edge: the
road-class, vehicle and edge-cut models do not read the previous edge, the turn-restriction model
forbids no edge as such -/
theorem FrontierM.valid_none_of_valid (m : FrontierM α) (e : Nat) (prev : Option Nat)
    (h : m.valid e prev = some true) : m.valid e none = some true := by
  cases m with
  | turnRestriction pairs => rfl
  | roadClass allowed table => exact h
  | vehicle table params => exact h
  | edgeCut cut => exact h

theorem okOf_iff (c : Config α) (e : Nat) :
    c.okOf e = true ↔ ∀ m ∈ c.frontier, m.valid e none = some true := by
  rw [← frontierValid_true_iff]
  unfold Config.okOf
  cases h : frontierValid c.frontier e none with
  | error k => simp
  | ok b => cases b <;> simp

/-- in **every** configuration an accepted edge is an edge `okOf` permits, whatever the state and the
previous edge it was accepted for (turn-restriction models among the models or not) -/
theorem okOf_of_valid (c : Config α) {e : Nat} {st : List α} {le : Option Nat}
    (h : c.inst.valid e st le = .ok true) : c.okOf e = true := by
  rw [okOf_iff]
  intro m hm
  exact FrontierM.valid_none_of_valid m e le (Config.inst_valid_models h m hm)

theorem okOf_of_entryOK (c : Config α) {b : Branch α} (h : SearchRoute.EntryOK c.inst b) :
    c.okOf b.edge = true :=
  let ⟨_, _, hv, _⟩ := h
  okOf_of_valid c hv

/-- **no forbidden edge in trees and routes** (vertex-oriented `run_vertex_oriented`, with or
without destination, every configuration, any algorithm setting, schedule, direction) -/
theorem config_edges_permitted (c : Config α)
    {source : Nat} {target : Option Nat} {sched : List Nat} {r : AlgResult α}
    (h : c.runVertex source target sched = .ok r) :
    (∀ tree ∈ r.trees, ∀ v b, tree v = some b → c.okOf b.edge = true) ∧
    (∀ route ∈ r.routes, ∀ b ∈ route, c.okOf b.edge = true) := by
  obtain ⟨res, hres, htrees, hroutes, _⟩ := runVertex_ok h
  obtain ⟨h1, h2⟩ := SearchRoute.runVertexOriented_validInv c.inst source target sched res hres
  refine ⟨?_, ?_⟩
  · intro tree htree v b hb
    rw [htrees, List.mem_singleton] at htree
    subst htree
    exact okOf_of_entryOK c (h1 v b hb)
  · intro route hroute b hb
    rw [hroutes, Option.mem_toList] at hroute
    exact okOf_of_entryOK c (h2 route hroute b hb)

end SearchValid
end Compass
