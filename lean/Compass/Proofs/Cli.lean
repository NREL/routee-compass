/-
Lemmas about the command-line model (`Model/Cli.lean`): a chunk's batch and its unparsable lines, the loop of
`run_newline_json` over the chunks, the arguments, and how the runner can fail to return: as one of its runs
does, or on a chunk size of 0 — hence it returns when the batch runner does, and runs without bound only if a
run does (`C12.cli_never_diverges`).
-/
import Compass.Model.Cli

namespace Compass
namespace Cli
open MultiSet (Outcome)
open Batch

/-! ### a chunk's batch and its unparsable lines -/

theorem chunkBad_sum (cs : List (List (Option Json))) :
    (cs.map chunkBad).sum = chunkBad cs.flatten := by
  induction cs with
  | nil => rfl
  | cons c cs ih =>
    simp only [List.map_cons, List.sum_cons, List.flatten_cons, ih]
    unfold chunkBad
    rw [List.filter_append, List.length_append]

/-! ### the loop over the chunks -/

/-- chunks whose runs succeed are served and logged, and the loop goes on with the chunks after them -/
theorem runChunksO_append_ok {ε ρ : Type} (run : List Json → Outcome (Except ε ρ))
    (r : List (Option Json) → ρ) (rest : List (List (Option Json))) :
    ∀ pre : List (List (Option Json)), (∀ p ∈ pre, run (chunkBatch p) = .ok (.ok (r p))) →
      runChunksO run (pre ++ rest)
        = match runChunksO run rest with
          | .ok o => .ok { log := pre.map (fun p => { served := r p, parseErrors := chunkBad p }) ++ o.log,
                           result := o.result }
          | .panic s => .panic s
          | .diverges => .diverges
  | [], _ => by rw [List.nil_append]; cases runChunksO run rest <;> rfl
  | p :: pre, h => by
    rw [List.cons_append, runChunksO, h p (List.mem_cons_self ..),
      runChunksO_append_ok run r rest pre fun p' hp' => h p' (List.mem_cons_of_mem _ hp')]
    cases runChunksO run rest <;> rfl

theorem runChunksO_first_failure {ε ρ : Type} (run : List Json → Outcome (Except ε ρ))
    (r : List (Option Json) → ρ) (c : List (Option Json)) (post : List (List (Option Json))) (e : ε)
    (hc : run (chunkBatch c) = .ok (.error e))
    (pre : List (List (Option Json))) (h : ∀ p ∈ pre, run (chunkBatch p) = .ok (.ok (r p))) :
    runChunksO run (pre ++ c :: post)
      = .ok { log := pre.map (fun p => { served := r p, parseErrors := chunkBad p }),
              result := .error (.run e) } := by
  rw [runChunksO_append_ok run r (c :: post) pre h]
  simp only [runChunksO, hc, List.append_nil]

/-- on a readable file and a chunk size `n ≥ 1`, `run_newline_json` is the loop over the chunks of the lines -/
theorem runNewlineJsonO_content {ε ρ : Type} (run : List Json → Outcome (Except ε ρ)) {n : Nat} (hn : 1 ≤ n)
    (doc : Option Json) (lines : List (Option Json)) :
    runNewlineJsonO run (some n) (.content doc lines) = runChunksO run (chunks n lines) := by
  simp only [runNewlineJsonO, Option.getD_some, itChunksO, Nat.ne_of_gt hn, if_false]

theorem runNewlineJsonO_all_ok {ε ρ : Type} (run : List Json → Outcome (Except ε ρ))
    (r : List (Option Json) → ρ) {n : Nat} (hn : 1 ≤ n) (doc : Option Json) (lines : List (Option Json))
    (hok : ∀ c ∈ chunks n lines, run (chunkBatch c) = .ok (.ok (r c))) :
    runNewlineJsonO run (some n) (.content doc lines)
      = .ok { log := (chunks n lines).map (fun c => { served := r c, parseErrors := chunkBad c }),
              result := .ok () } := by
  rw [runNewlineJsonO_content run hn]
  simpa only [List.append_nil, runChunksO] using runChunksO_append_ok run r [] _ hok

/-! ### the arguments -/

/-- a chunk size that passed `validate` is cast without loss (an `i64` is below `2^63`) -/
theorem asUsize_of_pos (c : Int) (h1 : 1 ≤ c) (h2 : c < 2 ^ 63) : asUsize c = c.toNat ∧ asUsize c ≠ 0 := by
  unfold asUsize
  have : c % (2 ^ 64 : Int) = c := Int.emod_eq_of_lt (by omega) (by omega)
  rw [this]
  exact ⟨rfl, by omega⟩

theorem validate_ok_iff {ε : Type} (a : CliArgs) :
    validate (ε := ε) a = .ok () ↔
      ¬ (a.chunksize.isSome = true ∧ a.newlineDelimited = false) ∧ ∀ c, a.chunksize = some c → 1 ≤ c := by
  obtain ⟨cs, nd⟩ := a
  cases cs with
  | none => cases nd <;> simp [validate]
  | some c =>
    cases nd with
    | false => simp [validate]
    | true =>
      by_cases h : c < 1
      · simp [validate, h]
      · simp [validate, h]; omega

/-! ### how the runner can fail to return -/

/-- how a piece of code fails to return a value: `none` = it returns, `some none` = it does not return,
`some (some s)` = it panics at `s` -/
def failure {α : Type} : Outcome α → Option (Option String)
  | .ok _ => none
  | .panic s => some (some s)
  | .diverges => some none

theorem failure_eq_none {α : Type} {o : Outcome α} : failure o = none ↔ ∃ a, o = .ok a := by
  cases o <;> simp [failure]

theorem failure_eq_diverges {α : Type} {o : Outcome α} : failure o = some none ↔ o = .diverges := by
  cases o <;> simp [failure]

section
variable {ε ρ : Type} (run : List Json → Outcome (Except ε ρ))

/-- `x` returns, or fails to return the way one of the runs does -/
def FailsOnlyAsARun {γ : Type} (x : Outcome γ) : Prop :=
  failure x = none ∨ ∃ b, failure x = failure (run b)

variable {run}

theorem FailsOnlyAsARun.of_ok {γ : Type} (a : γ) : FailsOnlyAsARun run (.ok a) := Or.inl rfl

theorem FailsOnlyAsARun.returns {γ : Type} {x : Outcome γ} (h : FailsOnlyAsARun run x)
    (hrun : ∀ b, ∃ r, run b = .ok r) : ∃ a, x = .ok a := by
  rcases h with h | ⟨b, h⟩
  · exact failure_eq_none.mp h
  · exact failure_eq_none.mp (h.trans (failure_eq_none.mpr (hrun b)))

theorem FailsOnlyAsARun.ne_diverges {γ : Type} {x : Outcome γ} (h : FailsOnlyAsARun run x)
    (hrun : ∀ b, run b ≠ .diverges) : x ≠ .diverges := by
  rintro rfl
  rcases h with h | ⟨b, h⟩
  · cases h
  · exact hrun b (failure_eq_diverges.mp h.symm)

variable (run)

/-- the loop over the chunks: a run that fails to return ends it the same way -/
theorem runChunksO_failure : ∀ cs : List (List (Option Json)), FailsOnlyAsARun run (runChunksO run cs)
  | [] => .of_ok _
  | c :: cs => by
    rw [runChunksO]
    cases h : run (chunkBatch c) with
    | panic s => exact Or.inr ⟨chunkBatch c, by rw [h]; rfl⟩
    | diverges => exact Or.inr ⟨chunkBatch c, by rw [h]; rfl⟩
    | ok r =>
      cases r with
      | error e => exact .of_ok _
      | ok v =>
        have ih := runChunksO_failure cs
        cases h2 : runChunksO run cs with
        | ok o => exact .of_ok _
        | panic s => rw [h2] at ih; exact ih
        | diverges => rw [h2] at ih; exact ih

theorem runJsonO_failure (file : QueryFile) : FailsOnlyAsARun run (runJsonO run file) := by
  unfold runJsonO
  split
  · exact .of_ok _
  · exact .of_ok _
  · exact .of_ok _
  · split
    · exact .of_ok _
    · next batch _ =>
      cases h : run batch with
      | panic s => exact Or.inr ⟨batch, by rw [h]; rfl⟩
      | diverges => exact Or.inr ⟨batch, by rw [h]; rfl⟩
      | ok r => cases r <;> exact .of_ok _

/-- the dispatch on `(chunksize, newline_delimited)` over a readable file: a run, or — for a chunk size that
the cast `as usize` turns into 0 — `itertools::chunks` -/
theorem dispatchO_failure (a : CliArgs) (doc : Option Json) (lines : List (Option Json)) :
    FailsOnlyAsARun run (dispatchO run a (.content doc lines)) ∨
    (failure (dispatchO run a (.content doc lines)) = some (some "itertools/chunks-zero") ∧
      ∃ c, a.chunksize = some c ∧ 0 < c ∧ asUsize c = 0) := by
  obtain ⟨cs, nd⟩ := a
  cases cs with
  | none => cases nd with
    | true => exact Or.inl (.of_ok _)
    | false => exact Or.inl (runJsonO_failure run _)
  | some c => cases nd with
    | false => exact Or.inl (.of_ok _)
    | true =>
      simp only [dispatchO, getChunksizeOption]
      by_cases hc : c > 0
      · simp only [hc, if_true, runNewlineJsonO, Option.getD_some, itChunksO]
        by_cases h0 : asUsize c = 0
        · simp only [h0, if_true]
          exact Or.inr ⟨rfl, c, rfl, hc, h0⟩
        · simp only [h0, if_false]
          exact Or.inl (runChunksO_failure run _)
      · simp only [hc, if_false]
        exact Or.inl (.of_ok _)

/-- every way `command_line_runner` can fail to return: as one of its runs does, or in `itertools::chunks` -/
theorem commandLineRunnerO_failure (a : CliArgs) (cfg : ConfigFile) (file : QueryFile) :
    FailsOnlyAsARun run (commandLineRunnerO run a cfg file) ∨
    (failure (commandLineRunnerO run a cfg file) = some (some "itertools/chunks-zero") ∧
      ∃ c, a.chunksize = some c ∧ 0 < c ∧ asUsize c = 0) := by
  unfold commandLineRunnerO
  cases validate (ε := ε) a with
  | error e => exact Or.inl (.of_ok _)
  | ok _ =>
    cases cfg with
    | unreadable => exact Or.inl (.of_ok _)
    | unbuildable => exact Or.inl (.of_ok _)
    | good =>
      cases file with
      | missing => exact Or.inl (.of_ok _)
      | unreadable => exact Or.inl (.of_ok _)
      | content doc lines => exact dispatchO_failure run a doc lines

/-- a chunk size that passed through an `i64` is cast without loss, so only the runs can keep the runner from
returning -/
theorem commandLineRunnerO_returns (hrun : ∀ b, ∃ r, run b = .ok r) (a : CliArgs)
    (hi : ∀ c, a.chunksize = some c → c < 2 ^ 63) (cfg : ConfigFile) (file : QueryFile) :
    ∃ o, commandLineRunnerO run a cfg file = .ok o := by
  rcases commandLineRunnerO_failure run a cfg file with h | ⟨_, c, hc, hpos, h0⟩
  · exact h.returns hrun
  · exact absurd h0 (asUsize_of_pos c (by omega) (hi c hc)).2

end

end Cli
end Compass
