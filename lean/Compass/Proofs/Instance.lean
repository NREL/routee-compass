/-
`Model/Instance.lean` taken apart once, for every proof about a configured instance:

* the state layer: `Adds st st' δ` (an operation adds `δ j` to every slot `j`); `add_distance` / `add_time`
  add a converted amount to the one slot `distSlot` / `timeSlot` name (`addDistance_eq`, `addDistance_adds`);
* inversions, one per function: what an answered `traverse_edge`, `estimate_traversal`, `access_edge`,
  `edgeAccess`, `edgeTraversal`, `estimate`, `c.inst.valid` went through (`…_ok`); an accepted edge was accepted by every frontier
  model (`Config.inst_valid_models`; `FrontierM.turnRestriction_valid_iff`, `FrontierM.edgeCut_valid_iff`);
* the turn table as a partition of the angles, the heading wrap, and when the delay lookup answers
  (`turnOfAngle_eq_some_iff`, `bearing_wrapped`, `turnDelayOf_eq_some_iff`);
* the charged edge cost is positive (`edgeTraversal_total_pos`); `enforceStrictlyPositive_ge`;
* the kinds the components fail with (`Config.inst_valid_error`, `edgeTraversal_error`, `estimate_error`),
  together `SearchTermination.ModelErr`;
* the graph side of `c.inst`: `keyV` / `termV` of a listed edge (`Config.inst_keyV`, `Config.inst_termV`); a
  property of all adjacency lists is a check of finitely many rows (`Config.forall_incident`), one of all
  edge records of the listed ones (`Config.forall_edges`);
* consistent adjacency lists are all that `SearchTree.WF` asks of a configuration (`Config.AdjConsistent`,
  `adjConsistent_of_lists`, `Config.inst_wf`);
* where an error of a configured run comes from (`Config.error_origin`);
* `Config.runVertex` is `run_vertex_oriented` with the result repacked (`runVertex_eq_map`).
-/
import Compass.Proofs.Cost
import Compass.Proofs.SearchTree
import Compass.Model.Instance

namespace Compass

set_option linter.unusedSectionVars false

section
variable {α : Type} [Field α] [LinearOrder α] [IsStrictOrderedRing α] [Lit α] [LawfulLit α]

/-! ### The state layer: `add_distance` / `add_time` add a converted amount to one slot -/

/-- the slot `add_distance(name)` writes and the unit of that feature -/
def distSlot (fs : List (Feat α)) (name : String) : Option (Nat × DistanceUnit) :=
  match featIndex fs name with
  | none => none
  | some i =>
    match fs[i]? with
    | none => none
    | some f =>
      match f.kind with
      | .dist fu => some (i, fu)
      | _ => none

/-- the slot `add_time(name)` writes and the unit of that feature -/
def timeSlot (fs : List (Feat α)) (name : String) : Option (Nat × TimeUnit) :=
  match featIndex fs name with
  | none => none
  | some i =>
    match fs[i]? with
    | none => none
    | some f =>
      match f.kind with
      | .time fu => some (i, fu)
      | _ => none

theorem distSlot_some {fs : List (Feat α)} {name : String} {p : Nat × DistanceUnit}
    (h : distSlot fs name = some p) :
    featIndex fs name = some p.1 ∧ (fs[p.1]?).map (·.kind) = some (FeatKind.dist p.2) := by
  unfold distSlot at h
  split at h
  · cases h
  · rename_i i hi
    split at h
    · cases h
    · rename_i f hf
      split at h
      · rename_i fu hk
        cases h
        exact ⟨hi, by rw [hf]; exact congrArg some hk⟩
      · cases h

theorem timeSlot_some {fs : List (Feat α)} {name : String} {p : Nat × TimeUnit}
    (h : timeSlot fs name = some p) :
    featIndex fs name = some p.1 ∧ (fs[p.1]?).map (·.kind) = some (FeatKind.time p.2) := by
  unfold timeSlot at h
  split at h
  · cases h
  · rename_i i hi
    split at h
    · cases h
    · rename_i f hf
      split at h
      · rename_i fu hk
        cases h
        exact ⟨hi, by rw [hf]; exact congrArg some hk⟩
      · cases h

/-- change of slot `i` when `conv u` is added to the slot named by `slot` -/
def slotDelta {U : Type} (slot : Option (Nat × U)) (conv : U → α) (i : Nat) : α :=
  match slot with
  | some (j, u) => if i = j then conv u else 0
  | none => 0

theorem slotDelta_zero {U : Type} (slot : Option (Nat × U)) (i : Nat) :
    slotDelta slot (fun _ => (0 : α)) i = 0 := by
  unfold slotDelta
  split
  · exact ite_self _
  · rfl

theorem slotDelta_distSlot (fs : List (Feat α)) (name : String) (f : DistanceUnit → α) (j : Nat) :
    slotDelta (distSlot fs name) f j =
      if featIndex fs name = some j then
        match (fs[j]?).map (·.kind) with
        | some (FeatKind.dist fu) => f fu
        | _ => 0
      else 0 := by
  unfold distSlot
  cases featIndex fs name with
  | none => rfl
  | some i =>
    dsimp only
    by_cases hij : j = i
    · subst hij
      rw [if_pos rfl]
      cases fs[j]? with
      | none => rfl
      | some g =>
        dsimp only [Option.map_some]
        cases g.kind <;> simp only [slotDelta, if_true]
    · rw [if_neg fun h => hij (Option.some.inj h).symm]
      cases fs[i]? with
      | none => rfl
      | some g =>
        dsimp only
        cases g.kind <;> simp only [slotDelta, if_neg hij]

theorem slotDelta_timeSlot (fs : List (Feat α)) (name : String) (f : TimeUnit → α) (j : Nat) :
    slotDelta (timeSlot fs name) f j =
      if featIndex fs name = some j then
        match (fs[j]?).map (·.kind) with
        | some (FeatKind.time fu) => f fu
        | _ => 0
      else 0 := by
  unfold timeSlot
  cases featIndex fs name with
  | none => rfl
  | some i =>
    dsimp only
    by_cases hij : j = i
    · subst hij
      rw [if_pos rfl]
      cases fs[j]? with
      | none => rfl
      | some g =>
        dsimp only [Option.map_some]
        cases g.kind <;> simp only [slotDelta, if_true]
    · rw [if_neg fun h => hij (Option.some.inj h).symm]
      cases fs[i]? with
      | none => rfl
      | some g =>
        dsimp only
        cases g.kind <;> simp only [slotDelta, if_neg hij]

/-- `st'` is `st` with `δ j` added to every slot `j` -/
def Adds (st st' : List α) (δ : Nat → α) : Prop := ∀ j, st'[j]? = (st[j]?).map (· + δ j)

theorem Adds.zero (st : List α) : Adds st st (fun _ => 0) := fun j => by
  simp only [add_zero, Option.map_id']

theorem Adds.trans {st st1 st2 : List α} {δ1 δ2 : Nat → α} (h1 : Adds st st1 δ1) (h2 : Adds st1 st2 δ2) :
    Adds st st2 (fun j => δ1 j + δ2 j) := fun j => by
  rw [h2 j, h1 j, Option.map_map]
  simp only [Function.comp_def, add_assoc]

theorem Adds.congr {st st' : List α} {δ δ' : Nat → α} (h : Adds st st' δ) (he : ∀ j, δ j = δ' j) :
    Adds st st' δ' := fun j => he j ▸ h j

/-- adding a non-negative amount does not lower a slot, adding a positive amount raises it -/
theorem Adds.le {st st' : List α} {δ : Nat → α} (h : Adds st st' δ) {j : Nat} (hδ : 0 ≤ δ j) {x y : α}
    (hx : st[j]? = some x) (hy : st'[j]? = some y) : x ≤ y := by
  rw [h j, hx] at hy
  cases hy
  exact le_add_of_nonneg_right hδ

theorem Adds.lt {st st' : List α} {δ : Nat → α} (h : Adds st st' δ) {j : Nat} (hδ : 0 < δ j) {x y : α}
    (hx : st[j]? = some x) (hy : st'[j]? = some y) : x < y := by
  rw [h j, hx] at hy
  cases hy
  exact lt_add_of_pos_right x hδ

/-- what the cost model sees of an `Adds`: the difference at every slot the state has -/
theorem Adds.stateDelta {st st' : List α} {δ : Nat → α} (h : Adds st st' δ) {i : Nat}
    (hi : i < st.length) : stateDelta st st' i = δ i := by
  unfold _root_.Compass.stateDelta
  rw [List.getD_eq_getElem?_getD, List.getD_eq_getElem?_getD, h i, List.getElem?_eq_getElem hi]
  simp

/-- `add_distance` adds the converted amount to the slot that `distSlot` names, when the state has
that slot; `add_time` likewise with `timeSlot` -/
theorem addDistance_eq (fs : List (Feat α)) (st : List α) (name : String) (d : α)
    (fromU : DistanceUnit) :
    addDistance fs st name d fromU =
      (distSlot fs name).bind fun p =>
        st[p.1]?.map fun x => st.set p.1 (x + fromU.convert p.2 d) := by
  unfold addDistance distSlot
  cases featIndex fs name with
  | none => rfl
  | some j =>
    dsimp only
    cases hs : st[j]? with
    | none =>
      cases fs[j]? with
      | none => rfl
      | some f =>
        dsimp only
        cases hk : f.kind <;> simp only [Option.bind_some, Option.bind_none, hs, Option.map_none]
    | some x =>
      cases fs[j]? with
      | none => rfl
      | some f =>
        dsimp only
        cases hk : f.kind <;> simp only [Option.bind_some, Option.bind_none, hs, Option.map_some]

theorem addTime_eq (fs : List (Feat α)) (st : List α) (name : String) (t : α)
    (fromU : TimeUnit) :
    addTime fs st name t fromU =
      (timeSlot fs name).bind fun p =>
        st[p.1]?.map fun x => st.set p.1 (x + fromU.convert p.2 t) := by
  unfold addTime timeSlot
  cases featIndex fs name with
  | none => rfl
  | some j =>
    dsimp only
    cases hs : st[j]? with
    | none =>
      cases fs[j]? with
      | none => rfl
      | some f =>
        dsimp only
        cases hk : f.kind <;> simp only [Option.bind_some, Option.bind_none, hs, Option.map_none]
    | some x =>
      cases fs[j]? with
      | none => rfl
      | some f =>
        dsimp only
        cases hk : f.kind <;> simp only [Option.bind_some, Option.bind_none, hs, Option.map_some]

/-- the right-hand sides of `addDistance_eq` / `addTime_eq`: writing `x + conv u` into the slot `slot`
names, when the state has that slot -/
theorem adds_slot {U : Type} (slot : Option (Nat × U)) (conv : U → α) {st st' : List α}
    (h : (slot.bind fun p => st[p.1]?.map fun x => st.set p.1 (x + conv p.2)) = some st') :
    Adds st st' (slotDelta slot conv) := by
  cases slot with
  | none => cases h
  | some p =>
    obtain ⟨x, hx, rfl⟩ := Option.map_eq_some_iff.1 h
    intro j
    show (st.set p.1 (x + conv p.2))[j]? = (st[j]?).map (· + if j = p.1 then conv p.2 else 0)
    by_cases hj : j = p.1
    · subst hj
      rw [List.getElem?_set_self (List.getElem?_eq_some_iff.1 hx).1, hx, if_pos rfl, Option.map_some]
    · rw [List.getElem?_set_ne (Ne.symm hj), if_neg hj]
      simp only [add_zero, Option.map_id']

theorem addDistance_adds {fs : List (Feat α)} {st st' : List α} {name : String} {d : α}
    {fromU : DistanceUnit} (h : addDistance fs st name d fromU = some st') :
    Adds st st' (slotDelta (distSlot fs name) fun fu => fromU.convert fu d) :=
  adds_slot _ _ ((addDistance_eq fs st name d fromU).symm.trans h)

theorem addTime_adds {fs : List (Feat α)} {st st' : List α} {name : String} {t : α}
    {fromU : TimeUnit} (h : addTime fs st name t fromU = some st') :
    Adds st st' (slotDelta (timeSlot fs name) fun fu => fromU.convert fu t) :=
  adds_slot _ _ ((addTime_eq fs st name t fromU).symm.trans h)

/-! ### Inversions: what an answered call of a component went through -/

theorem TravModel.traverse_ok {m : TravModel α} {fs : List (Feat α)} {edges : List (EdgeRec α)}
    {e : Nat} {st st' : List α} (h : m.traverse fs edges e st = some st') :
    ∃ er, edges[e]? = some er ∧
      match (generalizing := false) m with
      | .distance du => addDistance fs st "distance" (baseDistanceUnit.convert du er.dist) du = some st'
      | .speed su du tu _ table => ∃ sp t st1, table[e]? = some sp ∧
          createTime sp su (baseDistanceUnit.convert du er.dist) du tu = some t ∧
          addTime fs st "time" t tu = some st1 ∧
          addDistance fs st1 "distance" (baseDistanceUnit.convert du er.dist) du = some st' := by
  unfold TravModel.traverse at h
  split at h
  · cases h
  · rename_i er her
    refine ⟨er, her, ?_⟩
    cases m with
    | distance du => exact h
    | speed su du tu ms table =>
      dsimp only at h ⊢
      split at h
      · cases h
      · rename_i sp hsp
        split at h
        · cases h
        · rename_i t ht
          split at h
          · cases h
          · rename_i st1 h1
            exact ⟨sp, t, st1, hsp, ht, h1, h⟩

/-- `estimate_traversal`: for a zero distance the speed-table model leaves the state as it is; else it
writes the time at `max_speed`, then the distance -/
theorem TravModel.estimate_ok {m : TravModel α} {fs : List (Feat α)} {gcm : α} {st dst : List α}
    (h : m.estimate fs gcm st = some dst) :
    match (generalizing := false) m with
    | .distance du => addDistance fs st "distance" (DistanceUnit.meters.convert du gcm) du = some dst
    | .speed su du tu maxSpeed _ =>
        if DistanceUnit.meters.convert du gcm == (zero : α) then dst = st
        else ∃ t st1, createTime maxSpeed su (DistanceUnit.meters.convert du gcm) du tu = some t ∧
          addTime fs st "time" t tu = some st1 ∧
          addDistance fs st1 "distance" (DistanceUnit.meters.convert du gcm) du = some dst := by
  cases m with
  | distance du => exact h
  | speed su du tu maxSpeed table =>
    simp only [TravModel.estimate] at h ⊢
    split at h
    · rename_i hz
      rw [if_pos hz]
      exact (Option.some.inj h).symm
    · rename_i hz
      rw [if_neg hz]
      split at h
      · cases h
      · rename_i t ht
        split at h
        · cases h
        · rename_i st1 h1
          exact ⟨t, st1, ht, h1, h⟩

theorem AccessModel.access_ok {m : AccessModel α} {fs : List (Feat α)} {pe ne : Nat}
    {st st1 : List α} (h : m.access fs pe ne st = some st1) :
    match (generalizing := false) m with
    | .noAccess => st1 = st
    | .turnDelay tu headings delays => ∃ d, turnDelayOf headings delays pe ne = some d ∧
        addTime fs st "time" d tu = some st1 := by
  cases m with
  | noAccess => exact (Option.some.inj h).symm
  | turnDelay tu headings delays =>
    simp only [AccessModel.access] at h ⊢
    split at h
    · cases h
    · rename_i d hd
      exact ⟨d, hd, h⟩

/-- the access and the cost model are asked about the pair in graph orientation, whatever the
direction of the search -/
theorem edgeAccess_ok {c : Config α} {e : Nat} {last : Option Nat} {st st1 : List α} {ac : α}
    (h : edgeAccess c e last st = .ok (ac, st1)) :
    match last with
    | none => ac = zero ∧ st1 = st
    | some l => ∃ a, (c.edges[l]?).isSome ∧
        c.access.access c.feats (if c.reverse then e else l) (if c.reverse then l else e) st
          = some st1 ∧
        c.cost.accessCost (if c.reverse then e else l) (if c.reverse then l else e) st st1
          = some a ∧ ac = zero + a := by
  unfold edgeAccess at h
  cases last with
  | none => cases h; exact ⟨rfl, rfl⟩
  | some l =>
    dsimp only at h ⊢
    split at h
    · cases h
    · rename_i hl
      split at h
      · cases h
      · rename_i st1' hst1
        split at h
        · cases h
        · rename_i a ha
          cases h
          exact ⟨a, by rw [hl]; rfl, hst1, ha, rfl⟩

/-- the traversal model starts from the state the access step left; the cost model is asked about the
state before the access step and the state after the traversal -/
theorem edgeTraversal_ok {c : Config α} {e : Nat} {last : Option Nat} {st : List α} {ac tc : α}
    {st' : List α} (h : edgeTraversal c e last st = .ok (ac, tc, st')) :
    ∃ er st1 total, c.edges[e]? = some er ∧ edgeAccess c e last st = .ok (ac, st1) ∧
      c.trav.traverse c.feats c.edges e st1 = some st' ∧
      c.cost.traversalCost e st st' = some total ∧ tc = total - ac := by
  unfold edgeTraversal at h
  split at h
  · cases h
  · rename_i er her
    split at h
    · cases h
    · rename_i ac1 st1 hea
      split at h
      · cases h
      · rename_i st2 htr
        split at h
        · cases h
        · rename_i total htot
          cases h
          exact ⟨er, st1, total, her, hea, htr, htot, rfl⟩

/-- `¬ gcm < zero`: the great-circle entry of the vertex is not the "no value" marker -/
theorem estimate_ok {c : Config α} {v : Nat} {st : List α} {x : α}
    (h : estimate c v st = .ok x) :
    ∃ gcm dst est, c.gc[v]? = some gcm ∧ ¬ gcm < zero ∧
      c.trav.estimate c.feats gcm st = some dst ∧ c.cost.costEstimate st dst = some est ∧
      x = est * (match c.wf with | some w => w | none => one) := by
  unfold estimate at h
  split at h
  · cases h
  · rename_i gcm hgc
    split at h
    · cases h
    · rename_i hneg
      split at h
      · cases h
      · rename_i dst hdst
        split at h
        · cases h
        · rename_i est hest
          cases h
          exact ⟨gcm, dst, est, hgc, hneg, hdst, hest, rfl⟩

/-! ### The frontier models and `c.inst.valid` -/

/-- `frontierValid` answers `true` exactly when every model answers `true` (a model that errs, or
refuses, ends the conjunction) -/
theorem frontierValid_true_iff (ms : List (FrontierM α)) (e : Nat) (prev : Option Nat) :
    frontierValid ms e prev = .ok true ↔ ∀ m ∈ ms, m.valid e prev = some true := by
  induction ms with
  | nil => exact ⟨fun _ _ h => (nomatch h), fun _ => rfl⟩
  | cons m ms ih =>
    rw [List.forall_mem_cons, ← ih, frontierValid]
    rcases m.valid e prev with _ | _ | _ <;> simp

/-- `valid_frontier` of a configured instance does not read the state -/
theorem Config.inst_valid_ok {c : Config α} {e : Nat} {st : List α} {last : Option Nat} {b : Bool}
    (h : c.inst.valid e st last = .ok b) :
    (c.edges[e]?).isSome ∧ frontierValid c.frontier e last = .ok b := by
  simp only [Config.inst] at h
  split at h
  · cases h
  · rename_i hl
    exact ⟨by rw [hl]; rfl, h⟩

theorem Config.inst_valid_eq {c : Config α} {e : Nat} (he : e < c.edges.length) (st : List α)
    (last : Option Nat) : c.inst.valid e st last = frontierValid c.frontier e last := by
  simp only [Config.inst, List.getElem?_eq_getElem he]

/-- an accepted edge was accepted by every frontier model of the configuration -/
theorem Config.inst_valid_models {c : Config α} {e : Nat} {st : List α} {prev : Option Nat}
    (h : c.inst.valid e st prev = .ok true) : ∀ m ∈ c.frontier, m.valid e prev = some true :=
  (frontierValid_true_iff c.frontier e prev).1 (Config.inst_valid_ok h).2

/-- turn restrictions: the pair (previous edge, edge) must not be listed -/
theorem FrontierM.turnRestriction_valid_iff (pairs : List (Nat × Nat)) (e p : Nat) :
    (FrontierM.turnRestriction (α := α) pairs).valid e (some p) = some true ↔ (p, e) ∉ pairs := by
  simp only [FrontierM.valid, Option.some.injEq, Bool.not_eq_true', List.any_eq_false]
  constructor
  · intro h hm
    have := h (p, e) hm
    simp at this
  · intro h q hq
    by_contra hc
    simp only [Bool.and_eq_true, beq_iff_eq] at hc
    apply h
    have : q = (p, e) := Prod.ext hc.1 hc.2
    rw [← this]; exact hq

/-- an edge cut by an alternative-route search is never usable -/
theorem FrontierM.edgeCut_valid_iff (cut : List Nat) (e : Nat) (prev : Option Nat) :
    (FrontierM.edgeCut (α := α) cut).valid e prev = some true ↔ e ∉ cut := by
  simp [FrontierM.valid]

/-! ### Turn classification, heading wrap and the delay lookup -/

/-- what `Turn::from_angle` answers, range by range.  It returns the class of the FIRST range that holds
the angle; two ranges of the table that share an angle carry the same class (`hov`, a check of the nine
rows against each other), so it is the class of ANY range that holds the angle. -/
theorem turnOfAngle_eq_some_iff (a : Int) (t : Turn) :
    turnOfAngle a = some t ↔ ∃ r ∈ turnRanges, r.1 ≤ a ∧ a ≤ r.2.1 ∧ r.2.2 = t := by
  have hov : ∀ r ∈ turnRanges, ∀ r' ∈ turnRanges, max r.1 r'.1 ≤ min r.2.1 r'.2.1 → r.2.2 = r'.2.2 := by
    decide +kernel
  unfold turnOfAngle
  cases hf : turnRanges.find? (fun r => decide (r.1 ≤ a) && decide (a ≤ r.2.1)) with
  | some r =>
    have hr : r.1 ≤ a ∧ a ≤ r.2.1 := by simpa using List.find?_some hf
    have hm := List.mem_of_find?_eq_some hf
    refine ⟨fun h => ⟨r, hm, hr.1, hr.2, Option.some.inj h⟩, ?_⟩
    rintro ⟨r', hm', h1, h2, rfl⟩
    exact congrArg some (hov r hm r' hm' (by omega))
  | none =>
    refine iff_of_false (by simp) ?_
    rintro ⟨r, hr, h1, h2, _⟩
    exact List.find?_eq_none.1 hf r hr (by simpa using ⟨h1, h2⟩)

/-- `Turn::from_angle` classifies exactly the angles in [-180, 180]: the table's ranges cover that
interval without a gap (the `Err` arm is unreachable for wrapped bearings) and all lie inside it. -/
theorem turnOfAngle_isSome_iff (a : Int) : (turnOfAngle a).isSome = true ↔ -180 ≤ a ∧ a ≤ 180 := by
  have hcover : (∃ r ∈ turnRanges, r.1 ≤ a ∧ a ≤ r.2.1) ↔ -180 ≤ a ∧ a ≤ 180 := by
    simp only [turnRanges, List.mem_cons, List.not_mem_nil, or_false, exists_eq_or_imp, exists_eq_left]
    omega
  rw [← hcover, Option.isSome_iff_exists]
  exact ⟨fun ⟨t, ht⟩ => let ⟨r, hr, h1, h2, _⟩ := (turnOfAngle_eq_some_iff a t).1 ht; ⟨r, hr, h1, h2⟩,
    fun ⟨r, hr, h1, h2⟩ => ⟨r.2.2, (turnOfAngle_eq_some_iff a _).2 ⟨r, hr, h1, h2, rfl⟩⟩⟩

/-- for headings in [0, 360) the bearing from one edge to the next is wrapped into [-180, 180]
and is congruent to (arrival of next − departure of previous) modulo 360 -/
theorem bearing_wrapped (a₁ a₂ : Int) (d₁ d₂ : Option Int) (h1 : 0 ≤ a₂ ∧ a₂ < 360)
    (h2 : ∀ d, d₁ = some d → 0 ≤ d ∧ d < 360) (h3 : 0 ≤ a₁ ∧ a₁ < 360) :
    -180 ≤ bearing (a₁, d₁) (a₂, d₂) ∧ bearing (a₁, d₁) (a₂, d₂) ≤ 180 ∧
      ∃ k : Int, bearing (a₁, d₁) (a₂, d₂) = a₂ - (d₁.getD a₁) + 360 * k := by
  have hb : bearing (a₁, d₁) (a₂, d₂) =
      if a₂ - d₁.getD a₁ > 180 then a₂ - d₁.getD a₁ - 360
      else if a₂ - d₁.getD a₁ < -180 then a₂ - d₁.getD a₁ + 360 else a₂ - d₁.getD a₁ := by
    cases d₁ <;> rfl
  have hend : 0 ≤ d₁.getD a₁ ∧ d₁.getD a₁ < 360 := by
    cases d₁ with
    | none => exact h3
    | some d => exact h2 d rfl
  rw [hb]
  generalize d₁.getD a₁ = e at hend
  split_ifs
  · exact ⟨by omega, by omega, -1, by omega⟩
  · exact ⟨by omega, by omega, 1, by omega⟩
  · exact ⟨by omega, by omega, 0, by omega⟩

/-- the delay of a turn is looked up from the headings of these two edges and the slot of the class their
bearing falls in -/
theorem turnDelayOf_eq_some_iff {headings : List (Int × Option Int)} {delays : List (Option α)}
    {pe ne : Nat} {d : α} :
    turnDelayOf headings delays pe ne = some d ↔
      ∃ hs hd t, headings[pe]? = some hs ∧ headings[ne]? = some hd ∧
        turnOfAngle (bearing hs hd) = some t ∧ delays[t.toNat]? = some (some d) := by
  unfold turnDelayOf
  constructor
  · intro h
    split at h
    · rename_i hs hd h1 h2
      split at h
      · cases h
      · rename_i t ht
        split at h
        · rename_i d' hd'
          cases h
          exact ⟨hs, hd, t, h1, h2, ht, hd'⟩
        · cases h
    · cases h
  · rintro ⟨hs, hd, t, h1, h2, ht, hd'⟩
    simp only [h1, h2, ht, hd']

/-! ### The charged cost of an edge is positive; `minCost` is the floor the cost model raises it to -/

/-- the cost charged for an edge (`EdgeTraversal::total_cost` = access + (total − access)) is the
strictly positive total returned by `CostModel::traversal_cost` -/
theorem edgeTraversal_total_pos (c : Config α) (e : Nat) (last : Option Nat) (st : List α)
    (ac tc : α) (st' : List α) (h : edgeTraversal c e last st = .ok (ac, tc, st')) : 0 < ac + tc := by
  obtain ⟨_, _, total, _, _, _, htot, rfl⟩ := edgeTraversal_ok h
  rw [add_sub_cancel]
  exact CostModel.traversalCost_pos _ _ _ _ _ htot

/-- the floor of the charged cost: the total is kept, or raised to `minCost` -/
theorem enforceStrictlyPositive_ge (c : α) : (minCost : α) ≤ enforceStrictlyPositive c ∨ enforceStrictlyPositive c = c := by
  rw [enforceStrictlyPositive_eq]
  split
  · exact Or.inl (le_refl _)
  · exact Or.inr rfl

/-! ### The error kinds of the components

The frontier, access, traversal, cost and estimate models of a configured instance fail with their
own kinds (`FrontierModelFailure`, `AccessModelFailure`, `TraversalModelFailure`, `CostFailure`, and
`network` for an unknown id): never "no path", never `Terminated`, never a panic.  (`ModelErr` carries the
namespace of `Proofs/SearchTermination.lean`, whose statements name it.) -/

namespace SearchTermination

/-- the error kinds of the component models of a configuration (graph, frontier, access, cost,
traversal) -/
def ModelErr (k : ErrKind) : Prop :=
  k = .network ∨ k = .frontier ∨ k = .access ∨ k = .cost ∨ k = .traversal

theorem ModelErr.ne_noPath {k : ErrKind} (h : ModelErr k) : k ≠ .noPath := by
  rintro rfl
  simp [ModelErr] at h

theorem ModelErr.ne_terminated {k : ErrKind} (h : ModelErr k) (ks : List TermKind) :
    k ≠ .terminated ks := by
  rintro rfl
  simp [ModelErr] at h

theorem ModelErr.ne_panic {k : ErrKind} (h : ModelErr k) (s : String) : k ≠ .panic s := by
  rintro rfl
  simp [ModelErr] at h

end SearchTermination

theorem frontierValid_error {e : Nat} {le : Option Nat} {k : ErrKind} :
    ∀ (fs : List (FrontierM α)), frontierValid fs e le = .error k → SearchTermination.ModelErr k
  | [], h => by cases h
  | m :: ms, h => by
    simp only [frontierValid] at h
    split at h
    · cases h; simp [SearchTermination.ModelErr]
    · cases h
    · exact frontierValid_error ms h

theorem Config.inst_valid_error {c : Config α} {e : Nat} {st : List α} {last : Option Nat}
    {k : ErrKind} (h : c.inst.valid e st last = .error k) : SearchTermination.ModelErr k := by
  simp only [Config.inst] at h
  split at h
  · cases h; simp [SearchTermination.ModelErr]
  · exact frontierValid_error _ h

theorem edgeAccess_error {c : Config α} {e : Nat} {last : Option Nat} {st : List α} {k : ErrKind}
    (h : edgeAccess c e last st = .error k) : SearchTermination.ModelErr k := by
  unfold edgeAccess at h
  split at h
  · cases h
  · split at h
    · cases h; simp [SearchTermination.ModelErr]
    · simp only at h
      split at h
      · cases h; simp [SearchTermination.ModelErr]
      · split at h
        · cases h; simp [SearchTermination.ModelErr]
        · cases h

theorem edgeTraversal_error {c : Config α} {e : Nat} {last : Option Nat} {st : List α}
    {k : ErrKind} (h : edgeTraversal c e last st = .error k) : SearchTermination.ModelErr k := by
  unfold edgeTraversal at h
  split at h
  · cases h; simp [SearchTermination.ModelErr]
  · split at h
    · rename_i k' hk
      cases h
      exact edgeAccess_error hk
    · split at h
      · cases h; simp [SearchTermination.ModelErr]
      · split at h
        · cases h; simp [SearchTermination.ModelErr]
        · cases h

theorem estimate_error {c : Config α} {v : Nat} {st : List α} {k : ErrKind}
    (h : estimate c v st = .error k) : SearchTermination.ModelErr k := by
  unfold estimate at h
  split at h
  · cases h; simp [SearchTermination.ModelErr]
  · split at h
    · cases h; simp [SearchTermination.ModelErr]
    split at h
    · cases h; simp [SearchTermination.ModelErr]
    · split at h
      · cases h; simp [SearchTermination.ModelErr]
      · cases h

/-! ### The graph side of `c.inst`: `keyV` / `termV` of a listed edge; all incident lists, all edge records -/

/-- the vertex an entry is stored under (`keyV`) and the vertex it is expanded from (`termV`), in either
direction of the search -/
theorem Config.inst_keyV {c : Config α} {e : Nat} {er : EdgeRec α} (h : c.edges[e]? = some er) :
    c.inst.keyV e = if c.reverse then er.src else er.dst := by
  simp only [Config.inst, h]

theorem Config.inst_termV {c : Config α} {e : Nat} {er : EdgeRec α} (h : c.edges[e]? = some er) :
    c.inst.termV e = if c.reverse then er.dst else er.src := by
  simp only [Config.inst, h]

/-- beyond the end of the adjacency list in use no vertex has an incident edge, so a property of all
incident lists that holds of the empty list is a check of finitely many vertices: on a concrete
configuration, an evaluation -/
theorem Config.forall_incident (c : Config α) {P : Nat → List Nat → Prop} (hnil : ∀ v, P v [])
    (h : ∀ v < (if c.reverse then c.inAdj else c.outAdj).length, P v (c.inst.incident v)) :
    ∀ v, P v (c.inst.incident v) := by
  intro v
  by_cases hv : v < (if c.reverse then c.inAdj else c.outAdj).length
  · exact h v hv
  · have : c.inst.incident v = [] := by
      show (if c.reverse then c.inAdj else c.outAdj).getD v [] = []
      rw [List.getD_eq_getElem?_getD, List.getElem?_eq_none (not_lt.1 hv)]; rfl
    rw [this]; exact hnil v

/-- the same for the edge list: a property of every edge record is a check of the listed ones -/
theorem Config.forall_edges (c : Config α) {P : Nat → EdgeRec α → Prop}
    (h : ∀ e (he : e < c.edges.length), P e c.edges[e]) :
    ∀ e er, c.edges[e]? = some er → P e er := by
  intro e er he
  obtain ⟨hlt, rfl⟩ := List.getElem?_eq_some_iff.1 he
  exact h e hlt

/-! ### Consistent adjacency lists are all that `SearchTree.WF` asks of a configuration -/

/-- the adjacency lists agree with the edge list (what the graph loader guarantees, C15) -/
def Config.AdjConsistent (c : Config α) : Prop :=
  ∀ v e, e ∈ c.inst.incident v → c.inst.termV e = v

theorem adjConsistent_of_lists (c : Config α)
    (h : ∀ v < (if c.reverse then c.inAdj else c.outAdj).length,
      ∀ e ∈ c.inst.incident v, c.inst.termV e = v) : c.AdjConsistent :=
  c.forall_incident (P := fun v l => ∀ e ∈ l, c.inst.termV e = v) (fun _ _ he => nomatch he) h

/-- a configuration with consistent adjacency gives an instance meeting the hypotheses of the
search theorems: the positivity of edge costs is *proved* from the cost model (C07) -/
theorem Config.inst_wf (c : Config α) (hadj : c.AdjConsistent) : SearchTree.WF c.inst where
  incident_term := hadj
  cost_pos := by
    intro e le st ac tc st' h
    exact edgeTraversal_total_pos c e le st ac tc st' h

/-! ### Where an error of a configured run comes from -/

/-- "no path", a replay error, the limit test at a loop head the run reached, or a component, with a
`ModelErr` — never the loop's own "vertex missing from solution", never the backtrack's errors.
(`SearchLimits.runVertexOriented_error_located`, in `Proofs/SearchTree.lean`, also says on which pair the
failing call was made.) -/
theorem Config.error_origin (c : Config α) (hadj : c.AdjConsistent) {source : Nat}
    {target : Option Nat} {sched : List Nat} {k : ErrKind}
    (h : runVertexOriented c.inst source target sched = .error k) :
    k = .noPath ∨ k = .scheduleExhausted ∨ k = .badSchedule ∨
    (∃ f0 pre hd, SearchLimits.startF c.inst source target = .ok f0 ∧
      SearchLimits.Reach c.inst source target pre (initState source f0) hd ∧
      c.term.test hd.solSize hd.iters = .error k) ∨ SearchTermination.ModelErr k := by
  rcases SearchLimits.runVertexOriented_error_located (c.inst_wf hadj)
    (S := fun _ _ => True) ⟨trivial, fun _ _ _ _ _ _ _ _ _ => trivial⟩ h with
    h | h | h | h | ⟨_, h0⟩ | ⟨_, e, le, st, _, _, h1 | h1 | ⟨_, h1⟩⟩
  · exact Or.inl h
  · exact Or.inr (Or.inl h)
  · exact Or.inr (Or.inr (Or.inl h))
  · exact Or.inr (Or.inr (Or.inr (Or.inl h)))
  · exact Or.inr (Or.inr (Or.inr (Or.inr (estimate_error (c := c) h0))))
  · exact Or.inr (Or.inr (Or.inr (Or.inr (Config.inst_valid_error h1))))
  · exact Or.inr (Or.inr (Or.inr (Or.inr (edgeTraversal_error (c := c) h1))))
  · exact Or.inr (Or.inr (Or.inr (Or.inr (estimate_error (c := c) h1))))

/-! ### `Config.runVertex` repackages the result of `run_vertex_oriented` -/

theorem runVertex_eq_map (c : Config α) (source : Nat) (target : Option Nat) (sched : List Nat) :
    c.runVertex source target sched =
      (runVertexOriented c.inst source target sched).map fun res =>
        { trees := [res.final.sol], routes := res.route.toList, iterations := res.final.iters } := by
  unfold Config.runVertex
  cases runVertexOriented c.inst source target sched with
  | error k => rfl
  | ok res =>
    obtain ⟨fin, route⟩ := res
    cases route <;> rfl

theorem runVertex_ok {c : Config α} {source : Nat} {target : Option Nat} {sched : List Nat}
    {r : AlgResult α} (h : c.runVertex source target sched = .ok r) :
    ∃ res, runVertexOriented c.inst source target sched = .ok res ∧
      r.trees = [res.final.sol] ∧
      r.routes = res.route.toList ∧
      r.iterations = res.final.iters := by
  rw [runVertex_eq_map] at h
  cases hres : runVertexOriented c.inst source target sched with
  | error k =>
    rw [hres] at h
    cases h
  | ok res =>
    rw [hres] at h
    cases h
    exact ⟨res, rfl, rfl, rfl, rfl⟩

theorem runVertex_eq {c : Config α} {source : Nat} {target : Option Nat} {sched : List Nat}
    {res : SearchResult α} (h : runVertexOriented c.inst source target sched = .ok res) :
    c.runVertex source target sched =
      .ok { trees := [res.final.sol],
            routes := res.route.toList,
            iterations := res.final.iters } := by
  rw [runVertex_eq_map, h]
  rfl

theorem runVertex_error_iff (c : Config α) (source : Nat) (target : Option Nat) (sched : List Nat)
    (k : ErrKind) :
    c.runVertex source target sched = .error k ↔
      runVertexOriented c.inst source target sched = .error k := by
  rw [runVertex_eq_map]
  cases runVertexOriented c.inst source target sched <;> simp [Except.map]

end

end Compass
