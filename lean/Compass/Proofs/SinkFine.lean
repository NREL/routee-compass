/-
The small-step model of `write_response` (Model/SinkFine.lean) with the guard refines the atomic model
(Model/Sink.lean): every interleaving of the small steps is, seen from the file, the counter and the responses
handed back, one of the atomic schedules — the one in which the workers release the lock (`Sim`, `step_sim`,
`exec_sim`).  Second part: without any common lock, when each record goes out in one `write` call, the small steps
still refine the atomic model — the atomic write sits at the step at which the record lands (`SimW`, `stepW_sim`) —
so the file is a sequence of whole records.  Last: sinks that create the file with `create_new` never
remove what is in it (`Extends`).  Core Lean only.
-/
import Compass.Model.SinkFine
import Compass.Proofs.Sink

namespace Compass
namespace SinkFine
open Sink

/-! ### what a small step is -/

/-- all a small step can be while the lock is not poisoned and the formatter returns on what is queued: nothing (no such
worker, nothing to write, blocked, dead); entering `write_response`; formatting; one `write` call; counting; leaving -/
theorem step_cases (c : Config) (st : State) (w : Nat) (hpo : st.poisoned = false)
    (hw : ∀ wk ∈ st.workers, ∀ r ∈ wk.queue, Writable c.N c.format r) :
    step c st w = st ∨ ∃ wk, st.workers[w]? = some wk ∧
      ((∃ r rest, wk.pc = .idle ∧ wk.queue = r :: rest ∧ (c.guard = true → st.lock = none) ∧
          step c st w = { st with lock := if c.guard then some w else st.lock,
                                  workers := st.workers.set w { wk with pc := .locked } }) ∨
       (∃ r rest, wk.pc = .locked ∧ wk.queue = r :: rest ∧
          step c st w = setWorker st w
            { wk with pc := .writing [] (c.split (recordOf c.N c.format r)) (postOf c.N c.format r) }) ∨
       (∃ done p ps post, wk.pc = .writing done (p :: ps) post ∧
          step c st w = { st with file := st.file ++ [p],
                                  workers := st.workers.set w { wk with pc := .writing (done ++ [p]) ps post } }) ∨
       (∃ done post, wk.pc = .writing done [] post ∧
          step c st w = { st with iterations := st.iterations + 1,
                                  workers := st.workers.set w { wk with pc := .counted done.flatten post } }) ∨
       (∃ written post, wk.pc = .counted written post ∧
          step c st w = { st with lock := if c.guard then none else st.lock,
                                  workers := st.workers.set w ⟨wk.queue.tail, .idle,
                                      if c.persist then wk.returned ++ [post] else wk.returned⟩ })) := by
  cases hwk : st.workers[w]? with
  | none => exact .inl (by simp only [step, hwk])
  | some wk =>
    cases hpc : wk.pc with
    | dead => exact .inl (by simp only [step, hwk, hpc])
    | idle =>
      cases hqu : wk.queue with
      | nil => exact .inl (by simp only [step, hwk, hpc, hqu])
      | cons r rest =>
        cases hg : c.guard with
        | false =>
          exact .inr ⟨wk, rfl, .inl ⟨r, rest, hpc, hqu, fun h => Bool.noConfusion h,
            by simp only [step, hwk, hpc, hqu, hg, setWorker]; rfl⟩⟩
        | true =>
          cases hl : st.lock with
          | some i => exact .inl (by simp only [step, hwk, hpc, hqu, hg, hl, if_true])
          | none =>
            exact .inr ⟨wk, rfl, .inl ⟨r, rest, hpc, hqu, fun _ => rfl,
              by simp only [step, hwk, hpc, hqu, hg, hl, hpo, if_true, Bool.false_eq_true, if_false]⟩⟩
    | locked =>
      cases hqu : wk.queue with
      | nil => exact .inl (by simp only [step, hwk, hpc, hqu])
      | cons r rest =>
        have hf := formatResponse_of_writable
          (hw wk (List.mem_of_getElem? hwk) r (by rw [hqu]; exact List.mem_cons_self ..))
        exact .inr ⟨wk, rfl, .inr (.inl ⟨r, rest, hpc, hqu, by simp only [step, hwk, hpc, hqu, hf]; rfl⟩)⟩
    | writing done pend post =>
      cases pend with
      | cons p ps => exact .inr ⟨wk, rfl, .inr (.inr (.inl ⟨done, p, ps, post, hpc, by simp only [step, hwk, hpc]⟩))⟩
      | nil => exact .inr ⟨wk, rfl, .inr (.inr (.inr (.inl ⟨done, post, hpc, by simp only [step, hwk, hpc]⟩)))⟩
    | counted written post =>
      exact .inr ⟨wk, rfl, .inr (.inr (.inr (.inr ⟨written, post, hpc, by simp only [step, hwk, hpc]⟩)))⟩


/-- what the holder of the lock has done so far: `part` is the text of its record that is in the file already,
`bump` whether it has counted -/
def HolderOK (c : Config) (wk : Worker) (part : List Char) (bump : Nat) : Prop :=
  match wk.pc with
  | .locked => wk.queue ≠ [] ∧ part = [] ∧ bump = 0
  | .writing done pend post =>
    ∃ r rest row, wk.queue = r :: rest ∧ formatResponse c.N c.format r = .ok (row, post) ∧
      done ++ pend = c.split (record row) ∧ part = done.flatten ∧ bump = 0
  | .counted written post =>
    ∃ r rest row, wk.queue = r :: rest ∧ formatResponse c.N c.format r = .ok (row, post) ∧
      written = record row ∧ part = record row ∧ bump = 1
  | _ => False

theorem HolderOK.not_idle {c : Config} {wk : Worker} {part : List Char} {bump : Nat}
    (h : HolderOK c wk part bump) : isIdle wk.pc = false := by
  cases hpc : wk.pc with
  | idle => simp only [HolderOK, hpc] at h
  | _ => rfl

/-- the simulation relation between a small-step state and a state `A` of the atomic model: the atomic model
has done exactly the writes whose lock has been released -/
structure Sim (c : Config) (st : State) (A : Run) : Prop where
  queues : A.queues = st.workers.map (·.queue)
  returned : A.returned = st.workers.map (·.returned)
  format : A.sink.format = c.format
  healthy : A.sink.Healthy
  notPoisoned : st.poisoned = false
  failed : st.failed = 0 ∧ A.failed = 0
  state : ∃ part bump, A.sink.contents ++ part = st.contents ∧ A.sink.iterations + bump = st.iterations ∧
    (st.lock = none → part = [] ∧ bump = 0 ∧ ∀ (i : Nat) (wk : Worker), st.workers[i]? = some wk → wk.pc = PC.idle) ∧
    (∀ i, st.lock = some i → ∃ wk, st.workers[i]? = some wk ∧ HolderOK c wk part bump ∧
      ∀ (j : Nat) (wk' : Worker), j ≠ i → st.workers[j]? = some wk' → wk'.pc = PC.idle)

theorem init_sim (c : Config) (sink : FileSink) (queues : List (List Json)) (hf : sink.format = c.format)
    (hh : sink.Healthy) :
    Sim c (init sink.file sink.iterations queues) (Run.init sink queues) := by
  have e1 : queues = List.map (fun x => x.queue) (List.map (fun q => ({ queue := q } : Worker)) queues) := by
    rw [List.map_map]; exact (List.map_id _).symm
  have e2 : queues.map (fun _ => ([] : List Json))
      = List.map (fun x => x.returned) (List.map (fun q => ({ queue := q } : Worker)) queues) := by
    rw [List.map_map]; rfl
  refine ⟨e1, e2,
    hf, hh, rfl, ⟨rfl, rfl⟩, [], 0, by simp [State.contents, FileSink.contents, Run.init, init], rfl, ?_, ?_⟩
  · intro _
    refine ⟨rfl, rfl, ?_⟩
    intro i wk h
    simp only [init, List.getElem?_map] at h
    cases hq : queues[i]? with
    | none => simp [hq] at h
    | some q => simp [hq] at h; rw [← h]
  · intro i h; simp [init] at h

/-- a move of the worker `w` that holds (or takes) the lock and that the atomic model does not see: `w` keeps its
queue and what it has handed back, everybody else is outside `write_response`, and `part`, `bump` say what `w`
has put into the file and the counter so far -/
theorem Sim.holder {c : Config} {st : State} {A : Run} (h : Sim c st A) {w : Nat} {wk wk' : Worker}
    (hwk : st.workers[w]? = some wk)
    (hothers : ∀ (j : Nat) (x : Worker), j ≠ w → st.workers[j]? = some x → x.pc = PC.idle) (st' : State)
    (hworkers : st'.workers = st.workers.set w wk') (hq : wk'.queue = wk.queue)
    (hr : wk'.returned = wk.returned) (hlock : st'.lock = some w)
    (hpois : st'.poisoned = st.poisoned) (hfailed : st'.failed = st.failed) {part : List Char} {bump : Nat}
    (hcont : A.sink.contents ++ part = st'.contents) (hiter : A.sink.iterations + bump = st'.iterations)
    (hok : HolderOK c wk' part bump) : Sim c st' A := by
  refine ⟨?_, ?_, h.format, h.healthy, hpois ▸ h.notPoisoned, ⟨hfailed ▸ h.failed.1, h.failed.2⟩,
    part, bump, hcont, hiter, ?_, ?_⟩
  · rw [hworkers, map_set_same _ hwk hq]; exact h.queues
  · rw [hworkers, map_set_same _ hwk hr]; exact h.returned
  · intro hn; rw [hlock] at hn; cases hn
  · intro i hi
    rw [hlock] at hi; cases hi
    refine ⟨wk', by rw [hworkers]; exact List.getElem?_set_self (lt_of_getElem? hwk), hok, ?_⟩
    intro j x hj hx
    rw [hworkers, List.getElem?_set_ne (Ne.symm hj)] at hx
    exact hothers j x hj hx

/-- the move that releases the lock: worker `w` has written its whole record and counted it; the atomic model
writes the same response now, and nobody is inside `write_response` afterwards -/
theorem Sim.release {c : Config} {st : State} {A : Run} (h : Sim c st A) (hg : c.guard = true)
    (hw : ∀ r ∈ A.queues.flatten, Writable c.N c.format r) {w : Nat} {wk : Worker} {written row : List Char}
    {post r : Json} {rest : List Json} (hwk : st.workers[w]? = some wk) (hpc : wk.pc = .counted written post)
    (hqu : wk.queue = r :: rest) (hf : formatResponse c.N c.format r = .ok (row, post))
    (hothers : ∀ (j : Nat) (x : Worker), j ≠ w → st.workers[j]? = some x → x.pc = PC.idle)
    (hcont : A.sink.contents ++ record row = st.contents) (hiter : A.sink.iterations + 1 = st.iterations) :
    Sim c (step c st w) (A.step c.N c.persist w) := by
  have hAq : A.queues[w]? = some (r :: rest) := by
    rw [h.queues, List.getElem?_map, hwk]; simp [hqu]
  obtain ⟨s', hs', hfile', hit', hfmt', hh'⟩ := write_ok_of_writable c.N A.sink r h.healthy
    (h.format ▸ hw r (mem_flatten_of_head hAq))
  have hpost : postOf c.N A.sink.format r = post := by
    rw [h.format]
    exact (rowOf_postOf_of_ok hf).2
  have hrec : recordOf c.N A.sink.format r = record row := by
    rw [recordOf, h.format, (rowOf_postOf_of_ok hf).1]
  have hwlt := lt_of_getElem? hwk
  rw [Run.step_of_write c.persist hAq hs', hpost]
  simp only [step, hwk, hpc, hg, if_true]
  refine ⟨?_, ?_, by rw [hfmt', h.format], hh', h.notPoisoned, h.failed, [], 0, ?_, ?_, ?_, ?_⟩
  · simp only [h.queues, List.map_set, hqu, List.tail_cons]
  · cases hper : c.persist with
    | false =>
      simp only [Bool.false_eq_true, if_false]
      exact h.returned.trans (map_set_same (·.returned) hwk (a' := ⟨wk.queue.tail, .idle, wk.returned⟩) rfl).symm
    | true =>
      simp only [if_true, pushAt, h.returned]
      exact map_modify_eq_set (fun x : Worker => x.returned) _ hwk rfl
  · simp only [FileSink.contents, hfile', List.flatten_append, List.flatten_cons, List.flatten_nil,
      List.append_nil, hrec, State.contents]
    exact hcont
  · rw [hit']; exact hiter
  · intro _
    refine ⟨rfl, rfl, ?_⟩
    intro j wk' hj'
    by_cases hj : w = j
    · subst hj
      rw [List.getElem?_set_self hwlt] at hj'
      rw [← Option.some.inj hj']
    · rw [List.getElem?_set_ne hj] at hj'
      exact hothers j wk' (fun e => hj e.symm) hj'
  · intro j hj; cases hj

/-- under `Sim`, a worker that is not idle is the holder of the lock -/
theorem Sim.holder_of_not_idle {c : Config} {st : State} {A : Run} (h : Sim c st A) {w : Nat} {wk : Worker}
    (hwk : st.workers[w]? = some wk) (hpc : wk.pc ≠ .idle) :
    ∃ part bump, A.sink.contents ++ part = st.contents ∧ A.sink.iterations + bump = st.iterations ∧
      st.lock = some w ∧ HolderOK c wk part bump ∧
      ∀ (j : Nat) (x : Worker), j ≠ w → st.workers[j]? = some x → x.pc = PC.idle := by
  obtain ⟨part, bump, hcont, hiter, hfree, hheld⟩ := h.state
  cases hl : st.lock with
  | none => exact absurd ((hfree hl).2.2 w wk hwk) hpc
  | some i =>
    obtain ⟨wk₀, hki, hok, hothers⟩ := hheld i hl
    by_cases hwi : w = i
    · subst hwi
      obtain rfl : wk = wk₀ := Option.some.inj (hwk.symm.trans hki)
      exact ⟨part, bump, hcont, hiter, rfl, hok, hothers⟩
    · exact absurd (hothers w wk hwi hwk) hpc

/-- one small step is either invisible to the atomic model or — when the lock is released — its step of the
same worker -/
theorem step_sim (c : Config) (hg : c.guard = true) (hsplit : ∀ t, (c.split t).flatten = t)
    (st : State) (A : Run) (h : Sim c st A)
    (hw : ∀ r ∈ A.queues.flatten, Writable c.N c.format r) (w : Nat) :
    Sim c (step c st w) A ∨ Sim c (step c st w) (A.step c.N c.persist w) := by
  have hwq : ∀ wk ∈ st.workers, ∀ r ∈ wk.queue, Writable c.N c.format r := fun wk hwk r hr =>
    hw r (List.mem_flatten.2 ⟨_, by rw [h.queues]; exact List.mem_map.2 ⟨wk, hwk, rfl⟩, hr⟩)
  rcases step_cases c st w h.notPoisoned hwq with hstep | ⟨wk, hwk, hcase⟩
  · rw [hstep]; exact .inl h
  rcases hcase with ⟨r, rest, hpc, hqu, hlock, hstep⟩ | ⟨r, rest, hpc, hqu, hstep⟩ | ⟨done, p, ps, post, hpc, hstep⟩ |
    ⟨done, post, hpc, hstep⟩ | ⟨written, post, hpc, hstep⟩
  · -- nobody is inside: `w` takes the lock
    obtain ⟨part, bump, hcont, hiter, hfree, _⟩ := h.state
    obtain ⟨rfl, rfl, hidle⟩ := hfree (hlock hg)
    rw [hstep]
    exact .inl (h.holder hwk (fun j x _ hx => hidle j x hx) _ rfl rfl rfl (by simp [hg]) rfl rfl hcont hiter
      ⟨by rw [hqu]; exact List.cons_ne_nil r rest, rfl, rfl⟩)
  · -- the holder formats: nothing of the record is in the file yet
    obtain ⟨part, bump, hcont, hiter, hl, hok, hothers⟩ := h.holder_of_not_idle hwk (by rw [hpc]; exact PC.noConfusion)
    simp only [HolderOK, hpc] at hok
    obtain ⟨_, rfl, rfl⟩ := hok
    rw [hstep]
    exact .inl (h.holder hwk hothers _ rfl rfl rfl hl rfl rfl hcont hiter
      ⟨r, rest, _, hqu, formatResponse_of_writable (hwq wk (List.mem_of_getElem? hwk) r (by rw [hqu]; exact List.mem_cons_self ..)), rfl, rfl, rfl⟩)
  · obtain ⟨part, bump, hcont, hiter, hl, hok, hothers⟩ := h.holder_of_not_idle hwk (by rw [hpc]; exact PC.noConfusion)
    simp only [HolderOK, hpc] at hok
    obtain ⟨r, rest, row, hqu, hf, hsp, rfl, rfl⟩ := hok
    -- one more piece lands: it joins the part of the record that is in the file
    rw [hstep]
    refine .inl (h.holder hwk hothers _ rfl rfl rfl hl rfl rfl (part := (done ++ [p]).flatten) ?_ hiter
      ⟨r, rest, row, hqu, hf, by rw [← hsp]; simp, rfl, rfl⟩)
    simp only [State.contents, List.flatten_append, ← List.append_assoc, hcont]
  · obtain ⟨part, bump, hcont, hiter, hl, hok, hothers⟩ := h.holder_of_not_idle hwk (by rw [hpc]; exact PC.noConfusion)
    simp only [HolderOK, hpc] at hok
    obtain ⟨r, rest, row, hqu, hf, hsp, rfl, rfl⟩ := hok
    -- all pieces are out: they make up the whole record, which is counted now
    have hwhole : done.flatten = record row := by rw [← hsplit (record row), ← hsp, List.append_nil]
    rw [hstep]
    exact .inl (h.holder hwk hothers _ rfl rfl rfl hl rfl rfl (hwhole ▸ hcont) (by simpa using hiter)
      ⟨r, rest, row, hqu, hf, hwhole, rfl, rfl⟩)
  · obtain ⟨part, bump, hcont, hiter, hl, hok, hothers⟩ := h.holder_of_not_idle hwk (by rw [hpc]; exact PC.noConfusion)
    simp only [HolderOK, hpc] at hok
    obtain ⟨r, rest, row, hqu, hf, _, rfl, rfl⟩ := hok
    -- the lock is released: the atomic model writes the same response now
    exact .inr (h.release hg hw hwk hpc hqu hf hothers hcont hiter)


/-- the refinement: whatever the interleaving of the small steps, the guarded code is in a state the atomic model
reaches under some schedule of its own (the order in which the lock was released) -/
theorem exec_sim (c : Config) (hg : c.guard = true) (hsplit : ∀ t, (c.split t).flatten = t)
    (schedule : List Nat) (st : State) (A : Run) (h : Sim c st A)
    (hw : ∀ r ∈ A.queues.flatten, Writable c.N c.format r) :
    ∃ atomic : List Nat, Sim c (exec c st schedule) (A.exec c.N c.persist atomic) := by
  obtain ⟨as, has, _⟩ := foldl_stutter (step c) (Run.step c.N c.persist)
    (fun st A => Sim c st A ∧ ∀ r ∈ A.queues.flatten, Writable c.N c.format r)
    (fun st A w ⟨h, hw⟩ => (step_sim c hg hsplit st A h hw w).imp (⟨·, hw⟩)
      (⟨·, fun r hr => hw r (mem_flatten_drainStep _ w r (step_queues .. ▸ hr))⟩))
    schedule st A ⟨h, hw⟩
  exact ⟨as, has⟩

theorem sim_unlocked (c : Config) (st : State) (A : Run) (h : Sim c st A) (hl : st.lock = none) :
    st.contents = A.sink.contents ∧ st.iterations = A.sink.iterations := by
  obtain ⟨part, bump, hcont, hiter, hfree, _⟩ := h.state
  obtain ⟨hp, hb, _⟩ := hfree hl
  rw [hp, List.append_nil] at hcont
  rw [hb] at hiter
  exact ⟨hcont.symm, hiter.symm⟩

theorem finished_unlocked (c : Config) (st : State) (A : Run) (h : Sim c st A) (hf : st.finished = true) :
    st.lock = none ∧ A.done = true := by
  have hall : ∀ wk ∈ st.workers, isIdle wk.pc = true ∧ wk.queue = [] := by
    intro wk hwk
    have := List.all_eq_true.1 hf wk hwk
    simpa using this
  constructor
  · cases hl : st.lock with
    | none => rfl
    | some i =>
      obtain ⟨part, bump, _, _, _, hheld⟩ := h.state
      obtain ⟨wk, hwk, hok, _⟩ := hheld i hl
      have := (hall wk (List.mem_of_getElem? hwk)).1
      rw [hok.not_idle] at this
      cases this
  · unfold Run.done
    rw [h.queues, List.all_eq_true]
    intro q hqm
    obtain ⟨wk, hwk, rfl⟩ := List.mem_map.1 hqm
    simp [(hall wk hwk).2]

/-! ### without a common lock: records stay whole when each goes out in one `write` call -/

/-- the responses of a worker whose record is not in the file yet -/
def pendingOf (wk : Worker) : List Json :=
  match wk.pc with
  | .writing (_ :: _) _ _ => wk.queue.tail
  | .counted _ _ => wk.queue.tail
  | _ => wk.queue

/-- with one `write` call per record a worker inside `write_response` has either its whole record still to
write (`writing [] [record]`) or all of it written (`writing [record] []`) -/
def PcOK (c : Config) (wk : Worker) : Prop :=
  match wk.pc with
  | .writing [] pend _ => ∃ r rest, wk.queue = r :: rest ∧ pend = [recordOf c.N c.format r]
  | .writing (_ :: _) pend _ => pend = []
  | _ => True

/-- the simulation relation of this section: the atomic run `A` has written exactly the records that are in the file
(the atomic model writes a response at the very step at which the small-step model lets its record land), and its
queues hold the responses whose record is not in the file yet (`pendingOf`) -/
structure SimW (c : Config) (st : State) (A : Run) : Prop where
  file : A.sink.file = st.file
  format : A.sink.format = c.format
  healthy : A.sink.Healthy
  queues : A.queues = st.workers.map pendingOf
  notPoisoned : st.poisoned = false
  pcs : ∀ wk ∈ st.workers, PcOK c wk
  writable : ∀ wk ∈ st.workers, ∀ r ∈ wk.queue, Writable c.N c.format r

/-- worker `w` replaced, by a worker in a proper state whose queue holds nothing new; `st'` and `A'` agree on file and
pending responses -/
theorem SimW.replace {c : Config} {st st' : State} {A A' : Run} (h : SimW c st A) {w : Nat} {wk wk' : Worker}
    (hwk : st.workers[w]? = some wk) (hpc : PcOK c wk') (hq : ∀ r ∈ wk'.queue, r ∈ wk.queue)
    (hst : st'.workers = st.workers.set w wk') (hpo : st'.poisoned = st.poisoned)
    (hfile : A'.sink.file = st'.file) (hfmt : A'.sink.format = c.format) (hh : A'.sink.Healthy)
    (hqueues : A'.queues = st'.workers.map pendingOf) : SimW c st' A' := by
  refine ⟨hfile, hfmt, hh, hqueues, hpo ▸ h.notPoisoned, ?_, ?_⟩
  · intro x hx; rw [hst] at hx
    rcases List.mem_or_eq_of_mem_set hx with hx | rfl
    · exact h.pcs x hx
    · exact hpc
  · intro x hx r hr; rw [hst] at hx
    rcases List.mem_or_eq_of_mem_set hx with hx | rfl
    · exact h.writable x hx r hr
    · exact h.writable wk (List.mem_of_getElem? hwk) r (hq r hr)

/-- a step that replaces worker `w` and leaves file and pending responses as they were is invisible to `A` -/
theorem SimW.set {c : Config} {st : State} {A : Run} (h : SimW c st A) {w : Nat} {wk wk' : Worker}
    (hwk : st.workers[w]? = some wk) (hpc : PcOK c wk') (hq : ∀ r ∈ wk'.queue, r ∈ wk.queue)
    (hpend : pendingOf wk' = pendingOf wk) (st' : State) (hst : st'.workers = st.workers.set w wk')
    (hfile : st'.file = st.file) (hpo : st'.poisoned = st.poisoned) : SimW c st' A :=
  h.replace hwk hpc hq hst hpo (h.file.trans hfile.symm) h.format h.healthy
    (by rw [hst, map_set_same pendingOf hwk hpend]; exact h.queues)

/-- for ANY lock discipline (`guard` true or false — several sinks on one file have separate locks, which is no
common lock) and one `write` call per record: a small step is invisible to the atomic model or — when the record
lands — its step of the same worker -/
theorem stepW_sim (c : Config) (hone : c.split = oneCall) (st : State) (A : Run) (h : SimW c st A) (w : Nat) :
    SimW c (step c st w) A ∨ SimW c (step c st w) (A.step c.N false w) := by
  rcases step_cases c st w h.notPoisoned h.writable with hstep | ⟨wk, hwk, hcase⟩
  · rw [hstep]; exact .inl h
  have hpcw := h.pcs wk (List.mem_of_getElem? hwk)
  rcases hcase with ⟨r, rest, hpc, hqu, _, hstep⟩ | ⟨r, rest, hpc, hqu, hstep⟩ | ⟨done, p, ps, post, hpc, hstep⟩ |
    ⟨done, post, hpc, hstep⟩ | ⟨written, post, hpc, hstep⟩ <;> rw [hstep]
  · exact .inl (h.set hwk (wk' := { wk with pc := .locked }) (by simp [PcOK]) (fun r hr => hr)
      (by simp [pendingOf, hpc]) _ rfl rfl rfl)
  · rw [hone]
    exact .inl (h.set hwk
      (wk' := { wk with pc := .writing [] [recordOf c.N c.format r] (postOf c.N c.format r) })
      (by simp only [PcOK]; exact ⟨r, rest, hqu, rfl⟩) (fun r hr => hr) (by simp [pendingOf, hpc]) _ rfl rfl rfl)
  · -- the one step that writes: with one call per record nothing of it is in the file yet (`done = []`), the piece is
    -- the whole record of the response at the head of the queue, and the atomic model writes that response now
    cases done with
    | cons d ds => simp [PcOK, hpc] at hpcw
    | nil =>
      simp only [PcOK, hpc] at hpcw
      obtain ⟨r, rest, hqu, hpend⟩ := hpcw
      obtain ⟨rfl, rfl⟩ := List.cons.inj hpend
      have hAq : A.queues[w]? = some (r :: rest) := by
        rw [h.queues, List.getElem?_map, hwk]; simp [pendingOf, hpc, hqu]
      obtain ⟨s', hs', hfile', _, hfmt', hh'⟩ := write_ok_of_writable c.N A.sink r h.healthy
        (h.format ▸ h.writable wk (List.mem_of_getElem? hwk) r (by rw [hqu]; exact List.mem_cons_self ..))
      rw [Run.step_of_write false hAq hs']
      refine .inr (h.replace hwk (wk' := { wk with pc := .writing [recordOf c.N c.format r] [] post })
        (by simp [PcOK]) (fun r hr => hr) rfl rfl ?_ (hfmt'.trans h.format) hh' ?_)
      · simp only [hfile', h.file, h.format]
      · simp [h.queues, List.map_set, pendingOf, hqu]
  · cases done with
    | nil =>
      simp only [PcOK, hpc] at hpcw
      obtain ⟨_, _, _, hbad⟩ := hpcw
      simp at hbad
    | cons d ds =>
      exact .inl (h.set hwk (wk' := { wk with pc := .counted (d :: ds).flatten post })
        (by simp [PcOK]) (fun r hr => hr) (by simp [pendingOf, hpc]) _ rfl rfl rfl)
  · exact .inl (h.set hwk
      (wk' := ⟨wk.queue.tail, .idle, if c.persist then wk.returned ++ [post] else wk.returned⟩)
      (by simp [PcOK]) (fun r hr => List.mem_of_mem_tail hr) (by simp [pendingOf, hpc]) _ rfl rfl rfl)


theorem init_simW (c : Config) (sink : FileSink) (queues : List (List Json)) (hf : sink.format = c.format)
    (hh : sink.Healthy) (hw : ∀ r ∈ queues.flatten, Writable c.N c.format r) :
    SimW c (init sink.file sink.iterations queues) (Run.init sink queues) := by
  refine ⟨rfl, hf, hh, ?_, rfl, ?_, ?_⟩
  · simp only [init, Run.init, List.map_map]
    exact (List.map_id _).symm
  · intro wk hwk
    obtain ⟨q, _, rfl⟩ := List.mem_map.1 hwk
    simp [PcOK]
  · intro wk hwk r hr
    obtain ⟨q, hq, rfl⟩ := List.mem_map.1 hwk
    exact hw r (List.mem_flatten.2 ⟨q, hq, hr⟩)

theorem execW_sim (c : Config) (hone : c.split = oneCall) (schedule : List Nat) (st : State) (A : Run)
    (h : SimW c st A) : ∃ atomic : List Nat, SimW c (exec c st schedule) (A.exec c.N false atomic) :=
  foldl_stutter (step c) (Run.step c.N false) (SimW c) (fun st A w h => stepW_sim c hone st A h w) schedule st A h

theorem finished_pending_nil (st : State) (hf : st.finished = true) : (st.workers.map pendingOf).flatten = [] := by
  refine flatten_map_eq_nil fun wk hwk => ?_
  have := List.all_eq_true.1 hf wk hwk
  simp only [Bool.and_eq_true, List.isEmpty_iff] at this
  cases hpc : wk.pc with
  | idle => simp [pendingOf, hpc, this.2]
  | _ => simp [isIdle, hpc] at this

/-! ### creating the file -/

/-- the file only grows: `f'` holds everything `f` holds, in place -/
def Extends (f f' : Option (List (List Char))) : Prop :=
  ∀ ps, f = some ps → ∃ extra, f' = some (ps ++ extra)

theorem extends_refl (f : Option (List (List Char))) : Extends f f := fun ps h => ⟨[], by simp [h]⟩

theorem extends_trans {a b c : Option (List (List Char))} (h1 : Extends a b) (h2 : Extends b c) : Extends a c := by
  intro ps h
  obtain ⟨e1, h1'⟩ := h1 ps h
  obtain ⟨e2, h2'⟩ := h2 _ h1'
  exact ⟨e1 ++ e2, by rw [h2', List.append_assoc]⟩

theorem openStep_extends (header : List Char) (st : OpenState) (i : Nat) :
    Extends st.file (openStep false header st i).file := by
  cases ho : st.openers[i]? with
  | none => simp only [openStep, ho]; exact extends_refl _
  | some o =>
    cases hpc : o.pc with
    | start =>
      cases hf : st.file with
      | none => intro ps h; cases h
      | some f => simp only [openStep, ho, hpc, hf, Bool.false_eq_true, if_false]; exact extends_refl _
    | sawMissing => simp only [openStep, ho, hpc, Bool.false_eq_true, if_false]; exact extends_refl _
    | created =>
      simp only [openStep, ho, hpc]
      intro ps h
      exact ⟨[header], by simp [h]⟩
    | opened =>
      cases hr : o.records with
      | nil => simp only [openStep, ho, hpc, hr]; exact extends_refl _
      | cons r rest =>
        simp only [openStep, ho, hpc, hr]
        intro ps h
        exact ⟨[r], by simp [h]⟩

/-- sinks that create the file with `create_new` (`checkThenWrite = false`) never truncate: whatever sinks open the
path and append in whatever interleaving, every piece that was in the file stays there, in place -/
theorem openExec_extends (header : List Char) (schedule : List Nat) (st : OpenState) :
    Extends st.file (openExec false header st schedule).file := by
  induction schedule generalizing st with
  | nil => exact extends_refl _
  | cons i is ih => exact extends_trans (openStep_extends header st i) (ih _)

end SinkFine
end Compass
