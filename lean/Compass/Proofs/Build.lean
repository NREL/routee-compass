/-
What the builders of `Model/Build.lean` accept and what they hand over: the speed table, unit and turn
names, edge headings, the turn-delay builder, vehicle parameters, the termination builder.  (The
inversions of `speedLookupBuild`, `roadClassBuild` and `toRestriction` stand with their users in
`Props/C02`, `Props/C04`, the reading of `delayTableOfJson` in `Props/C03` over the slot lemmas here; the
other builders of the model file have no theorem.)  Every loader of a file or array is `allSome` of a row
parser (`allSome_iff`: `Forall₂`, with views by index and by membership); every `ofName?` finds a value
exactly under its serde name (`find?_name_iff`).
-/
import Compass.Proofs.AssocList
import Compass.Proofs.Units
import Compass.Model.Build
import Compass.Proofs.TermModel

set_option linter.unusedSectionVars false

namespace Compass
namespace Build

/-! ### `allSome`: reading a list element by element -/

theorem allSome_iff {β γ : Type} (f : β → Option γ) :
    ∀ (xs : List β) (ys : List γ), allSome f xs = some ys ↔ List.Forall₂ (fun x y => f x = some y) xs ys
  | [], ys => by
    cases ys <;> simp [allSome]
  | x :: xs, ys => by
    cases ys with
    | nil =>
      simp only [allSome]
      constructor
      · intro h; split at h <;> simp at h
      · intro h; cases h
    | cons y ys =>
      simp only [allSome, List.forall₂_cons]
      rw [← allSome_iff f xs ys]
      cases hf : f x <;> cases ha : allSome f xs <;> simp

theorem allSome_length {β γ : Type} {f : β → Option γ} {xs : List β} {ys : List γ}
    (h : allSome f xs = some ys) : ys.length = xs.length :=
  ((allSome_iff f xs ys).1 h).length_eq.symm

theorem allSome_mem {β γ : Type} {f : β → Option γ} {xs : List β} {ys : List γ}
    (h : allSome f xs = some ys) :
    (∀ x ∈ xs, ∃ y ∈ ys, f x = some y) ∧ (∀ y ∈ ys, ∃ x ∈ xs, f x = some y) := by
  have h2 := (allSome_iff f xs ys).1 h
  clear h
  induction h2 with
  | nil => simp
  | cons hxy _ ih =>
    simp only [List.forall_mem_cons, List.exists_mem_cons_iff]
    exact ⟨⟨.inl hxy, fun a ha => .inr (ih.1 a ha)⟩, ⟨.inl hxy, fun b hb => .inr (ih.2 b hb)⟩⟩

theorem allSome_getElem? {β γ : Type} {f : β → Option γ} {xs : List β} {ys : List γ}
    (h : allSome f xs = some ys) (i : Nat) :
    (∀ x, xs[i]? = some x → ∃ y, f x = some y ∧ ys[i]? = some y) ∧
    (∀ y, ys[i]? = some y → ∃ x, xs[i]? = some x ∧ f x = some y) := by
  have h2 := (allSome_iff f xs ys).1 h
  clear h
  induction h2 generalizing i with
  | nil => exact ⟨(fun _ h => nomatch h), (fun _ h => nomatch h)⟩
  | cons hxy _ ih =>
    cases i with
    | zero =>
      simp only [List.getElem?_cons_zero, Option.some.injEq]
      exact ⟨fun _ hx => ⟨_, hx ▸ hxy, rfl⟩, fun _ hy => ⟨_, rfl, hy ▸ hxy⟩⟩
    | succ k => exact ih k

theorem allSome_none_iff {β γ : Type} (f : β → Option γ) (xs : List β) :
    allSome f xs = none ↔ ∃ x ∈ xs, f x = none := by
  induction xs with
  | nil => simp [allSome]
  | cons x xs ih =>
    rw [List.exists_mem_cons_iff, ← ih, allSome]
    cases f x <;> cases allSome f xs <;> simp

/-! ### The speed table and its maximum -/

section
variable {α : Type} [Field α] [LinearOrder α] [Lit α] [LawfulLit α]

/-- `maxFold_spec` for any start `(a, n)` of the fold (the induction needs the accumulator general): the
running maximum is `a` or a row, bounds `a` and every row, and the count grows by the number of rows -/
theorem maxFold_spec_from (table : List α) : ∀ (a : α) (n : Nat),
    let r := table.foldl (fun (acc : α × Nat) row => (if row < acc.1 then acc.1 else row, acc.2 + 1)) (a, n)
    a ≤ r.1 ∧ (∀ s ∈ table, s ≤ r.1) ∧ (r.1 = a ∨ r.1 ∈ table) ∧ r.2 = n + table.length := by
  induction table with
  | nil => intro a n; simp
  | cons x xs ih =>
    intro a n
    simp only [List.foldl_cons]
    obtain ⟨h1, h2, h3, h4⟩ := ih (if x < a then a else x) (n + 1)
    have hle : a ≤ (if x < a then a else x) ∧ x ≤ (if x < a then a else x) := by
      split
      · exact ⟨le_refl _, le_of_lt ‹_›⟩
      · exact ⟨not_lt.mp ‹_›, le_refl _⟩
    refine ⟨le_trans hle.1 h1, ?_, ?_, ?_⟩
    · intro s hs
      rcases List.mem_cons.mp hs with rfl | hs
      · exact le_trans hle.2 h1
      · exact h2 s hs
    · rcases h3 with h3 | h3
      · rw [h3]
        split
        · left; rfl
        · right; exact List.mem_cons_self ..
      · right; exact List.mem_cons_of_mem _ h3
    · rw [h4]; simp; omega

/-- the fold of `get_max_speed` returns the maximum of `0` and the rows, and the number of rows -/
theorem maxFold_spec (table : List α) :
    0 ≤ (maxFold table).1 ∧ (∀ s ∈ table, s ≤ (maxFold table).1) ∧
      ((maxFold table).1 = 0 ∨ (maxFold table).1 ∈ table) ∧ (maxFold table).2 = table.length := by
  obtain ⟨h1, h2, h3, h4⟩ := maxFold_spec_from table (zero : α) 0
  refine ⟨le_trans (le_of_eq zero_eq.symm) h1, h2, h3.imp (fun h => h.trans zero_eq) id, ?_⟩
  have : (maxFold table).2 = 0 + table.length := h4
  omega

/-- `get_max_speed` by cases: no rows; no positive row; otherwise the maximum of the rows -/
theorem getMaxSpeed_eq (table : List α) :
    getMaxSpeed table =
      if table = [] then .error .empty
      else if (maxFold table).1 = 0 then .error .zero else .ok (maxFold table).1 := by
  -- the fold counts the rows, so its test `count = 0` is `table = []`
  have hcount : (maxFold table).2 = table.length := (maxFold_spec table).2.2.2
  unfold getMaxSpeed
  simp only [hcount, List.length_eq_zero_iff, beq_iff_eq, zero_eq]

/-- `get_max_speed` answers with `m` exactly when `m` is a positive entry of the table that no
entry exceeds -/
theorem getMaxSpeed_ok_iff (table : List α) (m : α) :
    getMaxSpeed table = .ok m ↔ (m ∈ table ∧ 0 < m ∧ ∀ s ∈ table, s ≤ m) := by
  obtain ⟨h1, h2, h3, -⟩ := maxFold_spec table
  rw [getMaxSpeed_eq]
  generalize (maxFold table).1 = r at *
  constructor
  · intro h
    split_ifs at h with he hz
    cases h
    exact ⟨h3.resolve_left hz, lt_of_le_of_ne h1 (Ne.symm hz), h2⟩
  · rintro ⟨hm, hpos, hall⟩
    -- `0 < m ≤ r`, so `r` is an entry of the table and `r ≤ m`
    have hr : r = m :=
      h3.elim (fun h0 => absurd (h0 ▸ h2 m hm) (not_le.2 hpos))
        (fun hr => le_antisymm (hall _ hr) (h2 m hm))
    rw [if_neg (List.ne_nil_of_mem hm), hr, if_neg (ne_of_gt hpos)]

theorem getMaxSpeed_empty_iff (table : List α) : getMaxSpeed table = .error .empty ↔ table = [] := by
  rw [getMaxSpeed_eq]
  split_ifs <;> simp [*]

theorem getMaxSpeed_zero_iff (table : List α) :
    getMaxSpeed table = .error .zero ↔ (table ≠ [] ∧ ∀ s ∈ table, s ≤ 0) := by
  obtain ⟨h1, h2, h3, -⟩ := maxFold_spec table
  rw [getMaxSpeed_eq]
  generalize (maxFold table).1 = r at *
  by_cases he : table = []
  · simp [he]
  · rw [if_neg he]
    constructor
    · intro h
      split_ifs at h with hz
      exact ⟨he, fun s hs => hz ▸ h2 s hs⟩
    · rintro ⟨-, hall⟩
      rw [if_pos (h3.elim id (fun hr => le_antisymm (hall _ hr) h1))]

theorem getMaxSpeed_error_kind {table : List α} {k : BErr} (h : getMaxSpeed table = .error k) :
    k = .empty ∨ k = .zero := by
  rw [getMaxSpeed_eq] at h
  split_ifs at h <;> cases h <;> simp

/-- `Speed::from_str` accepts exactly the numbers that are not negative -/
theorem parseSpeed_iff (r : NumRow α) (x : α) : parseSpeed r = some x ↔ (r = .val x ∧ 0 ≤ x) := by
  cases r with
  | val y =>
    simp only [parseSpeed, zero_eq]
    constructor
    · intro h
      split at h
      · cases h
      · injection h with h; subst h; exact ⟨rfl, not_lt.mp ‹_›⟩
    · rintro ⟨h, hx⟩
      injection h with h; subst h
      rw [if_neg (not_lt.mpr hx)]
  | nan => simp [parseSpeed]
  | junk => simp [parseSpeed]

/-- `SpeedTraversalEngine::new` on a readable file, the unit defaults written with `getD` -/
theorem speedEngineNew_some (rows : List (NumRow α)) (su : SpeedUnit)
    (duOpt : Option DistanceUnit) (tuOpt : Option TimeUnit) :
    speedEngineNew (some rows) su duOpt tuOpt =
      match allSome parseSpeed rows with
      | none => .error .read
      | some table =>
        match getMaxSpeed table with
        | .error e => .error e
        | .ok mx => .ok { table := table, speedUnit := su, timeUnit := tuOpt.getD baseTimeUnit,
                          distanceUnit := duOpt.getD baseDistanceUnit, maxSpeed := mx } := by
  unfold speedEngineNew
  cases tuOpt <;> cases duOpt <;> rfl

/-- what `SpeedTraversalEngine::new` returns, field by field -/
theorem speedEngineNew_ok_iff (file : Option (List (NumRow α))) (su : SpeedUnit)
    (duOpt : Option DistanceUnit) (tuOpt : Option TimeUnit) (e : SpeedEngine α) :
    speedEngineNew file su duOpt tuOpt = .ok e ↔
      ∃ rows, file = some rows ∧ allSome parseSpeed rows = some e.table ∧
        getMaxSpeed e.table = .ok e.maxSpeed ∧ e.speedUnit = su ∧
        e.timeUnit = tuOpt.getD baseTimeUnit ∧ e.distanceUnit = duOpt.getD baseDistanceUnit := by
  cases file with
  | none => simp [speedEngineNew]
  | some rows =>
    rw [speedEngineNew_some]
    simp only [Option.some.injEq, exists_eq_left']
    cases hp : allSome parseSpeed rows with
    | none => simp
    | some table =>
      cases hm : getMaxSpeed table with
      | error k =>
        simp only [hm, reduceCtorEq, false_iff, not_and, Option.some.injEq]
        rintro rfl h2
        rw [hm] at h2
        cases h2
      | ok mx =>
        simp only [hm, Except.ok.injEq, Option.some.injEq]
        constructor
        · rintro rfl
          exact ⟨rfl, hm, rfl, rfl, rfl⟩
        · rintro ⟨rfl, hmx, h1, h2, h3⟩
          rw [hm] at hmx
          cases e
          cases hmx
          simp only at h1 h2 h3
          subst h1 h2 h3
          rfl

/-- the errors of `SpeedTraversalEngine::new`: an unreadable file or a row that is not a non-negative
number (`read`); no rows (`empty`); no positive row (`zero`).  With `speedEngineNew_ok_iff` every
input is classified. -/
theorem speedEngineNew_errors (su : SpeedUnit) (duOpt : Option DistanceUnit) (tuOpt : Option TimeUnit) :
    (speedEngineNew (α := α) none su duOpt tuOpt = .error .read) ∧
    (∀ rows : List (NumRow α), (∃ r ∈ rows, parseSpeed r = none) →
      speedEngineNew (some rows) su duOpt tuOpt = .error .read) ∧
    (speedEngineNew (α := α) (some []) su duOpt tuOpt = .error .empty) ∧
    (∀ (rows : List (NumRow α)) (table : List α), allSome parseSpeed rows = some table → table ≠ [] →
      (∀ s ∈ table, s ≤ 0) → speedEngineNew (some rows) su duOpt tuOpt = .error .zero) := by
  refine ⟨rfl, ?_, ?_, ?_⟩
  · intro rows h
    rw [speedEngineNew_some, (allSome_none_iff parseSpeed rows).2 h]
  · rw [speedEngineNew_some]
    simp only [allSome]
    rw [(getMaxSpeed_empty_iff ([] : List α)).2 rfl]
  · intro rows table hp hne hall
    rw [speedEngineNew_some, hp]
    simp only
    rw [(getMaxSpeed_zero_iff table).2 ⟨hne, hall⟩]

end

/-! ### Unit and turn names -/

theorem distanceUnit_ofName_iff (s : String) (u : DistanceUnit) : DistanceUnit.ofName? s = some u ↔ s = u.name :=
  find?_name_iff (C09.distance_unit_of_name_name u) s

theorem weightUnit_ofName_iff (s : String) (u : WeightUnit) : WeightUnit.ofName? s = some u ↔ s = u.name :=
  find?_name_iff (C09.weight_unit_of_name_name u) s

theorem timeUnit_ofName_iff (s : String) (u : TimeUnit) : TimeUnit.ofName? s = some u ↔ s = u.name :=
  find?_name_iff (C09.time_unit_of_name_name u) s

theorem turn_ofName_iff (s : String) (u : Turn) : Turn.ofName? s = some u ↔ s = u.name :=
  find?_name_iff (by cases u <;> decide) s

theorem turn_name_inj {a b : Turn} (h : a.name = b.name) : a = b :=
  Option.some.inj (((turn_ofName_iff _ a).2 rfl).symm.trans ((turn_ofName_iff _ b).2 h))

/-! ### Edge headings -/

theorem inRange_some_iff (c : IntCell) (lo hi z : Int) :
    c.inRange lo hi = some z ↔ (c = .int z ∧ lo ≤ z ∧ z ≤ hi) := by
  cases c with
  | int y =>
    simp only [IntCell.inRange]
    constructor
    · intro h
      split at h
      · injection h with h; subst h; exact ⟨rfl, ‹_›⟩
      · cases h
    · rintro ⟨h, h2⟩
      injection h with h; subst h
      rw [if_pos h2]
  | empty => simp [IntCell.inRange]
  | junk => simp [IntCell.inRange]

theorem i16_some_iff (c : IntCell) (z : Int) :
    c.i16 = some z ↔ (c = .int z ∧ -32768 ≤ z ∧ z ≤ 32767) := inRange_some_iff c _ _ z

/-- a record gives a heading exactly when its first cell is an `i16` and its second is empty or an `i16` -/
theorem parseHeading_iff (l : HeadLine) (a : Int) (d : Option Int) :
    parseHeading l = some (a, d) ↔
      ∃ dc, l = .row (.int a) dc ∧ (-32768 ≤ a ∧ a ≤ 32767) ∧
        ((dc = .empty ∧ d = none) ∨ ∃ dv, dc = .int dv ∧ (-32768 ≤ dv ∧ dv ≤ 32767) ∧ d = some dv) := by
  constructor
  · intro h
    cases l with
    | short => cases h
    | row ac dc =>
      simp only [parseHeading] at h
      split at h
      · cases h
      · rename_i av hav
        obtain ⟨rfl, hr⟩ := (i16_some_iff _ _).1 hav
        split at h
        · cases h; exact ⟨_, rfl, hr, .inl ⟨rfl, rfl⟩⟩
        · split at h
          · rename_i dv hdv
            obtain ⟨rfl, hr'⟩ := (i16_some_iff _ _).1 hdv
            cases h; exact ⟨_, rfl, hr, .inr ⟨_, rfl, hr', rfl⟩⟩
          · cases h
  · rintro ⟨dc, rfl, hr, ⟨rfl, rfl⟩ | ⟨dv, rfl, hr', rfl⟩⟩
    · simp only [parseHeading, (i16_some_iff _ _).2 ⟨rfl, hr⟩]
    · simp only [parseHeading, (i16_some_iff _ _).2 ⟨rfl, hr⟩, (i16_some_iff _ _).2 ⟨rfl, hr'⟩]
/-- with the two columns named, a headings file is read record by record (an empty file gives no headings
either way) -/
theorem loadHeadings_true (lines : List HeadLine) :
    loadHeadings true lines = allSome parseHeading lines := by
  cases lines with
  | nil => rfl
  | cons l ls => rfl

/-- when the header does not name the two columns, only a file without records loads -/
theorem loadHeadings_false {lines : List HeadLine} (hne : lines ≠ []) : loadHeadings false lines = none := by
  cases lines with
  | nil => exact absurd rfl hne
  | cons l ls => rfl

/-! ### The slot of a turn in the delay table -/

theorem turn_all_getElem : ∀ t : Turn, Turn.all[t.toNat]? = some t := by
  intro t; cases t <;> rfl

theorem turn_toNat_inj (a b : Turn) (h : a.toNat = b.toNat) : a = b :=
  Option.some.inj ((turn_all_getElem a).symm.trans (h ▸ turn_all_getElem b))

/-! ### The turn-delay builder -/

section
variable {α : Type} [Field α] [LinearOrder α] [Lit α] [LawfulLit α]

theorem hasNegativeDelay_false {ds : List (Option α)} (h : hasNegativeDelay ds = false) :
    ∀ x, some x ∈ ds → 0 ≤ x := by
  intro x hx
  by_contra hlt
  have : hasNegativeDelay ds = true := by
    unfold hasNegativeDelay
    rw [List.any_eq_true]
    exact ⟨some x, hx, by simpa [zero_eq] using hlt⟩
  rw [h] at this
  cases this

/-- what `TurnDelayAccessModelBuilder::build` hands over is the file's headings, the configured
table and unit, and the configured (or default `time`) feature name — nothing else is accepted; and
no delay of the table is negative (the builder refuses such a table) -/
theorem turnDelayBuild_ok (dec : Nat → α) (cfg : Json) (headerOk : Bool) (file : Option (List HeadLine))
    (b : TurnDelayBuilt α) (h : turnDelayBuild dec cfg headerOk file = .ok b) :
    ∃ lines hs m tu ds, file = some lines ∧ loadHeadings headerOk lines = some hs ∧
      cfg.get? "turn_delay_model" = some m ∧ turnDelayModelOfJson dec m = some (tu, ds) ∧
      b.model = .turnDelay tu hs ds ∧ (∀ x, some x ∈ ds → 0 ≤ x) ∧
      ((cfg.get? "time_feature_name" = none ∧ b.featureName = "time") ∨
        cfg.get? "time_feature_name" = some (.str b.featureName)) := by
  unfold turnDelayBuild at h
  split at h
  · cases h
  · split at h
    · cases h
    · rename_i lines _
      split at h
      · cases h
      · rename_i hs hhs
        split at h
        · cases h
        · rename_i m hm
          split at h
          · cases h
          · rename_i tu ds htd
            split at h
            · cases h
            · rename_i hneg
              have hnn := hasNegativeDelay_false (Bool.eq_false_iff.2 hneg)
              split at h
              · rename_i hn
                injection h with h; subst h
                exact ⟨lines, hs, m, tu, ds, rfl, hhs, hm, htd, rfl, hnn, Or.inl ⟨hn, rfl⟩⟩
              · rename_i s hn
                injection h with h; subst h
                exact ⟨lines, hs, m, tu, ds, rfl, hhs, hm, htd, rfl, hnn, Or.inr hn⟩
              · cases h

end

/-! ### Vehicle parameters of a query -/

/-- a unit is read exactly under its serde name; `h` is the unit family's `…_ofName_iff` -/
theorem unitOfJson_iff {β : Type} {ofName : String → Option β} {name : β → String}
    (h : ∀ s u, ofName s = some u ↔ s = name u) (buffered : Bool) (j : Json) (u : β) :
    unitOfJson ofName buffered j = some u ↔ unitName? buffered j = some (name u) := by
  unfold unitOfJson
  cases unitName? buffered j with
  | none => simp
  | some s => simp only [h, Option.some.injEq]

/-- `(Distance, DistanceUnit)`: exactly a two-element array of a number and a unit — the unit's name
as a string or as the single key of an object with value `null` (serde's two forms of a unit
variant) —, read as that number in that unit -/
theorem dimOfJson_iff {α : Type} (dec : Nat → α) (j : Option Json) (x : α) (u : DistanceUnit) :
    dimOfJson dec j = some (x, u) ↔
      ∃ l b uj, j = some (.arr [.num l b, uj]) ∧ unitName? false uj = some u.name ∧ x = dec b := by
  constructor
  · intro h
    unfold dimOfJson at h
    split at h
    · rename_i l b uj
      split at h
      · rename_i du hdu
        cases h
        exact ⟨l, b, uj, rfl, (unitOfJson_iff distanceUnit_ofName_iff false uj u).1 hdu, rfl⟩
      · cases h
    · cases h
  · rintro ⟨l, b, uj, rfl, hn, rfl⟩
    simp only [dimOfJson, (unitOfJson_iff distanceUnit_ofName_iff false uj u).2 hn]

theorem weightOfJson_iff {α : Type} (dec : Nat → α) (j : Option Json) (x : α) (u : WeightUnit) :
    weightOfJson dec j = some (x, u) ↔
      ∃ l b uj, j = some (.arr [.num l b, uj]) ∧ unitName? false uj = some u.name ∧ x = dec b := by
  constructor
  · intro h
    unfold weightOfJson at h
    split at h
    · rename_i l b uj
      split at h
      · rename_i wu hwu
        cases h
        exact ⟨l, b, uj, rfl, (unitOfJson_iff weightUnit_ofName_iff false uj u).1 hwu, rfl⟩
      · cases h
    · cases h
  · rintro ⟨l, b, uj, rfl, hn, rfl⟩
    simp only [weightOfJson, (unitOfJson_iff weightUnit_ofName_iff false uj u).2 hn]

/-- `VehicleParameters::from_query` succeeds exactly on a query whose `vehicle_parameters` has all six
fields well-formed, and then returns them as they stand -/
theorem vehicleParams_ok_iff {α : Type} (dec : Nat → α) (q : Json) (p : VParams α) :
    vehicleParamsOfQuery dec q = .ok p ↔
      ∃ vp, q.get? "vehicle_parameters" = some vp ∧
        dimOfJson dec (vp.get? "height") = some p.height ∧
        dimOfJson dec (vp.get? "width") = some p.width ∧
        dimOfJson dec (vp.get? "total_length") = some p.totalLength ∧
        dimOfJson dec (vp.get? "trailer_length") = some p.trailerLength ∧
        weightOfJson dec (vp.get? "total_weight") = some p.totalWeight ∧
        ∃ a, vp.get? "number_of_axles" = some a ∧ u64OfJson a = some p.axles ∧ p.axles ≤ 255 := by
  unfold vehicleParamsOfQuery
  cases hq : q.get? "vehicle_parameters" with
  | none => simp
  | some vp =>
    simp only [Option.some.injEq, exists_eq_left']
    cases h1 : dimOfJson dec (vp.get? "height") with
    | none => simp
    | some h =>
      cases h2 : dimOfJson dec (vp.get? "width") with
      | none => simp
      | some w =>
        cases h3 : dimOfJson dec (vp.get? "total_length") with
        | none => simp
        | some tl =>
          cases h4 : dimOfJson dec (vp.get? "trailer_length") with
          | none => simp
          | some trl =>
            cases h5 : weightOfJson dec (vp.get? "total_weight") with
            | none => simp
            | some tw =>
              cases h6 : vp.get? "number_of_axles" with
              | none => simp
              | some a =>
                cases h7 : u64OfJson a with
                | none => simp [h7]
                | some n =>
                  simp only [h7, Option.some.injEq, exists_eq_left']
                  by_cases hn : n ≤ 255
                  · rw [if_pos hn]
                    constructor
                    · intro hh
                      injection hh with hh
                      subst hh
                      exact ⟨rfl, rfl, rfl, rfl, rfl, rfl, hn⟩
                    · rintro ⟨r1, r2, r3, r4, r5, r6, _⟩
                      cases p
                      simp only at r1 r2 r3 r4 r5 r6
                      subst r1 r2 r3 r4 r5 r6
                      rfl
                  · rw [if_neg hn]
                    simp only [reduceCtorEq, false_iff, not_and]
                    rintro _ _ _ _ _ rfl
                    exact hn

/-! ### The termination builder -/

open SearchLimits

theorem getCount_ok_iff (j : Json) (key : String) (n : Nat) :
    getCount j key = .ok n ↔ ∃ v z, j.get? key = some v ∧ i64OfJson v = some z ∧ 0 ≤ z ∧ n = z.toNat := by
  unfold getCount getI64
  cases hv : j.get? key with
  | none => simp
  | some v =>
    cases hz : i64OfJson v with
    | none => simp [hz]
    | some z =>
      simp only [hz]
      by_cases hneg : z < 0
      · simp only [hneg, ↓reduceIte, reduceCtorEq, false_iff]
        rintro ⟨v', z', h1, h2, h3, _⟩
        injection h1 with h1; subst h1
        rw [hz] at h2; injection h2 with h2; subst h2; omega
      · simp only [hneg, ↓reduceIte, Except.ok.injEq]
        constructor
        · intro h; exact ⟨v, z, rfl, hz, by omega, h.symm⟩
        · rintro ⟨v', z', h1, h2, _, h4⟩
          injection h1 with h1; subst h1
          rw [hz] at h2; injection h2 with h2; subst h2; exact h4.symm

/-- a count that is negative is refused (it is never cast to a number near 2^64) -/
theorem getCount_negative (j : Json) (key : String) (v : Json) (z : Int) (hv : j.get? key = some v)
    (hz : i64OfJson v = some z) (hneg : z < 0) : getCount j key = .error .value := by
  simp [getCount, getI64, hv, hz, hneg]

theorem allOk_mem {β γ : Type} {f : β → Except BErr γ} : ∀ {xs : List β} {ys : List γ},
    allOk f xs = .ok ys → ∀ y ∈ ys, ∃ x ∈ xs, f x = .ok y
  | [], ys, h => by
    simp only [allOk] at h
    injection h with h; subst h
    intro y hy; cases hy
  | x :: xs, ys, h => by
    unfold allOk at h
    split at h
    · cases h
    · rename_i y hy
      split at h
      · cases h
      · rename_i ys' hys'
        injection h with h; subst h
        intro y' hy'
        rcases List.mem_cons.1 hy' with rfl | hy'
        · exact ⟨x, List.mem_cons_self .., hy⟩
        · obtain ⟨x', hx', hf⟩ := allOk_mem hys' y' hy'
          exact ⟨x', List.mem_cons_of_mem _ hx', hf⟩

theorem allOk_error {β γ : Type} {f : β → Except BErr γ} : ∀ {xs : List β} {e : BErr},
    allOk f xs = .error e → ∃ x ∈ xs, f x = .error e
  | [], e, h => by simp [allOk] at h
  | x :: xs, e, h => by
    unfold allOk at h
    split at h
    · rename_i e' he'
      injection h with h; subst h
      exact ⟨x, List.mem_cons_self .., he'⟩
    · split at h
      · rename_i e' he'
        injection h with h; subst h
        obtain ⟨x', hx', hf⟩ := allOk_error he'
        exact ⟨x', List.mem_cons_of_mem _ hx', hf⟩
      · cases h

/-- the readers of one field fail with `missing` or `type`, a count also with `value`: never with `fuel` -/
theorem getString_error {j : Json} {k : String} {e : BErr} (h : getString j k = .error e) :
    e = .missing ∨ e = .type := by
  unfold getString at h
  split at h
  · cases h; exact .inl rfl
  · split at h
    · cases h
    · cases h; exact .inr rfl

theorem getString_ne_fuel (j : Json) (k : String) : getString j k ≠ .error .fuel := fun h => by
  rcases getString_error h with h | h
  · cases h
  · cases h

theorem getCount_ne_fuel (j : Json) (k : String) : getCount j k ≠ .error .fuel := fun h => by
  unfold getCount getI64 at h
  split at h
  · rename_i e' he
    cases h
    split at he
    · cases he
    · split at he
      · cases he
      · cases he
  · split at h
    · cases h
    · cases h

theorem getArray_ne_fuel (j : Json) (k : String) : getArray j k ≠ .error .fuel := fun h => by
  unfold getArray at h
  split at h
  · cases h
  · split at h
    · cases h
    · cases h

/-- the `query_runtime` arm of the builder, inverted: what the arm answers, given that it is taken -/
theorem runtimeArm_cases {j : Json} {r : Except BErr TermM}
    (h : (match j.get? "limit" with
        | none => .error .missing
        | some l =>
          match l.asStr? with
          | none => .error .duration
          | some s =>
            match parseDuration s with
            | none => .error .duration
            | some secs =>
              match getCount j "frequency" with
              | .error e => .error e
              | .ok f => if f = 0 then .error .value else .ok (.runtime (secs * 1000000000) f 0 0)) = r) :
    (∃ e, r = .error e ∧ e ≠ .fuel) ∨
    ∃ l s secs f, j.get? "limit" = some l ∧ l.asStr? = some s ∧ parseDuration s = some secs ∧
      getCount j "frequency" = .ok f ∧ f ≠ 0 ∧ r = .ok (.runtime (secs * 1000000000) f 0 0) := by
  split at h
  · exact .inl ⟨_, h.symm, nofun⟩
  · rename_i l hl
    split at h
    · exact .inl ⟨_, h.symm, nofun⟩
    · rename_i s hs
      split at h
      · exact .inl ⟨_, h.symm, nofun⟩
      · rename_i secs hsecs
        split at h
        · rename_i e he
          exact .inl ⟨e, h.symm, fun hf => getCount_ne_fuel _ _ (hf ▸ he)⟩
        · rename_i f hf
          split at h
          · exact .inl ⟨_, h.symm, nofun⟩
          · rename_i hf0
            exact .inr ⟨l, s, secs, f, hl, hs, hsecs, hf, hf0, h.symm⟩

/-- every way `termOfJson (fuel + 1) j` can answer: an error that is not `fuel` (the readers of a single field
never answer `fuel`), one of the three limits — a runtime limit only with a frequency other than 0 —, or, for
a `combined` section, what the builder makes of the elements of `models` with one unit of fuel less -/
theorem termOfJson_succ_cases {fuel : Nat} {j : Json} {r : Except BErr TermM}
    (h : termOfJson (fuel + 1) j = r) :
    (∃ e, r = .error e ∧ e ≠ .fuel) ∨ (∃ n, r = .ok (.iters n)) ∨ (∃ n, r = .ok (.size n)) ∨
    (∃ secs f, f ≠ 0 ∧ r = .ok (.runtime secs f 0 0)) ∨
    ∃ ms, getArray j "models" = .ok ms ∧
      r = match allOk (termOfJson fuel) ms with | .error e => .error e | .ok ts => .ok (.combined ts) := by
  unfold termOfJson at h
  split at h
  · rename_i e he
    exact .inl ⟨e, h.symm, fun hf => getString_ne_fuel _ _ (hf ▸ he)⟩
  · simp only at h
    split at h
    · -- query_runtime
      rcases runtimeArm_cases h with he | ⟨_, _, _, f, _, _, _, _, hf0, hr⟩
      · exact .inl he
      · exact .inr (.inr (.inr (.inl ⟨_, f, hf0, hr⟩)))
    · split at h
      · -- iterations
        split at h
        · rename_i e he
          exact .inl ⟨e, h.symm, fun hf => getCount_ne_fuel _ _ (hf ▸ he)⟩
        · exact .inr (.inl ⟨_, h.symm⟩)
      · split at h
        · -- solution_size
          split at h
          · rename_i e he
            exact .inl ⟨e, h.symm, fun hf => getCount_ne_fuel _ _ (hf ▸ he)⟩
          · exact .inr (.inr (.inl ⟨_, h.symm⟩))
        · split at h
          · -- combined
            split at h
            · rename_i e he
              exact .inl ⟨e, h.symm, fun hf => getArray_ne_fuel _ _ (hf ▸ he)⟩
            · rename_i ms hms
              exact .inr (.inr (.inr (.inr ⟨ms, hms, h.symm⟩)))
          · exact .inl ⟨_, h.symm, nofun⟩

/-- no model the builder returns has a runtime limit with check frequency 0 -/
theorem termOfJson_no_zeroFreq : ∀ (fuel : Nat) (j : Json) (t : TermM), termOfJson fuel j = .ok t → ¬ ZeroFreq t
  | 0, _, _, h => by simp [termOfJson] at h
  | fuel + 1, j, t, h => by
    rcases termOfJson_succ_cases h with ⟨e, he, _⟩ | ⟨n, hn⟩ | ⟨n, hn⟩ | ⟨secs, f, hf0, hr⟩ | ⟨ms, _, hr⟩
    · cases he
    · cases hn; rintro ⟨l, b, p, hl⟩; cases hl
    · cases hn; rintro ⟨l, b, p, hl⟩; cases hl
    · cases hr; rintro ⟨l, b, p, hl⟩; cases hl; exact hf0 rfl
    · -- a member with frequency 0 would be a result of the builder on an element of `models`
      split at hr
      · cases hr
      · rename_i ts hts
        cases hr
        intro hz
        obtain ⟨m, hm, hzm⟩ := zeroFreq_combined_iff.1 hz
        obtain ⟨x, _, hx⟩ := allOk_mem hts m hm
        exact termOfJson_no_zeroFreq fuel x m hx hzm

/-! #### The nesting depth of the configuration is fuel enough -/

theorem jsonDepth_pos (j : Json) : 1 ≤ jsonDepth j := by
  cases j <;> simp [jsonDepth]

theorem depth_mem {xs : List Json} {x : Json} (h : x ∈ xs) : jsonDepth x ≤ jsonDepth.depthList xs := by
  induction xs with
  | nil => cases h
  | cons y ys ih =>
    simp only [jsonDepth.depthList]
    rcases List.mem_cons.1 h with rfl | h
    · exact Nat.le_max_left _ _
    · exact le_trans (ih h) (Nat.le_max_right _ _)

theorem depth_lookup {kvs : List (String × Json)} {k : String} {v : Json} (h : Json.lookup kvs k = some v) :
    jsonDepth v ≤ jsonDepth.depthKvs kvs := by
  induction kvs with
  | nil => simp [Json.lookup] at h
  | cons kv kvs ih =>
    obtain ⟨k', v'⟩ := kv
    simp only [jsonDepth.depthKvs]
    rw [Json.lookup_cons] at h
    split at h
    · cases h
      exact Nat.le_max_left _ _
    · exact le_trans (ih h) (Nat.le_max_right _ _)

theorem getArray_depth {j : Json} {k : String} {ms : List Json} (h : getArray j k = .ok ms) :
    ∀ m ∈ ms, jsonDepth m + 2 ≤ jsonDepth j := by
  unfold getArray at h
  split at h
  · cases h
  · rename_i v hv
    split at h
    · rename_i xs hxs
      injection h with h; subst h
      intro m hm
      cases j with
      | obj kvs =>
        have h1 := depth_lookup (k := k) (v := v) (by simpa [Json.get?] using hv)
        have hv' : v = .arr xs := by cases v <;> simp_all [Json.asArray?]
        subst hv'
        have h2 := depth_mem hm
        simp only [jsonDepth] at h1 ⊢
        omega
      | _ => simp [Json.get?] at hv
    · cases h

/-- the builder runs out of fuel on no configuration whose nesting depth the fuel covers: the error can only
come up from a member of a `combined` model, which sits two levels below its section (`getArray_depth`) -/
theorem termOfJson_fuel : ∀ (fuel : Nat) (j : Json), jsonDepth j ≤ fuel → termOfJson fuel j ≠ .error .fuel
  | 0, j, hd => by have := jsonDepth_pos j; omega
  | fuel + 1, j, hd => by
    intro h
    rcases termOfJson_succ_cases h with ⟨e, he, hne⟩ | ⟨n, hn⟩ | ⟨n, hn⟩ | ⟨secs, f, _, hr⟩ | ⟨ms, hms, hr⟩
    · cases he; exact hne rfl
    · cases hn
    · cases hn
    · cases hr
    · split at hr
      · rename_i e he
        cases hr
        obtain ⟨m, hm, hf⟩ := allOk_error he
        have := getArray_depth hms m hm
        exact termOfJson_fuel fuel m (by omega) hf
      · cases hr
end Build
end Compass
