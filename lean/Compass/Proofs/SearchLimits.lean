/-
C10 — search limits bound the work and never alter an answer, only stop it: the search loop
(`Model/Search.lean`) under an arbitrary limit function `I.term`, for every instance, source, target
and schedule: what an `.ok` result says about the loop heads the run went through (`Reach`, `Final`,
`Proofs/SearchLoop.lean`), and the bounds that follow for the three kinds of limit.  The termination
model `TermM` itself is `Proofs/TermModel.lean`; the same statements on configured instances stand at
the end of `Proofs/ConfigUniform.lean`.
-/
import Compass.Proofs.SearchTree
import Compass.Proofs.TermModel

namespace Compass
namespace SearchLimits

set_option linter.unusedSectionVars false

/-! ## The search loop under a limit function -/

section

variable {α : Type} [Field α] [LinearOrder α] [IsStrictOrderedRing α] [Lit α] [LawfulLit α]

/-! ### a run that returns passed the test at every loop head -/

/-- `ok_passes_every_head` for the concrete model: `terminate_search` answered `Ok(false)` at every
loop head of a run that returns -/
theorem limit_outcome {I : Inst α} {m : TermM} (hI : I.term = m.test) {source : Nat}
    {target : Option Nat} {pre rest : List Nat} {s h s' : SState α}
    (hrun : runLoop I source target (pre ++ rest) s = .ok s')
    (hr : Reach I source target pre s h) : m.fires h.solSize h.iters = some false := by
  have := ok_passes_every_head hrun hr
  rw [hI] at this
  exact (test_ok_iff m _ _).1 this

/-! ### limited_prefix and success_monotone -/

/-- the `for` loop never consults the limit function -/
theorem relaxAll_withTerm (I : Inst α) (t : Nat → Nat → Except ErrKind Unit) (hasTarget : Bool)
    (lastEdge : Option Nat) (curState : List α) :
    ∀ (es : List Nat) (s : SState α),
      relaxAll { I with term := t } hasTarget lastEdge curState es s =
        relaxAll I hasTarget lastEdge curState es s
  | [], s => rfl
  | e :: es, s => by
    simp only [relaxAll]
    have : relax { I with term := t } hasTarget lastEdge curState s e =
        relax I hasTarget lastEdge curState s e := rfl
    rw [this]
    split
    · rfl
    · exact relaxAll_withTerm I t hasTarget lastEdge curState es _

theorem Turn.mono {I : Inst α} {t₂ : Nat → Nat → Except ErrKind Unit}
    (hmono : ∀ sz it, I.term sz it = .ok () → t₂ sz it = .ok ()) {source : Nat}
    {target : Option Nat} {s s' : SState α} {v : Nat} (ht : Turn I source target s v s') :
    Turn { I with term := t₂ } source target s v s' := by
  obtain ⟨h1, h2, h3, h4, lastEdge, st, s2, h5, h6, h7⟩ := ht
  refine ⟨hmono _ _ h1, h2, h3, h4, lastEdge, st, s2, h5, ?_, h7⟩
  rw [relaxAll_withTerm]
  exact h6

theorem runLoop_mono {I : Inst α} {t₂ : Nat → Nat → Except ErrKind Unit}
    (hmono : ∀ sz it, I.term sz it = .ok () → t₂ sz it = .ok ()) {source : Nat}
    {target : Option Nat} :
    ∀ (sched : List Nat) (s s' : SState α), runLoop I source target sched s = .ok s' →
      runLoop { I with term := t₂ } source target sched s = .ok s' := by
  intro sched s s' hrun
  obtain ⟨pre, rest, h, rfl, hr, hterm, hfin⟩ := runLoop_ok_reach sched s s' hrun
  clear hrun
  induction hr with
  | here s => exact runLoop_final (hmono _ _ hterm) hfin
  | turn ht _ ih =>
    rw [List.cons_append, runLoop_turn (ht.mono hmono)]
    exact ih hterm hfin

/-- `success_monotone` for `run_a_star`: replacing the limit function by one that passes wherever
the old one passed keeps every result -/
theorem runAStar_mono {I : Inst α} {t₂ : Nat → Nat → Except ErrKind Unit}
    (hmono : ∀ sz it, I.term sz it = .ok () → t₂ sz it = .ok ()) {source : Nat}
    {target : Option Nat} {sched : List Nat} {r : SState α}
    (h : runAStar I source target sched = .ok r) :
    runAStar { I with term := t₂ } source target sched = .ok r := by
  rw [runAStar_ok_iff] at h ⊢
  rcases h with h | ⟨ht, f0, hf0, hrun⟩
  · exact Or.inl h
  · exact Or.inr ⟨ht, f0, hf0, runLoop_mono hmono sched _ r hrun⟩

structure SameButTerm (I I₂ : Inst α) : Prop where
  incident : I₂.incident = I.incident
  keyV : I₂.keyV = I.keyV
  termV : I₂.termV = I.termV
  init : I₂.init = I.init
  valid : I₂.valid = I.valid
  trav : I₂.trav = I.trav
  h : I₂.h = I.h

theorem SameButTerm.eq {I I₂ : Inst α} (h : SameButTerm I I₂) :
    I₂ = { I with term := I₂.term } := by
  obtain ⟨h1, h2, h3, h4, h5, h6, h7⟩ := h
  cases I; cases I₂
  simp only at h1 h2 h3 h4 h5 h6 h7
  subst h1 h2 h3 h4 h5 h6 h7
  rfl

/-- **success_monotone**: if `I₂` passes the limit test wherever `I` does and they agree on
everything else, every result under `I` is the result under `I₂` (same schedule) -/
theorem success_monotone {I I₂ : Inst α} (hsame : SameButTerm I I₂)
    (hmono : ∀ sz it, I.term sz it = .ok () → I₂.term sz it = .ok ()) {source : Nat}
    {target : Option Nat} {sched : List Nat} {r : SState α}
    (h : runAStar I source target sched = .ok r) : runAStar I₂ source target sched = .ok r := by
  rw [hsame.eq]
  exact runAStar_mono hmono h

/-- **limited_prefix**: a run that returns under limits returns exactly the unlimited result -/
theorem limited_prefix (I : Inst α) {source : Nat} {target : Option Nat} {sched : List Nat}
    {r : SState α} (h : runAStar I source target sched = .ok r) :
    runAStar { I with term := fun _ _ => .ok () } source target sched = .ok r :=
  runAStar_mono (fun _ _ _ => rfl) h

theorem runVertexOriented_mono {I : Inst α} {t₂ : Nat → Nat → Except ErrKind Unit}
    (hmono : ∀ sz it, I.term sz it = .ok () → t₂ sz it = .ok ()) {source : Nat}
    {target : Option Nat} {sched : List Nat} {r : SearchResult α}
    (h : runVertexOriented I source target sched = .ok r) :
    runVertexOriented { I with term := t₂ } source target sched = .ok r := by
  unfold runVertexOriented at h ⊢
  split at h
  · cases h
  · rename_i s hs
    rw [runAStar_mono hmono hs]
    exact h

/-- `limited_prefix` for `run_vertex_oriented` -/
theorem limited_prefix_route (I : Inst α) {source : Nat} {target : Option Nat} {sched : List Nat}
    {r : SearchResult α} (h : runVertexOriented I source target sched = .ok r) :
    runVertexOriented { I with term := fun _ _ => .ok () } source target sched = .ok r :=
  runVertexOriented_mono (fun _ _ _ => rfl) h

/-! ### iterations_le_limit -/

/-- a loop head the limit function refuses was not passed -/
theorem not_of_pass {I : Inst α} {P : Nat → Nat → Prop}
    (h : ∀ sz it, P sz it → ∃ k, I.term sz it = .error k) {sz it : Nat}
    (hok : I.term sz it = .ok ()) : ¬ P sz it := by
  intro hp
  obtain ⟨k, hk⟩ := h sz it hp
  rw [hk] at hok
  cases hok

/-- the limit function refuses every loop head with `iterations + 1 > L` (true of any model in
which an `iters L` limit occurs: `iterLimit_of_leaf`) -/
def IterLimit (I : Inst α) (L : Nat) : Prop := ∀ sz it, L < it + 1 → ∃ k, I.term sz it = .error k

theorem iterLimit_of_leaf {I : Inst α} {m : TermM} (hI : I.term = m.test) {L : Nat}
    (hl : Leaf (.iters L) m) : IterLimit I L := by
  intro sz it h
  rw [hI]
  exact test_error_of_leaf hl (by simp [TermM.fires, h])

theorem IterLimit.of_pass {I : Inst α} {L : Nat} (hL : IterLimit I L) {sz it : Nat}
    (h : I.term sz it = .ok ()) : it + 1 ≤ L :=
  Nat.le_of_not_lt (not_of_pass (P := fun _ it => L < it + 1) hL h)

/-- **iterations_le_limit** (a): every result of `run_a_star` has `iterations ≤ L` (and
`iterations < L` unless it is the `target == source` shortcut with its 0 iterations) -/
theorem iterations_le_limit {I : Inst α} {L : Nat} (hL : IterLimit I L) {source : Nat}
    {target : Option Nat} {sched : List Nat} {s : SState α}
    (hrun : runAStar I source target sched = .ok s) :
    s.iters ≤ L ∧ (target ≠ some source → s.iters < L) := by
  rcases runAStar_ok_cases hrun with ⟨ht, rfl⟩ | ⟨ht, _, _, _, h, _, _, _, hterm, hfin⟩
  · exact ⟨Nat.zero_le _, fun h => absurd ht h⟩
  · have := hL.of_pass hterm
    rw [hfin.iters_eq]
    exact ⟨by omega, fun _ => by omega⟩

/-- in any run — returning or not — every loop head reached after at least one turn has
`iterations ≤ L`: no more than `L` expansion steps are ever performed -/
theorem reach_iters_le {I : Inst α} {L : Nat} (hL : IterLimit I L) {source : Nat}
    {target : Option Nat} {pre : List Nat} {s h : SState α}
    (hr : Reach I source target pre s h) : pre = [] ∨ h.iters ≤ L := by
  refine hr.last_turn.imp id fun ⟨h₀, v, ht⟩ => ?_
  have := hL.of_pass ht.term_ok
  have := ht.counters.1
  omega

/-- **iterations_le_limit** (b): the loop never consumes more than `L − iterations` schedule
entries (one per expansion step), whatever the outcome -/
theorem runLoop_take {I : Inst α} {L : Nat} (hL : IterLimit I L) {source : Nat}
    {target : Option Nat} :
    ∀ (sched : List Nat) (s : SState α),
      runLoop I source target sched s = runLoop I source target (sched.take (L - s.iters)) s := by
  intro sched
  induction sched with
  | nil => intro s; simp
  | cons v rest ih =>
    intro s
    cases hn : L - s.iters with
    | zero =>
      obtain ⟨k, hk⟩ := hL s.solSize s.iters (by omega)
      rw [runLoop_unfold, runLoop_unfold I source target (List.take 0 (v :: rest))]
      simp only [hk]
    | succ n =>
      rw [List.take_succ_cons, runLoop_unfold, runLoop_unfold I source target (v :: List.take n rest)]
      -- both sides run the same tests on the same head `v`; they differ in the recursive call only
      cases I.term s.solSize s.iters with
      | error k => rfl
      | ok u =>
        cases u
        dsimp only
        cases s.queue.isEmpty with
        | true => rfl
        | false =>
          cases popOk s.queue v with
          | false => rfl
          | true =>
            cases (target == some v) with
            | true => rfl
            | false =>
              cases curOf I source s v with
              | none => rfl
              | some p =>
                obtain ⟨le, st⟩ := p
                dsimp only
                cases hrel : relaxAll I target.isSome le st (I.incident v) (popped s v) with
                | error k => rfl
                | ok s2 =>
                  have hit : s2.iters = s.iters := (relaxAll_counters _ _ _ hrel).1
                  dsimp only [Bool.not_true, Bool.false_eq_true, if_false]
                  rw [ih, show L - (s2.iters + 1) = n by omega]

/-- (b) for `run_a_star`: at most `L` schedule entries are ever consumed -/
theorem runAStar_take {I : Inst α} {L : Nat} (hL : IterLimit I L) (source : Nat)
    (target : Option Nat) (sched : List Nat) :
    runAStar I source target sched = runAStar I source target (sched.take L) := by
  rw [runAStar_unfold, runAStar_unfold]
  split
  · rfl
  · split
    · rfl
    · rw [runLoop_take hL]
      rfl

/-! ### size_le_limit_plus_degree -/

def SizeLimit (I : Inst α) (S : Nat) : Prop := ∀ sz it, S < sz → ∃ k, I.term sz it = .error k

theorem sizeLimit_of_leaf {I : Inst α} {m : TermM} (hI : I.term = m.test) {S : Nat}
    (hl : Leaf (.size S) m) : SizeLimit I S := by
  intro sz it h
  rw [hI]
  exact test_error_of_leaf hl (by simp [TermM.fires, h])

theorem SizeLimit.of_pass {I : Inst α} {S : Nat} (hS : SizeLimit I S) {sz it : Nat}
    (h : I.term sz it = .ok ()) : sz ≤ S :=
  Nat.le_of_not_lt (not_of_pass (P := fun sz _ => S < sz) hS h)

/-- `solution.len()` is non-decreasing along a run -/
theorem runLoop_solSize_mono {I : Inst α} {source : Nat} {target : Option Nat} {sched : List Nat}
    {s s' : SState α} (hrun : runLoop I source target sched s = .ok s') :
    s.solSize ≤ s'.solSize := by
  obtain ⟨pre, rest, h, _, hr, _, hfin⟩ := runLoop_ok_reach sched s s' hrun
  rw [hfin.solSize_eq]
  exact hr.counters.2

/-- in any run — returning or not — the tree at every loop head reached after at least one turn,
in particular the one at which the limit fires, exceeds `S` by at most the number of incident edges
of the vertex expanded last -/
theorem reach_size_le {I : Inst α} {S D : Nat} (hS : SizeLimit I S)
    (hD : ∀ v, (I.incident v).length ≤ D) {source : Nat} {target : Option Nat} {pre : List Nat}
    {s h : SState α} (hr : Reach I source target pre s h) : pre = [] ∨ h.solSize ≤ S + D := by
  refine hr.last_turn.imp id fun ⟨h₀, v, ht⟩ => ?_
  have := hS.of_pass ht.term_ok
  have := ht.counters.2.2
  have := hD v
  omega

/-- the same inside the `for` loop: after any number of relaxations at a passed loop head the tree
has at most `S +` (number of edges relaxed so far) entries -/
theorem relaxAll_size_le {I : Inst α} {S : Nat} (hS : SizeLimit I S) {h : SState α}
    (hterm : I.term h.solSize h.iters = .ok ()) {hasTarget : Bool} {lastEdge : Option Nat}
    {st : List α} {v : Nat} {es : List Nat} {s2 : SState α}
    (hrel : relaxAll I hasTarget lastEdge st es (popped h v) = .ok s2) :
    s2.solSize ≤ S + es.length := by
  have := hS.of_pass hterm
  have := (relaxAll_counters _ _ _ hrel).2.2
  simp only [popped] at this
  omega

/-- **size_le_limit_plus_degree**: every result of `run_a_star` has a tree of at most `S + D`
entries, `D` a bound on the number of incident edges of a vertex (indeed at most `S`: the result is
produced at a loop head that passed the test; `S + D` is the bound for every tree that exists
during the search, `reach_size_le`) -/
theorem size_le_limit_plus_degree {I : Inst α} {S D : Nat} (hS : SizeLimit I S)
    (_hD : ∀ v, (I.incident v).length ≤ D) {source : Nat} {target : Option Nat} {sched : List Nat}
    {s : SState α} (hrun : runAStar I source target sched = .ok s) :
    s.solSize ≤ S + D ∧ s.solSize ≤ S := by
  rcases runAStar_ok_cases hrun with ⟨_, rfl⟩ | ⟨_, _, _, _, h, _, _, _, hterm, hfin⟩
  · exact ⟨Nat.zero_le _, Nat.zero_le _⟩
  · have := hS.of_pass hterm
    rw [hfin.solSize_eq]
    exact ⟨by omega, this⟩

/-! ### runtime_stops_at_next_check -/

/-- the limit function refuses every scheduled check (`iterations % freq = 0`) from iteration `i₀`
on: the time budget is exhausted from `i₀` on -/
def RuntimeLimit (I : Inst α) (freq i₀ : Nat) : Prop :=
  ∀ sz it, it % freq = 0 → i₀ ≤ it → ∃ k, I.term sz it = .error k

/-- bridge: a runtime limit with `freq > 0` occurring in the model whose clock `base + per * i`
exceeds the budget for every `i ≥ i₀` -/
theorem runtimeLimit_of_leaf {I : Inst α} {m : TermM} (hI : I.term = m.test)
    {limitNs freq baseNs perNs i₀ : Nat} (hl : Leaf (.runtime limitNs freq baseNs perNs) m)
    (hex : ∀ i, i₀ ≤ i → limitNs < baseNs + perNs * i) : RuntimeLimit I freq i₀ := by
  intro sz it hmod hi
  rw [hI]
  by_cases hf : freq = 0
  · exact ⟨_, (test_panic_iff m sz it).2 ⟨_, _, _, hf ▸ hl⟩⟩
  · exact test_error_of_leaf hl (by simp [TermM.fires, hf, hmod, hex it hi])

/-- for the single runtime limit the refusal is the explicit `Terminated [runtime]` -/
theorem runtime_test_terminated {limitNs freq baseNs perNs it : Nat} (hf : 0 < freq)
    (hmod : it % freq = 0) (hex : limitNs < baseNs + perNs * it) (sz : Nat) :
    (TermM.runtime limitNs freq baseNs perNs).test sz it = .error (.terminated [.runtime]) := by
  have hf' : freq ≠ 0 := by omega
  simp [TermM.test, TermM.fires, TermM.explain, hf', hmod, hex]

theorem RuntimeLimit.of_pass {I : Inst α} {freq i₀ : Nat} (hR : RuntimeLimit I freq i₀)
    {sz it : Nat} (h : I.term sz it = .ok ()) : ¬ (it % freq = 0 ∧ i₀ ≤ it) :=
  not_of_pass (P := fun _ it => it % freq = 0 ∧ i₀ ≤ it) (fun sz it hp => hR sz it hp.1 hp.2) h

/-- **runtime_stops_at_next_check**, precise form: a run that returns never went through a
scheduled check at or after `i₀` -/
theorem runtime_no_check_passed {I : Inst α} {freq i₀ : Nat} (hR : RuntimeLimit I freq i₀)
    {source : Nat} {target : Option Nat} {pre rest : List Nat} {s h s' : SState α}
    (hrun : runLoop I source target (pre ++ rest) s = .ok s')
    (hr : Reach I source target pre s h) : ¬ (h.iters % freq = 0 ∧ i₀ ≤ h.iters) :=
  hR.of_pass (ok_passes_every_head hrun hr)

/-- no turn starts from a loop head at a scheduled check `c ≥ i₀` (the limit refuses it), and a turn
counts one iteration: started at or before `c`, the loop heads stay at or before it -/
theorem Reach.iters_le_check {I : Inst α} {freq i₀ : Nat} (hR : RuntimeLimit I freq i₀)
    {source : Nat} {target : Option Nat} {pre : List Nat} {s h : SState α}
    (hr : Reach I source target pre s h) {c : Nat} (hc : c % freq = 0) (hi : i₀ ≤ c)
    (hs : s.iters ≤ c) : h.iters ≤ c :=
  hr.invariant (P := fun h => h.iters ≤ c)
    (fun s0 _ _ ht _ => by
      have : s0.iters ≠ c := fun hit => hR.of_pass ht.term_ok ⟨hit ▸ hc, hit ▸ hi⟩
      have := ht.counters.1
      omega) hs

/-- loop form: started at or before a scheduled check `c ≥ i₀`, a returning run ends before it -/
theorem runLoop_runtime_lt {I : Inst α} {freq i₀ : Nat} (hR : RuntimeLimit I freq i₀)
    {source : Nat} {target : Option Nat} {sched : List Nat} {s s' : SState α}
    (hrun : runLoop I source target sched s = .ok s') (c : Nat) (hc : c % freq = 0) (hi : i₀ ≤ c)
    (hs : s.iters ≤ c) : s'.iters < c := by
  obtain ⟨pre, rest, h, _, hr, hterm, hfin⟩ := runLoop_ok_reach sched s s' hrun
  have hle := hr.iters_le_check hR hc hi hs
  have : h.iters ≠ c := fun hit => hR.of_pass hterm ⟨hit ▸ hc, hit ▸ hi⟩
  rw [hfin.iters_eq]
  omega

/-- the first multiple of `freq` that is `≥ i₀` -/
def nextCheck (freq i₀ : Nat) : Nat := freq * ((i₀ + freq - 1) / freq)

theorem nextCheck_spec {freq : Nat} (hf : 0 < freq) (i₀ : Nat) :
    nextCheck freq i₀ % freq = 0 ∧ i₀ ≤ nextCheck freq i₀ ∧ nextCheck freq i₀ < i₀ + freq ∧
      ∀ c, c % freq = 0 → i₀ ≤ c → nextCheck freq i₀ ≤ c := by
  unfold nextCheck
  have h1 := Nat.div_add_mod (i₀ + freq - 1) freq
  have h2 := Nat.mod_lt (i₀ + freq - 1) hf
  refine ⟨Nat.mul_mod_right _ _, by omega, by omega, ?_⟩
  intro c hc hi
  obtain ⟨q, rfl⟩ := Nat.dvd_of_mod_eq_zero hc
  apply Nat.mul_le_mul_left
  rw [Nat.div_le_iff_le_mul_add_pred hf]
  have : i₀ + freq - 1 ≤ freq * q + (freq - 1) := by omega
  exact this

/-- **runtime_stops_at_next_check**: with the budget exhausted from iteration `i₀` on, every
result of `run_a_star` has at most — and, unless it is the `target == source` shortcut, which never
consults the limits, fewer than — as many iterations as the first scheduled check at or after `i₀`
(the search is stopped there at the latest) -/
theorem runtime_stops_at_next_check {I : Inst α} {freq i₀ : Nat} (hf : 0 < freq)
    (hR : RuntimeLimit I freq i₀) {source : Nat} {target : Option Nat} {sched : List Nat}
    {s : SState α} (hrun : runAStar I source target sched = .ok s) :
    s.iters ≤ nextCheck freq i₀ ∧ (target ≠ some source → s.iters < nextCheck freq i₀) := by
  rcases runAStar_ok_iff.1 hrun with ⟨ht, rfl⟩ | ⟨_, f0, _, hloop⟩
  · exact ⟨Nat.zero_le _, fun h => absurd ht h⟩
  · obtain ⟨h1, h2, _⟩ := nextCheck_spec hf i₀
    have := runLoop_runtime_lt hR hloop _ h1 h2 (Nat.zero_le _)
    exact ⟨Nat.le_of_lt this, fun _ => this⟩

/-- the statement for the single runtime limit `QueryRuntimeLimit { limit, frequency }` with the
clock `base + per * iteration` -/
theorem runtime_stops_at_next_check' {I : Inst α} {limitNs freq baseNs perNs i₀ : Nat}
    (hI : I.term = (TermM.runtime limitNs freq baseNs perNs).test) (hf : 0 < freq)
    (hex : ∀ i, i₀ ≤ i → limitNs < baseNs + perNs * i) {source : Nat} {target : Option Nat}
    {sched : List Nat} {s : SState α} (hrun : runAStar I source target sched = .ok s) :
    s.iters ≤ nextCheck freq i₀ ∧ (target ≠ some source → s.iters < nextCheck freq i₀) :=
  runtime_stops_at_next_check hf (runtimeLimit_of_leaf hI (Leaf.runtime _ _ _ _) hex) hrun

/-! ### terminated_is_explicit, search half -/

/-- a limit that fires at a loop head the run reaches *is* the outcome of the run: never a tree,
never a route, never "no path" -/
theorem limit_hit_is_error {I : Inst α} {source : Nat} {target : Option Nat} {pre : List Nat}
    {s h : SState α} (hr : Reach I source target pre s h) {k : ErrKind}
    (hk : I.term h.solSize h.iters = .error k) (rest : List Nat) :
    runLoop I source target (pre ++ rest) s = .error k := by
  rw [hr.runLoop_eq, runLoop_unfold]
  simp only [hk]

/-- for the concrete model that outcome is `Terminated` naming at least one limit, each of them a
limit of the model that fires at that loop head — or the frequency-0 panic -/
theorem limit_hit_is_explicit {I : Inst α} {m : TermM} (hI : I.term = m.test) {source : Nat}
    {target : Option Nat} {pre : List Nat} {s h : SState α} (hr : Reach I source target pre s h)
    (hfire : m.fires h.solSize h.iters ≠ some false) (rest : List Nat) :
    (∃ ks, runLoop I source target (pre ++ rest) s = .error (.terminated ks) ∧ ks ≠ [] ∧
      ∀ k ∈ ks, ∃ l, Leaf l m ∧ kindOf l = k ∧ l.fires h.solSize h.iters = some true) ∨
    (runLoop I source target (pre ++ rest) s = .error (.panic "termination-frequency-zero") ∧
      ZeroFreq m) := by
  rcases terminated_is_explicit m h.solSize h.iters with h1 | ⟨ks, h1, _, h2, _, h3⟩ | ⟨h1, h2⟩
  · exact absurd h1.2 hfire
  · exact Or.inl ⟨ks, limit_hit_is_error hr (by rw [hI]; exact h1) rest, h2, h3⟩
  · exact Or.inr ⟨limit_hit_is_error hr (by rw [hI]; exact h1) rest, h2⟩

/-- no component of the instance other than the limit function reports `Terminated` (true of every
configured instance, `config_components_not_terminated`) -/
structure ComponentsNotTerminated (I : Inst α) : Prop where
  valid : ∀ e st le ks, I.valid e st le ≠ .error (.terminated ks)
  trav : ∀ e le st ks, I.trav e le st ≠ .error (.terminated ks)
  h : ∀ v st ks, I.h v st ≠ .error (.terminated ks)

/-- conversely, a `Terminated` outcome of the loop is the answer of the limit function at a loop
head the run reached -/
theorem terminated_from_limit {I : Inst α} (hC : ComponentsNotTerminated I) {source : Nat}
    {target : Option Nat} {ks : List TermKind} :
    ∀ (sched : List Nat) (s : SState α),
      runLoop I source target sched s = .error (.terminated ks) →
      ∃ pre rest h, sched = pre ++ rest ∧ Reach I source target pre s h ∧
        I.term h.solSize h.iters = .error (.terminated ks) := by
  intro sched s hrun
  obtain ⟨pre, rest, h, hs, hr, hh⟩ := runLoop_reach I source target sched s
  rw [hrun] at hh
  cases hh with
  | limit hk => exact ⟨pre, rest, h, hs, hr, hk⟩
  | relaxError _ _ _ _ _ hk =>
    exact absurd hk (SearchLoop.relaxAll_ne_error (fun e st le => hC.valid e st le ks)
      (fun e le st => hC.trav e le st ks) (fun v st => hC.h v st ks) _ _)

end

/-! ### Non-vacuity: the four-vertex instance of `SearchTree.Example` under limits

Unlimited, the schedule `[0, 1, 2, 3]` to target 3 performs 3 expansions, builds a 3-entry tree and
labels the target 4. -/

namespace Example

open SearchTree.Example (inst)

/-- the example instance with the limits of `m` -/
def withTerm (m : TermM) : Inst ℚ := { inst with term := m.test }

/-- error kind, or iterations, tree size and the label of vertex 3 -/
def summary (r : Except ErrKind (SState ℚ)) : Option ErrKind × Nat × Nat × Option ℚ :=
  match r with
  | .ok s => (none, s.iters, s.solSize, s.g 3)
  | .error k => (some k, 0, 0, none)

theorem ok_of_summary {r : Except ErrKind (SState ℚ)} {a b : Nat} {c : Option ℚ}
    (h : summary r = (none, a, b, c)) : ∃ s, r = .ok s ∧ s.iters = a ∧ s.solSize = b ∧ s.g 3 = c := by
  cases r with
  | error k => simp [summary] at h
  | ok s =>
    simp only [summary, Prod.mk.injEq, true_and] at h
    exact ⟨s, rfl, h⟩

-- iteration limit: 4 is enough, 3 stops the run at the loop head where the target would be popped
example : summary (runAStar inst 0 (some 3) [0, 1, 2, 3]) = (none, 3, 3, some 4) := by
  decide +kernel
example : summary (runAStar (withTerm (.iters 4)) 0 (some 3) [0, 1, 2, 3]) = (none, 3, 3, some 4) := by
  decide +kernel
example : summary (runAStar (withTerm (.iters 3)) 0 (some 3) [0, 1, 2, 3]) =
    (some (.terminated [.iterations]), 0, 0, none) := by decide +kernel
-- size limit: the 3-entry tree passes `size 3`, not `size 2`
example : summary (runAStar (withTerm (.size 3)) 0 (some 3) [0, 1, 2, 3]) = (none, 3, 3, some 4) := by
  decide +kernel
example : summary (runAStar (withTerm (.size 2)) 0 (some 3) [0, 1, 2, 3]) =
    (some (.terminated [.size]), 0, 0, none) := by decide +kernel
-- runtime limit 10 ns checked every 2nd iteration, clock 4 ns (resp. 6 ns) per iteration
example : summary (runAStar (withTerm (.runtime 10 2 0 4)) 0 (some 3) [0, 1, 2, 3]) =
    (none, 3, 3, some 4) := by decide +kernel
example : summary (runAStar (withTerm (.runtime 10 2 0 6)) 0 (some 3) [0, 1, 2, 3]) =
    (some (.terminated [.runtime]), 0, 0, none) := by decide +kernel
-- frequency 0, at any depth: the panic
example : summary (runAStar (withTerm (.combined [.size 5, .combined [.iters 9, .runtime 5 0 0 6]]))
    0 (some 3) [0, 1, 2, 3]) = (some (.panic "termination-frequency-zero"), 0, 0, none) := by
  decide +kernel
-- nested combination: every firing limit is named, in model order
example : summary (runAStar (withTerm (.combined [.size 1, .combined [.iters 1, .runtime 5 1 0 6]]))
    0 (some 3) [0, 1, 2, 3]) = (some (.terminated [.size, .iterations, .runtime]), 0, 0, none) := by
  decide +kernel
-- the `target == source` shortcut never consults the limits
example : summary (runAStar (withTerm (.iters 0)) 0 (some 0) []) = (none, 0, 0, none) := by
  decide +kernel

/-- the hypotheses of `iterations_le_limit`, `size_le_limit_plus_degree`,
`runtime_stops_at_next_check`, `limited_prefix` hold together on a nested model, the run returns,
and the theorems give the bounds and the unlimited result -/
example : ∃ s, runAStar (withTerm (.combined [.size 3, .combined [.iters 4, .runtime 10 2 0 4]]))
      0 (some 3) [0, 1, 2, 3] = .ok s ∧
    s.iters < 4 ∧ s.solSize ≤ 3 ∧ s.iters < nextCheck 2 3 ∧
    runAStar { withTerm (.combined [.size 3, .combined [.iters 4, .runtime 10 2 0 4]]) with
      term := fun _ _ => .ok () } 0 (some 3) [0, 1, 2, 3] = .ok s := by
  have hsum : summary (runAStar
      (withTerm (.combined [.size 3, .combined [.iters 4, .runtime 10 2 0 4]]))
      0 (some 3) [0, 1, 2, 3]) = (none, 3, 3, some 4) := by decide +kernel
  obtain ⟨s, hs, _⟩ := ok_of_summary hsum
  have hI : (withTerm (.combined [.size 3, .combined [.iters 4, .runtime 10 2 0 4]])).term =
      (TermM.combined [.size 3, .combined [.iters 4, .runtime 10 2 0 4]]).test := rfl
  have hL := iterLimit_of_leaf hI (L := 4)
    (Leaf.combined (m := .combined [.iters 4, .runtime 10 2 0 4]) (by simp)
      (Leaf.combined (m := .iters 4) (by simp) (Leaf.iters 4)))
  have hS := sizeLimit_of_leaf hI (S := 3) (Leaf.combined (m := .size 3) (by simp) (Leaf.size 3))
  have hR := runtimeLimit_of_leaf hI (i₀ := 3)
    (Leaf.combined (m := .combined [.iters 4, .runtime 10 2 0 4]) (by simp)
      (Leaf.combined (m := .runtime 10 2 0 4) (by simp) (Leaf.runtime 10 2 0 4)))
    (fun i hi => by omega)
  exact ⟨s, hs, (iterations_le_limit hL hs).2 (by decide),
    (size_le_limit_plus_degree hS (D := 3) (fun v => by
      show (SearchTree.Example.out v).length ≤ 3
      unfold SearchTree.Example.out
      split <;> simp) hs).2,
    (runtime_stops_at_next_check (by decide) hR hs).2 (by decide), limited_prefix _ hs⟩

/-- `runAStar_take`: with `iters 2` only two schedule entries are ever consumed -/
example : runAStar (withTerm (.iters 2)) 0 (some 3) [0, 1, 2, 3] =
    runAStar (withTerm (.iters 2)) 0 (some 3) [0, 1] :=
  runAStar_take (iterLimit_of_leaf rfl (Leaf.iters 2)) 0 (some 3) [0, 1, 2, 3]

/-- the example instance's components never report `Terminated` -/
example : ComponentsNotTerminated (withTerm (.iters 2)) :=
  ⟨fun _ _ _ _ h => (by cases h), fun _ _ _ _ h => (by cases h), fun _ _ _ h => (by cases h)⟩

end Example

end SearchLimits
end Compass
