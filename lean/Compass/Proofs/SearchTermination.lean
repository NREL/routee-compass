/-
Termination and schedule existence for the search loop (`Model/Search.lean`).

Every other search theorem has the form "if `runAStar … sched = .ok res` then …": it speaks about a
schedule that somebody supplies.  This file shows that such schedules exist and that a run ends.

* **(a) progress** (`progress`): at every loop head a run can reach, a non-empty frontier has an
  entry of minimal priority, i.e. some pop is accepted (`SearchLoop.exists_popOk`).  Needs "one queue
  entry per vertex" (`QNodup`), an invariant of every run (`turn_qnodup`).  No hypothesis on the
  instance.
* **the outcome of a schedule** is *final* (`IsFinal`) when it is not one of the two errors of the
  replay mechanism (`scheduleExhausted`: the loop asks for another pop; `badSchedule`: the offered pop
  is not one the queue could return).  The outcome `scheduleExhausted` says exactly "every pop was
  accepted and the loop is not finished" (`exhausted_iff_reach`), when the components of the instance
  do not themselves answer with a replay error (`NoSchedErr`, true of every configured instance).
* **extension** (`extend_of_bound`): if no run expands more than `N` vertices, every accepted
  schedule extends to one of at most `N + 1` pops with a final outcome.  `Completes run N P` is that
  conclusion as a predicate — some schedule of at most `N + 1` pops has an outcome with `P`, every
  accepted, unfinished one has at most `N` pops and extends to such a one —, proved for the loop from
  any state (`runLoop_completes`), hence for `run_a_star` (`runAStar_completes`), and carried by
  `Completes.imp` to `Config.runVertex` (`config_completes`) and to other `P`
  (`config_decides_of_bound`).  The theorems that C05 / C10 cite spell the two clauses out:
  `config_terminates_of_bound` adds a third, the bound on the iterations of a result, and the
  `…_terminates` / `…_decides` theorems are instances of it and of `config_decides_of_bound`, by `:=`.
* **(b) termination under the discipline** (`terminates_of_heur`, `terminates_dijkstra`): for a
  well-formed instance (`SearchTree.WF`) over vertices `< nV` and a consistent vertex heuristic
  (Dijkstra: zero), each vertex is expanded at most once
  (`SearchDiscipline.reach_length_le_vertices`), so `N = nV`.
* **where an error of a run comes from** (`runVertexOriented_error_origin_reach`): "no path", a
  replay error, the limit test at a loop head the run reached, or a call of a component.
* **(c) general A\*** (re-opening: weight factor > 1 or an inconsistent estimate): proved too
  (`terminates_general`), from strict positivity of the costs alone; `N = |walks| + 1`, the number of
  walks of fewer than `nV` edges from the source — a termination proof, not a usable bound.
* **configured instances** (`Config.inst`, `Config.runVertex`): the component errors are `ModelErr`,
  never replay errors (`config_noSchedErr`); a final outcome is one of the ways the code ends
  (`Ended`, `config_final_iff_ended`); from a bound on the expansions (`ExpansionBound`: `n` vertex
  ids under the discipline — Dijkstra, destination-less, a consistent own estimate —, `|walks| + 1`
  in general) the three termination clauses (`config_terminates_of_bound`) and, on well-formed
  distance configurations whose limits stay silent within the bound, a deciding schedule
  (`config_decides_of_bound`): what C05 and C02 use.
-/
import Compass.Proofs.SearchDiscipline
import Compass.Proofs.ConfigProgress
import Compass.Proofs.ConfigAdmissible

namespace Compass
namespace SearchTermination

set_option linter.unusedSectionVars false

open SearchTree (WF TreeInv curOf_ne_none runVertexOriented_error_cases)
open SearchLimits (Reach popped curOf startF emptyResult runLoop_unfold runLoop_turn
  runAStar_unfold runLoop_reach)
open SearchDiscipline (Heur ZeroH)

variable {α : Type} [Field α] [LinearOrder α] [IsStrictOrderedRing α] [Lit α] [LawfulLit α]

/-! ### (a) Progress: a non-empty frontier always offers an accepted pop -/

/-- the frontier queue holds at most one entry per vertex: an invariant of every run -/
def QNodup (s : SState α) : Prop := (s.queue.map Prod.fst).Nodup

theorem popOk_iff {q : List (Nat × α)} (hnd : (q.map Prod.fst).Nodup) (v : Nat) :
    popOk q v = true ↔ ∃ f, (v, f) ∈ q ∧ ∀ p ∈ q, f ≤ p.2 :=
  ⟨SearchLoop.popOk_spec, fun ⟨_, hf, hmin⟩ => SearchLoop.popOk_of_min hnd hf hmin⟩

theorem turn_qnodup {I : Inst α} {source : Nat} {target : Option Nat} {s s' : SState α} {v : Nat}
    (ht : SearchLimits.Turn I source target s v s') (hq : QNodup s) : QNodup s' :=
  ht.keeps (P := QNodup) (SearchLoop.keys_filter_nodup _ hq)
    (fun _ _ _ _ _ _ _ _ _ _ _ h1 _ _ _ _ _ => SearchLoop.keys_pushIncrease_nodup _ _ h1)
    (fun _ h => h)

theorem initState_qnodup (source : Nat) (f0 : α) : QNodup (initState source f0) := by
  simp [QNodup, initState]

/-- **(a) PROGRESS**: at every loop head a run from the initial state can reach — whatever the
instance, the heuristic and the schedule so far — a non-empty frontier has an entry of minimal
priority: some vertex is an accepted pop, so the schedule can be extended -/
theorem progress {I : Inst α} {source : Nat} {target : Option Nat} {pre : List Nat} {f0 : α}
    {h : SState α} (hr : Reach I source target pre (initState source f0) h)
    (hne : h.queue.isEmpty = false) : ∃ v, popOk h.queue v = true :=
  SearchLoop.exists_popOk (hr.invariant (fun _ _ _ => turn_qnodup) (initState_qnodup source f0))
    (by intro hq; rw [hq] at hne; simp at hne)

/-! ### Final outcomes -/

/-- an outcome other than the two errors of the schedule replay (which have no counterpart in the
code): a result, "no path", a termination, a model error -/
def IsFinal {β : Type} : Except ErrKind β → Prop
  | .ok _ => True
  | .error k => k ≠ .scheduleExhausted ∧ k ≠ .badSchedule


theorem isFinal_error {β : Type} (k : ErrKind) :
    IsFinal (Except.error k : Except ErrKind β) ↔ k ≠ .scheduleExhausted ∧ k ≠ .badSchedule :=
  Iff.rfl

attribute [simp] isFinal_error

theorem isFinal_iff {β : Type} (r : Except ErrKind β) :
    IsFinal r ↔ r ≠ .error .scheduleExhausted ∧ r ≠ .error .badSchedule := by
  cases r with
  | ok x => exact iff_of_true trivial ⟨by simp, by simp⟩
  | error k =>
    exact ⟨fun ⟨h1, h2⟩ => ⟨fun h => h1 (by injection h), fun h => h2 (by injection h)⟩,
      fun ⟨h1, h2⟩ => ⟨fun h => h1 (by rw [h]), fun h => h2 (by rw [h])⟩⟩

theorem isFinal_of_error {β : Type} {r : Except ErrKind β}
    (h : ∀ k, r = .error k → IsFinal (Except.error k : Except ErrKind β)) : IsFinal r := by
  cases r with
  | ok x => trivial
  | error k => exact h k rfl

theorem IsFinal.error_cast {β γ : Type} {k : ErrKind}
    (h : IsFinal (Except.error k : Except ErrKind β)) : IsFinal (Except.error k : Except ErrKind γ) :=
  h

/-- the components of the instance never answer with an error of the schedule replay (true of every
configured instance, `config_noSchedErr`) -/
structure NoSchedErr (I : Inst α) : Prop where
  valid : ∀ e st le, IsFinal (I.valid e st le)
  trav : ∀ e le st, IsFinal (I.trav e le st)
  h : ∀ v st, IsFinal (I.h v st)
  term : ∀ sz it, IsFinal (I.term sz it)

theorem relaxAll_error_final {I : Inst α} (hS : NoSchedErr I) {hasTarget : Bool}
    {lastEdge : Option Nat} {curState : List α} {k : ErrKind} {es : List Nat} {s : SState α}
    (h : relaxAll I hasTarget lastEdge curState es s = .error k) :
    IsFinal (Except.error k : Except ErrKind (SState α)) := by
  obtain ⟨e, _, h1 | h1 | ⟨_, h1⟩⟩ := SearchLoop.relaxAll_error es s h
  · have := hS.valid e curState lastEdge; rw [h1] at this; exact this
  · have := hS.trav e lastEdge curState; rw [h1] at this; exact this
  · have := hS.h (I.keyV e) curState; rw [h1] at this; exact this

/-! ### One loop head -/

/-- where the loop stops, the outcome is final, or the loop asks for a pop (nothing scheduled, the limit
test passed, the frontier not empty), or the scheduled pop is not one the queue could return -/
theorem halt_final_or {I : Inst α} (hS : NoSchedErr I) {source : Nat} {target : Option Nat}
    {h : SState α} {rest : List Nat} {r : Except ErrKind (SState α)}
    (hh : SearchLimits.Halt I source target h rest r) :
    IsFinal r ∨
    (rest = [] ∧ r = .error .scheduleExhausted ∧ I.term h.solSize h.iters = .ok () ∧
      h.queue.isEmpty = false) ∨
    ∃ v rest', rest = v :: rest' ∧ r = .error .badSchedule ∧ popOk h.queue v = false := by
  cases hh with
  | limit hk =>
    have := hS.term h.solSize h.iters
    rw [hk] at this
    exact Or.inl this
  | done => exact Or.inl trivial
  | noPath => exact Or.inl (by simp)
  | exhausted hterm hne => exact Or.inr (Or.inl ⟨rfl, rfl, hterm, hne⟩)
  | badSchedule _ _ hbad => exact Or.inr (Or.inr ⟨_, _, rfl, rfl, hbad⟩)
  | found => exact Or.inl trivial
  | missing => exact Or.inl (by simp)
  | relaxError _ _ _ _ _ hk => exact Or.inl (relaxAll_error_final hS hk)

/-- at a loop head with one queue entry per vertex: the loop ends here without a pop (limit, empty
queue), or some accepted pop ends the run (the target; an error of the expansion), or some accepted
pop completes a turn -/
theorem head_step {I : Inst α} (hS : NoSchedErr I) (source : Nat) (target : Option Nat)
    {h : SState α} (hq : QNodup h) :
    IsFinal (runLoop I source target [] h) ∨
    (∃ v, popOk h.queue v = true ∧ IsFinal (runLoop I source target [v] h)) ∨
    (∃ v h', SearchLimits.Turn I source target h v h') := by
  -- the head with nothing scheduled: it stops, finally or asking for a pop
  rcases SearchLimits.runLoop_step I source target [] h with hh | ⟨_, _, _, h0, _⟩
  · rcases halt_final_or hS hh with hfin | ⟨_, _, _, hemp⟩ | ⟨_, _, h0, _⟩
    · exact Or.inl hfin
    · right
      obtain ⟨v, hpop⟩ := SearchLoop.exists_popOk hq (by intro h0; rw [h0] at hemp; simp at hemp)
      -- the same head with an accepted pop scheduled
      rcases SearchLimits.runLoop_step I source target [v] h with hh | ⟨_, _, h', hs, ht, _⟩
      · rcases halt_final_or hS hh with hfin | ⟨h0, _⟩ | ⟨_, _, h0, _, hbad⟩
        · exact Or.inl ⟨v, hpop, hfin⟩
        · cases h0
        · cases h0
          rw [hpop] at hbad
          cases hbad
      · cases hs
        exact Or.inr ⟨v, h', ht⟩
    · cases h0
  · cases h0

/-! ### Extension to a final outcome -/

/-- **extension**: if no run from `s0` expands more than `N` vertices, then from every loop head the
run reaches (after the accepted pops `pre`) there is a continuation `ext` with a final outcome, and
`pre ++ ext` has at most `N + 1` pops -/
theorem extend_of_bound {I : Inst α} (hS : NoSchedErr I) {source : Nat} {target : Option Nat}
    {s0 : SState α} {N : Nat} (hq0 : QNodup s0)
    (hN : ∀ pre h, Reach I source target pre s0 h → pre.length ≤ N) :
    ∀ (n : Nat) (pre : List Nat) (h : SState α), Reach I source target pre s0 h →
      N - pre.length ≤ n →
      ∃ ext, pre.length + ext.length ≤ N + 1 ∧ IsFinal (runLoop I source target ext h) := by
  -- one loop head: it ends here, or after one more pop, or a turn leads to a head to continue from
  have step : ∀ (pre : List Nat) (h : SState α), Reach I source target pre s0 h →
      (∀ v h', SearchLimits.Turn I source target h v h' →
        ∃ ext, pre.length + 1 + ext.length ≤ N + 1 ∧ IsFinal (runLoop I source target ext h')) →
      ∃ ext, pre.length + ext.length ≤ N + 1 ∧ IsFinal (runLoop I source target ext h) := by
    intro pre h hr hturn
    have hle := hN pre h hr
    rcases head_step hS source target (hr.invariant (fun _ _ _ => turn_qnodup) hq0) with
      h1 | ⟨v, _, h1⟩ | ⟨v, h', ht⟩
    · exact ⟨[], by simp; omega, h1⟩
    · exact ⟨[v], by simp; omega, h1⟩
    · obtain ⟨ext, hlen, hfin⟩ := hturn v h' ht
      refine ⟨v :: ext, by simp only [List.length_cons]; omega, ?_⟩
      rw [runLoop_turn ht]
      exact hfin
  intro n
  induction n with
  | zero =>
    intro pre h hr hn
    refine step pre h hr (fun v h' ht => ?_)
    -- `pre` already has `N` pops: no further turn
    have := hN _ _ (hr.snoc ht)
    simp only [List.length_append, List.length_singleton] at this
    omega
  | succ n ih =>
    intro pre h hr hn
    refine step pre h hr (fun v h' ht => ?_)
    obtain ⟨ext, hlen, hfin⟩ := ih (pre ++ [v]) h' (hr.snoc ht)
      (by simp only [List.length_append, List.length_singleton]; omega)
    simp only [List.length_append, List.length_singleton] at hlen
    exact ⟨ext, hlen, hfin⟩

/-! ### `scheduleExhausted` = "accepted so far, not finished" -/

/-- the outcome `scheduleExhausted` says exactly: every scheduled pop was accepted and completed a
turn, and the loop is not finished -/
theorem exhausted_iff_reach {I : Inst α} (hS : NoSchedErr I) {source : Nat} {target : Option Nat}
    (sched : List Nat) (s : SState α) :
    runLoop I source target sched s = .error .scheduleExhausted ↔
      ∃ h, Reach I source target sched s h ∧ I.term h.solSize h.iters = .ok () ∧
        h.queue.isEmpty = false := by
  constructor
  · intro hrun
    obtain ⟨pre, rest, h, rfl, hr, he⟩ := runLoop_reach I source target sched s
    rw [hrun] at he
    rcases halt_final_or hS he with hfin | ⟨rfl, _, hterm, hne⟩ | ⟨_, _, _, hbad, _⟩
    · exact absurd rfl hfin.1
    · rw [List.append_nil]
      exact ⟨h, hr, hterm, hne⟩
    · cases hbad
  · rintro ⟨h, hr, hterm, hne⟩
    have := hr.runLoop_eq []
    rw [List.append_nil] at this
    rw [this, runLoop_unfold]
    simp [hterm, hne]

/-! ### `run_a_star` and `run_vertex_oriented` -/

/-- no run from the initial state expands more than `N` vertices -/
def ExpansionBound (I : Inst α) (source : Nat) (target : Option Nat) (N : Nat) : Prop :=
  ∀ f0, startF I source target = .ok f0 → ∀ pre h,
    Reach I source target pre (initState source f0) h → pre.length ≤ N

/-- **schedules complete within `N + 1` pops to an outcome satisfying `P`**: some schedule of at most
`N + 1` pops has such an outcome, and every accepted, unfinished schedule has at most `N` pops and
extends to one of at most `N + 1` pops that has — whatever tie-breaking produced it -/
def Completes {β : Type} (run : List Nat → Except ErrKind β) (N : Nat)
    (P : Except ErrKind β → Prop) : Prop :=
  (∃ sched, sched.length ≤ N + 1 ∧ P (run sched)) ∧
  ∀ pre, run pre = .error .scheduleExhausted →
    pre.length ≤ N ∧ ∃ ext, (pre ++ ext).length ≤ N + 1 ∧ P (run (pre ++ ext))

/-- from one run function to another that is unfinished only where the first is, and from `P` to `Q` -/
theorem Completes.imp {β γ : Type} {run : List Nat → Except ErrKind β}
    {run' : List Nat → Except ErrKind γ} {N : Nat} {P : Except ErrKind β → Prop}
    {Q : Except ErrKind γ → Prop} (h : Completes run N P)
    (hex : ∀ s, run' s = .error .scheduleExhausted → run s = .error .scheduleExhausted)
    (hPQ : ∀ s, P (run s) → Q (run' s)) : Completes run' N Q :=
  ⟨let ⟨s, h1, h2⟩ := h.1; ⟨s, h1, hPQ s h2⟩,
   fun pre hpre => let ⟨h4, ext, h5, h6⟩ := h.2 pre (hex pre hpre); ⟨h4, ext, h5, hPQ _ h6⟩⟩

/-- existence and extension for the loop from any state with one queue entry per vertex -/
theorem runLoop_completes {I : Inst α} (hS : NoSchedErr I) {source : Nat} {target : Option Nat}
    {s0 : SState α} {N : Nat} (hq0 : QNodup s0)
    (hN : ∀ pre h, Reach I source target pre s0 h → pre.length ≤ N) :
    Completes (fun sched => runLoop I source target sched s0) N IsFinal := by
  refine ⟨?_, fun pre hpre => ?_⟩
  · obtain ⟨ext, hlen, hfin⟩ := extend_of_bound hS hq0 hN N [] _ (Reach.here _) (Nat.sub_le _ _)
    exact ⟨ext, by simpa using hlen, hfin⟩
  · obtain ⟨h, hr, _, _⟩ := (exhausted_iff_reach hS pre _).1 hpre
    obtain ⟨ext, hlen, hfin⟩ := extend_of_bound hS hq0 hN N pre h hr (Nat.sub_le _ _)
    refine ⟨hN pre h hr, ext, by simpa using hlen, ?_⟩
    show IsFinal (runLoop I source target (pre ++ ext) s0)
    rw [hr.runLoop_eq]
    exact hfin

/-- a run function that does not read the schedule, with a final outcome -/
theorem Completes.const {β : Type} {out : Except ErrKind β} (N : Nat) (h : IsFinal out) :
    Completes (fun _ => out) N IsFinal :=
  ⟨⟨[], Nat.zero_le _, h⟩, fun _ hpre => absurd rfl ((show out = _ from hpre) ▸ h).1⟩

/-- **existence and extension for `run_a_star`** from a bound `N` on the number of expansions of any
run: the shortcut for `target = source` and a failing estimate of the source do not read the schedule,
the third arm is the loop -/
theorem runAStar_completes {I : Inst α} (hS : NoSchedErr I) {source : Nat}
    {target : Option Nat} {N : Nat}
    (hN : ExpansionBound I source target N) : Completes (runAStar I source target) N IsFinal := by
  rw [show runAStar I source target = _ from funext (runAStar_unfold I source target)]
  by_cases hts : target = some source
  · simp only [if_pos hts]
    exact Completes.const N trivial
  · simp only [if_neg hts]
    cases hf : startF I source target with
    | error k =>
      refine Completes.const N ?_
      have := hS.h source I.init
      rwa [(SearchLimits.startF_error hf).2] at this
    | ok f0 => exact runLoop_completes hS (initState_qnodup source f0) (hN f0 hf)

/-- the backtrack adds neither of the two replay errors (`SearchTree.runVertexOriented_error_iff`,
once for `scheduleExhausted`, once for `badSchedule`) -/
theorem runVertexOriented_isFinal_iff {I : Inst α} (hI : WF I) (source : Nat) (target : Option Nat)
    (sched : List Nat) :
    IsFinal (runVertexOriented I source target sched) ↔ IsFinal (runAStar I source target sched) := by
  rw [isFinal_iff, isFinal_iff, Ne, Ne, Ne, Ne, SearchTree.runVertexOriented_error_iff hI,
    SearchTree.runVertexOriented_error_iff hI]

theorem iterations_le_of_bound {I : Inst α} {source : Nat} {target : Option Nat} {N : Nat}
    (hN : ExpansionBound I source target N) {sched : List Nat} {s : SState α}
    (hrun : runAStar I source target sched = .ok s) : s.iters ≤ N := by
  rcases SearchLimits.runAStar_ok_iff.1 hrun with ⟨_, rfl⟩ | ⟨_, f0, hf0, hloop⟩
  · exact Nat.zero_le _
  · obtain ⟨pre, rest, h, _, hr, _, hfin⟩ := SearchLimits.runLoop_ok_reach sched _ s hloop
    have h1 := hr.counters.1
    have h2 := hN f0 hf0 pre h hr
    rw [hfin.iters_eq, h1]
    simp only [initState]
    omega

/-! ### (b) Termination under the discipline -/

theorem heur_bound {I : Inst α} (hI : WF I) {H : Nat → α} {source nV : Nat} (hsrc : source < nV)
    (hkey : ∀ e, I.keyV e < nV) {target : Option Nat} (hH : Heur I target.isSome H) :
    ExpansionBound I source target nV := by
  intro f0 hf0 pre h hr
  have := SearchDiscipline.startF_eq hH hf0
  subst this
  exact SearchDiscipline.reach_length_le_vertices hI hsrc hkey hH hr

/-- **(b) TERMINATION, consistent heuristic**: on a well-formed instance over the vertices `< nV`
whose estimate is a consistent function of the vertex (`Heur`; costs and validity may depend on the
state and on the previous edge) the schedules of `run_a_star` complete within `nV` pops -/
theorem terminates_of_heur {I : Inst α} (hI : WF I) (hS : NoSchedErr I) {H : Nat → α}
    {source nV : Nat} (hsrc : source < nV) (hkey : ∀ e, I.keyV e < nV) {target : Option Nat}
    (hH : Heur I target.isSome H) : Completes (runAStar I source target) nV IsFinal :=
  runAStar_completes hS (heur_bound hI hsrc hkey hH)

/-- **(b) TERMINATION, Dijkstra** (the estimate, whenever it answers, answers zero): `Completes`,
written out -/
theorem terminates_dijkstra {I : Inst α} (hI : WF I) (hS : NoSchedErr I) (hh : ZeroH I)
    {source nV : Nat} (hsrc : source < nV) (hkey : ∀ e, I.keyV e < nV) (target : Option Nat) :
    (∃ sched, sched.length ≤ nV + 1 ∧ IsFinal (runAStar I source target sched)) ∧
    ∀ pre, runAStar I source target pre = .error .scheduleExhausted →
      pre.length ≤ nV ∧ ∃ ext, (pre ++ ext).length ≤ nV + 1 ∧
        IsFinal (runAStar I source target (pre ++ ext)) :=
  terminates_of_heur hI hS hsrc hkey (hh.heur hI _)

/-! ### Where an error of a run comes from -/

/-- an error of `run_vertex_oriented` is "no path", a replay error, or the error of a call of one of
the four components — never the loop's own "vertex missing from solution", never the backtrack's.
The failing limit test is the one made at a loop head the run **reached** (`Reach`) from the initial
state, so its two arguments are that head's `solution.len()` and `iterations` — which the bounds on
reachable heads (`reach_length_le_vertices`, `general_bound`, `Reach.solSize_le`) bound.
(`SearchLimits.runVertexOriented_error_located` also says on which pair the failing call was made.) -/
theorem runVertexOriented_error_origin_reach {I : Inst α} (hI : WF I) {source : Nat}
    {target : Option Nat} {sched : List Nat} {k : ErrKind}
    (h : runVertexOriented I source target sched = .error k) :
    k = .noPath ∨ k = .scheduleExhausted ∨ k = .badSchedule ∨
    (∃ f0 pre hd, startF I source target = .ok f0 ∧
      Reach I source target pre (initState source f0) hd ∧
      I.term hd.solSize hd.iters = .error k) ∨
    (∃ e st le, I.valid e st le = .error k) ∨
    (∃ e le st, I.trav e le st = .error k) ∨ (∃ v st, I.h v st = .error k) := by
  rcases SearchLimits.runVertexOriented_error_located hI
    (S := fun _ _ => True) ⟨trivial, fun _ _ _ _ _ _ _ _ _ => trivial⟩ h with
    h | h | h | h | ⟨_, h0⟩ | ⟨_, e, le, st, _, _, h1 | h1 | ⟨_, h1⟩⟩
  · exact Or.inl h
  · exact Or.inr (Or.inl h)
  · exact Or.inr (Or.inr (Or.inl h))
  · exact Or.inr (Or.inr (Or.inr (Or.inl h)))
  · exact Or.inr (Or.inr (Or.inr (Or.inr (Or.inr (Or.inr ⟨_, _, h0⟩)))))
  · exact Or.inr (Or.inr (Or.inr (Or.inr (Or.inl ⟨_, _, _, h1⟩))))
  · exact Or.inr (Or.inr (Or.inr (Or.inr (Or.inr (Or.inl ⟨_, _, _, h1⟩)))))
  · exact Or.inr (Or.inr (Or.inr (Or.inr (Or.inr (Or.inr ⟨_, _, h1⟩)))))

/-- without a destination the loop never answers "no path" (when no component does) -/
theorem runLoop_none_ne_noPath {I : Inst α} (hyg : SearchOpt.NoSpuriousNoPath I) {source : Nat}
    (sched : List Nat) (s : SState α) : runLoop I source none sched s ≠ .error .noPath := by
  intro hrun
  obtain ⟨_, _, h, _, _, he⟩ := runLoop_reach I source none sched s
  rw [hrun] at he
  cases he with
  | limit hk => exact hyg.term _ _ hk
  | noPath _ _ ht => cases ht
  | relaxError _ _ _ _ _ hk => exact SearchLoop.relaxAll_ne_error hyg.valid hyg.trav hyg.h _ _ hk

/-- a limit test made in a run from the initial state, when no run expands more than `N` vertices
(`hN` is `ExpansionBound I source target N`, written out) and no vertex has more than `D` incident
edges, is made at `iterations ≤ N` and `solution.len() ≤ N · D` -/
theorem reach_counters_le {I : Inst α} {N D : Nat} {source : Nat} {target : Option Nat}
    (hN : ∀ f0, startF I source target = .ok f0 → ∀ pre h,
      Reach I source target pre (initState source f0) h → pre.length ≤ N)
    (hD : ∀ v, (I.incident v).length ≤ D) {f0 : α} (hf0 : startF I source target = .ok f0)
    {pre : List Nat} {hd : SState α} (hr : Reach I source target pre (initState source f0) hd) :
    hd.iters ≤ N ∧ hd.solSize ≤ N * D := by
  have h1 := hN f0 hf0 pre hd hr
  have h2 := hr.counters.1
  have h3 := hr.solSize_le hD
  have h4 : pre.length * D ≤ N * D := Nat.mul_le_mul_right D h1
  simp only [initState] at h2 h3
  omega

/-! ### (c) General A\*: every run is finite, re-opening allowed

No hypothesis on the estimate (any weight factor; the estimate may be inconsistent, may depend on
the state) nor on the costs beyond strict positivity (`WF`): costs and validity may depend on the
state and on the previous edge.

Why it ends.  Every label `g v` the loop ever writes is the cost of *replaying* a vertex-simple path
from the source to `v` (`replay`: the traversals of the path's edges, each from the state and edge
the one before it produced — a function of the edge sequence alone).  Simple, because a label only
improves: a path that came back to a vertex it already visited would cost more than the label that
vertex had then, hence more than the label it has now, and `tentative < existing` fails
(`wit_verts_le`).  There are finitely many such paths (`walks`: all walks of fewer than `nV` edges
along the incident lists), each improvement of a label takes the path that produced it out of the
set of paths that are still cheaper than the label of their end vertex (`phi`), each improvement
adds at most one queue entry and each turn removes one: the number of turns of any run is at most
`|walks| + 1` (`general_bound`).  The bound is astronomically large — exponential in the number of
vertices — and is a termination proof, not a complexity bound: for A\* with an inconsistent estimate
the iteration limit of the termination model (C10) remains the only practical bound. -/

section General

/-- the vertex a reversed edge path (head = last edge) ends in -/
def endV (I : Inst α) (source : Nat) : List Nat → Nat
  | [] => source
  | e :: _ => I.keyV e

/-- the vertices a reversed path visits, the source included -/
def verts (I : Inst α) (source : Nat) : List Nat → List Nat
  | [] => [source]
  | e :: rest => I.keyV e :: verts I source rest

/-- replay of a reversed path from the initial state: (summed cost, last edge, state); `none` when
a traversal fails -/
def replay (I : Inst α) : List Nat → Option (α × Option Nat × List α)
  | [] => some (0, none, I.init)
  | e :: rest =>
    match replay I rest with
    | none => none
    | some (x, le, st) =>
      match I.trav e le st with
      | .ok (ac, tc, st') => some (x + (ac + tc), some e, st')
      | .error _ => none

/-- `p` is a witness relative to the labels `g`: it follows the incident lists, visits no vertex
twice, and every proper prefix costs at least the label of the vertex it ends in -/
def Wit (I : Inst α) (source : Nat) (g : Nat → Option α) : List Nat → Prop
  | [] => True
  | e :: rest =>
    Wit I source g rest ∧ e ∈ I.incident (endV I source rest) ∧
    (∃ x le st, replay I rest = some (x, le, st) ∧
      ∃ gw, g (endV I source rest) = some gw ∧ gw ≤ x) ∧
    I.keyV e ∉ verts I source rest

theorem Wit.mono {I : Inst α} {source : Nat} {g g' : Nat → Option α}
    (hle : SearchOpt.LabelsLe g g') : ∀ {p : List Nat}, Wit I source g p → Wit I source g' p
  | [], _ => trivial
  | e :: rest, h => by
    obtain ⟨h1, h2, ⟨x, le, st, h3, gw, h4, h5⟩, h6⟩ := h
    obtain ⟨gw', h7, h8⟩ := hle _ _ h4
    exact ⟨Wit.mono hle h1, h2, ⟨x, le, st, h3, gw', h7, le_trans h8 h5⟩, h6⟩

/-- the replay of a longer path costs strictly more -/
theorem replay_cons {I : Inst α} (hI : WF I) {e : Nat} {rest : List Nat} {x : α} {le : Option Nat}
    {st : List α} (h : replay I (e :: rest) = some (x, le, st)) :
    ∃ x0 le0 st0, replay I rest = some (x0, le0, st0) ∧ x0 < x := by
  simp only [replay] at h
  cases hr : replay I rest with
  | none => simp [hr] at h
  | some r =>
    obtain ⟨x0, le0, st0⟩ := r
    simp only [hr] at h
    cases ht : I.trav e le0 st0 with
    | error k => simp [ht] at h
    | ok r2 =>
      obtain ⟨ac, tc, st'⟩ := r2
      simp only [ht, Option.some.injEq, Prod.mk.injEq] at h
      have := hI.cost_pos _ _ _ _ _ _ ht
      exact ⟨x0, le0, st0, rfl, h.1 ▸ SearchLoop.lt_add_pos x0 this⟩

/-- every vertex a witness visits carries a label of at most the witness's cost, given that its
end vertex does -/
theorem wit_verts_le {I : Inst α} (hI : WF I) {source : Nat} {g : Nat → Option α} :
    ∀ {p : List Nat} {x : α} {le : Option Nat} {st : List α}, Wit I source g p →
      replay I p = some (x, le, st) → (∃ gw, g (endV I source p) = some gw ∧ gw ≤ x) →
      ∀ w ∈ verts I source p, ∃ gw, g w = some gw ∧ gw ≤ x
  | [], x, le, st, _, _, hend, w, hw => by
    simp only [verts, List.mem_singleton] at hw
    subst hw
    exact hend
  | e :: rest, x, le, st, hwit, hrep, hend, w, hw => by
    simp only [verts, List.mem_cons] at hw
    rcases hw with rfl | hw
    · exact hend
    · obtain ⟨h1, _, ⟨x0, le0, st0, h3, hgw⟩, _⟩ := hwit
      obtain ⟨x0', le0', st0', h3', hlt⟩ := replay_cons hI hrep
      rw [h3] at h3'
      simp only [Option.some.injEq, Prod.mk.injEq] at h3'
      obtain ⟨rfl, _, _⟩ := h3'
      obtain ⟨gw, h4, h5⟩ := wit_verts_le hI h1 h3 hgw w hw
      exact ⟨gw, h4, le_trans h5 (le_of_lt hlt)⟩

theorem Wit.nodup {I : Inst α} {source : Nat} {g : Nat → Option α} :
    ∀ {p : List Nat}, Wit I source g p → (verts I source p).Nodup
  | [], _ => by simp [verts]
  | e :: rest, h => by
    simp only [verts]
    exact List.nodup_cons.2 ⟨h.2.2.2, Wit.nodup h.1⟩

theorem verts_length (I : Inst α) (source : Nat) :
    ∀ p : List Nat, (verts I source p).length = p.length + 1
  | [] => rfl
  | e :: rest => by simp [verts, verts_length I source rest]

theorem verts_lt {I : Inst α} {source nV : Nat} (hsrc : source < nV) (hkey : ∀ e, I.keyV e < nV) :
    ∀ p : List Nat, ∀ w ∈ verts I source p, w < nV
  | [], w, hw => by simp only [verts, List.mem_singleton] at hw; subst hw; exact hsrc
  | e :: rest, w, hw => by
    simp only [verts, List.mem_cons] at hw
    rcases hw with rfl | hw
    · exact hkey e
    · exact verts_lt hsrc hkey rest w hw

/-- a witness over the vertices `< nV` has fewer than `nV` edges -/
theorem Wit.length_lt {I : Inst α} {source nV : Nat} (hsrc : source < nV)
    (hkey : ∀ e, I.keyV e < nV) {g : Nat → Option α} {p : List Nat} (h : Wit I source g p) :
    p.length < nV := by
  have hsub : verts I source p ⊆ List.range nV := by
    intro w hw
    rw [List.mem_range]
    exact verts_lt hsrc hkey p w hw
  have := ((Wit.nodup h).subperm hsub).length_le
  rw [verts_length, List.length_range] at this
  omega

/-! #### The finite set of candidate paths -/

/-- all walks of exactly `n` edges from the source along the incident lists (reversed) -/
def walksLen (I : Inst α) (source : Nat) : Nat → List (List Nat)
  | 0 => [[]]
  | n + 1 => (walksLen I source n).flatMap
      (fun p => (I.incident (endV I source p)).map (fun e => e :: p))

/-- all walks of fewer than `N` edges -/
def walks (I : Inst α) (source N : Nat) : List (List Nat) :=
  (List.range N).flatMap (walksLen I source)

theorem Wit.mem_walksLen {I : Inst α} {source : Nat} {g : Nat → Option α} :
    ∀ {p : List Nat}, Wit I source g p → p ∈ walksLen I source p.length
  | [], _ => by simp [walksLen]
  | e :: rest, h => by
    simp only [List.length_cons, walksLen, List.mem_flatMap, List.mem_map]
    exact ⟨rest, Wit.mem_walksLen h.1, e, h.2.1, rfl⟩

theorem Wit.mem_walks {I : Inst α} {source nV : Nat} (hsrc : source < nV)
    (hkey : ∀ e, I.keyV e < nV) {g : Nat → Option α} {p : List Nat} (h : Wit I source g p) :
    p ∈ walks I source nV := by
  simp only [walks, List.mem_flatMap, List.mem_range]
  exact ⟨p.length, Wit.length_lt hsrc hkey h, Wit.mem_walksLen h⟩

/-! #### The measure -/

/-- the replay of `p` is still cheaper than the label of its end vertex (or that vertex has no
label yet) -/
def Below (I : Inst α) (source : Nat) (g : Nat → Option α) (p : List Nat) : Prop :=
  ∃ x le st, replay I p = some (x, le, st) ∧ ∀ y, g (endV I source p) = some y → x < y

open Classical in
/-- number of candidate paths that are still below the label of their end vertex -/
noncomputable def phi (I : Inst α) (source : Nat) (W : List (List Nat)) (g : Nat → Option α) :
    Nat :=
  W.countP (fun p => decide (Below I source g p))

theorem Below.mono {I : Inst α} {source : Nat} {g g' : Nat → Option α}
    (hle : SearchOpt.LabelsLe g g') {p : List Nat} (h : Below I source g' p) :
    Below I source g p := by
  obtain ⟨x, le, st, h1, h2⟩ := h
  refine ⟨x, le, st, h1, fun y hy => ?_⟩
  obtain ⟨y', h3, h4⟩ := hle _ _ hy
  exact lt_of_lt_of_le (h2 y' h3) h4

theorem countP_succ_le {β : Type} {q q' : β → Bool} (hmono : ∀ a, q' a = true → q a = true) :
    ∀ {W : List β} {p : β}, p ∈ W → q p = true → q' p = false →
      W.countP q' + 1 ≤ W.countP q
  | a :: W', p, hp, h1, h2 => by
    rcases List.mem_cons.1 hp with rfl | hp'
    · rw [List.countP_cons_of_pos h1, List.countP_cons_of_neg (by simp [h2])]
      exact Nat.succ_le_succ (List.countP_mono_left (fun x _ hx => hmono x hx))
    · have ih := countP_succ_le hmono hp' h1 h2
      rw [List.countP_cons, List.countP_cons]
      have : (if q' a = true then 1 else 0) ≤ (if q a = true then 1 else 0) := by
        by_cases ha : q' a = true
        · simp [ha, hmono a ha]
        · simp only [ha, Bool.false_eq_true, if_false]; exact Nat.zero_le _
      omega

theorem phi_mono {I : Inst α} {source : Nat} (W : List (List Nat)) {g g' : Nat → Option α}
    (hle : SearchOpt.LabelsLe g g') : phi I source W g' ≤ phi I source W g := by
  classical
  unfold phi
  apply List.countP_mono_left
  intro p _ hp
  simp only [decide_eq_true_eq] at hp ⊢
  exact hp.mono hle

theorem phi_strict {I : Inst α} {source : Nat} {W : List (List Nat)} {g g' : Nat → Option α}
    (hle : SearchOpt.LabelsLe g g') {p : List Nat} (hp : p ∈ W) (h1 : Below I source g p)
    (h2 : ¬ Below I source g' p) : phi I source W g' + 1 ≤ phi I source W g := by
  classical
  unfold phi
  apply countP_succ_le _ hp
  · simpa using h1
  · simpa using h2
  · intro a ha
    simp only [decide_eq_true_eq] at ha ⊢
    exact ha.mono hle

/-! #### The invariant -/

/-- every labelled vertex with a tree entry has a witness whose replay is its label, its entry's
edge and its entry's state -/
def PathInv (I : Inst α) (source : Nat) (s : SState α) : Prop :=
  ∀ v b x, s.sol v = some b → s.g v = some x →
    ∃ p, endV I source p = v ∧ Wit I source s.g p ∧ replay I p = some (x, some b.edge, b.state)

/-- inside the `for` loop over the incident edges of the popped vertex `u` -/
structure PMid (I : Inst α) (source : Nat) (u : Nat) (gu : α) (lastEdge : Option Nat)
    (st : List α) (s : SState α) : Prop where
  inv : PathInv I source s
  label : s.g u = some gu
  path : ∃ pu, endV I source pu = u ∧ Wit I source s.g pu ∧ replay I pu = some (gu, lastEdge, st)

/-- the state an improving relaxation writes keeps the invariant, only lowers labels, and does not
raise the measure -/
theorem update_general {I : Inst α} (hI : WF I) {source nV : Nat} (hsrc : source < nV)
    (hkey : ∀ e, I.keyV e < nV) {u : Nat} {gu : α} {lastEdge : Option Nat}
    {st : List α} {s : SState α} {e : Nat} (hm : PMid I source u gu lastEdge st s)
    (he : e ∈ I.incident u) {ac tc hv : α} {st' : List α}
    (htrav : I.trav e lastEdge st = .ok (ac, tc, st'))
    (himp : improves (gu + (ac + tc)) (s.g (I.keyV e)) = true) :
    PMid I source u gu lastEdge st (SearchLoop.written I s e ac tc gu hv st') ∧
    phi I source (walks I source nV) (SearchLoop.written I s e ac tc gu hv st').g
        + (SearchLoop.written I s e ac tc gu hv st').queue.length
      ≤ phi I source (walks I source nV) s.g + s.queue.length := by
  have hc : 0 < ac + tc := hI.cost_pos _ _ _ _ _ _ htrav
  obtain ⟨pu, hpu1, hpu2, hpu3⟩ := hm.path
  have hle := SearchOpt.labelsLe_upd himp
  -- the key vertex is not on the path to `u`
  have hnot : I.keyV e ∉ verts I source pu := by
    intro hmem
    obtain ⟨gw, h1, h2⟩ := wit_verts_le hI hpu2 hpu3
      ⟨gu, by rw [hpu1]; exact hm.label, le_refl _⟩ _ hmem
    rw [h1, SearchLoop.improves_some] at himp
    exact lt_asymm (lt_of_lt_of_le himp h2) (SearchLoop.lt_add_pos _ hc)
  -- in particular it is not `u`, the end of that path
  have hku : I.keyV e ≠ u := fun hk =>
    hnot (by rw [hk, ← hpu1]; cases pu <;> simp [endV, verts])
  have hwit' : Wit I source (upd s.g (I.keyV e) (gu + (ac + tc))) (e :: pu) := by
    refine ⟨hpu2.mono hle, by rw [hpu1]; exact he, ⟨gu, lastEdge, st, hpu3, gu, ?_,
      le_refl _⟩, hnot⟩
    rw [hpu1, SearchTree.upd_other _ _ _ hku.symm]
    exact hm.label
  have hrep' : replay I (e :: pu) = some (gu + (ac + tc), some e, st') := by
    simp only [replay, hpu3, htrav]
  refine ⟨⟨?_, ?_, ?_⟩, ?_⟩
  · -- PathInv
    intro v b x hb hx
    change upd s.sol (I.keyV e) _ v = some b at hb
    change upd s.g (I.keyV e) _ v = some x at hx
    by_cases hvk : v = I.keyV e
    · subst hvk
      rw [SearchTree.upd_same] at hb hx
      cases hb
      cases hx
      exact ⟨e :: pu, rfl, hwit', hrep'⟩
    · rw [SearchTree.upd_other _ _ _ hvk] at hb hx
      obtain ⟨p, h1, h2, h3⟩ := hm.inv v b x hb hx
      exact ⟨p, h1, h2.mono hle, h3⟩
  · show upd s.g (I.keyV e) _ u = some gu
    rw [SearchTree.upd_other _ _ _ hku.symm]
    exact hm.label
  · exact ⟨pu, hpu1, hpu2.mono hle, hpu3⟩
  · -- the measure
    have hbelow : Below I source s.g (e :: pu) := by
      refine ⟨_, _, _, hrep', fun y hy => ?_⟩
      change s.g (I.keyV e) = some y at hy
      rw [hy, SearchLoop.improves_some] at himp
      exact himp
    have hnbelow : ¬ Below I source (upd s.g (I.keyV e) (gu + (ac + tc))) (e :: pu) := by
      rintro ⟨x, le, st2, h1, h2⟩
      rw [hrep'] at h1
      simp only [Option.some.injEq, Prod.mk.injEq] at h1
      have := h2 (gu + (ac + tc)) (by
        show upd s.g (I.keyV e) _ (I.keyV e) = _
        exact SearchTree.upd_same _ _ _)
      rw [← h1.1] at this
      exact lt_irrefl _ this
    have hstrict := phi_strict (W := walks I source nV) hle
      (Wit.mem_walks hsrc hkey hwit') hbelow hnbelow
    have hlen := SearchLoop.pushIncrease_length_le s.queue (I.keyV e) (gu + (ac + tc) + hv)
    show phi I source (walks I source nV) (upd s.g (I.keyV e) _)
        + (pushIncrease s.queue (I.keyV e) _).length ≤ _
    omega

theorem relaxAll_general {I : Inst α} (hI : WF I) {source nV : Nat} (hsrc : source < nV)
    (hkey : ∀ e, I.keyV e < nV) {hasTarget : Bool} {u : Nat} {gu : α} {lastEdge : Option Nat}
    {st : List α} (es : List Nat) (s s' : SState α) (hes : ∀ e ∈ es, e ∈ I.incident u)
    (hm : PMid I source u gu lastEdge st s)
    (h : relaxAll I hasTarget lastEdge st es s = .ok s') :
    PMid I source u gu lastEdge st s' ∧
    phi I source (walks I source nV) s'.g + s'.queue.length
      ≤ phi I source (walks I source nV) s.g + s.queue.length := by
  refine SearchLoop.relaxAll_keeps
    (P := fun s1 => PMid I source u gu lastEdge st s1 ∧
      phi I source (walks I source nV) s1.g + s1.queue.length
        ≤ phi I source (walks I source nV) s.g + s.queue.length)
    h ⟨hm, le_refl _⟩ fun e he s1 ac tc gt hv st' h1 _ htrav hgt himp _ => ?_
  rw [hI.incident_term u e (hes e he), h1.1.label] at hgt
  cases hgt
  obtain ⟨hm2, hle2⟩ := update_general hI hsrc hkey h1.1 (hes e he) (hv := hv) htrav himp
  exact ⟨hm2, le_trans hle2 h1.2⟩

/-- one turn keeps the invariants and lowers the measure -/
theorem turn_general {I : Inst α} (hI : WF I) {source nV : Nat} (hsrc : source < nV)
    (hkey : ∀ e, I.keyV e < nV) {target : Option Nat} {s s' : SState α} {v : Nat}
    (hinv : TreeInv I source s) (hp : PathInv I source s)
    (ht : SearchLimits.Turn I source target s v s') :
    TreeInv I source s' ∧ PathInv I source s' ∧
    phi I source (walks I source nV) s'.g + s'.queue.length + 1
      ≤ phi I source (walks I source nV) s.g + s.queue.length := by
  have hinv' := ht.treeInv hI hinv
  obtain ⟨_, _, hpop, _, lastEdge, st, s2, hcur, hrel, rfl⟩ := ht
  obtain ⟨q, hq, hqv⟩ := SearchLoop.popOk_mem hpop
  obtain ⟨gv, hgv⟩ := Option.isSome_iff_exists.1 (hinv.queue_labelled q hq)
  rw [hqv] at hgv
  -- the popped vertex has a witness
  have hmid : PMid I source v gv lastEdge st (popped s v) := by
    refine ⟨hp, hgv, ?_⟩
    rcases SearchLimits.curOf_cases hcur with ⟨rfl, rfl, rfl⟩ | ⟨_, b, hb, rfl, rfl⟩
    · have : gv = 0 := by
        have := hinv.g_source
        rw [hgv] at this
        exact Option.some.inj this
      subst this
      exact ⟨[], rfl, trivial, rfl⟩
    · exact hp v b gv hb hgv
  obtain ⟨hm2, hle⟩ := relaxAll_general hI hsrc hkey (I.incident v) (popped s v) s2
    (fun e he => he) hmid hrel
  have hpl := SearchLimits.popped_length_lt hpop
  refine ⟨hinv', hm2.inv, ?_⟩
  have : (popped s v).g = s.g := rfl
  rw [this] at hle
  show phi I source (walks I source nV) s2.g + s2.queue.length + 1 ≤ _
  omega

/-- along a run: the number of turns plus the measure at the head reached is at most the measure
at the start -/
theorem reach_general {I : Inst α} (hI : WF I) {source nV : Nat} (hsrc : source < nV)
    (hkey : ∀ e, I.keyV e < nV) {target : Option Nat} {pre : List Nat} {s h : SState α}
    (hr : Reach I source target pre s h) (hinv : TreeInv I source s) (hp : PathInv I source s) :
    pre.length + (phi I source (walks I source nV) h.g + h.queue.length)
      ≤ phi I source (walks I source nV) s.g + s.queue.length := by
  induction hr with
  | here s => simp
  | turn ht _ ih =>
    obtain ⟨hinv1, hp1, hle1⟩ := turn_general hI hsrc hkey hinv hp ht
    have := ih hinv1 hp1
    simp only [List.length_cons]
    omega

/-- **the bound**: no run of a well-formed instance over the vertices `< nV` — any estimate, any
schedule — performs more than `|walks| + 1` turns -/
theorem general_bound {I : Inst α} (hI : WF I) {source nV : Nat} (hsrc : source < nV)
    (hkey : ∀ e, I.keyV e < nV) {target : Option Nat} (f0 : α) {pre : List Nat} {h : SState α}
    (hr : Reach I source target pre (initState source f0) h) :
    pre.length ≤ (walks I source nV).length + 1 := by
  have hp : PathInv I source (initState source f0) := by
    intro v b x hb _
    simp [initState] at hb
  have := reach_general hI hsrc hkey hr (SearchTree.initState_treeInv I source f0) hp
  have hphi : phi I source (walks I source nV) (initState source f0).g
      ≤ (walks I source nV).length := by
    classical
    unfold phi
    exact List.countP_le_length
  have hq : (initState source f0).queue.length = 1 := by simp [initState]
  omega

/-- **(c) TERMINATION, general A\*** (re-opening allowed): a well-formed instance over the vertices
`< nV`, no hypothesis on the estimate.  `Completes`, written out, with `N = |walks| + 1` (`walks`: the
walks of fewer than `nV` edges from the source). -/
theorem terminates_general {I : Inst α} (hI : WF I) (hS : NoSchedErr I) {source nV : Nat}
    (hsrc : source < nV) (hkey : ∀ e, I.keyV e < nV) (target : Option Nat) :
    (∃ sched, sched.length ≤ (walks I source nV).length + 2 ∧
      IsFinal (runAStar I source target sched)) ∧
    ∀ pre, runAStar I source target pre = .error .scheduleExhausted →
      pre.length ≤ (walks I source nV).length + 1 ∧
      ∃ ext, (pre ++ ext).length ≤ (walks I source nV).length + 2 ∧
        IsFinal (runAStar I source target (pre ++ ext)) :=
  runAStar_completes hS (fun f0 _ _ _ hr => general_bound hI hsrc hkey f0 hr)

/-- size of the candidate set: with at most `D` incident edges per vertex there are at most `D ^ n`
walks of `n` edges -/
theorem walksLen_length_le {I : Inst α} {D : Nat} (hD : ∀ v, (I.incident v).length ≤ D)
    (source : Nat) : ∀ n, (walksLen I source n).length ≤ D ^ n
  | 0 => by simp [walksLen]
  | n + 1 => by
    have ih := walksLen_length_le hD source n
    have key : ∀ (l : List (List Nat)),
        (l.flatMap (fun p => (I.incident (endV I source p)).map (fun e => e :: p))).length
          ≤ l.length * D := by
      intro l
      induction l with
      | nil => simp
      | cons p l ihl =>
        simp only [List.flatMap_cons, List.length_append, List.length_map, List.length_cons]
        have := hD (endV I source p)
        rw [Nat.succ_mul]
        omega
    calc (walksLen I source (n + 1)).length ≤ (walksLen I source n).length * D := key _
      _ ≤ D ^ n * D := Nat.mul_le_mul_right D ih
      _ = D ^ (n + 1) := (Nat.pow_succ ..).symm

theorem walks_length_le {I : Inst α} {D : Nat} (hD : ∀ v, (I.incident v).length ≤ D)
    (source : Nat) : ∀ N, (walks I source N).length ≤ ((List.range N).map (fun n => D ^ n)).sum
  | 0 => by simp [walks]
  | N + 1 => by
    have ih := walks_length_le hD source N
    have h1 := walksLen_length_le hD source N
    simp only [walks, List.range_succ, List.flatMap_append, List.flatMap_cons, List.flatMap_nil,
      List.append_nil, List.length_append, List.map_append, List.map_cons, List.map_nil,
      List.sum_append, List.sum_cons, List.sum_nil, Nat.add_zero] at ih ⊢
    omega

end General

/-! ### Configured instances (`Config.inst`, `Config.runVertex`) -/

theorem ModelErr.final {β : Type} {k : ErrKind} (h : ModelErr k) :
    IsFinal (Except.error k : Except ErrKind β) := by
  constructor
  · rintro rfl
    simp [ModelErr] at h
  · rintro rfl
    simp [ModelErr] at h

/-- no component of a configured instance answers with an error of the schedule replay -/
theorem config_noSchedErr (c : Config α) : NoSchedErr c.inst where
  valid := fun e st le => isFinal_of_error fun k h => (Config.inst_valid_error h).final
  trav := fun e le st => isFinal_of_error fun k h => (edgeTraversal_error (c := c) h).final
  h := fun v st => isFinal_of_error fun k h => (estimate_error (c := c) h).final
  term := fun _ _ => isFinal_of_error fun _ h => by
    rcases SearchLimits.test_error_kinds c.term _ _ _ h with ⟨ks, rfl, _⟩ | rfl
    · simp
    · simp

/-- how a search of the code ends: a result, "no path", the explicit termination by a limit (or the
`iteration % 0` panic of a zero check frequency), or the error of a component model.  What is
excluded: the two replay errors of the model and the "cannot happen" errors of the loop and of the
backtrack -/
def Ended {β : Type} (r : Except ErrKind β) : Prop :=
  (∃ x, r = .ok x) ∨ r = .error .noPath ∨ (∃ ks, r = .error (.terminated ks)) ∨
  r = .error (.panic "termination-frequency-zero") ∨ ∃ k, ModelErr k ∧ r = .error k

theorem Ended.isFinal {β : Type} {r : Except ErrKind β} (h : Ended r) : IsFinal r := by
  rcases h with ⟨x, rfl⟩ | rfl | ⟨ks, rfl⟩ | rfl | ⟨k, hk, rfl⟩
  · trivial
  · simp
  · simp
  · simp
  · exact hk.final

theorem runVertex_isFinal_iff (c : Config α) (source : Nat) (target : Option Nat)
    (sched : List Nat) :
    IsFinal (c.runVertex source target sched) ↔
      IsFinal (runVertexOriented c.inst source target sched) := by
  rw [isFinal_iff, isFinal_iff, Ne, Ne, Ne, Ne, runVertex_error_iff, runVertex_error_iff]

/-- **on a configuration with consistent adjacency, a final outcome is one of the ways the code
ends** (and conversely): the only other outcomes of the model are the two replay errors -/
theorem config_final_iff_ended (c : Config α) (hadj : c.AdjConsistent) (source : Nat)
    (target : Option Nat) (sched : List Nat) :
    IsFinal (c.runVertex source target sched) ↔ Ended (c.runVertex source target sched) := by
  refine ⟨fun hfin => ?_, Ended.isFinal⟩
  cases hr : c.runVertex source target sched with
  | ok r => exact Or.inl ⟨r, rfl⟩
  | error k =>
    rw [hr] at hfin
    rcases c.error_origin hadj ((runVertex_error_iff c source target sched k).1 hr) with
      rfl | rfl | rfl | ⟨_, _, hd, _, _, h⟩ | hk
    · exact Or.inr (Or.inl rfl)
    · exact absurd rfl hfin.1
    · exact absurd rfl hfin.2
    · rcases SearchLimits.test_error_kinds c.term _ _ _ h with ⟨ks, rfl, _⟩ | rfl
      · exact Or.inr (Or.inr (Or.inl ⟨ks, rfl⟩))
      · exact Or.inr (Or.inr (Or.inr (Or.inl rfl)))
    · exact Or.inr (Or.inr (Or.inr (Or.inr ⟨k, hk, rfl⟩)))

/-- every end point of every edge is a vertex id below `n` (what the graph loader guarantees, C15) -/
def _root_.Compass.Config.VerticesBelow (c : Config α) (n : Nat) : Prop :=
  ∀ er ∈ c.edges, er.src < n ∧ er.dst < n

instance (c : Config α) (n : Nat) : Decidable (c.VerticesBelow n) := by
  unfold Config.VerticesBelow; infer_instance

/-- (`keyV` of an id beyond the edge list is 0: hence `0 < n`) -/
theorem config_keyV_lt (c : Config α) {n : Nat} (hV : c.VerticesBelow n) (hn : 0 < n)
    (e : Nat) : c.inst.keyV e < n := by
  cases he : c.edges[e]? with
  | none =>
    simp only [Config.inst, he]
    exact hn
  | some er =>
    rw [Config.inst_keyV he]
    have := hV er (List.mem_of_getElem? he)
    split
    · exact this.1
    · exact this.2

/-! #### Bounds on the expansions -/

/-- under the discipline a configured search over the vertices `< n` expands at most `n` of them -/
theorem config_heur_bound (c : Config α) (hadj : c.AdjConsistent) {H : Nat → α} {source n : Nat}
    (hsrc : source < n) (hV : c.VerticesBelow n) {target : Option Nat}
    (hH : Heur c.inst target.isSome H) : ExpansionBound c.inst source target n :=
  heur_bound (c.inst_wf hadj) hsrc (config_keyV_lt c hV (Nat.zero_lt_of_lt hsrc)) hH

/-- Dijkstra (weight factor 0) runs under the discipline -/
theorem config_dijkstra_bound (c : Config α) (hadj : c.AdjConsistent) (hwf : c.wf = some 0)
    {source n : Nat} (hsrc : source < n) (hV : c.VerticesBelow n) (target : Option Nat) :
    ExpansionBound c.inst source target n :=
  config_heur_bound c hadj hsrc hV ((SearchDiscipline.config_zeroH c hwf).heur (c.inst_wf hadj) _)

/-- a destination-less search adds `Cost::ZERO` as estimate whatever the weight factor: it always
runs under the discipline -/
theorem config_tree_bound (c : Config α) (hadj : c.AdjConsistent)
    {source n : Nat} (hsrc : source < n) (hV : c.VerticesBelow n) :
    ExpansionBound c.inst source none n :=
  config_heur_bound c hadj hsrc hV (target := none) (Heur.noTarget (c.inst_wf hadj))

/-- any weight factor, re-opening allowed: at most `|walks| + 1` expansions -/
theorem config_general_bound (c : Config α) (hadj : c.AdjConsistent)
    {source n : Nat} (hsrc : source < n) (hV : c.VerticesBelow n) (target : Option Nat) :
    ExpansionBound c.inst source target ((walks c.inst source n).length + 1) :=
  fun f0 _ _ _ hr => general_bound (c.inst_wf hadj) hsrc
    (config_keyV_lt c hV (Nat.zero_lt_of_lt hsrc)) f0 hr

/-! #### Termination -/

/-- on a configuration with consistent adjacency the schedules of `run_vertex_oriented` complete, within
the bound on the expansions, to one of the ways the code ends -/
theorem config_completes (c : Config α) (hadj : c.AdjConsistent) {source : Nat}
    {target : Option Nat} {N : Nat} (hN : ExpansionBound c.inst source target N) :
    Completes (c.runVertex source target) N Ended :=
  (runAStar_completes (config_noSchedErr c) hN).imp
    (fun s h => (SearchTree.runVertexOriented_error_iff (c.inst_wf hadj)).1
      ((runVertex_error_iff c _ _ _ _).1 h))
    (fun _ h => (config_final_iff_ended c hadj _ _ _).1
      ((runVertex_isFinal_iff c _ _ _).2
        ((runVertexOriented_isFinal_iff (c.inst_wf hadj) _ _ _).2 h)))

/-- **termination of a configured search from a bound `N` on the expansions of any run**: any
traversal, access (turn delays), cost, frontier (turn restrictions) and termination models, forward
or reverse, with or without destination.  (1) Some schedule of at most `N + 1` pops ends the way the
code ends; (2) every accepted, unfinished schedule has at most `N` pops and extends to one of at most
`N + 1` pops that ends the way the code ends; (3) a returned result performed at most `N`
expansions -/
theorem config_terminates_of_bound (c : Config α) (hadj : c.AdjConsistent) {source : Nat}
    {target : Option Nat} {N : Nat} (hN : ExpansionBound c.inst source target N) :
    (∃ sched, sched.length ≤ N + 1 ∧ Ended (c.runVertex source target sched)) ∧
    (∀ pre, c.runVertex source target pre = .error .scheduleExhausted →
      pre.length ≤ N ∧ ∃ ext, (pre ++ ext).length ≤ N + 1 ∧
        Ended (c.runVertex source target (pre ++ ext))) ∧
    ∀ sched r, c.runVertex source target sched = .ok r → r.iterations ≤ N := by
  have h := config_completes c hadj hN
  refine ⟨h.1, h.2, fun sched r hr => ?_⟩
  obtain ⟨res, hres, _, _, hit⟩ := runVertex_ok hr
  rw [hit]
  exact iterations_le_of_bound hN (SearchTree.runVertexOriented_final hres)

/-- **termination of a configured search under the discipline** (`H` a consistent vertex estimate):
the three clauses of `config_terminates_of_bound` with `N = n`, over the vertices `< n` -/
theorem config_terminates_of_heur (c : Config α) (hadj : c.AdjConsistent) {H : Nat → α}
    {source n : Nat} (hsrc : source < n) (hV : c.VerticesBelow n) {target : Option Nat}
    (hH : Heur c.inst target.isSome H) :
    (∃ sched, sched.length ≤ n + 1 ∧ Ended (c.runVertex source target sched)) ∧
    (∀ pre, c.runVertex source target pre = .error .scheduleExhausted →
      pre.length ≤ n ∧ ∃ ext, (pre ++ ext).length ≤ n + 1 ∧
        Ended (c.runVertex source target (pre ++ ext))) ∧
    ∀ sched r, c.runVertex source target sched = .ok r → r.iterations ≤ n :=
  config_terminates_of_bound c hadj (config_heur_bound c hadj hsrc hV hH)

/-- **termination of a configured Dijkstra search** (`weight_factor = 0`) -/
theorem config_dijkstra_terminates (c : Config α) (hadj : c.AdjConsistent) (hwf : c.wf = some 0)
    {source n : Nat} (hsrc : source < n) (hV : c.VerticesBelow n) (target : Option Nat) :
    (∃ sched, sched.length ≤ n + 1 ∧ Ended (c.runVertex source target sched)) ∧
    (∀ pre, c.runVertex source target pre = .error .scheduleExhausted →
      pre.length ≤ n ∧ ∃ ext, (pre ++ ext).length ≤ n + 1 ∧
        Ended (c.runVertex source target (pre ++ ext))) ∧
    ∀ sched r, c.runVertex source target sched = .ok r → r.iterations ≤ n :=
  config_terminates_of_bound c hadj (config_dijkstra_bound c hadj hwf hsrc hV target)

/-- **termination of a destination-less search**, any weight factor (`config_tree_bound`) -/
theorem config_tree_search_terminates (c : Config α) (hadj : c.AdjConsistent)
    {source n : Nat} (hsrc : source < n) (hV : c.VerticesBelow n) :
    (∃ sched, sched.length ≤ n + 1 ∧ Ended (c.runVertex source none sched)) ∧
    (∀ pre, c.runVertex source none pre = .error .scheduleExhausted →
      pre.length ≤ n ∧ ∃ ext, (pre ++ ext).length ≤ n + 1 ∧
        Ended (c.runVertex source none (pre ++ ext))) ∧
    ∀ sched r, c.runVertex source none sched = .ok r → r.iterations ≤ n :=
  config_terminates_of_bound c hadj (config_tree_bound c hadj hsrc hV)

/-- **termination of a configured search, general A\*** (any weight factor, any estimate; re-opening
allowed): over the vertices `< n`, with `N = |walks c.inst source n| + 1` -/
theorem config_terminates_general (c : Config α) (hadj : c.AdjConsistent) {source n : Nat}
    (hsrc : source < n) (hV : c.VerticesBelow n) (target : Option Nat) :
    (∃ sched, sched.length ≤ (walks c.inst source n).length + 2 ∧
      Ended (c.runVertex source target sched)) ∧
    (∀ pre, c.runVertex source target pre = .error .scheduleExhausted →
      pre.length ≤ (walks c.inst source n).length + 1 ∧
      ∃ ext, (pre ++ ext).length ≤ (walks c.inst source n).length + 2 ∧
        Ended (c.runVertex source target (pre ++ ext))) ∧
    ∀ sched r, c.runVertex source target sched = .ok r →
      r.iterations ≤ (walks c.inst source n).length + 1 :=
  config_terminates_of_bound c hadj (config_general_bound c hadj hsrc hV target)

/-! ### A\* with the configuration's own estimate, when it is consistent -/

/-- in an edge-local configuration the estimate is the vertex function `hOf`; if it is consistent on
every permitted edge the search runs under the discipline -/
theorem config_heur_of_consistent (c : Config α) (h : c.EdgeLocal)
    (hcons : ∀ e, c.okOf e = true →
      c.hOf (c.inst.termV e) ≤ c.costOf e + c.hOf (c.inst.keyV e)) (hasT : Bool) :
    Heur c.inst hasT (SearchOpt.Hf hasT c.hOf) := by
  have U := c.uniformCostOn h
  refine Heur.of_vertex (c.inst_wf h.adj) (fun v st x hx => estimate_eq c v st x hx) ?_ hasT
  intro e le st ac tc st' hv ht
  have hok : true = c.okOf e := U.valid_eq e le st true trivial hv
  rw [(U.trav_eq e le st ac tc st' trivial hv ht).1]
  exact hcons e hok.symm

/-- on a scaled metric (`Config.ScaledMetric`) the estimate is consistent: at most `n` expansions -/
theorem config_metric_bound (c : Config α) (h : c.EdgeLocal) {κ : α} (M : c.ScaledMetric κ)
    {source n : Nat} (hsrc : source < n) (hV : c.VerticesBelow n) (target : Option Nat) :
    ExpansionBound c.inst source target n :=
  config_heur_bound c h.adj hsrc hV (config_heur_of_consistent c h M.consistent _)

/-- **termination of A\* with the distance estimate** on a metrically consistent great-circle table
(`Config.DistanceMetric`: the premises of C02's `config_distance_estimate_admissible`, weight factor
in `[0, 1]`) -/
theorem config_astar_distance_terminates (c : Config α) (h : c.EdgeLocal) {du : DistanceUnit}
    {t : Nat} (M : c.DistanceMetric du t) {source n : Nat} (hsrc : source < n)
    (hV : c.VerticesBelow n) :
    (∃ sched, sched.length ≤ n + 1 ∧ Ended (c.runVertex source (some t) sched)) ∧
    (∀ pre, c.runVertex source (some t) pre = .error .scheduleExhausted →
      pre.length ≤ n ∧ ∃ ext, (pre ++ ext).length ≤ n + 1 ∧
        Ended (c.runVertex source (some t) (pre ++ ext))) ∧
    ∀ sched r, c.runVertex source (some t) sched = .ok r → r.iterations ≤ n :=
  config_terminates_of_bound c h.adj (config_metric_bound c h M.scaled hsrc hV _)

/-- **termination of A\* with the speed-table estimate** (`Config.SpeedMetric`) -/
theorem config_astar_speed_terminates (c : Config α) (h : c.EdgeLocal)
    {su : SpeedUnit} {du : DistanceUnit} {tu : TimeUnit} {ms : α} {table : List α} {t : Nat}
    (M : c.SpeedMetric su du tu ms table t) {source n : Nat} (hsrc : source < n)
    (hV : c.VerticesBelow n) :
    (∃ sched, sched.length ≤ n + 1 ∧ Ended (c.runVertex source (some t) sched)) ∧
    (∀ pre, c.runVertex source (some t) pre = .error .scheduleExhausted →
      pre.length ≤ n ∧ ∃ ext, (pre ++ ext).length ≤ n + 1 ∧
        Ended (c.runVertex source (some t) (pre ++ ext))) ∧
    ∀ sched r, c.runVertex source (some t) sched = .ok r → r.iterations ≤ n :=
  config_terminates_of_bound c h.adj (config_metric_bound c h M.scaled hsrc hV _)

/-! ### What C05 needs: a deciding schedule exists

On a well-formed configuration (`Config.WellFormedDistance`, `Config.GraphOK`: no call of a component
fails) whose limits do not fire **within the bounds the termination proofs give** — at most `N`
iterations and a tree of at most `N · D` entries, `N` the bound on the number of expansions (`n`
under the Dijkstra discipline, `|walks| + 1` in general), `D` a bound on the number of incident
edges of a vertex —, a final outcome is a result or "no path"; together with C05's
`config_nopath_iff_unreachable` (any weight factor) the outcome is a result exactly when the
destination is reachable.  A configured iterations / solution-size / runtime limit that is large
enough for the network is inside the premise.  Distance model only: `Config.WellFormedDistance` has
no counterpart for the speed-table model. -/

theorem edgeLocal_of_wellFormed (c : Config α) {du : DistanceUnit} (W : c.WellFormedDistance du)
    {source : Nat} {hasT : Bool} (G : c.GraphOK source hasT) : c.EdgeLocal :=
  ⟨G.adj, W.noAccess, W.noTurn⟩

/-- on a well-formed configuration whose limits do not fire within `N` iterations and `N · D` tree
entries (`N` bounds the expansions of any run, `D` the incident edges of a vertex), a final outcome
is a result or "no path" -/
theorem config_final_result_or_nopath (c : Config α) {du : DistanceUnit}
    (W : c.WellFormedDistance du) {source : Nat} {target : Option Nat}
    (G : c.GraphOK source target.isSome) {N D : Nat} (hN : ExpansionBound c.inst source target N)
    (hD : ∀ v, (c.inst.incident v).length ≤ D)
    (hlim : ∀ sz it, it ≤ N → sz ≤ N * D → c.term.test sz it = .ok ())
    {sched : List Nat} (hfin : IsFinal (c.runVertex source target sched)) :
    (∃ r, c.runVertex source target sched = .ok r) ∨
      c.runVertex source target sched = .error .noPath := by
  cases hr : c.runVertex source target sched with
  | ok r => exact Or.inl ⟨r, rfl⟩
  | error k =>
    right
    rw [hr] at hfin
    rcases config_error_wf c W G hr with rfl | rfl | rfl | ⟨f0, pre, hd, hf0, hreach, h⟩
    · rfl
    · exact absurd rfl hfin.1
    · exact absurd rfl hfin.2
    · obtain ⟨a, b⟩ := reach_counters_le hN hD hf0 hreach
      rw [hlim _ _ a b] at h
      cases h

/-- **whatever schedule the implementation takes**: on a well-formed configuration whose limits do
not fire within the bounds (`N` iterations, `N · D` tree entries), a run to a destination that ends,
ends in a route or in "no path", and in a route exactly when the destination is reachable through
permitted edges (any weight factor) -/
theorem config_final_decides (c : Config α) {du : DistanceUnit} (W : c.WellFormedDistance du)
    {source t : Nat} (G : c.GraphOK source true) {N D : Nat}
    (hN : ExpansionBound c.inst source (some t) N) (hD : ∀ v, (c.inst.incident v).length ≤ D)
    (hlim : ∀ sz it, it ≤ N → sz ≤ N * D → c.term.test sz it = .ok ())
    {sched : List Nat} (hfin : IsFinal (c.runVertex source (some t) sched)) :
    ((∃ r, c.runVertex source (some t) sched = .ok r) ∨
      c.runVertex source (some t) sched = .error .noPath) ∧
    ((∃ r, c.runVertex source (some t) sched = .ok r) ↔
      ∃ es, SearchOpt.Walk c.inst c.okOf source es t) ∧
    (c.runVertex source (some t) sched = .error .noPath ↔
      ¬ ∃ es, SearchOpt.Walk c.inst c.okOf source es t) := by
  have hres := config_final_result_or_nopath c W (target := some t) G hN hD hlim hfin
  have := SearchReach.config_nopath_iff_unreachable c
    (edgeLocal_of_wellFormed c W G).restrictionLocal hres
  exact ⟨hres, this.2, this.1⟩

/-- **a deciding schedule exists**, from a bound `N` on the expansions of any run: on a well-formed
configuration whose limits do not fire within `N` iterations and `N · D` tree entries there is a
schedule of at most `N + 1` pops on which the search returns a route or "no path" — a route exactly
when the destination is reachable —, and every accepted, unfinished schedule extends to such a one -/
theorem config_decides_of_bound (c : Config α) {du : DistanceUnit} (W : c.WellFormedDistance du)
    {source t : Nat} (G : c.GraphOK source true) {N D : Nat}
    (hN : ExpansionBound c.inst source (some t) N) (hD : ∀ v, (c.inst.incident v).length ≤ D)
    (hlim : ∀ sz it, it ≤ N → sz ≤ N * D → c.term.test sz it = .ok ()) :
    Completes (c.runVertex source (some t)) N fun out =>
      ((∃ r, out = .ok r) ∨ out = .error .noPath) ∧
      ((∃ r, out = .ok r) ↔ ∃ es, SearchOpt.Walk c.inst c.okOf source es t) :=
  (config_completes c G.adj hN).imp (fun _ h => h) fun _ h =>
    let ⟨a, b, _⟩ := config_final_decides c W G hN hD hlim h.isFinal
    ⟨a, b⟩

/-- **a deciding schedule exists** (Dijkstra): `config_decides_of_bound`, written out, with `N = n`
over the vertices `< n` -/
theorem config_dijkstra_decides (c : Config α) {du : DistanceUnit} (W : c.WellFormedDistance du)
    {source t : Nat} (G : c.GraphOK source true) (hwf : c.wf = some 0) {n D : Nat}
    (hD : ∀ v, (c.inst.incident v).length ≤ D)
    (hlim : ∀ sz it, it ≤ n → sz ≤ n * D → c.term.test sz it = .ok ()) (hsrc : source < n)
    (hV : c.VerticesBelow n) :
    (∃ sched, sched.length ≤ n + 1 ∧
      ((∃ r, c.runVertex source (some t) sched = .ok r) ∨
        c.runVertex source (some t) sched = .error .noPath) ∧
      ((∃ r, c.runVertex source (some t) sched = .ok r) ↔
        ∃ es, SearchOpt.Walk c.inst c.okOf source es t)) ∧
    ∀ pre, c.runVertex source (some t) pre = .error .scheduleExhausted →
      pre.length ≤ n ∧ ∃ ext, (pre ++ ext).length ≤ n + 1 ∧
        ((∃ r, c.runVertex source (some t) (pre ++ ext) = .ok r) ∨
          c.runVertex source (some t) (pre ++ ext) = .error .noPath) ∧
        ((∃ r, c.runVertex source (some t) (pre ++ ext) = .ok r) ↔
          ∃ es, SearchOpt.Walk c.inst c.okOf source es t) :=
  config_decides_of_bound c W G (config_dijkstra_bound c G.adj hwf hsrc hV (some t)) hD hlim

/-- **a deciding schedule exists, any weight factor** (general A\*, re-opening allowed):
`config_decides_of_bound`, written out, with the bound `N = |walks| + 1` of
`config_terminates_general` -/
theorem config_search_decides (c : Config α) {du : DistanceUnit} (W : c.WellFormedDistance du)
    {source t : Nat} (G : c.GraphOK source true) {n D : Nat}
    (hD : ∀ v, (c.inst.incident v).length ≤ D)
    (hlim : ∀ sz it, it ≤ (walks c.inst source n).length + 1 →
      sz ≤ ((walks c.inst source n).length + 1) * D → c.term.test sz it = .ok ())
    (hsrc : source < n) (hV : c.VerticesBelow n) :
    (∃ sched, sched.length ≤ (walks c.inst source n).length + 2 ∧
      ((∃ r, c.runVertex source (some t) sched = .ok r) ∨
        c.runVertex source (some t) sched = .error .noPath) ∧
      ((∃ r, c.runVertex source (some t) sched = .ok r) ↔
        ∃ es, SearchOpt.Walk c.inst c.okOf source es t)) ∧
    ∀ pre, c.runVertex source (some t) pre = .error .scheduleExhausted →
      pre.length ≤ (walks c.inst source n).length + 1 ∧
      ∃ ext, (pre ++ ext).length ≤ (walks c.inst source n).length + 2 ∧
        ((∃ r, c.runVertex source (some t) (pre ++ ext) = .ok r) ∨
          c.runVertex source (some t) (pre ++ ext) = .error .noPath) ∧
        ((∃ r, c.runVertex source (some t) (pre ++ ext) = .ok r) ↔
          ∃ es, SearchOpt.Walk c.inst c.okOf source es t) :=
  config_decides_of_bound c W G (config_general_bound c G.adj hsrc hV (some t)) hD hlim

/-- **restrictions that depend only on the edge, any access model** (`Config.RestrictionLocal`: turn
delays allowed), Dijkstra: the first two clauses of `config_dijkstra_terminates`, and a run that ends
in a result or in "no path" ends in a result exactly when the destination is reachable.  (The end may
also be a component error or a termination: `config_dijkstra_decides` excludes those on well-formed
distance configurations.) -/
theorem config_restrictionLocal_dijkstra_decides (c : Config α) (h : c.RestrictionLocal)
    (hwf : c.wf = some 0) {source n : Nat} (hsrc : source < n) (hV : c.VerticesBelow n) (t : Nat) :
    (∃ sched, sched.length ≤ n + 1 ∧ Ended (c.runVertex source (some t) sched)) ∧
    (∀ pre, c.runVertex source (some t) pre = .error .scheduleExhausted →
      pre.length ≤ n ∧ ∃ ext, (pre ++ ext).length ≤ n + 1 ∧
        Ended (c.runVertex source (some t) (pre ++ ext))) ∧
    ∀ sched, ((∃ r, c.runVertex source (some t) sched = .ok r) ∨
        c.runVertex source (some t) sched = .error .noPath) →
      ((∃ r, c.runVertex source (some t) sched = .ok r) ↔
        ∃ es, SearchOpt.Walk c.inst c.okOf source es t) ∧
      (c.runVertex source (some t) sched = .error .noPath ↔
        ¬ ∃ es, SearchOpt.Walk c.inst c.okOf source es t) := by
  obtain ⟨h1, h2, _⟩ := config_dijkstra_terminates c h.adj hwf hsrc hV (some t)
  refine ⟨h1, h2, fun sched hres => ?_⟩
  have := SearchReach.config_nopath_iff_unreachable c h hres
  exact ⟨this.2, this.1⟩

/-- **destination-less search**: on a well-formed configuration over the vertices `< n` whose limits
do not fire within `n` iterations and `n · D` tree entries (any weight factor) there is a schedule
of at most `n + 1` pops on which the search returns its tree, and every accepted, unfinished
schedule extends to such a one -/
theorem config_tree_search_returns (c : Config α) {du : DistanceUnit} (W : c.WellFormedDistance du)
    {source : Nat} (G : c.GraphOK source false) {n D : Nat}
    (hD : ∀ v, (c.inst.incident v).length ≤ D)
    (hlim : ∀ sz it, it ≤ n → sz ≤ n * D → c.term.test sz it = .ok ())
    (hsrc : source < n) (hV : c.VerticesBelow n) :
    (∃ sched r, sched.length ≤ n + 1 ∧ c.runVertex source none sched = .ok r) ∧
    ∀ pre, c.runVertex source none pre = .error .scheduleExhausted →
      pre.length ≤ n ∧ ∃ ext r, (pre ++ ext).length ≤ n + 1 ∧
        c.runVertex source none (pre ++ ext) = .ok r := by
  have hnp : ∀ sched, c.runVertex source none sched ≠ .error .noPath := by
    intro sched h
    rcases runVertexOriented_error_cases (c.inst_wf G.adj)
      ((runVertex_error_iff c source none sched _).1 h) with hk | ⟨f0, _, hloop⟩
    · cases hk
    · exact runLoop_none_ne_noPath c.noSpuriousNoPath _ _ hloop
  have hN := config_tree_bound c G.adj hsrc hV
  have hret : ∀ sched, Ended (c.runVertex source none sched) →
      ∃ r, c.runVertex source none sched = .ok r := fun sched h =>
    (config_final_result_or_nopath c W (target := none) G hN hD hlim h.isFinal).resolve_right
      (hnp sched)
  obtain ⟨⟨sched, h1, h2⟩, h3, _⟩ := config_terminates_of_bound c G.adj hN
  refine ⟨?_, fun pre hpre => ?_⟩
  · obtain ⟨r, hr⟩ := hret sched h2
    exact ⟨sched, r, h1, hr⟩
  · obtain ⟨h4, ext, h5, h6⟩ := h3 pre hpre
    obtain ⟨r, hr⟩ := hret _ h6
    exact ⟨h4, ext, r, h5, hr⟩

end SearchTermination
end Compass
