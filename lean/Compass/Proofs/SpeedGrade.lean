/-
The speed/grade model of `Model/Interp.lean` over the 2-D interpolator of `Proofs/Interp.lean`: the axes `linspace`
builds, the clamp to the grid (`clampTo`), `InterpolationSpeedGradeModel::new` (what it returns: `new_inv`,
`new_predict`) and `predict` (convert, clamp, the bilinear formula: `predict_eq`); then `load_prediction_model` by
induction on the (nested) model type (`load_cases`), its last step (ideal rate, record) being `finishLoad`.
As in `Proofs/Interp.lean`, only what rests on `linspace` increasing uses that the order is compatible with the ring.
-/
import Compass.Proofs.Units
import Compass.Proofs.Interp

namespace Compass
namespace Interp

-- one setting for the file; many lemmas use less of it
set_option linter.unusedSectionVars false

section
variable {α : Type} [Field α] [LinearOrder α] [Lit α] [LawfulLit α]

/-! ### `linspace` -/

theorem linspaceFrom_length (dx prev : α) (k : Nat) : (linspaceFrom dx prev k).length = k := by
  induction k generalizing prev with
  | zero => rfl
  | succ k ih => rw [linspaceFrom, List.length_cons, ih]

variable [IsStrictOrderedRing α] in
theorem linspaceFrom_si (dx : α) (hdx : 0 < dx) (k : Nat) (prev : α) :
    strictlyIncreasing (prev :: linspaceFrom dx prev k) = true := by
  induction k generalizing prev with
  | zero => rfl
  | succ k ih =>
    rw [linspaceFrom, strictlyIncreasing, ih (prev + dx), Bool.and_true, decide_eq_true_eq]
    exact lt_add_of_pos_right prev hdx

theorem linspaceFrom_getLast (dx : α) (k : Nat) (prev : α) :
    (prev :: linspaceFrom dx prev k).getLast? = some (prev + k * dx) := by
  induction k generalizing prev with
  | zero => simp [linspaceFrom]
  | succ k ih =>
    rw [linspaceFrom, List.getLast?_cons_cons, ih (prev + dx)]
    congr 1
    push_cast
    ring

theorem ofNat_eq (n : Nat) : (ofNat n : α) = (n : α) := by
  simp [ofNat, LawfulLit.lit_eq]

theorem linspace_ok (x0 xend : α) (n : Nat) : ∃ xs, linspace x0 xend n = .ok xs := by
  cases n with
  | zero => exact ⟨_, rfl⟩
  | succ m => exact ⟨_, rfl⟩

theorem linspace_length {x0 xend : α} {n : Nat} {xs : List α} (h : linspace x0 xend n = .ok xs) :
    xs.length = n := by
  cases n with
  | zero => cases h; rfl
  | succ m => cases h; rw [List.length_cons, linspaceFrom_length]

variable [IsStrictOrderedRing α] in
theorem linspace_good (x0 xend : α) (n : Nat) (hn : 2 ≤ n) (h : x0 < xend) :
    ∃ xs, linspace x0 xend n = .ok xs ∧ GoodGrid xs ∧ xs.length = n ∧ xs[0]? = some x0 ∧
      xs.getLast? = some xend := by
  obtain ⟨m, rfl⟩ : ∃ m, n = m + 1 := ⟨n - 1, by omega⟩
  have hm : (0 : α) < (m : α) := Nat.cast_pos.mpr (Nat.lt_of_succ_le (Nat.le_of_succ_le_succ hn))
  have hdx : 0 < (xend - x0) / (ofNat m : α) := ofNat_eq (α := α) m ▸ div_pos (sub_pos.mpr h) hm
  have hl := linspace_length (x0 := x0) (xend := xend) (n := m + 1) rfl
  refine ⟨_, rfl, ⟨linspaceFrom_si _ hdx m x0, hl ▸ hn⟩, hl, rfl, ?_⟩
  rw [linspaceFrom_getLast, ofNat_eq, mul_div_cancel₀ _ hm.ne', add_sub_cancel]

/-! ### the speed/grade model -/

section
variable {g : List α}

theorem fmax_eq (a b : α) : fmax a b = max a b := by
  unfold fmax
  split
  · rw [max_eq_right (le_of_lt ‹_›)]
  · rw [max_eq_left (not_lt.mp ‹_›)]

theorem fmin_eq (a b : α) : fmin a b = min a b := by
  unfold fmin
  split
  · rw [min_eq_right (le_of_lt ‹_›)]
  · rw [min_eq_left (not_lt.mp ‹_›)]

/-- what `predict` does to a converted input: clamp to the first and last grid value -/
def clampTo (g : List α) (v : α) : α :=
  match g.head?, g.getLast? with
  | some lo, some hi => fmin (fmax v lo) hi
  | _, _ => v

theorem good_first_last (hg : GoodGrid g) :
    ∃ lo hi, g[0]? = some lo ∧ g.head? = some lo ∧ g.getLast? = some hi ∧ lo < hi := by
  have h0 : 0 < g.length := Nat.lt_of_lt_of_le Nat.two_pos hg.2
  have h1 : g.length - 1 < g.length := Nat.sub_lt h0 Nat.one_pos
  have e0 := List.getElem?_eq_getElem h0
  have e1 := List.getElem?_eq_getElem h1
  exact ⟨_, _, e0, List.head?_eq_getElem? ▸ e0, List.getLast?_eq_getElem? ▸ e1,
    si_lt hg.1 e0 e1 (Nat.lt_sub_of_add_lt hg.2)⟩

/-- the clamp on a grid with a first and a last value, its `match` resolved, as `predict` writes it -/
theorem clampTo_def {lo hi : α} (hh : g.head? = some lo) (hl : g.getLast? = some hi) (v : α) :
    clampTo g v = fmin (fmax v lo) hi := by
  rw [clampTo, hh, hl]

theorem clampTo_eq {lo hi : α} (hh : g.head? = some lo) (hl : g.getLast? = some hi) (v : α) :
    clampTo g v = min (max v lo) hi :=
  (clampTo_def hh hl v).trans ((fmin_eq _ _).trans (congrArg (min · hi) (fmax_eq v lo)))

theorem InAxis.clamp (hg : GoodGrid g) (v : α) : InAxis g (clampTo g v) := by
  obtain ⟨lo, hi, h0, hh, hl, hlt⟩ := good_first_last hg
  rw [clampTo_eq hh hl]
  exact ⟨lo, hi, h0, hl, le_min (le_max_right _ _) hlt.le, min_le_right _ _⟩

theorem clampTo_of_inAxis {v : α} (h : InAxis g v) : clampTo g v = v := by
  obtain ⟨lo, hi, h0, hl, h1, h2⟩ := h
  rw [clampTo_eq (List.head?_eq_getElem? ▸ h0) hl, max_eq_left h1, min_eq_left h2]

theorem clampTo_idem (hg : GoodGrid g) (v : α) : clampTo g (clampTo g v) = clampTo g v :=
  clampTo_of_inAxis (InAxis.clamp hg v)

theorem clampTo_below (hg : GoodGrid g) (v lo : α) (h0 : g[0]? = some lo) (h : v ≤ lo) :
    clampTo g v = lo := by
  obtain ⟨lo', hi, h0', hh, hl, hlt⟩ := good_first_last hg
  obtain rfl : lo = lo' := Option.some.inj (h0.symm.trans h0')
  rw [clampTo_eq hh hl, max_eq_right h, min_eq_left hlt.le]

theorem clampTo_above (v hi : α) (hl : g.getLast? = some hi) (h : hi ≤ v) : clampTo g v = hi := by
  cases hh : g.head? with
  | none => rw [List.head?_eq_none_iff.mp hh] at hl; cases hl
  | some lo =>
    rw [clampTo_eq hh hl]
    exact min_eq_right (le_trans h (le_max_left _ _))

/-- `new` samples the underlying model through `predict` at the unit distance in the rate's own distance unit with
adjustment 1: that returns the rate unchanged -/
theorem gridValue_id (ru : EnergyRateUnit) (u : α) : gridValue ru u = u := by
  simp [gridValue, createEnergy, C09.distance_convert_id]

-- `C09.speed_convert_id` / `grade_convert_id` of the property file `Props/C09.lean`, restated for a proof module

theorem speed_convert_self (u : SpeedUnit) (x : α) : u.convert u x = x := by
  simp [SpeedUnit.convert, C09.speed_id, Factor.apply]
theorem grade_convert_self (u : GradeUnit) (x : α) : u.convert u x = x := by
  simp [GradeUnit.convert, C09.grade_id, Factor.apply]

/-- the table `new` fills -/
def sgTable (underlying : α → α → α) (ru : EnergyRateUnit) (xs ys : List α) : List (List α) :=
  xs.map fun s => ys.map fun g => gridValue ru (underlying s g)

theorem sgTable_rect (underlying : α → α → α) (ru : EnergyRateUnit) (xs ys : List α) :
    Rect2 (sgTable underlying ru xs ys) xs.length ys.length := by
  refine ⟨List.length_map _, fun r hr => ?_⟩
  obtain ⟨s, _, rfl⟩ := List.mem_map.mp hr
  exact List.length_map _

theorem sgTable_F2 (underlying : α → α → α) (ru : EnergyRateUnit) {xs ys : List α} {i j : Nat} {x y : α}
    (hx : xs[i]? = some x) (hy : ys[j]? = some y) :
    F2 (sgTable underlying ru xs ys) i j = underlying x y := by
  simp [F2, sgTable, List.getD_eq_getElem?_getD, List.getElem?_map, hx, hy, gridValue_id]

theorem bil_sgTable (underlying : α → α → α) (ru : EnergyRateUnit) {xs ys : List α} {cx cy : Nat × α}
    {x0 x1 y0 y1 : α} (hx0 : xs[cx.1]? = some x0) (hx1 : xs[cx.1 + 1]? = some x1) (hy0 : ys[cy.1]? = some y0)
    (hy1 : ys[cy.1 + 1]? = some y1) :
    bil (F2 (sgTable underlying ru xs ys)) cx cy =
      lerp (lerp (underlying x0 y0) (underlying x1 y0) cx.2) (lerp (underlying x0 y1) (underlying x1 y1) cx.2) cy.2 := by
  unfold bil
  rw [sgTable_F2 underlying ru hx0 hy0, sgTable_F2 underlying ru hx1 hy0, sgTable_F2 underlying ru hx0 hy1,
    sgTable_F2 underlying ru hx1 hy1]

-- the arguments of `new`, implicit where a hypothesis `new … = .ok m` fixes them
variable {underlying : α → α → α} {su : SpeedUnit} {s0 s1 : α} {sb : Nat} {gu : GradeUnit} {g0 g1 : α} {gb : Nat}
  {ru : EnergyRateUnit} {m : SpeedGradeModel α}

/-- the model `new` returns: the 2-D interpolator over the two `linspace` axes, both good grids of the configured
lengths, and the table of the underlying model's rates, with the configured units -/
theorem new_inv
    (h : SpeedGradeModel.new underlying su s0 s1 sb gu g0 g1 gb ru = .ok m) :
    ∃ xs ys, linspace s0 s1 sb = .ok xs ∧ linspace g0 g1 gb = .ok ys ∧
      m = { interp := .d2 xs ys (sgTable underlying ru xs ys), speedUnit := su, gradeUnit := gu,
            energyRateUnit := ru } ∧
      GoodGrid xs ∧ GoodGrid ys ∧ xs.length = sb ∧ ys.length = gb := by
  obtain ⟨xs, hx, h⟩ := Res.bind_eq_ok h
  obtain ⟨ys, hy, h⟩ := Res.bind_eq_ok h
  obtain ⟨_, hv, h⟩ := Res.bind_eq_ok h
  obtain ⟨gx, gy, _⟩ := (validate2_ok_iff _ _ _).mp hv
  exact ⟨xs, ys, hx, hy, (Res.ok.inj h).symm, gx, gy, linspace_length hx, linspace_length hy⟩

section
variable (underlying su s0 s1 sb gu g0 g1 gb ru)

variable [IsStrictOrderedRing α] in
theorem new_ok (hs : s0 < s1) (hg : g0 < g1) (hsb : 2 ≤ sb) (hgb : 2 ≤ gb) :
    ∃ m, SpeedGradeModel.new underlying su s0 s1 sb gu g0 g1 gb ru = .ok m := by
  obtain ⟨xs, hx, gx, _⟩ := linspace_good s0 s1 sb hsb hs
  obtain ⟨ys, hy, gy, _⟩ := linspace_good g0 g1 gb hgb hg
  have hv := (validate2_ok_iff xs ys _).mpr ⟨gx, gy, sgTable_rect underlying ru xs ys⟩
  rw [SpeedGradeModel.new, hx, Res.ok_bind, hy, Res.ok_bind]
  exact ⟨_, congrArg (Res.bind · _) hv⟩

theorem new_graceful : (SpeedGradeModel.new underlying su s0 s1 sb gu g0 g1 gb ru).Graceful := by
  obtain ⟨xs, hx⟩ := linspace_ok s0 s1 sb
  obtain ⟨ys, hy⟩ := linspace_ok g0 g1 gb
  rw [SpeedGradeModel.new, hx, Res.ok_bind, hy, Res.ok_bind]
  exact (validate2_graceful _ _ _).bind fun _ _ => .ok _

theorem new_rejects_short (h : sb < 2 ∨ gb < 2) :
    ∃ e, SpeedGradeModel.new underlying su s0 s1 sb gu g0 g1 gb ru = .err e := by
  rcases new_graceful underlying su s0 s1 sb gu g0 g1 gb ru with ⟨m, hm⟩ | he
  · obtain ⟨_, _, _, _, _, gx, gy, lx, ly⟩ := new_inv hm
    have := gx.2
    have := gy.2
    omega
  · exact he

end

/-- `predict` on a model over good grids: convert, clamp, and the bilinear formula on the cells of the
clamped inputs -/
theorem predict_eq (xs ys : List α) (f : List (List α)) (su : SpeedUnit) (gu : GradeUnit)
    (ru : EnergyRateUnit) (hx : GoodGrid xs) (hy : GoodGrid ys) (hr : Rect2 f xs.length ys.length)
    (speed : α) (qsu : SpeedUnit) (grade : α) (qgu : GradeUnit) :
    SpeedGradeModel.predict { interp := .d2 xs ys f, speedUnit := su, gradeUnit := gu, energyRateUnit := ru }
        speed qsu grade qgu =
      .ok (bil (F2 f) (selOf xs (clampTo xs (qsu.convert su speed)))
        (selOf ys (clampTo ys (qgu.convert gu grade))), ru) := by
  obtain ⟨lox, hix, _, hhx, hlx, _⟩ := good_first_last hx
  obtain ⟨loy, hiy, _, hhy, hly, _⟩ := good_first_last hy
  unfold SpeedGradeModel.predict
  simp only [hhx, hlx, hhy, hly]
  rw [← clampTo_def hhx hlx, ← clampTo_def hhy hly, (Valid.of_rect2 hx hy hr).interpolate_eq
    (.cons (InAxis.clamp hx _) (.cons (InAxis.clamp hy _) .nil))]
  -- `ndVal (G2 f)` over the cells of `ys`, then `xs`, unfolds to `bil (F2 f)` on the two cells
  rfl

/-- every model `new` returns, over the axes `linspace` builds: the axes are good grids, and `predict` is convert,
clamp, and the bilinear formula on the table of the underlying model's rates -/
theorem new_predict {xs ys : List α}
    (hnew : SpeedGradeModel.new underlying su s0 s1 sb gu g0 g1 gb ru = .ok m)
    (hxs : linspace s0 s1 sb = .ok xs) (hys : linspace g0 g1 gb = .ok ys) :
    GoodGrid xs ∧ GoodGrid ys ∧ ∀ speed qsu grade qgu, m.predict speed qsu grade qgu =
      .ok (bil (F2 (sgTable underlying ru xs ys)) (selOf xs (clampTo xs (qsu.convert su speed)))
        (selOf ys (clampTo ys (qgu.convert gu grade))), ru) := by
  obtain ⟨xs', ys', hx, hy, rfl, gx, gy, _⟩ := new_inv hnew
  obtain rfl := Res.ok.inj (hxs.symm.trans hx)
  obtain rfl := Res.ok.inj (hys.symm.trans hy)
  exact ⟨gx, gy, predict_eq xs ys _ su gu ru gx gy (sgTable_rect _ _ _ _)⟩

theorem new_predict_total
    (hnew : SpeedGradeModel.new underlying su s0 s1 sb gu g0 g1 gb ru = .ok m)
    (speed : α) (qsu : SpeedUnit) (grade : α) (qgu : GradeUnit) :
    ∃ v, m.predict speed qsu grade qgu = .ok (v, ru) := by
  obtain ⟨xs, hx⟩ := linspace_ok s0 s1 sb
  obtain ⟨ys, hy⟩ := linspace_ok g0 g1 gb
  exact ⟨_, (new_predict hnew hx hy).2.2 speed qsu grade qgu⟩

end

/-! ### `load_prediction_model`: the sweep, the `Smartcore` arm, the refusals -/

theorem fillRow_pure (u : α → α) : ∀ (ys : List α), fillRow (fun g => (.ok (u g) : Res α)) ys = .ok (ys.map u) := by
  intro ys
  induction ys with
  | nil => rfl
  | cons y ys ih => simp [fillRow, ih, Res.bind]

theorem fillGrid_pure (u : α → α → α) (ys : List α) : ∀ (xs : List α),
    fillGrid (fun s g => (.ok (u s g) : Res α)) xs ys = .ok (xs.map fun s => ys.map fun g => u s g) := by
  intro xs
  induction xs with
  | nil => rfl
  | cons x xs ih => simp [fillGrid, fillRow_pure (u x) ys, ih, Res.bind]

/-- the sweep over a model that always answers: a value, at most the start value and at most every
swept rate, and attained: it is the start value or one of the swept rates -/
theorem findMinEnergyRateFrom_spec (m : PModel α) (hm : ∀ s su g gu, ∃ r u, m s su g gu = .ok (r, u)) :
    ∀ (is : List Nat) (acc : α), ∃ v, findMinEnergyRateFrom m is acc = .ok v ∧ v ≤ acc ∧
      (∀ i ∈ is, ∀ r u, m (ofNat i) .milesPerHour (zero : α) .percent = .ok (r, u) → v ≤ r) ∧
      (v = acc ∨ ∃ i ∈ is, ∃ u, m (ofNat i) .milesPerHour (zero : α) .percent = .ok (v, u)) := by
  intro is
  induction is with
  | nil => intro acc; exact ⟨acc, rfl, le_refl _, (by intro i hi; cases hi), Or.inl rfl⟩
  | cons i is ih =>
    intro acc
    obtain ⟨r, u, hr⟩ := hm (ofNat i) .milesPerHour (zero : α) .percent
    -- the running minimum `if r < acc then r else acc` is `fmin acc r`
    obtain ⟨v, hv, hle, hall, hatt⟩ := ih (fmin acc r)
    rw [fmin_eq] at hle hatt
    refine ⟨v, ?_, hle.trans (min_le_left _ _), ?_, ?_⟩
    · simp only [findMinEnergyRateFrom, hr]; exact hv
    · intro j hj r' u' hr'
      rcases List.mem_cons.mp hj with rfl | hj'
      · rw [hr] at hr'
        cases hr'
        exact hle.trans (min_le_right _ _)
      · exact hall j hj' r' u' hr'
    · rcases hatt with h | ⟨j, hj, u', hj'⟩
      · rcases min_choice acc r with hc | hc
        · exact Or.inl (h.trans hc)
        · exact Or.inr ⟨i, List.mem_cons_self, u, (h.trans hc) ▸ hr⟩
      · exact Or.inr ⟨j, List.mem_cons_of_mem _ hj, u', hj'⟩

theorem smartcorePredict_total (rf : α → α → α) (su : SpeedUnit) (gu : GradeUnit) (ru : EnergyRateUnit) :
    ∀ s qsu g qgu, ∃ v, smartcorePredict rf su gu ru s qsu g qgu = .ok (v, ru) :=
  fun _ _ _ _ => ⟨_, rfl⟩

/-- the ideal rate of a loaded record: the configured one; or, when none is configured, the minimum of the
20..79 mph sweep at zero grade — at most every swept prediction, and attained by one of them (or `f64::MAX`
when no swept prediction is below it) -/
def _root_.Compass.C14.IdealRateOk (r : Record α) (ideal : Option α) : Prop :=
  (∀ x, ideal = some x → r.idealEnergyRate = x) ∧
    (ideal = none →
      (∀ i ∈ sweepSpeeds, ∀ v u,
        r.model (ofNat i) .milesPerHour (zero : α) .percent = .ok (v, u) → r.idealEnergyRate ≤ v) ∧
      (r.idealEnergyRate = f64Max ∨ ∃ i ∈ sweepSpeeds, ∃ u,
        r.model (ofNat i) .milesPerHour (zero : α) .percent = .ok (r.idealEnergyRate, u)))

/-- the last step of `load_prediction_model`, the same for every model type: the ideal rate (configured, or the
sweep over the model just built), then the record -/
def finishLoad (model : PModel α) (su : SpeedUnit) (gu : GradeUnit) (ru : EnergyRateUnit) (ideal adj : Option α) :
    Res (Record α) :=
  (match ideal with
   | some x => (.ok x : Res α)
   | none => findMinEnergyRate model).bind fun idealRate =>
    .ok { model := model, speedUnit := su, gradeUnit := gu, energyRateUnit := ru, idealEnergyRate := idealRate,
          realWorldEnergyAdjustment := match adj with | some a => a | none => one }

theorem adjustment_default_eq (adj : Option α) :
    (match adj with | some a => a | none => (one : α)) = (match adj with | some a => a | none => 1) := by
  cases adj with
  | some a => rfl
  | none => exact one_eq

/-- over a model that always answers the last step succeeds, and the record is as configured -/
theorem finishLoad_spec {model : PModel α} {ru : EnergyRateUnit}
    (hp : ∀ s su g gu, ∃ v, model s su g gu = .ok (v, ru)) (su : SpeedUnit) (gu : GradeUnit) (ideal adj : Option α) :
    ∃ r, finishLoad model su gu ru ideal adj = .ok r ∧ r.model = model ∧ r.speedUnit = su ∧ r.gradeUnit = gu ∧
      r.energyRateUnit = ru ∧ r.realWorldEnergyAdjustment = (match adj with | some a => a | none => 1) ∧
      C14.IdealRateOk r ideal := by
  cases ideal with
  | some x =>
    exact ⟨_, rfl, rfl, rfl, rfl, rfl, adjustment_default_eq adj, ⟨fun y hy => Option.some.inj hy, fun h => by cases h⟩⟩
  | none =>
    obtain ⟨v, hv, _, hall, hatt⟩ := findMinEnergyRateFrom_spec model
      (fun s su g gu => (hp s su g gu).imp fun _ h => ⟨ru, h⟩) sweepSpeeds f64Max
    exact ⟨_, congrArg (Res.bind · _) hv, rfl, rfl, rfl, rfl, adjustment_default_eq adj,
      ⟨fun _ h => (nomatch h), fun _ => ⟨hall, hatt⟩⟩⟩

theorem load_smartcore_eq (cap : Nat) (rf : α → α → α) (su : SpeedUnit) (gu : GradeUnit) (ru : EnergyRateUnit)
    (ideal adj : Option α) :
    loadPredictionModel cap rf true .smartcore su gu ru ideal adj =
      finishLoad (smartcorePredict rf su gu ru) su gu ru ideal adj := by
  unfold loadPredictionModel
  rfl

/-- the model type names ONNX somewhere (the feature is off in this build) -/
def ModelType.hasOnnx : ModelType α → Bool
  | .smartcore => false
  | .onnx => true
  | .interpolate u _ _ _ _ _ _ => u.hasOnnx

theorem load_interpolate_err {cap : Nat} {rf : α → α → α} {fileOk : Bool} {u : ModelType α} {su : SpeedUnit}
    {gu : GradeUnit} {ru : EnergyRateUnit} {e : Err}
    (he : loadPredictionModel cap rf fileOk u su gu ru none none = .err e) (s0 s1 : α) (sb : Nat) (g0 g1 : α) (gb : Nat)
    (ideal adj : Option α) :
    loadPredictionModel cap rf fileOk (.interpolate u s0 s1 sb g0 g1 gb) su gu ru ideal adj = .err e := by
  unfold loadPredictionModel
  simp only [he, Res.err_bind]

/-- a model file that cannot be read, or ONNX anywhere in the (nested) model type: a build error -/
theorem load_build_error (cap : Nat) (rf : α → α → α) (fileOk : Bool) : ∀ (mt : ModelType α),
    fileOk = false ∨ mt.hasOnnx = true → ∀ (su : SpeedUnit) (gu : GradeUnit) (ru : EnergyRateUnit)
    (ideal adj : Option α), loadPredictionModel cap rf fileOk mt su gu ru ideal adj = .err .build := by
  intro mt
  induction mt with
  | smartcore =>
    intro h su gu ru ideal adj
    obtain rfl := h.resolve_right (fun h => nomatch h)
    unfold loadPredictionModel
    rfl
  | onnx =>
    intro _ su gu ru ideal adj
    unfold loadPredictionModel
    rfl
  | interpolate u s0 s1 sb g0 g1 gb ih =>
    intro h su gu ru ideal adj
    exact load_interpolate_err (ih h su gu ru none none) s0 s1 sb g0 g1 gb ideal adj

/-! ### `load_prediction_model`: every model type, nested interpolation included -/

/-- the rate a prediction model gives at a speed and grade in the given units (loaded models always
answer — `loaded_record` — so the default is never used) -/
def rateOf (p : PModel α) (su : SpeedUnit) (gu : GradeUnit) : α → α → α :=
  fun s g => match p s su g gu with
    | .ok (v, _) => v
    | _ => zero

theorem rateOf_eq {p : PModel α} {su : SpeedUnit} {gu : GradeUnit} {s g v : α} {u : EnergyRateUnit}
    (h : p s su g gu = .ok (v, u)) : rateOf p su gu s g = v := by
  rw [rateOf, h]

theorem rateOf_smartcore (rf : α → α → α) (su : SpeedUnit) (gu : GradeUnit) (ru : EnergyRateUnit) :
    rateOf (smartcorePredict rf su gu ru) su gu = rf := by
  funext s g
  simp [rateOf, smartcorePredict, speed_convert_self, grade_convert_self]

theorem linspaceAlloc_eq (cap : Nat) (x0 xend : α) (n : Nat) :
    linspaceAlloc cap x0 xend n = if cap < n then .err .alloc else linspace x0 xend n := by
  cases n with
  | zero => rfl
  | succ m => rfl

/-- the allocation guards of `new` (both axes, then the table) in front of any continuation: refused exactly when a
count cannot be allocated, and otherwise the two axes as `linspace` builds them -/
theorem alloc_guard {β : Type} (cap : Nat) (s0 s1 : α) (sb : Nat) (g0 g1 : α) (gb : Nat)
    (K : List α → List α → Res β) :
    ((linspaceAlloc cap s0 s1 sb).bind fun xs => (linspaceAlloc cap g0 g1 gb).bind fun ys =>
        if cap < sb * gb then .err .alloc else K xs ys) =
      if cap < sb ∨ cap < gb ∨ cap < sb * gb then .err .alloc
      else (linspace s0 s1 sb).bind fun xs => (linspace g0 g1 gb).bind fun ys => K xs ys := by
  obtain ⟨xs, hx⟩ := linspace_ok s0 s1 sb
  obtain ⟨ys, hy⟩ := linspace_ok g0 g1 gb
  rw [linspaceAlloc_eq, linspaceAlloc_eq, hx, hy]
  by_cases h1 : cap < sb
  · rw [if_pos h1, if_pos (Or.inl h1)]; rfl
  rw [if_neg h1, Res.ok_bind]
  by_cases h2 : cap < gb
  · rw [if_pos h2, if_pos (Or.inr (Or.inl h2))]; rfl
  rw [if_neg h2, Res.ok_bind]
  by_cases h3 : cap < sb * gb
  · rw [if_pos h3, if_pos (Or.inr (Or.inr h3))]
  · rw [if_neg h3, if_neg fun h => h.elim h1 (·.elim h2 h3)]; rfl

theorem newAlloc_eq (cap : Nat) (underlying : α → α → α) (su : SpeedUnit) (s0 s1 : α) (sb : Nat)
    (gu : GradeUnit) (g0 g1 : α) (gb : Nat) (ru : EnergyRateUnit) :
    SpeedGradeModel.newAlloc cap underlying su s0 s1 sb gu g0 g1 gb ru =
      if cap < sb ∨ cap < gb ∨ cap < sb * gb then .err .alloc
      else SpeedGradeModel.new underlying su s0 s1 sb gu g0 g1 gb ru := by
  obtain ⟨xs, hx⟩ := linspace_ok s0 s1 sb
  obtain ⟨ys, hy⟩ := linspace_ok g0 g1 gb
  rw [SpeedGradeModel.newAlloc, alloc_guard, hx, hy]
  rfl

/-- a record as configured whose model answers every query with a rate in `ru` -/
def Loaded (r : Record α) (su : SpeedUnit) (gu : GradeUnit) (ru : EnergyRateUnit) (adj : Option α) : Prop :=
  (∀ s qsu g qgu, ∃ v, r.model s qsu g qgu = .ok (v, ru)) ∧ r.speedUnit = su ∧ r.gradeUnit = gu ∧
    r.energyRateUnit = ru ∧ r.realWorldEnergyAdjustment = (match adj with | some a => a | none => 1)

/-- the `Interpolate` arm over an underlying record that answers every query in the configured unit with
adjustment 1: the allocation error, or `InterpolationSpeedGradeModel::new` over the underlying record's rates and the
last step -/
theorem load_interpolate_step (cap : Nat) (rf : α → α → α) (u : ModelType α) (su : SpeedUnit) (gu : GradeUnit)
    (ru : EnergyRateUnit) (s0 s1 : α) (sb : Nat) (g0 g1 : α) (gb : Nat) (ideal adj : Option α)
    (urec : Record α) (hu : loadPredictionModel cap rf true u su gu ru none none = .ok urec)
    (hrec : Loaded urec su gu ru none) :
    loadPredictionModel cap rf true (.interpolate u s0 s1 sb g0 g1 gb) su gu ru ideal adj =
      if cap < sb ∨ cap < gb ∨ cap < sb * gb then .err .alloc
      else (SpeedGradeModel.new (rateOf urec.model su gu) su s0 s1 sb gu g0 g1 gb ru).bind fun m =>
        finishLoad m.predict su gu ru ideal adj := by
  obtain ⟨htot, _, _, hru, hadj⟩ := hrec
  obtain ⟨xs, hx⟩ := linspace_ok s0 s1 sb
  obtain ⟨ys, hy⟩ := linspace_ok g0 g1 gb
  -- the grid is filled through the underlying record at the unit distance: that is `gridValue` of its rate
  have hfun : (fun (s g : α) =>
      (urec.predict s su g gu (one : α) ru.associatedDistanceUnit).bind fun e => (.ok e.1 : Res α))
      = fun s g => .ok (gridValue ru (rateOf urec.model su gu s g)) := by
    funext s g
    obtain ⟨v, hv⟩ := htot s su g gu
    simp [Record.predict, hv, rateOf_eq hv, hadj, hru, Res.bind, gridValue]
  unfold loadPredictionModel SpeedGradeModel.new finishLoad
  simp only [hu, Res.ok_bind, alloc_guard, hfun, fillGrid_pure, hx, hy]
  split
  · rfl
  · rw [Res.bind_assoc, Res.bind_assoc]
    rfl

/-- `load_prediction_model` on a readable file, every (nested) model type: a record as configured whose model always
answers, or an `Err` -/
theorem load_cases (cap : Nat) (rf : α → α → α) : ∀ (mt : ModelType α) (su : SpeedUnit) (gu : GradeUnit)
    (ru : EnergyRateUnit) (ideal adj : Option α),
    (∃ r, loadPredictionModel cap rf true mt su gu ru ideal adj = .ok r ∧ Loaded r su gu ru adj) ∨
      (∃ e, loadPredictionModel cap rf true mt su gu ru ideal adj = .err e) := by
  intro mt
  induction mt with
  | smartcore =>
    intro su gu ru ideal adj
    obtain ⟨r, hr, hm, h1, h2, h3, h4, _⟩ := finishLoad_spec (smartcorePredict_total rf su gu ru) su gu ideal adj
    exact .inl ⟨r, (load_smartcore_eq cap rf su gu ru ideal adj).trans hr, hm ▸ smartcorePredict_total rf su gu ru,
      h1, h2, h3, h4⟩
  | onnx =>
    intro su gu ru ideal adj
    exact .inr ⟨_, load_build_error cap rf true .onnx (.inr rfl) su gu ru ideal adj⟩
  | interpolate u s0 s1 sb g0 g1 gb ih =>
    intro su gu ru ideal adj
    rcases ih su gu ru none none with ⟨urec, hu, hrec⟩ | ⟨e, he⟩
    · rw [load_interpolate_step cap rf u su gu ru s0 s1 sb g0 g1 gb ideal adj urec hu hrec]
      split
      · exact .inr ⟨_, rfl⟩
      rcases new_graceful (rateOf urec.model su gu) su s0 s1 sb gu g0 g1 gb ru with ⟨m, hm⟩ | ⟨e, he⟩
      · obtain ⟨r, hr, hmod, h1, h2, h3, h4, _⟩ := finishLoad_spec (new_predict_total hm) su gu ideal adj
        exact .inl ⟨r, by rw [hm]; exact hr, hmod ▸ new_predict_total hm, h1, h2, h3, h4⟩
      · exact .inr ⟨e, by rw [he]; rfl⟩
    · exact .inr ⟨e, load_interpolate_err he s0 s1 sb g0 g1 gb ideal adj⟩

theorem loaded_record (cap : Nat) (rf : α → α → α) (mt : ModelType α) (su : SpeedUnit) (gu : GradeUnit)
    (ru : EnergyRateUnit) (ideal adj : Option α) (r : Record α)
    (h : loadPredictionModel cap rf true mt su gu ru ideal adj = .ok r) : Loaded r su gu ru adj := by
  rcases load_cases cap rf mt su gu ru ideal adj with ⟨r', hr', hl⟩ | ⟨e, he⟩
  · exact Res.ok.inj (hr'.symm.trans h) ▸ hl
  · rw [he] at h
    cases h

end
end Interp
end Compass
