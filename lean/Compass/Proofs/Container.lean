/-
Refinement of `CompactOrderedHashMap` (Model/Container.lean) to an insertion-ordered association list.

* `Spec.insert` / `Spec.get` / `Spec.indexOf` (the position of a key in the list) are the specification;
* `abs : Container K V → List (K × V)` is the abstraction function, `Inv` the representation invariant
  (keys pairwise distinct; in the `NEntries` representation the stored indices are a permutation of
  `0 … len-1`);
* every accessor of the container agrees with the association list under `Inv`, `insert` preserves
  `Inv` and commutes with `abs`, and `empty`, `new` (any entry list), `from_iter` establish `Inv`;
* underneath: the stable sort by stored index (`sortByIndex_eq_of_perm_sorted`, `SortedForm`), through which
  every fact about the `NEntries` representation goes; at the end `unique_key_len`.
-/
import Compass.Model.Container
import Mathlib.Data.List.Basic
import Mathlib.Data.List.Nodup
import Mathlib.Data.List.Perm.Basic
import Mathlib.Data.List.Range
import Mathlib.Tactic.SplitIfs

namespace Compass

open List

set_option linter.unusedSectionVars false
set_option linter.unnecessarySimpa false

/-! ### stable sort by stored index -/

section sort
variable {K V : Type}

/-- the order `sortByIndex` sorts by, and its strict form -/
abbrev IdxLe (a b : K × IndexedEntry V) : Prop := a.2.index ≤ b.2.index
abbrev IdxLt (a b : K × IndexedEntry V) : Prop := a.2.index < b.2.index

theorem insertByIndex_perm (e : K × IndexedEntry V) (l : List (K × IndexedEntry V)) :
    insertByIndex e l ~ e :: l := by
  induction l with
  | nil => simp [insertByIndex]
  | cons y r ih =>
    simp only [insertByIndex]
    split_ifs
    · exact Perm.refl _
    · exact (ih.cons y).trans (Perm.swap e y r)

theorem sortByIndex_perm (l : List (K × IndexedEntry V)) : sortByIndex l ~ l := by
  induction l with
  | nil => simp [sortByIndex]
  | cons e r ih =>
    have : sortByIndex (e :: r) = insertByIndex e (sortByIndex r) := rfl
    rw [this]
    exact (insertByIndex_perm e _).trans (ih.cons e)

theorem insertByIndex_sorted (e : K × IndexedEntry V) (l : List (K × IndexedEntry V))
    (h : l.Pairwise IdxLe) : (insertByIndex e l).Pairwise IdxLe := by
  induction l with
  | nil => simp [insertByIndex]
  | cons y r ih =>
    simp only [insertByIndex]
    rw [pairwise_cons] at h
    split_ifs with hle
    · refine pairwise_cons.mpr ⟨?_, pairwise_cons.mpr h⟩
      intro b hb
      rcases mem_cons.mp hb with rfl | hb
      · exact hle
      · exact Nat.le_trans hle (h.1 b hb)
    · refine pairwise_cons.mpr ⟨?_, ih h.2⟩
      intro b hb
      rcases mem_cons.mp ((insertByIndex_perm e r).mem_iff.mp hb) with rfl | hb
      · show y.2.index ≤ b.2.index
        omega
      · exact h.1 b hb

theorem sortByIndex_sorted (l : List (K × IndexedEntry V)) : (sortByIndex l).Pairwise IdxLe := by
  induction l with
  | nil => simp [sortByIndex]
  | cons e r ih => exact insertByIndex_sorted e _ ih

/-- the sort is determined by its specification when stored indices are pairwise distinct: any
    permutation of `m` that is strictly increasing in the stored index is `sortByIndex m` -/
theorem sortByIndex_eq_of_perm_sorted {m s : List (K × IndexedEntry V)} (p : s ~ m)
    (hs : s.Pairwise IdxLt) : sortByIndex m = s := by
  have ps : sortByIndex m ~ s := (sortByIndex_perm m).trans p.symm
  -- two sorted permutations agree when `≤` is antisymmetric on their elements: with strictly
  -- increasing stored indices the index determines the entry
  have inj : ∀ a ∈ s, ∀ b ∈ s, a.2.index = b.2.index → a = b := by
    have nd : (s.map (fun e => e.2.index)).Nodup := by
      rw [Nodup, pairwise_map]
      exact hs.imp (fun h => Nat.ne_of_lt h)
    exact inj_on_of_nodup_map nd
  refine Perm.eq_of_pairwise (le := IdxLe) ?_ (sortByIndex_sorted m) (hs.imp (fun h => Nat.le_of_lt h)) ps
  intro a b ha hb h1 h2
  exact inj a (ps.mem_iff.mp ha) b hb (Nat.le_antisymm h1 h2)

end sort

/-! ### specification: insertion-ordered association list -/

namespace Spec
variable {K V : Type} [DecidableEq K]

/-- insert into an insertion-ordered association list: overwrite in place, or append at the end -/
def insert : List (K × V) → K → V → List (K × V)
  | [], k, v => [(k, v)]
  | (k', v') :: r, k, v => if k' = k then (k', v) :: r else (k', v') :: insert r k v

/-- value stored at a key -/
def get : List (K × V) → K → Option V
  | [], _ => none
  | (k', v') :: r, k => if k' = k then some v' else get r k

/-- position of a key -/
def indexOf : List (K × V) → K → Option Nat
  | [], _ => none
  | (k', _) :: r, k => if k' = k then some 0 else (indexOf r k).map (· + 1)

/-- a whole history of inserts -/
def insertAll (l : List (K × V)) (ops : List (K × V)) : List (K × V) :=
  ops.foldl (fun l e => insert l e.1 e.2) l

/-! The model's `HashMap` (`Model/Container.lean`) is an association list with the same two operations:
`HashMap::get` is `get`, `HashMap::insert` is `insert`, collecting is a history of inserts.  Everything
below is stated for the specification and reaches the `HashMap` through these three equations. -/

theorem hmap_get_eq (m : HMap K V) (k : K) : HMap.get m k = get m k := by
  induction m with
  | nil => rfl
  | cons e r ih => obtain ⟨k', v'⟩ := e; simp only [HMap.get, get, ih]

theorem put_eq_insert (m : List (K × V)) (k : K) (v : V) : HMap.put m k v = insert m k v := by
  induction m with
  | nil => rfl
  | cons e r ih => obtain ⟨k', v'⟩ := e; simp only [HMap.put, insert, ih]

theorem ofList_eq_insertAll (l : List (K × V)) : HMap.ofList l = insertAll [] l := by
  simp only [HMap.ofList, insertAll, put_eq_insert]

theorem insertAll_nil (l : List (K × V)) : insertAll l [] = l := rfl

theorem insertAll_cons (l : List (K × V)) (e : K × V) (r : List (K × V)) :
    insertAll l (e :: r) = insertAll (insert l e.1 e.2) r := rfl

theorem insertAll_append (l a b : List (K × V)) : insertAll l (a ++ b) = insertAll (insertAll l a) b :=
  foldl_append

theorem get_eq_none_iff {l : List (K × V)} {k : K} : get l k = none ↔ k ∉ l.map (·.1) := by
  induction l with
  | nil => simp [get]
  | cons e r ih =>
    obtain ⟨k', w⟩ := e
    by_cases h : k' = k
    · simp [get, h]
    · simp [get, h, ih, Ne.symm h]

theorem indexOf_eq_none_iff {l : List (K × V)} {k : K} : indexOf l k = none ↔ k ∉ l.map (·.1) := by
  induction l with
  | nil => simp [indexOf]
  | cons e r ih =>
    obtain ⟨k', w⟩ := e
    by_cases h : k' = k
    · simp [indexOf, h]
    · simp [indexOf, h, ih, Ne.symm h]

theorem mem_of_get_eq_some {l : List (K × V)} {k : K} {v : V} (h : get l k = some v) : (k, v) ∈ l := by
  induction l with
  | nil => cases h
  | cons e r ih =>
    obtain ⟨k', v'⟩ := e
    simp only [get] at h
    split_ifs at h with hk
    · cases h; subst hk; exact mem_cons_self
    · exact mem_cons_of_mem _ (ih h)

theorem get_eq_some_of_mem {l : List (K × V)} {k : K} {v : V} (nd : (l.map (·.1)).Nodup)
    (h : (k, v) ∈ l) : get l k = some v := by
  induction l with
  | nil => cases h
  | cons e r ih =>
    obtain ⟨k', v'⟩ := e
    rw [map_cons, nodup_cons] at nd
    rcases mem_cons.mp h with h | h
    · cases h; simp only [get, if_true]
    · have : k' ≠ k := fun hk => nd.1 (hk ▸ mem_map.mpr ⟨(k, v), h, rfl⟩)
      simp only [get, if_neg this, ih nd.2 h]

/-- with distinct keys `get` does not depend on the order of the entries (a `HashMap` has none) -/
theorem get_perm {m s : List (K × V)} (nd : (m.map (·.1)).Nodup) (p : s ~ m) (k : K) :
    get s k = get m k := by
  cases h : get m k with
  | none =>
    rw [get_eq_none_iff] at h ⊢
    exact fun hk => h ((p.map _).mem_iff.mp hk)
  | some w =>
    exact get_eq_some_of_mem ((p.map _).nodup_iff.mpr nd) (p.mem_iff.mpr (mem_of_get_eq_some h))

theorem insert_of_not_mem {l : List (K × V)} {k : K} (v : V) (h : k ∉ l.map (·.1)) :
    insert l k v = l ++ [(k, v)] := by
  induction l with
  | nil => rfl
  | cons e r ih =>
    obtain ⟨k', v'⟩ := e
    rw [map_cons, mem_cons, not_or] at h
    simp only [insert, if_neg (Ne.symm h.1), ih h.2, cons_append]

theorem keys_insert_of_mem {l : List (K × V)} {k : K} (v : V) (h : k ∈ l.map (·.1)) :
    (insert l k v).map (·.1) = l.map (·.1) := by
  induction l with
  | nil => cases h
  | cons e r ih =>
    obtain ⟨k', v'⟩ := e
    simp only [insert]
    split_ifs with hk
    · rfl
    · rw [map_cons, mem_cons] at h
      rw [map_cons, map_cons, ih (h.resolve_left (Ne.symm hk))]

theorem length_insert_of_mem {l : List (K × V)} {k : K} (v : V) (h : k ∈ l.map (·.1)) :
    (insert l k v).length = l.length := by
  have := congrArg List.length (keys_insert_of_mem v h)
  simpa using this

/-- with distinct keys, overwriting is a `map` over the entries -/
theorem insert_of_mem {l : List (K × V)} {k : K} (v : V) (nd : (l.map (·.1)).Nodup)
    (h : k ∈ l.map (·.1)) :
    insert l k v = l.map (fun e => if e.1 = k then (e.1, v) else e) := by
  induction l with
  | nil => cases h
  | cons e r ih =>
    obtain ⟨k', v'⟩ := e
    rw [map_cons, nodup_cons] at nd
    simp only [insert, map_cons]
    split_ifs with hk
    · congr 1
      conv_lhs => rw [← List.map_id r]
      apply List.map_congr_left
      intro e he
      have : e.1 ≠ k := fun h' => nd.1 (hk ▸ h' ▸ mem_map.mpr ⟨e, he, rfl⟩)
      rw [if_neg this]; rfl
    · rw [map_cons, mem_cons] at h
      rw [ih nd.2 (h.resolve_left (Ne.symm hk))]

theorem nodup_keys_insert {l : List (K × V)} (nd : (l.map (·.1)).Nodup) (k : K) (v : V) :
    ((insert l k v).map (·.1)).Nodup := by
  by_cases h : k ∈ l.map (·.1)
  · rw [keys_insert_of_mem v h]; exact nd
  · rw [insert_of_not_mem v h, map_append]
    refine nodup_append.mpr ⟨nd, nodup_singleton _, fun a ha b hb hab => h ?_⟩
    have hb : b = k := mem_singleton.mp hb
    rw [← hb, ← hab]; exact ha

theorem get_insert (l : List (K × V)) (k k₂ : K) (v : V) :
    get (insert l k v) k₂ = if k = k₂ then some v else get l k₂ := by
  induction l with
  | nil => rfl
  | cons e r ih =>
    obtain ⟨k', v'⟩ := e
    by_cases hk : k' = k
    · subst hk
      simp only [insert, get, if_true]
      by_cases h2 : k' = k₂
      · rw [if_pos h2, if_pos h2]
      · rw [if_neg h2, if_neg h2, if_neg h2]
    · simp only [insert, get, if_neg hk, ih]
      by_cases h2 : k' = k₂
      · rw [if_pos h2, if_neg (h2 ▸ Ne.symm hk), if_pos h2]
      · simp only [if_neg h2]

theorem get_insert_self (l : List (K × V)) (k : K) (v : V) : get (insert l k v) k = some v := by
  rw [get_insert, if_pos rfl]

theorem get_insert_of_ne (l : List (K × V)) {k k₂ : K} (v : V) (h : k₂ ≠ k) :
    get (insert l k v) k₂ = get l k₂ := by
  rw [get_insert, if_neg (Ne.symm h)]

/-- inserting never moves an existing key -/
theorem indexOf_insert_of_mem (l : List (K × V)) {k : K} (k₂ : K) (v : V) (h : k ∈ l.map (·.1)) :
    indexOf (insert l k₂ v) k = indexOf l k := by
  induction l with
  | nil => cases h
  | cons e r ih =>
    obtain ⟨k', v'⟩ := e
    simp only [insert]
    split_ifs with hk
    · rfl
    · simp only [indexOf]
      split_ifs with hk'
      · rfl
      · rw [map_cons, mem_cons] at h
        rw [ih (h.resolve_left (Ne.symm hk'))]

/-- the key sits at the position `indexOf` names, next to the value `get` finds -/
theorem indexOf_get {l : List (K × V)} {k : K} {i : Nat} (h : indexOf l k = some i) :
    ∃ f, l[i]? = some (k, f) ∧ get l k = some f := by
  induction l generalizing i with
  | nil => cases h
  | cons e r ih =>
    obtain ⟨k', w⟩ := e
    simp only [indexOf] at h
    split_ifs at h with hk
    · cases h; subst hk
      exact ⟨w, rfl, by simp only [get, if_true]⟩
    · cases hr : indexOf r k with
      | none => rw [hr] at h; cases h
      | some j =>
        rw [hr] at h; cases h
        obtain ⟨f, h1, h2⟩ := ih hr
        exact ⟨f, by rw [getElem?_cons_succ, h1], by simp only [get, if_neg hk, h2]⟩

theorem indexOf_of_getElem {l : List (K × V)} (nd : (l.map (·.1)).Nodup) {k : K} {i : Nat}
    (h : (l.map (·.1))[i]? = some k) : indexOf l k = some i := by
  induction l generalizing i with
  | nil => cases h
  | cons e r ih =>
    obtain ⟨k', w⟩ := e
    rw [map_cons, nodup_cons] at nd
    cases i with
    | zero =>
      rw [map_cons, getElem?_cons_zero] at h; cases h
      simp only [indexOf, if_true]
    | succ j =>
      rw [map_cons, getElem?_cons_succ] at h
      have : k' ≠ k := fun hk => nd.1 (hk ▸ mem_of_getElem? h)
      simp only [indexOf, if_neg this, ih nd.2 h, Option.map_some]

theorem indexOf_eq_some_iff {l : List (K × V)} (nd : (l.map (·.1)).Nodup) {k : K} {i : Nat} :
    indexOf l k = some i ↔ (l.map (·.1))[i]? = some k :=
  ⟨fun h => by
    obtain ⟨f, h1, _⟩ := indexOf_get h
    rw [getElem?_map, h1]
    rfl,
   indexOf_of_getElem nd⟩

/-! ### whole histories, positions -/

theorem insertAll_append_of_nodup (acc l : List (K × V)) (nd : ((acc ++ l).map (·.1)).Nodup) :
    insertAll acc l = acc ++ l := by
  induction l generalizing acc with
  | nil => rw [insertAll_nil, append_nil]
  | cons e r ih =>
    have hk : e.1 ∉ acc.map (·.1) := by
      rw [map_append, map_cons] at nd
      exact fun h => (nodup_append.mp nd).2.2 _ h _ mem_cons_self rfl
    rw [insertAll_cons, insert_of_not_mem _ hk, ih _ (by rwa [append_assoc, singleton_append]),
      append_assoc, singleton_append]

theorem insertAll_nil_of_nodup (l : List (K × V)) (nd : (l.map (·.1)).Nodup) : insertAll [] l = l :=
  insertAll_append_of_nodup [] l nd

theorem ofList_of_nodup (l : List (K × V)) (nd : (l.map (·.1)).Nodup) : HMap.ofList l = l := by
  rw [ofList_eq_insertAll, insertAll_nil_of_nodup l nd]

theorem indexOf_isSome_iff_get {l : List (K × V)} {k : K} :
    (indexOf l k).isSome ↔ (get l k).isSome := by
  rw [← not_iff_not]
  simp only [Option.not_isSome_iff_eq_none, indexOf_eq_none_iff, get_eq_none_iff]

theorem indexOf_lt {l : List (K × V)} {k : K} {i : Nat} (h : indexOf l k = some i) : i < l.length := by
  obtain ⟨f, h1, _⟩ := indexOf_get h
  exact (List.getElem?_eq_some_iff.mp h1).1

theorem indexOf_inj {l : List (K × V)} {a b : K} {i : Nat} (ha : indexOf l a = some i)
    (hb : indexOf l b = some i) : a = b := by
  obtain ⟨f, h1, _⟩ := indexOf_get ha
  obtain ⟨g, h2, _⟩ := indexOf_get hb
  rw [h1] at h2
  simp only [Option.some.injEq, Prod.mk.injEq] at h2
  exact h2.1

theorem indexOf_key_getElem {l : List (K × V)} (nd : (l.map (·.1)).Nodup) {i : Nat} (hi : i < l.length) :
    indexOf l (l[i]).1 = some i := by
  apply indexOf_of_getElem nd
  simp [getElem?_eq_getElem hi]

theorem mem_keys_insert (l : List (K × V)) (k k₂ : K) (v : V) :
    k ∈ (insert l k₂ v).map (·.1) ↔ k ∈ l.map (·.1) ∨ k = k₂ := by
  by_cases h : k₂ ∈ l.map (·.1)
  · rw [keys_insert_of_mem v h]
    constructor
    · exact Or.inl
    · rintro (h' | rfl)
      · exact h'
      · exact h
  · rw [insert_of_not_mem v h]; simp

theorem mem_keys_insertAll (l ops : List (K × V)) (k : K) :
    k ∈ (insertAll l ops).map (·.1) ↔ k ∈ l.map (·.1) ∨ k ∈ ops.map (·.1) := by
  induction ops generalizing l with
  | nil => simp [insertAll_nil]
  | cons e r ih => rw [insertAll_cons, ih, mem_keys_insert, map_cons, mem_cons, or_assoc]

theorem nodup_keys_insertAll {l : List (K × V)} (nd : (l.map (·.1)).Nodup) (ops : List (K × V)) :
    ((insertAll l ops).map (·.1)).Nodup := by
  induction ops generalizing l with
  | nil => exact nd
  | cons e r ih => exact ih (nodup_keys_insert nd e.1 e.2)

/-- a history of inserts only appends names: the old name list is a prefix of the new one -/
theorem keys_insertAll_prefix (l ops : List (K × V)) :
    ∃ t, (insertAll l ops).map (·.1) = l.map (·.1) ++ t := by
  induction ops generalizing l with
  | nil => exact ⟨[], by simp [insertAll_nil]⟩
  | cons e r ih =>
    have h1 : ∃ t, (insert l e.1 e.2).map (·.1) = l.map (·.1) ++ t := by
      by_cases h : e.1 ∈ l.map (·.1)
      · exact ⟨[], by simp [keys_insert_of_mem e.2 h]⟩
      · exact ⟨[e.1], by simp [insert_of_not_mem e.2 h]⟩
    obtain ⟨t1, h1⟩ := h1
    obtain ⟨t2, h2⟩ := ih (insert l e.1 e.2)
    exact ⟨t1 ++ t2, by rw [insertAll_cons, h2, h1, append_assoc]⟩

theorem indexOf_insertAll_of_mem (l ops : List (K × V)) {k : K} (h : k ∈ l.map (·.1)) :
    indexOf (insertAll l ops) k = indexOf l k := by
  induction ops generalizing l with
  | nil => rfl
  | cons e r ih =>
    rw [insertAll_cons, ih _ ((mem_keys_insert l k e.1 e.2).mpr (Or.inl h)),
      indexOf_insert_of_mem l e.1 e.2 h]

/-- the value stored at a key after a history of inserts: the last insert of that key, else the old -/
theorem get_insertAll (l ops : List (K × V)) (k : K) :
    get (insertAll l ops) k =
      ((ops.reverse.find? (fun e => e.1 = k)).map (·.2)).or (get l k) := by
  induction ops generalizing l with
  | nil => simp [insertAll_nil]
  | cons e r ih =>
    rw [insertAll_cons, ih, get_insert, reverse_cons, find?_append]
    cases find? (fun e => decide (e.1 = k)) r.reverse with
    | some x => rfl
    | none => by_cases hk : e.1 = k <;> simp [hk]

end Spec

/-! ### abstraction function and representation invariant -/

namespace Container
variable {K V : Type} [DecidableEq K]

/-- forget the stored index -/
def kv (e : K × IndexedEntry V) : K × V := (e.1, e.2.v)

/-- re-attach positions as stored indices -/
def reindex (a : List (K × V)) : List (K × IndexedEntry V) :=
  a.zipIdx.map (fun p => (p.1.1, { v := p.1.2, index := p.2 }))

theorem reindex_index (a : List (K × V)) : (reindex a).map (·.2.index) = List.range a.length := by
  simp only [reindex, map_map]
  have : ((fun x : K × IndexedEntry V => x.2.index) ∘
      fun p : (K × V) × Nat => (p.1.1, ({ v := p.1.2, index := p.2 } : IndexedEntry V))) = Prod.snd := by
    funext p; rfl
  rw [this, zipIdx_map_snd, range_eq_range']

theorem reindex_kv (a : List (K × V)) : (reindex a).map kv = a := by
  simp only [reindex, map_map]
  have : (kv ∘ fun p : (K × V) × Nat => (p.1.1, ({ v := p.1.2, index := p.2 } : IndexedEntry V))) =
      Prod.fst := by
    funext p; rfl
  rw [this, zipIdx_map_fst]

/-- the association list a container stands for: entries in order of stored index -/
def abs : Container K V → List (K × V)
  | .one k1 v1 => [(k1, v1)]
  | .two k1 k2 v1 v2 => [(k1, v1), (k2, v2)]
  | .three k1 k2 k3 v1 v2 v3 => [(k1, v1), (k2, v2), (k3, v3)]
  | .four k1 k2 k3 k4 v1 v2 v3 v4 => [(k1, v1), (k2, v2), (k3, v3), (k4, v4)]
  | .n m => (sortByIndex m).map kv

/-- representation invariant: keys pairwise distinct; in the `HashMap` representation the stored
    indices are exactly `0 … len-1` (a permutation of `range len`) -/
def Inv : Container K V → Prop
  | .one _ _ => True
  | .two k1 k2 _ _ => [k1, k2].Nodup
  | .three k1 k2 k3 _ _ _ => [k1, k2, k3].Nodup
  | .four k1 k2 k3 k4 _ _ _ _ => [k1, k2, k3, k4].Nodup
  | .n m => (m.map (·.1)).Nodup ∧ m.map (·.2.index) ~ List.range m.length

instance (c : Container K V) : Decidable (Inv c) :=
  match c with
  | .one _ _ => inferInstanceAs (Decidable True)
  | .two k1 k2 _ _ => inferInstanceAs (Decidable ([k1, k2].Nodup))
  | .three k1 k2 k3 _ _ _ => inferInstanceAs (Decidable ([k1, k2, k3].Nodup))
  | .four k1 k2 k3 k4 _ _ _ _ => inferInstanceAs (Decidable ([k1, k2, k3, k4].Nodup))
  | .n m => inferInstanceAs (Decidable ((m.map (·.1)).Nodup ∧ m.map (·.2.index) ~ List.range m.length))

/-- `s` is `m` arranged by stored index, and the stored indices are `0, 1, …` -/
structure SortedForm (m s : HMap K (IndexedEntry V)) : Prop where
  perm : s ~ m
  idx : s.map (·.2.index) = List.range s.length

namespace SortedForm
variable {m s : HMap K (IndexedEntry V)}

theorem sorted (h : SortedForm m s) : s.Pairwise IdxLt := by
  have := pairwise_lt_range (n := s.length)
  rw [← h.idx, pairwise_map] at this
  exact this

theorem sort_eq (h : SortedForm m s) : sortByIndex m = s :=
  sortByIndex_eq_of_perm_sorted h.perm h.sorted

theorem length_eq (h : SortedForm m s) : s.length = m.length := h.perm.length_eq

theorem index_getElem (h : SortedForm m s) (i : Nat) (hi : i < s.length) : (s[i]).2.index = i := by
  have := congrArg (fun l => l[i]?) h.idx
  simp only [getElem?_map, getElem?_range hi, getElem?_eq_getElem hi, Option.map_some,
    Option.some.injEq] at this
  exact this

theorem inj (h : SortedForm m s) {a b : K × IndexedEntry V} (ha : a ∈ m) (hb : b ∈ m)
    (hab : a.2.index = b.2.index) : a = b := by
  have nd : (s.map (fun e => e.2.index)).Nodup := by rw [h.idx]; exact nodup_range
  exact inj_on_of_nodup_map nd (h.perm.mem_iff.mpr ha) (h.perm.mem_iff.mpr hb) hab

theorem keys_nodup (h : SortedForm m s) (nd : (m.map (·.1)).Nodup) : (s.map (·.1)).Nodup :=
  (h.perm.map _).nodup_iff.mpr nd

theorem of_perm (h : SortedForm m s) {m' : HMap K (IndexedEntry V)} (p : m' ~ m) : SortedForm m' s :=
  ⟨h.perm.trans p.symm, h.idx⟩

/-- looking an entry up by stored index in the unordered map is positional lookup in the sorted form,
    at every index (`none` from `len` on) -/
theorem find?_index (h : SortedForm m s) (i : Nat) : m.find? (fun e => e.2.index = i) = s[i]? := by
  by_cases hi : i < s.length
  · -- the entry at sorted position `i` has stored index `i` and is the only one of `m` with it
    have hmem : s[i] ∈ m := h.perm.mem_iff.mp (getElem_mem hi)
    rw [getElem?_eq_getElem hi]
    cases hf : m.find? (fun e => e.2.index = i) with
    | none =>
      exact absurd (h.index_getElem i hi) (by simpa using find?_eq_none.mp hf _ hmem)
    | some y =>
      have hy : y.2.index = i := by simpa using find?_some hf
      rw [h.inj (mem_of_find?_eq_some hf) hmem (hy.trans (h.index_getElem i hi).symm)]
  · rw [getElem?_eq_none (by omega), find?_eq_none]
    intro e he
    have : e.2.index ∈ s.map (·.2.index) := mem_map.mpr ⟨e, h.perm.mem_iff.mpr he, rfl⟩
    rw [h.idx, mem_range] at this
    simp only [decide_eq_true_eq]
    omega

/-- a new entry with stored index `len` goes last -/
theorem append_new (h : SortedForm m s) (e : K × V) :
    SortedForm (m ++ [(e.1, ⟨e.2, m.length⟩)]) (s ++ [(e.1, ⟨e.2, m.length⟩)]) := by
  refine ⟨h.perm.append_right _, ?_⟩
  simp [h.idx, h.length_eq, range_succ]

/-- changing entries without touching their stored indices -/
theorem map (h : SortedForm m s) {f : K × IndexedEntry V → K × IndexedEntry V}
    (hf : ∀ a ∈ m, (f a).2.index = a.2.index) : SortedForm (m.map f) (s.map f) := by
  refine ⟨h.perm.map f, ?_⟩
  rw [map_map, length_map, ← h.idx]
  exact map_congr_left fun a ha => hf a (h.perm.mem_iff.mp ha)

end SortedForm

theorem sortedForm_of_inv {m : HMap K (IndexedEntry V)}
    (h : m.map (·.2.index) ~ List.range m.length) : SortedForm m (sortByIndex m) := by
  refine ⟨sortByIndex_perm m, ?_⟩
  have p : (sortByIndex m).map (·.2.index) ~ List.range m.length :=
    ((sortByIndex_perm m).map _).trans h
  have s1 : ((sortByIndex m).map (·.2.index)).Pairwise (· ≤ ·) := by
    rw [pairwise_map]; exact sortByIndex_sorted m
  rw [(sortByIndex_perm m).length_eq]
  exact Perm.eq_of_pairwise (le := (· ≤ ·)) (fun a b _ _ h1 h2 => Nat.le_antisymm h1 h2)
    s1 pairwise_le_range p

theorem inv_of_sortedForm {m s : HMap K (IndexedEntry V)} (nd : (m.map (·.1)).Nodup)
    (h : SortedForm m s) : Inv (.n m) := by
  refine ⟨nd, ?_⟩
  have := h.perm.map (·.2.index)
  rw [h.idx, h.length_eq] at this
  exact this.symm

theorem abs_n_of_sortedForm {m s : HMap K (IndexedEntry V)} (h : SortedForm m s) :
    abs (.n m) = s.map kv := by
  simp [abs, h.sort_eq]

theorem keys_abs (c : Container K V) : c.keys = (abs c).map (·.1) := by
  cases c with
  | n m => rw [abs, map_map]; rfl
  | _ => rfl

theorem abs_keys_nodup {c : Container K V} (h : Inv c) : ((abs c).map (·.1)).Nodup := by
  cases c with
  | n m => rw [← keys_abs]; exact (sortedForm_of_inv h.2).keys_nodup h.1
  | one k1 v1 => exact nodup_singleton k1
  | _ => exact h

/-- a small representation needs nothing beyond distinct keys -/
theorem inv_of_small {c : Container K V} (hs : ∀ m, c ≠ .n m) (nd : ((abs c).map (·.1)).Nodup) :
    Inv c := by
  cases c with
  | n m => exact absurd rfl (hs m)
  | one k1 v1 => trivial
  | _ => exact nd

/-! ### accessors agree with the association list -/

theorem len_abs (c : Container K V) : c.len = (abs c).length := by
  cases c with
  | n m => rw [abs, length_map, (sortByIndex_perm m).length_eq]; rfl
  | _ => rfl

theorem isEmpty_abs (c : Container K V) : c.isEmpty = (abs c).isEmpty := by
  simp only [isEmpty, len_abs c]
  cases abs c <;> rfl

/-- forgetting the stored index commutes with `insert`, as it does with `get` below -/
theorem spec_insert_map_kv (s : HMap K (IndexedEntry V)) (k : K) (w : IndexedEntry V) :
    (Spec.insert s k w).map kv = Spec.insert (s.map kv) k w.v := by
  induction s with
  | nil => rfl
  | cons e r ih =>
    obtain ⟨k', w'⟩ := e
    simp only [Spec.insert, map_cons, kv]
    split_ifs
    · rfl
    · rw [← ih]
      rfl

theorem spec_get_map_kv (s : HMap K (IndexedEntry V)) (k : K) :
    Spec.get (s.map kv) k = (Spec.get s k).map (·.v) := by
  induction s with
  | nil => rfl
  | cons e r ih =>
    obtain ⟨k', w⟩ := e
    simp only [map_cons, kv, Spec.get, ih, apply_ite (Option.map _), Option.map_some]

theorem get_abs {c : Container K V} (h : Inv c) (k : K) : c.get k = Spec.get (abs c) k := by
  cases c with
  | n m =>
    simp only [get, abs, spec_get_map_kv, Spec.hmap_get_eq,
      Spec.get_perm h.1 (sortedForm_of_inv h.2).perm]
  | _ => rfl

theorem containsKey_abs {c : Container K V} (h : Inv c) (k : K) :
    c.containsKey k = (Spec.get (abs c) k).isSome := by
  rw [containsKey, get_abs h]

/-- stored indices `a, a+1, …` along a list are the positions in it, shifted by `a` -/
theorem spec_indexOf_map_kv (s : HMap K (IndexedEntry V)) (k : K) (a : Nat)
    (hs : s.map (·.2.index) = List.range' a s.length) :
    (Spec.get s k).map (·.index) = (Spec.indexOf (s.map kv) k).map (· + a) := by
  induction s generalizing a with
  | nil => rfl
  | cons e r ih =>
    obtain ⟨k', w⟩ := e
    simp only [map_cons, length_cons, range'_succ, cons.injEq] at hs
    simp only [map_cons, kv, Spec.indexOf, Spec.get]
    split_ifs with hk
    · simp only [Option.map_some, hs.1, Nat.zero_add]
    · rw [ih (a + 1) hs.2, Option.map_map]
      congr 1; funext j; simp only [Function.comp_apply]; omega

theorem getIndex_abs {c : Container K V} (h : Inv c) (k : K) :
    c.getIndex k = Spec.indexOf (abs c) k := by
  cases c with
  | n m =>
    have sf := sortedForm_of_inv h.2
    rw [getIndex, Spec.hmap_get_eq, ← Spec.get_perm h.1 sf.perm,
      spec_indexOf_map_kv _ k 0 (by rw [sf.idx, range_eq_range']), abs]
    exact Option.map_id'
  | _ =>
    -- both sides become the same chain of tests `k = k₁`, `k = k₂`, …
    simp only [getIndex, abs, Spec.indexOf, eq_comm (a := k), apply_ite (Option.map (· + 1)),
      Option.map_some, Option.map_none, Nat.reduceAdd]

/-- in every representation, invariant or not, a key has a stored index exactly when it has a value -/
theorem getIndex_isSome (c : Container K V) (k : K) : (c.getIndex k).isSome = (c.get k).isSome := by
  cases c with
  | n m => simp only [getIndex, get, Option.isSome_map]
  | _ =>
    simp only [getIndex, get, apply_ite Option.isSome, Option.isSome_some, Option.isSome_none,
      eq_comm (a := k)]

theorem getPair_abs {c : Container K V} (h : Inv c) (i : Nat) : c.getPair i = (abs c)[i]? := by
  cases c with
  | n m =>
    -- the guard (`index > len`) is redundant: the lookup itself answers `none` from `len` on
    have sf := sortedForm_of_inv h.2
    simp only [getPair, abs, sf.find?_index, getElem?_map]
    split_ifs with hgt
    · rw [getElem?_eq_none (by rw [sf.length_eq]; omega)]
      rfl
    · rfl
  | one k1 v1 =>
    rcases i with _ | i
    · rfl
    · simp [getPair, abs]
  | two k1 k2 v1 v2 =>
    rcases i with _ | _ | i
    iterate 2 rfl
    simp [getPair, abs]
  | three k1 k2 k3 v1 v2 v3 =>
    rcases i with _ | _ | _ | i
    iterate 3 rfl
    simp [getPair, abs]
  | four k1 k2 k3 k4 v1 v2 v3 v4 =>
    rcases i with _ | _ | _ | _ | i
    iterate 4 rfl
    simp [getPair, abs]

/-- under the invariant `get_pair` answers `None` from `len` on — in particular at `len` itself, where
    the code's guard (`index > len`) lets the lookup run -/
theorem getPair_out_of_range {c : Container K V} (h : Inv c) {i : Nat} (hi : c.len ≤ i) :
    c.getPair i = none := by
  rw [getPair_abs h, getElem?_eq_none]
  rw [← len_abs c]
  exact hi

theorem iterFrom_eq {c : Container K V} (a : List (K × V)) (hl : c.len = a.length)
    (hp : ∀ i, c.getPair i = a[i]?) (fuel i : Nat) :
    c.iterFrom fuel i = (a.drop i).take fuel := by
  induction fuel generalizing i with
  | zero => simp [iterFrom]
  | succ f ih =>
    simp only [iterFrom, hl, hp]
    split_ifs with hge
    · rw [drop_eq_nil_of_le hge]; simp
    · have hi : i < a.length := by omega
      rw [getElem?_eq_getElem hi]
      simp only
      rw [ih (i + 1), drop_eq_getElem_cons hi, take_succ_cons]

theorem iter_abs {c : Container K V} (h : Inv c) : c.iter = abs c := by
  simp only [iter]
  rw [iterFrom_eq (abs c) (len_abs c) (getPair_abs h), len_abs c]
  simp

theorem toVec_abs {c : Container K V} (h : Inv c) : c.toVec = reindex (abs c) := by
  simp [toVec, reindex, iter_abs h]

theorem indexedIter_abs {c : Container K V} (h : Inv c) :
    c.indexedIter = (abs c).zipIdx.map (fun p => (p.2, p.1)) := by
  simp [indexedIter, iter_abs h]

/-- `reindex (s.map kv) = s` when the stored indices are the positions; from an offset `a`, for the
    induction -/
theorem reindex_map_kv (s : HMap K (IndexedEntry V)) (a : Nat)
    (hs : s.map (·.2.index) = List.range' a s.length) :
    ((s.map kv).zipIdx a).map (fun p => (p.1.1, ({ v := p.1.2, index := p.2 } : IndexedEntry V))) = s := by
  induction s generalizing a with
  | nil => simp
  | cons e r ih =>
    obtain ⟨k', w⟩ := e
    simp only [map_cons, length_cons, range'_succ, cons.injEq] at hs
    simp only [map_cons, zipIdx_cons, kv, cons.injEq]
    refine ⟨?_, ih (a + 1) hs.2⟩
    cases w; simp_all

theorem SortedForm.reindex_eq {m s : HMap K (IndexedEntry V)} (sf : SortedForm m s) :
    reindex (s.map kv) = s :=
  reindex_map_kv s 0 (by rw [sf.idx, range_eq_range'])

theorem intoIter_abs {c : Container K V} (h : Inv c) : c.intoIter = reindex (abs c) := by
  cases c with
  | n m => exact (sortedForm_of_inv h.2).reindex_eq.symm
  | _ => rfl

/-! ### `insert` refines `Spec.insert`, and preserves the invariant -/

theorem insert_snd (c : Container K V) (k : K) (v : V) : (c.insert k v).2 = c.get k := by
  cases c with
  | n m => cases m <;> rfl
  | _ => simp only [insert, get, apply_ite Prod.snd]

/-- `HashMap::insert` seen through the sorted form: the key's entry is replaced where it stands, a new
    key goes last -/
theorem SortedForm.insert {m s : HMap K (IndexedEntry V)} (sf : SortedForm m s)
    (nd : (m.map (·.1)).Nodup) (k : K) (v : V) :
    SortedForm (Spec.insert m k ⟨v, ((Spec.get m k).map (·.index)).getD m.length⟩)
      (Spec.insert s k ⟨v, ((Spec.get m k).map (·.index)).getD m.length⟩) := by
  have nds := sf.keys_nodup nd
  cases hg : Spec.get m k with
  | none =>
    have hk : k ∉ m.map (·.1) := Spec.get_eq_none_iff.mp hg
    have hks : k ∉ s.map (·.1) := fun hh => hk ((sf.perm.map _).mem_iff.mp hh)
    rw [Option.map_none, Option.getD_none, Spec.insert_of_not_mem _ hk, Spec.insert_of_not_mem _ hks]
    exact sf.append_new (k, v)
  | some old =>
    have hk : k ∈ m.map (·.1) := mem_map.mpr ⟨_, Spec.mem_of_get_eq_some hg, rfl⟩
    have hks : k ∈ s.map (·.1) := (sf.perm.map _).mem_iff.mpr hk
    rw [Option.map_some, Option.getD_some, Spec.insert_of_mem _ nd hk, Spec.insert_of_mem _ nds hks]
    -- the entry under `k` is `(k, old)`, so the stored index is kept
    refine sf.map fun a ha => ?_
    split_ifs with hak
    · have : Spec.get m k = some a.2 := Spec.get_eq_some_of_mem nd (by rw [← hak]; exact ha)
      rw [hg] at this
      cases this
      rfl
    · rfl

/-- what `insert` computes on a non-empty `HashMap` -/
theorem insert_n_cons (e : K × IndexedEntry V) (r : HMap K (IndexedEntry V)) (k : K) (v : V) :
    (Container.n (e :: r)).insert k v =
      (.n (Spec.insert (e :: r) k ⟨v, ((Spec.get (e :: r) k).map (·.index)).getD (e :: r).length⟩),
        (Spec.get (e :: r) k).map (·.v)) := by
  simp only [insert, Spec.hmap_get_eq, Spec.put_eq_insert]

/-- a step whose result is a small representation: the list equation is all there is to show (it is
    handed back with the invariant, the form `insert_refines` wants) -/
theorem small_refines {c c' : Container K V} (h : Inv c) {k : K} {v : V} (hs : ∀ m, c' ≠ .n m)
    (ha : abs c' = Spec.insert (abs c) k v) : Inv c' ∧ abs c' = Spec.insert (abs c) k v :=
  ⟨inv_of_small hs (ha ▸ Spec.nodup_keys_insert (abs_keys_nodup h) k v), ha⟩

/-- `insert`: a new key is appended at the end, an existing key is overwritten in place, the previous
    value is returned, and the representation invariant is preserved — in every representation -/
theorem insert_refines {c : Container K V} (h : Inv c) (k : K) (v : V) :
    Inv (c.insert k v).1 ∧ abs (c.insert k v).1 = Spec.insert (abs c) k v ∧
      (c.insert k v).2 = Spec.get (abs c) k := by
  refine and_assoc.mp ⟨?_, by rw [insert_snd, get_abs h]⟩
  cases c with
  | n m =>
    cases m with
    | nil => exact ⟨trivial, rfl⟩
    | cons e r =>
      have sf' := (sortedForm_of_inv h.2).insert h.1 k v
      rw [insert_n_cons]
      exact ⟨inv_of_sortedForm (Spec.nodup_keys_insert h.1 k _) sf',
        by rw [abs_n_of_sortedForm sf', spec_insert_map_kv]; rfl⟩
  | one k1 v1 =>
    rw [insert]
    by_cases h1 : k1 = k
    · rw [if_pos h1]; exact small_refines h nofun (by simp only [abs, Spec.insert, if_true, *])
    rw [if_neg h1]; exact small_refines h nofun (by simp only [abs, Spec.insert, if_false, *])
  | two k1 k2 v1 v2 =>
    rw [insert]
    by_cases h1 : k1 = k
    · rw [if_pos h1]; exact small_refines h nofun (by simp only [abs, Spec.insert, if_true, *])
    rw [if_neg h1]
    by_cases h2 : k2 = k
    · rw [if_pos h2]; exact small_refines h nofun (by simp only [abs, Spec.insert, if_true, if_false, *])
    rw [if_neg h2]; exact small_refines h nofun (by simp only [abs, Spec.insert, if_false, *])
  | three k1 k2 k3 v1 v2 v3 =>
    rw [insert]
    by_cases h1 : k1 = k
    · rw [if_pos h1]; exact small_refines h nofun (by simp only [abs, Spec.insert, if_true, *])
    rw [if_neg h1]
    by_cases h2 : k2 = k
    · rw [if_pos h2]; exact small_refines h nofun (by simp only [abs, Spec.insert, if_true, if_false, *])
    rw [if_neg h2]
    by_cases h3 : k3 = k
    · rw [if_pos h3]; exact small_refines h nofun (by simp only [abs, Spec.insert, if_true, if_false, *])
    rw [if_neg h3]; exact small_refines h nofun (by simp only [abs, Spec.insert, if_false, *])
  | four k1 k2 k3 k4 v1 v2 v3 v4 =>
    rw [insert]
    by_cases h1 : k1 = k
    · rw [if_pos h1]; exact small_refines h nofun (by simp only [abs, Spec.insert, if_true, *])
    rw [if_neg h1]
    by_cases h2 : k2 = k
    · rw [if_pos h2]; exact small_refines h nofun (by simp only [abs, Spec.insert, if_true, if_false, *])
    rw [if_neg h2]
    by_cases h3 : k3 = k
    · rw [if_pos h3]; exact small_refines h nofun (by simp only [abs, Spec.insert, if_true, if_false, *])
    rw [if_neg h3]
    by_cases h4 : k4 = k
    · rw [if_pos h4]; exact small_refines h nofun (by simp only [abs, Spec.insert, if_true, if_false, *])
    rw [if_neg h4]
    -- a fifth key: the five entries go into a `HashMap`, in order, with indices `0 … 4`
    have ha : Spec.insert (abs (.four k1 k2 k3 k4 v1 v2 v3 v4)) k v =
        [(k1, v1), (k2, v2), (k3, v3), (k4, v4), (k, v)] := by
      simp only [abs, Spec.insert, if_false, *]
    have nd := Spec.nodup_keys_insert (abs_keys_nodup h) k v
    rw [ha] at nd ⊢
    rw [Spec.ofList_of_nodup]
    · have sf : SortedForm [(k1, (⟨v1, 0⟩ : IndexedEntry V)), (k2, ⟨v2, 1⟩), (k3, ⟨v3, 2⟩),
          (k4, ⟨v4, 3⟩), (k, ⟨v, 4⟩)] _ := ⟨Perm.refl _, rfl⟩
      exact ⟨inv_of_sortedForm nd sf, abs_n_of_sortedForm sf⟩
    · exact nd

/-! ### `unique_key_len` -/

theorem dedupKeys_length_le (l : List K) : (dedupKeys l).length ≤ l.length := by
  induction l with
  | nil => exact Nat.le_refl _
  | cons k r ih =>
    simp only [dedupKeys]
    split_ifs
    · exact Nat.le_succ_of_le ih
    · exact Nat.succ_le_succ ih

theorem uniqueKeyLen_eq_length_iff (l : List K) : uniqueKeyLen l = l.length ↔ l.Nodup := by
  induction l with
  | nil => simp [uniqueKeyLen, dedupKeys]
  | cons k r ih =>
    simp only [uniqueKeyLen] at ih
    simp only [uniqueKeyLen, dedupKeys, nodup_cons]
    have := dedupKeys_length_le r
    split_ifs with hk
    · simp only [length_cons]
      constructor
      · intro h; omega
      · intro h; exact absurd hk h.1
    · simp only [length_cons, Nat.add_right_cancel_iff, ih]
      exact ⟨fun h => ⟨hk, h⟩, fun h => h.2⟩

/-! ### constructors and whole histories -/

theorem inv_empty : Inv (empty : Container K V) := ⟨nodup_nil, Perm.refl _⟩

theorem abs_empty : abs (empty : Container K V) = [] := rfl

/-- a whole history of inserts (new keys and overwrites) -/
def insertAll (c : Container K V) (ops : List (K × V)) : Container K V :=
  ops.foldl (fun c e => (c.insert e.1 e.2).1) c

theorem insertAll_cons (c : Container K V) (e : K × V) (r : List (K × V)) :
    insertAll c (e :: r) = insertAll (c.insert e.1 e.2).1 r := rfl

theorem insertAll_refines {c : Container K V} (h : Inv c) (ops : List (K × V)) :
    Inv (insertAll c ops) ∧ abs (insertAll c ops) = Spec.insertAll (abs c) ops := by
  induction ops generalizing c with
  | nil => exact ⟨h, rfl⟩
  | cons e r ih =>
    have h1 := insert_refines h e.1 e.2
    rw [insertAll_cons, Spec.insertAll_cons, ← h1.2.1]
    exact ih h1.1

theorem fromIter_refines (es : List (K × V)) :
    Inv (fromIter es) ∧ abs (fromIter es) = Spec.insertAll [] es :=
  insertAll_refines inv_empty es

theorem fromIter_iter {c : Container K V} (h : Inv c) :
    Inv (fromIter c.iter) ∧ abs (fromIter c.iter) = abs c := by
  rw [iter_abs h]
  have := fromIter_refines (abs c)
  rwa [Spec.insertAll_nil_of_nodup _ (abs_keys_nodup h)] at this

/-- `new` on ANY list (repeated keys included), at every length, stands for the insertion-ordered
    association list of that list (as `from_iter` does: `fromIter_refines`) -/
theorem new_refines (es : List (K × V)) :
    Inv (new es) ∧ abs (new es) = Spec.insertAll [] es := by
  -- a small representation built directly from entries with distinct keys stands for those entries
  have small : ∀ (c : Container K V), (∀ m, c ≠ .n m) → ((abs c).map (·.1)).Nodup →
      Inv c ∧ abs c = Spec.insertAll [] (abs c) :=
    fun c hs nd => ⟨inv_of_small hs nd, (Spec.insertAll_nil_of_nodup _ nd).symm⟩
  match es with
  | [] => exact ⟨inv_empty, rfl⟩
  | [(k, v)] => exact small (.one k v) nofun (nodup_singleton k)
  | [(k1, v1), (k2, v2)] =>
    simp only [new]
    split_ifs with hu
    · exact small (.two k1 k2 v1 v2) nofun ((uniqueKeyLen_eq_length_iff [k1, k2]).mp hu)
    · exact fromIter_refines _
  | [(k1, v1), (k2, v2), (k3, v3)] =>
    simp only [new]
    split_ifs with hu
    · exact small (.three k1 k2 k3 v1 v2 v3) nofun ((uniqueKeyLen_eq_length_iff [k1, k2, k3]).mp hu)
    · exact fromIter_refines _
  | [(k1, v1), (k2, v2), (k3, v3), (k4, v4)] =>
    simp only [new]
    split_ifs with hu
    · exact small (.four k1 k2 k3 k4 v1 v2 v3 v4) nofun
        ((uniqueKeyLen_eq_length_iff [k1, k2, k3, k4]).mp hu)
    · exact fromIter_refines _
  | e1 :: e2 :: e3 :: e4 :: e5 :: r => exact fromIter_refines _

end Container

end Compass
