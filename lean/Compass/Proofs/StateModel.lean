/-
Lemmas about `StateModel` (Model/StateModel.lean) on top of the container refinement
(Proofs/Container.lean): a well-formed state model is its ordered feature list `feats m`; the slot of
a name is its position in that list; every getter, setter and adder is an instance of one of three
shapes (`readWith`; `writeWith`, with `bump` for the adders; `decodeWith` for the custom getters), each
a chain of binds in `Except` whose success is characterised exactly.
-/
import Compass.Proofs.Container
import Compass.Model.StateModel

namespace Compass

open List

set_option linter.unusedSectionVars false
set_option linter.unnecessarySimpa false

/-! A chain of `?` in the Rust code is a chain of binds in `Except`: it succeeds exactly when every
step does. -/

theorem Except.bind_eq_ok {ε α β : Type} {x : Except ε α} {f : α → Except ε β} {y : β} :
    x >>= f = .ok y ↔ ∃ a, x = .ok a ∧ f a = .ok y := by
  cases x with
  | error e => exact ⟨nofun, fun ⟨_, h, _⟩ => nomatch h⟩
  | ok a => exact ⟨fun h => ⟨a, rfl, h⟩, fun ⟨_, h, h'⟩ => by cases h; exact h'⟩

theorem Except.ok_bind {ε α β : Type} (a : α) (f : α → Except ε β) : (Except.ok a >>= f) = f a := rfl

theorem Except.error_bind {ε α β : Type} (e : ε) (f : α → Except ε β) :
    (Except.error e >>= f) = Except.error e := rfl

theorem Except.pure_eq_ok {ε α : Type} {a y : α} : (pure a : Except ε α) = .ok y ↔ y = a :=
  ⟨fun h => by cases h; rfl, fun h => by rw [h]; rfl⟩

namespace StateModel
variable {α : Type}

/-- well-formed: the container's representation invariant holds -/
def WF (m : StateModel α) : Prop := Container.Inv m.map

instance (m : StateModel α) : Decidable (WF m) := inferInstanceAs (Decidable (Container.Inv m.map))

/-- the ordered feature list a state model stands for -/
def feats (m : StateModel α) : List (String × StateFeature α) := Container.abs m.map

theorem empty_refines : WF (empty : StateModel α) ∧ feats (empty : StateModel α) = [] :=
  ⟨Container.inv_empty, Container.abs_empty⟩

theorem new_refines (fs : List (String × StateFeature α)) :
    WF (new fs) ∧ feats (new fs) = Spec.insertAll [] fs := Container.new_refines fs

theorem new_refines_of_nodup (fs : List (String × StateFeature α)) (nd : (fs.map (·.1)).Nodup) :
    WF (new fs) ∧ feats (new fs) = fs := by
  have := new_refines fs
  rw [Spec.insertAll_nil_of_nodup fs nd] at this
  exact this

theorem feats_nodup {m : StateModel α} (h : WF m) : ((feats m).map (·.1)).Nodup :=
  Container.abs_keys_nodup h

theorem len_eq (m : StateModel α) : m.len = (feats m).length := Container.len_abs m.map

theorem iter_eq {m : StateModel α} (h : WF m) : m.iter = feats m := Container.iter_abs h

theorem names_eq_keys {m : StateModel α} (h : WF m) : m.names = (feats m).map (·.1) := by
  rw [← iter_eq h]
  rfl

theorem getIndex_eq {m : StateModel α} (h : WF m) (name : String) :
    m.getIndex name = Spec.indexOf (feats m) name := Container.getIndex_abs h name

theorem get_eq {m : StateModel α} (h : WF m) (name : String) :
    m.map.get name = Spec.get (feats m) name := Container.get_abs h name

theorem getIndex_isSome_iff_mem {m : StateModel α} (h : WF m) (name : String) :
    (m.getIndex name).isSome ↔ name ∈ (feats m).map (·.1) := by
  rw [getIndex_eq h, ← not_iff_not, Option.not_isSome_iff_eq_none, Spec.indexOf_eq_none_iff]

/-- on a well-formed model a feature has a slot, and the slot lies inside every vector of the model's
    length -/
theorem feature_slot_lt {m : StateModel α} (h : WF m) {st : List α} (hl : st.length = m.len)
    {name : String} {f : StateFeature α} (hg : m.map.get name = some f) :
    ∃ i, m.getIndex name = some i ∧ i < st.length := by
  have hs : (Spec.indexOf (feats m) name).isSome :=
    Spec.indexOf_isSome_iff_get.mpr (by rw [← get_eq h, hg]; rfl)
  obtain ⟨i, hi⟩ := Option.isSome_iff_exists.mp hs
  exact ⟨i, by rw [getIndex_eq h, hi], by rw [hl, len_eq m]; exact Spec.indexOf_lt hi⟩

/-! ### `extend` -/

theorem extendLoop_fst (map : Container String (StateFeature α)) (ow : List String)
    (entries : List (String × StateFeature α)) :
    (extendLoop map ow entries).1 = Container.insertAll map entries := by
  induction entries generalizing map ow with
  | nil => rfl
  | cons e r ih =>
    obtain ⟨name, new⟩ := e
    simp only [extendLoop, Container.insertAll_cons]
    exact ih _ _

/-! ### what `==` on features compares -/

/-- the kind, and for a custom feature its two names and the name of its format -/
def _root_.Compass.StateFeature.eqvKey : StateFeature α → Nat × String × String × String
  | .distance _ _ => (0, "", "", "")
  | .time _ _ => (1, "", "", "")
  | .energy _ _ => (2, "", "", "")
  | .custom t u f => (3, t, u, f.name)

theorem _root_.Compass.StateFeature.eqv_iff_eqvKey (f g : StateFeature α) :
    f.eqv g = true ↔ f.eqvKey = g.eqvKey := by
  cases f <;> cases g <;> simp [StateFeature.eqv, StateFeature.eqvKey, and_assoc]

/-! ### `extend`: what the loop records, the answer, when it succeeds -/

/-- the names `extend` records: an entry whose name is already held (by the model or by an earlier
    entry) by a feature that is not `==` the entry's -/
def kindChanges (l : List (String × StateFeature α)) :
    List (String × StateFeature α) → List String
  | [] => []
  | (name, new) :: rest =>
    (match Spec.get l name with
      | some o => if !(o.eqv new) then [name] else []
      | none => []) ++ kindChanges (Spec.insert l name new) rest

/-- one step of the loop records nothing exactly when what the name holds, if anything, is `==` the entry -/
theorem kindChanges_cons_eq_nil_iff (l : List (String × StateFeature α)) (name : String)
    (new : StateFeature α) (rest : List (String × StateFeature α)) :
    kindChanges l ((name, new) :: rest) = [] ↔
      (∀ o, Spec.get l name = some o → o.eqv new = true) ∧
        kindChanges (Spec.insert l name new) rest = [] := by
  rw [kindChanges, append_eq_nil_iff]
  refine and_congr_left fun _ => ?_
  cases Spec.get l name with
  | none => exact ⟨fun _ _ h => (nomatch h), fun _ => rfl⟩
  | some o =>
    cases hq : o.eqv new
    · exact ⟨fun h => by simp [hq] at h, fun h => by simpa [hq] using h o rfl⟩
    · exact ⟨fun _ o' h => by cases h; exact hq, fun _ => by simp [hq]⟩

theorem extendLoop_snd (map : Container String (StateFeature α)) (h : Container.Inv map)
    (ow : List String) (entries : List (String × StateFeature α)) :
    (extendLoop map ow entries).2 = ow ++ kindChanges (Container.abs map) entries := by
  induction entries generalizing map ow with
  | nil => simp [extendLoop, kindChanges]
  | cons e r ih =>
    obtain ⟨name, new⟩ := e
    obtain ⟨hi, ha, ho⟩ := Container.insert_refines h name new
    simp only [extendLoop, kindChanges]
    rw [ih _ hi, ha, ho]
    cases Spec.get (Container.abs map) name with
    | none => simp
    | some o => by_cases hq : o.eqv new <;> simp [hq]

/-- `extend` on a well-formed model, read once: all entries are inserted into a copy, and the call is
    refused exactly when a kind changed on the way -/
theorem extend_eq {m : StateModel α} (h : WF m) (entries : List (String × StateFeature α)) :
    m.extend entries =
      if kindChanges (feats m) entries = [] then
        .ok ⟨Container.insertAll (Container.fromIter m.map.iter) entries⟩
      else .error .build := by
  obtain ⟨hi, ha⟩ := Container.fromIter_iter h
  simp only [extend, extendLoop_fst, extendLoop_snd _ hi, ha, nil_append, feats, List.isEmpty_iff]
  congr

theorem extend_ok {m m' : StateModel α} (h : WF m) {entries : List (String × StateFeature α)}
    (he : m.extend entries = .ok m') :
    WF m' ∧ feats m' = Spec.insertAll (feats m) entries := by
  rw [extend_eq h] at he
  split_ifs at he
  cases he
  obtain ⟨hi, ha⟩ := Container.fromIter_iter h
  have := Container.insertAll_refines hi entries
  rwa [ha] at this

theorem extend_ok_iff_kindChanges {m : StateModel α} (h : WF m)
    (entries : List (String × StateFeature α)) :
    (∃ m', m.extend entries = .ok m') ↔ kindChanges (feats m) entries = [] := by
  rw [extend_eq h]
  split_ifs with hc
  · exact ⟨fun _ => hc, fun _ => ⟨_, rfl⟩⟩
  · exact ⟨fun ⟨_, h⟩ => (nomatch h), fun h => absurd h hc⟩

/-- emptiness entry by entry, as the loop sees it: each entry against what its name holds just before
    it (`C11.extend_ok_iff` is this form; `kindChanges_eq_nil_iff_kindsAgree` is the one to argue with) -/
theorem kindChanges_eq_nil_iff (l : List (String × StateFeature α))
    (entries : List (String × StateFeature α)) :
    kindChanges l entries = [] ↔
      ∀ j (hj : j < entries.length), ∀ o,
        Spec.get (Spec.insertAll l (entries.take j)) (entries[j]).1 = some o →
          o.eqv (entries[j]).2 = true := by
  induction entries generalizing l with
  | nil => exact ⟨fun _ _ hj => absurd hj (Nat.not_lt_zero _), fun _ => rfl⟩
  | cons e r ih =>
    obtain ⟨name, new⟩ := e
    rw [kindChanges_cons_eq_nil_iff, ih]
    constructor
    · rintro ⟨h0, hr⟩ j hj
      cases j with
      | zero => exact h0
      | succ k => exact hr k (Nat.lt_of_succ_lt_succ hj)
    · exact fun hall => ⟨hall 0 (Nat.zero_lt_succ _), fun k hk => hall (k + 1) (Nat.succ_lt_succ hk)⟩

/-- the names can be given kinds (`eqvKey`) that the features of `l` and all entries agree with -/
def KindsAgree (l entries : List (String × StateFeature α)) : Prop :=
  ∃ κ : String → Nat × String × String × String,
    (∀ name o, Spec.get l name = some o → o.eqvKey = κ name) ∧ ∀ e ∈ entries, e.2.eqvKey = κ e.1

/-- `extend` compares each entry with what its name holds at that moment, and `==` is equality of
    `eqvKey`: nothing is recorded exactly when every name keeps one kind throughout -/
theorem kindChanges_eq_nil_iff_kindsAgree (l entries : List (String × StateFeature α)) :
    kindChanges l entries = [] ↔ KindsAgree l entries := by
  induction entries generalizing l with
  | nil =>
    refine ⟨fun _ => ⟨fun n => ((Spec.get l n).map StateFeature.eqvKey).getD default, ?_, nofun⟩,
      fun _ => rfl⟩
    intro n o ho
    simp only [ho, Option.map_some, Option.getD_some]
  | cons e r ih =>
    obtain ⟨name, new⟩ := e
    rw [kindChanges_cons_eq_nil_iff, ih]
    simp only [StateFeature.eqv_iff_eqvKey]
    constructor
    · rintro ⟨h0, κ, h1, h2⟩
      have hn : new.eqvKey = κ name := h1 name new (Spec.get_insert_self l name new)
      refine ⟨κ, fun n o ho => ?_, forall_mem_cons.mpr ⟨hn, h2⟩⟩
      by_cases hk : n = name
      · subst hk; exact (h0 o ho).trans hn
      · exact h1 n o (by rw [Spec.get_insert_of_ne l new hk]; exact ho)
    · rintro ⟨κ, h1, h2⟩
      obtain ⟨hn, h2⟩ := forall_mem_cons.mp h2
      refine ⟨fun o hg => (h1 name o hg).trans hn.symm, κ, fun n o ho => ?_, h2⟩
      by_cases hk : n = name
      · rw [hk, Spec.get_insert_self] at ho
        cases ho
        rw [hk]
        exact hn
      · rw [Spec.get_insert_of_ne l new hk] at ho
        exact h1 n o ho

/-- the kinds agree as soon as every entry is `==` what the list holds under its name and entries that
    share a name are `==` each other: the kind of a name is that of the list's feature, else that of
    the first entry of that name -/
theorem KindsAgree.of_eqv {l entries : List (String × StateFeature α)}
    (hold : ∀ e ∈ entries, ∀ o, Spec.get l e.1 = some o → o.eqv e.2 = true)
    (hnew : ∀ e ∈ entries, ∀ e' ∈ entries, e.1 = e'.1 → e.2.eqv e'.2 = true) :
    KindsAgree l entries := by
  refine ⟨fun n => (((Spec.get l n).or ((entries.find? (fun e => e.1 = n)).map (·.2))).map
      StateFeature.eqvKey).getD default,
    fun n o ho => by simp only [ho, Option.some_or, Option.map_some, Option.getD_some],
    fun e he => ?_⟩
  simp only
  cases hg : Spec.get l e.1 with
  | some o => exact ((StateFeature.eqv_iff_eqvKey o e.2).mp (hold e he o hg)).symm
  | none =>
    cases hf : entries.find? (fun x => x.1 = e.1) with
    | none => exact absurd (by simp) (find?_eq_none.mp hf e he)
    | some e' =>
      have hk : e'.1 = e.1 := by simpa using find?_some hf
      exact ((StateFeature.eqv_iff_eqvKey e'.2 e.2).mp
        (hnew e' (mem_of_find?_eq_some hf) e he hk)).symm

theorem extend_ok_iff_kindsAgree {m : StateModel α} (h : WF m)
    (entries : List (String × StateFeature α)) :
    (∃ m', m.extend entries = .ok m') ↔ KindsAgree (feats m) entries := by
  rw [extend_ok_iff_kindChanges h, kindChanges_eq_nil_iff_kindsAgree]

/-! ### state access, characterised exactly -/

theorem getStateVariable_ok {m : StateModel α} {st : List α} {name : String} {v : α} :
    m.getStateVariable st name = .ok v ↔ ∃ i, m.getIndex name = some i ∧ st[i]? = some v := by
  simp only [getStateVariable, getIndex]
  cases m.map.getIndex name with
  | none => simp
  | some i =>
    cases h : st[i]? with
    | none => simp [h]
    | some w => simp [h]

theorem updateState_ok {m : StateModel α} {st st' : List α} {name : String} {v : α} :
    m.updateState st name v = .ok st' ↔
      ∃ i, m.getIndex name = some i ∧ i < st.length ∧ st' = st.set i v := by
  simp only [updateState, getIndex]
  cases m.map.getIndex name with
  | none => simp
  | some i =>
    cases h : st[i]? with
    | none =>
      have : ¬ i < st.length := by
        intro hi; rw [getElem?_eq_getElem hi] at h; cases h
      simp [this]
    | some w =>
      have : i < st.length := (List.getElem?_eq_some_iff.mp h).1
      simp [this, eq_comm]

theorem getFeature_ok {m : StateModel α} {name : String} {f : StateFeature α} :
    m.getFeature name = .ok f ↔ m.map.get name = some f := by
  simp only [getFeature]
  cases m.map.get name <;> simp

/-! ### `get_delta` -/

theorem getDelta_eq [Sub α] (m : StateModel α) (prev next : List α) (name : String) :
    m.getDelta prev next name =
      m.getStateVariable prev name >>= fun p => m.getStateVariable next name >>= fun n => pure (n - p) := by
  unfold getDelta
  cases m.getStateVariable prev name with
  | error e => rfl
  | ok p => cases m.getStateVariable next name <;> rfl

theorem getDelta_ok [Sub α] {m : StateModel α} {prev next : List α} {name : String} {d : α} :
    m.getDelta prev next name = .ok d ↔
      ∃ i p n, m.getIndex name = some i ∧ prev[i]? = some p ∧ next[i]? = some n ∧ d = n - p := by
  simp only [getDelta_eq, Except.bind_eq_ok, Except.pure_eq_ok, getStateVariable_ok]
  constructor
  · rintro ⟨p, ⟨i, hi, hp⟩, n, ⟨j, hj, hn⟩, hd⟩
    cases hi.symm.trans hj
    exact ⟨i, p, n, hi, hp, hn, hd⟩
  · rintro ⟨i, p, n, hi, hp, hn, hd⟩
    exact ⟨p, ⟨i, hi, hp⟩, n, ⟨i, hi, hn⟩, hd⟩

/-! ### the shapes every accessor has

Every getter of `state_model.rs` reads the slot, fetches the feature and asks the feature for what it
needs (`readWith`); every setter fetches the feature, asks it, computes the value to store and
replaces the slot (`writeWith`).  Both are chains of binds, so success of either shape is characterised
once through `Except.bind_eq_ok`; the accessors of the model, written with nested `match`es, are
instances (`getDistance_eq` …), each checked by running through its `match`es. -/

variable {β γ : Type}

/-- the shape of a getter: the slot's value `v`, the feature, what `sel` takes from the feature (`b`),
    answer `k v b`; errors in that order -/
def readWith (m : StateModel α) (st : List α) (name : String)
    (sel : StateFeature α → Except StateErr β) (k : α → β → γ) : Except StateErr γ := do
  let v ← m.getStateVariable st name
  let f ← m.getFeature name
  let b ← sel f
  pure (k v b)

/-- the shape of a setter: the feature, what `sel` takes from it (`b`), the value `val b` to store,
    `update_state`; errors in that order -/
def writeWith (m : StateModel α) (st : List α) (name : String)
    (sel : StateFeature α → Except StateErr β) (val : β → Except StateErr α) :
    Except StateErr (List α) := do
  let f ← m.getFeature name
  let b ← sel f
  let x ← val b
  m.updateState st name x

/-- the value `add_*` stores: the slot's present value, changed by `g` -/
def bump (m : StateModel α) (st : List α) (name : String) (g : α → β → α) (b : β) : Except StateErr α := do
  let prev ← m.getStateVariable st name
  pure (g prev b)

theorem readWith_ok {m : StateModel α} {st : List α} {name : String}
    {sel : StateFeature α → Except StateErr β} {k : α → β → γ} {y : γ} :
    readWith m st name sel k = .ok y ↔
      ∃ f b i v, m.map.get name = some f ∧ sel f = .ok b ∧ m.getIndex name = some i ∧
        st[i]? = some v ∧ y = k v b := by
  simp only [readWith, Except.bind_eq_ok, Except.pure_eq_ok, getStateVariable_ok, getFeature_ok]
  exact ⟨fun ⟨v, ⟨i, hi, hv⟩, f, hf, b, hb, hy⟩ => ⟨f, b, i, v, hf, hb, hi, hv, hy⟩,
    fun ⟨f, b, i, v, hf, hb, hi, hv, hy⟩ => ⟨v, ⟨i, hi, hv⟩, f, hf, b, hb, hy⟩⟩

theorem writeWith_ok {m : StateModel α} {st st' : List α} {name : String}
    {sel : StateFeature α → Except StateErr β} {val : β → Except StateErr α} :
    writeWith m st name sel val = .ok st' ↔
      ∃ f b x i, m.map.get name = some f ∧ sel f = .ok b ∧ val b = .ok x ∧
        m.getIndex name = some i ∧ i < st.length ∧ st' = st.set i x := by
  simp only [writeWith, Except.bind_eq_ok, getFeature_ok, updateState_ok]
  exact ⟨fun ⟨f, hf, b, hb, x, hx, i, h⟩ => ⟨f, b, x, i, hf, hb, hx, h⟩,
    fun ⟨f, b, x, i, hf, hb, hx, h⟩ => ⟨f, hf, b, hb, x, hx, i, h⟩⟩

theorem bump_ok {m : StateModel α} {st : List α} {name : String} {g : α → β → α} {b : β} {x : α} :
    bump m st name g b = .ok x ↔ ∃ i v, m.getIndex name = some i ∧ st[i]? = some v ∧ x = g v b := by
  simp only [bump, Except.bind_eq_ok, Except.pure_eq_ok, getStateVariable_ok]
  exact ⟨fun ⟨v, ⟨i, hi, hv⟩, hx⟩ => ⟨i, v, hi, hv, hx⟩, fun ⟨i, v, hi, hv, hx⟩ => ⟨v, ⟨i, hi, hv⟩, hx⟩⟩

theorem writeWith_bump_ok {m : StateModel α} {st st' : List α} {name : String}
    {sel : StateFeature α → Except StateErr β} {g : α → β → α} :
    writeWith m st name sel (bump m st name g) = .ok st' ↔
      ∃ f b i v, m.map.get name = some f ∧ sel f = .ok b ∧ m.getIndex name = some i ∧
        st[i]? = some v ∧ st' = st.set i (g v b) := by
  rw [writeWith_ok]
  constructor
  · rintro ⟨f, b, x, i, hg, hb, hx, hi, -, rfl⟩
    obtain ⟨j, v, hj, hv, rfl⟩ := bump_ok.mp hx
    rw [hi] at hj; cases hj
    exact ⟨f, b, i, v, hg, hb, hi, hv, rfl⟩
  · rintro ⟨f, b, i, v, hg, hb, hi, hv, rfl⟩
    exact ⟨f, b, _, i, hg, hb, bump_ok.mpr ⟨i, v, hi, hv, rfl⟩, hi,
      (List.getElem?_eq_some_iff.mp hv).1, rfl⟩

/-- `add_*` once the name's slot and feature are known: the selector's answer, then the slot -/
theorem writeWith_bump_eval {m : StateModel α} {st : List α} {name : String} {i : Nat}
    {f : StateFeature α} (hi : m.getIndex name = some i) (hg : m.getFeature name = .ok f)
    (sel : StateFeature α → Except StateErr β) (g : α → β → α) :
    writeWith m st name sel (bump m st name g) =
      sel f >>= fun b =>
        match st[i]? with
        | some v => .ok (st.set i (g v b))
        | none => .error .runtime := by
  simp only [writeWith, bump, hg, Except.ok_bind, getStateVariable, updateState,
    show m.map.getIndex name = some i from hi]
  cases sel f with
  | error e => rfl
  | ok b => cases st[i]? <;> rfl

theorem writeWith_unknown {m : StateModel α} {st : List α} {name : String}
    (hg : m.getFeature name = .error .unknownName)
    (sel : StateFeature α → Except StateErr β) (val : β → Except StateErr α) :
    writeWith m st name sel val = .error .unknownName := by
  rw [writeWith, hg]; rfl
/-- `get_state_variable` reads the slot of the name and nothing else -/
theorem getStateVariable_congr {m : StateModel α} {st st₂ : List α} {name : String}
    (hs : ∀ i, m.getIndex name = some i → st₂[i]? = st[i]?) :
    m.getStateVariable st₂ name = m.getStateVariable st name := by
  unfold getStateVariable
  cases hi : m.map.getIndex name with
  | none => rfl
  | some i => simp only [hs i hi]

theorem readWith_congr_slot {m : StateModel α} {st st₂ : List α} {name : String} {i : Nat}
    (hi : m.getIndex name = some i) (hs : st₂[i]? = st[i]?)
    (sel : StateFeature α → Except StateErr β) (k : α → β → γ) :
    readWith m st₂ name sel k = readWith m st name sel k := by
  rw [readWith, readWith, getStateVariable_congr fun j hj => by cases hi.symm.trans hj; exact hs]

theorem writeWith_own_slot {m : StateModel α} {st st' : List α} {name : String}
    {sel : StateFeature α → Except StateErr β} {val : β → Except StateErr α}
    (h : writeWith m st name sel val = .ok st') :
    ∃ i, m.getIndex name = some i ∧ i < st.length ∧ st'.length = st.length ∧
      ∀ j, j ≠ i → st'[j]? = st[j]? := by
  obtain ⟨_, _, x, i, _, _, _, hi, hl, rfl⟩ := writeWith_ok.mp h
  exact ⟨i, hi, hl, length_set, fun j hj => getElem?_set_ne (Ne.symm hj)⟩

/-- reading back what a total write has stored (`sel` accepts exactly the features `mk b i`) -/
theorem readWith_after_writeWith {ι : Type} {m : StateModel α} {st st' : List α} {name : String}
    {sel : StateFeature α → Except StateErr β} {mk : β → ι → StateFeature α} {w : β → α}
    {k : α → β → γ} (hsel : ∀ {f b}, sel f = .ok b ↔ ∃ i, f = mk b i)
    (h : writeWith m st name sel (fun b => .ok (w b)) = .ok st') :
    ∃ b i, m.map.get name = some (mk b i) ∧ readWith m st' name sel k = .ok (k (w b) b) := by
  obtain ⟨f, b, x, j, hg, hb, hx, hj, hl, rfl⟩ := writeWith_ok.mp h
  cases hx
  obtain ⟨i, rfl⟩ := hsel.mp hb
  exact ⟨b, i, hg, readWith_ok.mpr ⟨_, b, j, _, hg, hb, hj, by rw [getElem?_set_self hl], rfl⟩⟩

/-- `add_*`: the slot of `name` becomes `g` of its old value and the feature's unit; nothing else
    changes -/
theorem writeWith_bump_accumulates {ι : Type} {m : StateModel α} {st st' : List α} {name : String}
    {sel : StateFeature α → Except StateErr β} {mk : β → ι → StateFeature α} {g : α → β → α}
    (hsel : ∀ {f b}, sel f = .ok b ↔ ∃ i, f = mk b i)
    (h : writeWith m st name sel (bump m st name g) = .ok st') :
    ∃ b init i v, m.map.get name = some (mk b init) ∧ m.getIndex name = some i ∧
      st[i]? = some v ∧ st'[i]? = some (g v b) ∧ st'.length = st.length ∧
      ∀ j, j ≠ i → st'[j]? = st[j]? := by
  obtain ⟨f, b, i, v, hg, hb, hi, hv, rfl⟩ := writeWith_bump_ok.mp h
  obtain ⟨init, rfl⟩ := hsel.mp hb
  exact ⟨b, init, i, v, hg, hi, hv, getElem?_set_self (List.getElem?_eq_some_iff.mp hv).1, length_set,
    fun j hj => getElem?_set_ne (Ne.symm hj)⟩

/-! When they succeed, on a well-formed model and a state vector of the model's length: exactly when
the name is held by a feature the accessor accepts. -/

theorem readWith_ok_iff {m : StateModel α} (h : WF m) {st : List α} (hl : st.length = m.len)
    {name : String} {sel : StateFeature α → Except StateErr β} {k : α → β → γ} :
    (∃ y, readWith m st name sel k = .ok y) ↔ ∃ f b, m.map.get name = some f ∧ sel f = .ok b := by
  constructor
  · rintro ⟨y, hy⟩
    obtain ⟨f, b, _, _, hg, hb, _⟩ := readWith_ok.mp hy
    exact ⟨f, b, hg, hb⟩
  · rintro ⟨f, b, hg, hb⟩
    obtain ⟨i, hi, hlt⟩ := feature_slot_lt h hl hg
    exact ⟨_, readWith_ok.mpr ⟨f, b, i, st[i], hg, hb, hi, getElem?_eq_getElem hlt, rfl⟩⟩

theorem writeWith_ok_iff {m : StateModel α} (h : WF m) {st : List α} (hl : st.length = m.len)
    {name : String} {sel : StateFeature α → Except StateErr β} {val : β → Except StateErr α} :
    (∃ st', writeWith m st name sel val = .ok st') ↔
      ∃ f b x, m.map.get name = some f ∧ sel f = .ok b ∧ val b = .ok x := by
  constructor
  · rintro ⟨st', hs⟩
    obtain ⟨f, b, x, _, hg, hb, hx, _⟩ := writeWith_ok.mp hs
    exact ⟨f, b, x, hg, hb, hx⟩
  · rintro ⟨f, b, x, hg, hb, hx⟩
    obtain ⟨i, hi, hlt⟩ := feature_slot_lt h hl hg
    exact ⟨_, writeWith_ok.mpr ⟨f, b, x, i, hg, hb, hx, hi, hlt, rfl⟩⟩

/-- where the value to store can always be computed, a write succeeds under the same condition as a
    read -/
theorem writeWith_ok_iff_of_total {m : StateModel α} (h : WF m) {st : List α} (hl : st.length = m.len)
    {name : String} {sel : StateFeature α → Except StateErr β} {val : β → Except StateErr α}
    (hval : ∀ f b, m.map.get name = some f → ∃ x, val b = .ok x) :
    (∃ st', writeWith m st name sel val = .ok st') ↔ ∃ f b, m.map.get name = some f ∧ sel f = .ok b := by
  rw [writeWith_ok_iff h hl]
  constructor
  · rintro ⟨f, b, _, hg, hb, _⟩; exact ⟨f, b, hg, hb⟩
  · rintro ⟨f, b, hg, hb⟩
    obtain ⟨x, hx⟩ := hval f b hg
    exact ⟨f, b, x, hg, hb, hx⟩

/-- "held by a feature the selector accepts", when the selector accepts exactly the features `mk b i` -/
theorem exists_accepted_feature_iff {ι : Type} {sel : StateFeature α → Except StateErr β} {mk : β → ι → StateFeature α}
    (hsel : ∀ {f b}, sel f = .ok b ↔ ∃ i, f = mk b i) (m : StateModel α) (name : String) :
    (∃ f b, m.map.get name = some f ∧ sel f = .ok b) ↔ ∃ b i, m.map.get name = some (mk b i) := by
  constructor
  · rintro ⟨f, b, hg, hb⟩
    obtain ⟨i, rfl⟩ := hsel.mp hb
    exact ⟨b, i, hg⟩
  · rintro ⟨b, i, hg⟩
    exact ⟨_, b, hg, hsel.mpr ⟨i, rfl⟩⟩

theorem bump_total {m : StateModel α} (h : WF m) {st : List α} (hl : st.length = m.len)
    {name : String} (g : α → β → α) (f : StateFeature α) (b : β) (hg : m.map.get name = some f) :
    ∃ x, bump m st name g b = .ok x := by
  obtain ⟨i, hi, hlt⟩ := feature_slot_lt h hl hg
  exact ⟨_, bump_ok.mpr ⟨i, st[i], hi, getElem?_eq_getElem hlt, rfl⟩⟩

/-! ### what each getter of `state_feature.rs` accepts -/

theorem _root_.Compass.StateFeature.getDistanceUnit_ok {f : StateFeature α} {u : DistanceUnit} :
    f.getDistanceUnit = .ok u ↔ ∃ i, f = .distance u i := by
  cases f with
  | distance u' i => exact ⟨fun h => ⟨i, by cases h; rfl⟩, fun ⟨_, h⟩ => by cases h; rfl⟩
  | _ => exact ⟨nofun, nofun⟩

theorem _root_.Compass.StateFeature.getTimeUnit_ok {f : StateFeature α} {u : TimeUnit} :
    f.getTimeUnit = .ok u ↔ ∃ i, f = .time u i := by
  cases f with
  | time u' i => exact ⟨fun h => ⟨i, by cases h; rfl⟩, fun ⟨_, h⟩ => by cases h; rfl⟩
  | _ => exact ⟨nofun, nofun⟩

theorem _root_.Compass.StateFeature.getEnergyUnit_ok {f : StateFeature α} {u : EnergyUnit} :
    f.getEnergyUnit = .ok u ↔ ∃ i, f = .energy u i := by
  cases f with
  | energy u' i => exact ⟨fun h => ⟨i, by cases h; rfl⟩, fun ⟨_, h⟩ => by cases h; rfl⟩
  | _ => exact ⟨nofun, nofun⟩

theorem _root_.Compass.StateFeature.getCustomFeatureFormat_ok {f : StateFeature α}
    {fmt : CustomFeatureFormat α} : f.getCustomFeatureFormat = .ok fmt ↔ ∃ t u, f = .custom t u fmt := by
  cases f with
  | custom t u fmt' => exact ⟨fun h => ⟨t, u, by cases h; rfl⟩, fun ⟨_, _, h⟩ => by cases h; rfl⟩
  | _ => exact ⟨nofun, nofun⟩

/-! ### distance, time, energy -/

section numeric
variable [Mul α] [Div α] [Lit α]

theorem getDistance_eq (m : StateModel α) (st : List α) (name : String) (u : DistanceUnit) :
    m.getDistance st name u = readWith m st name StateFeature.getDistanceUnit (fun v fu => fu.convert u v) := by
  unfold getDistance readWith
  cases m.getStateVariable st name with
  | error e => rfl
  | ok v =>
    dsimp only [Except.ok_bind]
    cases m.getFeature name with
    | error e => rfl
    | ok f => dsimp only [Except.ok_bind]; cases f.getDistanceUnit <;> rfl

theorem setDistance_eq (m : StateModel α) (st : List α) (name : String) (x : α) (u : DistanceUnit) :
    m.setDistance st name x u =
      writeWith m st name StateFeature.getDistanceUnit (fun fu => .ok (u.convert fu x)) := by
  unfold setDistance writeWith
  cases m.getFeature name with
  | error e => rfl
  | ok f => dsimp only [Except.ok_bind]; cases f.getDistanceUnit <;> rfl

theorem addDistance_eq [Add α] (m : StateModel α) (st : List α) (name : String) (x : α) (u : DistanceUnit) :
    m.addDistance st name x u =
      writeWith m st name StateFeature.getDistanceUnit (bump m st name fun p fu => p + u.convert fu x) := by
  unfold addDistance writeWith bump
  cases m.getFeature name with
  | error e => rfl
  | ok f =>
    dsimp only [Except.ok_bind]
    cases f.getDistanceUnit with
    | error e => rfl
    | ok fu => dsimp only [Except.ok_bind]; cases m.getStateVariable st name <;> rfl

theorem getTime_eq (m : StateModel α) (st : List α) (name : String) (u : TimeUnit) :
    m.getTime st name u = readWith m st name StateFeature.getTimeUnit (fun v fu => fu.convert u v) := by
  unfold getTime readWith
  cases m.getStateVariable st name with
  | error e => rfl
  | ok v =>
    dsimp only [Except.ok_bind]
    cases m.getFeature name with
    | error e => rfl
    | ok f => dsimp only [Except.ok_bind]; cases f.getTimeUnit <;> rfl

theorem setTime_eq (m : StateModel α) (st : List α) (name : String) (x : α) (u : TimeUnit) :
    m.setTime st name x u =
      writeWith m st name StateFeature.getTimeUnit (fun fu => .ok (u.convert fu x)) := by
  unfold setTime writeWith
  cases m.getFeature name with
  | error e => rfl
  | ok f => dsimp only [Except.ok_bind]; cases f.getTimeUnit <;> rfl

theorem addTime_eq [Add α] (m : StateModel α) (st : List α) (name : String) (x : α) (u : TimeUnit) :
    m.addTime st name x u =
      writeWith m st name StateFeature.getTimeUnit (bump m st name fun p fu => p + u.convert fu x) := by
  unfold addTime writeWith bump
  cases m.getFeature name with
  | error e => rfl
  | ok f =>
    dsimp only [Except.ok_bind]
    cases f.getTimeUnit with
    | error e => rfl
    | ok fu => dsimp only [Except.ok_bind]; cases m.getStateVariable st name <;> rfl

theorem getEnergy_eq (m : StateModel α) (st : List α) (name : String) (u : EnergyUnit) :
    m.getEnergy st name u = readWith m st name StateFeature.getEnergyUnit (fun v fu => fu.convert u v) := by
  unfold getEnergy readWith
  cases m.getStateVariable st name with
  | error e => rfl
  | ok v =>
    dsimp only [Except.ok_bind]
    cases m.getFeature name with
    | error e => rfl
    | ok f => dsimp only [Except.ok_bind]; cases f.getEnergyUnit <;> rfl

theorem setEnergy_eq (m : StateModel α) (st : List α) (name : String) (x : α) (u : EnergyUnit) :
    m.setEnergy st name x u =
      writeWith m st name StateFeature.getEnergyUnit (fun fu => .ok (u.convert fu x)) := by
  unfold setEnergy writeWith
  cases m.getFeature name with
  | error e => rfl
  | ok f => dsimp only [Except.ok_bind]; cases f.getEnergyUnit <;> rfl

theorem addEnergy_eq [Add α] (m : StateModel α) (st : List α) (name : String) (x : α) (u : EnergyUnit) :
    m.addEnergy st name x u =
      writeWith m st name StateFeature.getEnergyUnit (bump m st name fun p fu => p + u.convert fu x) := by
  unfold addEnergy writeWith bump
  cases m.getFeature name with
  | error e => rfl
  | ok f =>
    dsimp only [Except.ok_bind]
    cases f.getEnergyUnit with
    | error e => rfl
    | ok fu => dsimp only [Except.ok_bind]; cases m.getStateVariable st name <;> rfl

end numeric

/-! ### initial state -/

section initial
variable [Lit α] [IntCodec α] [LT α] [DecidableLT α] [BEq α]

/-- the value a feature declares for the start of a search, as a state variable -/
def declaredInitial : StateFeature α → α
  | .distance _ i => i
  | .time _ i => i
  | .energy _ i => i
  | .custom _ _ (.floatingPoint i) => i
  | .custom _ _ (.signedInteger i) => IntCodec.ofInt i
  | .custom _ _ (.unsignedInteger i) => IntCodec.ofInt (Int.ofNat i)
  | .custom _ _ (.boolean i) => if i then one else zero

theorem getInitial_eq (f : StateFeature α) : f.getInitial = .ok (declaredInitial f) := by
  cases f with
  | custom t u fmt => cases fmt <;> rfl
  | _ => rfl

theorem collectInitial_eq (l : List (String × StateFeature α)) :
    collectInitial l = .ok (l.map (fun p => declaredInitial p.2)) := by
  induction l with
  | nil => rfl
  | cons p r ih => simp [collectInitial, getInitial_eq, ih]

theorem initialState_eq_declared {m : StateModel α} (h : WF m) :
    m.initialState = .ok ((feats m).map (fun p => declaredInitial p.2)) := by
  rw [initialState, show m.map.iter = feats m from iter_eq h, collectInitial_eq]

end initial

/-! ### custom features -/

section custom
variable [Lit α] [IntCodec α] [LT α] [DecidableLT α] [BEq α]

theorem getCustomStateVariable_eq (m : StateModel α) (st : List α) (name : String) :
    m.getCustomStateVariable st name =
      readWith m st name StateFeature.getCustomFeatureFormat Prod.mk := by
  unfold getCustomStateVariable readWith
  cases m.getStateVariable st name with
  | error e => rfl
  | ok v =>
    dsimp only [Except.ok_bind]
    cases m.getFeature name with
    | error e => rfl
    | ok f => dsimp only [Except.ok_bind]; cases f.getCustomFeatureFormat <;> rfl

theorem setCustomWith_eq (m : StateModel α) (st : List α) (name : String)
    (encode : CustomFeatureFormat α → Except StateErr α) :
    m.setCustomWith st name encode =
      writeWith m st name StateFeature.getCustomFeatureFormat encode := by
  unfold setCustomWith writeWith
  cases m.getFeature name with
  | error e => rfl
  | ok f =>
    dsimp only [Except.ok_bind]
    cases f.getCustomFeatureFormat with
    | error e => rfl
    | ok fmt => dsimp only [Except.ok_bind]; cases encode fmt <;> rfl

theorem getCustomStateVariable_ok {m : StateModel α} {st : List α} {name : String} {v : α}
    {fmt : CustomFeatureFormat α} :
    m.getCustomStateVariable st name = .ok (v, fmt) ↔
      ∃ ty un i, m.map.get name = some (.custom ty un fmt) ∧ m.getIndex name = some i ∧
        st[i]? = some v := by
  rw [getCustomStateVariable_eq, readWith_ok]
  constructor
  · rintro ⟨f, fmt', i, v', hg, hb, hi, hs, h⟩
    cases h
    obtain ⟨ty, un, rfl⟩ := StateFeature.getCustomFeatureFormat_ok.mp hb
    exact ⟨ty, un, i, hg, hi, hs⟩
  · rintro ⟨ty, un, i, hg, hi, hs⟩
    exact ⟨_, fmt, i, v, hg, rfl, hi, hs, rfl⟩

theorem setCustomWith_ok {m : StateModel α} {st st' : List α} {name : String}
    {encode : CustomFeatureFormat α → Except StateErr α} :
    m.setCustomWith st name encode = .ok st' ↔
      ∃ ty un fmt i x, m.map.get name = some (.custom ty un fmt) ∧ encode fmt = .ok x ∧
        m.getIndex name = some i ∧ i < st.length ∧ st' = st.set i x := by
  rw [setCustomWith_eq, writeWith_ok]
  constructor
  · rintro ⟨f, fmt, x, i, hg, hb, hx, hi, hl, rfl⟩
    obtain ⟨ty, un, rfl⟩ := StateFeature.getCustomFeatureFormat_ok.mp hb
    exact ⟨ty, un, fmt, i, x, hg, hx, hi, hl, rfl⟩
  · rintro ⟨ty, un, fmt, i, x, hg, hx, hi, hl, rfl⟩
    exact ⟨_, fmt, x, i, hg, rfl, hx, hi, hl, rfl⟩

/-! ### `custom_feature_format.rs`: every encoder / decoder accepts exactly its own format -/

theorem _root_.Compass.CustomFeatureFormat.encodeF64_ok {fmt : CustomFeatureFormat α} {x y : α} :
    fmt.encodeF64 x = .ok y ↔ (∃ i, fmt = .floatingPoint i) ∧ y = x := by
  cases fmt with
  | floatingPoint i => exact ⟨fun h => ⟨⟨i, rfl⟩, by cases h; rfl⟩, fun h => by rw [h.2]; rfl⟩
  | _ => exact ⟨nofun, fun ⟨⟨_, h⟩, _⟩ => nomatch h⟩

theorem _root_.Compass.CustomFeatureFormat.encodeI64_ok {fmt : CustomFeatureFormat α} {x : Int} {y : α} :
    fmt.encodeI64 x = .ok y ↔ (∃ i, fmt = .signedInteger i) ∧ y = IntCodec.ofInt x := by
  cases fmt with
  | signedInteger i => exact ⟨fun h => ⟨⟨i, rfl⟩, by cases h; rfl⟩, fun h => by rw [h.2]; rfl⟩
  | _ => exact ⟨nofun, fun ⟨⟨_, h⟩, _⟩ => nomatch h⟩

theorem _root_.Compass.CustomFeatureFormat.encodeU64_ok {fmt : CustomFeatureFormat α} {x : Nat} {y : α} :
    fmt.encodeU64 x = .ok y ↔ (∃ i, fmt = .unsignedInteger i) ∧ y = IntCodec.ofInt (Int.ofNat x) := by
  cases fmt with
  | unsignedInteger i => exact ⟨fun h => ⟨⟨i, rfl⟩, by cases h; rfl⟩, fun h => by rw [h.2]; rfl⟩
  | _ => exact ⟨nofun, fun ⟨⟨_, h⟩, _⟩ => nomatch h⟩

theorem _root_.Compass.CustomFeatureFormat.encodeBool_ok {fmt : CustomFeatureFormat α} {x : Bool} {y : α} :
    fmt.encodeBool x = .ok y ↔ (∃ i, fmt = .boolean i) ∧ y = (if x then one else zero) := by
  cases fmt with
  | boolean i => exact ⟨fun h => ⟨⟨i, rfl⟩, by cases h; rfl⟩, fun h => by rw [h.2]; rfl⟩
  | _ => exact ⟨nofun, fun ⟨⟨_, h⟩, _⟩ => nomatch h⟩

theorem _root_.Compass.CustomFeatureFormat.decodeF64_ok {fmt : CustomFeatureFormat α} {x y : α} :
    fmt.decodeF64 x = .ok y ↔ (∃ i, fmt = .floatingPoint i) ∧ y = x := by
  cases fmt with
  | floatingPoint i => exact ⟨fun h => ⟨⟨i, rfl⟩, by cases h; rfl⟩, fun h => by rw [h.2]; rfl⟩
  | _ => exact ⟨nofun, fun ⟨⟨_, h⟩, _⟩ => nomatch h⟩

theorem _root_.Compass.CustomFeatureFormat.decodeI64_ok {fmt : CustomFeatureFormat α} {x : α} {y : Int} :
    fmt.decodeI64 x = .ok y ↔ (∃ i, fmt = .signedInteger i) ∧ y = IntCodec.toI64 x := by
  cases fmt with
  | signedInteger i => exact ⟨fun h => ⟨⟨i, rfl⟩, by cases h; rfl⟩, fun h => by rw [h.2]; rfl⟩
  | _ => exact ⟨nofun, fun ⟨⟨_, h⟩, _⟩ => nomatch h⟩

theorem _root_.Compass.CustomFeatureFormat.decodeU64_ok {fmt : CustomFeatureFormat α} {x : α} {y : Nat} :
    fmt.decodeU64 x = .ok y ↔ (∃ i, fmt = .unsignedInteger i) ∧ ¬ x < zero ∧ y = IntCodec.toU64 x := by
  cases fmt with
  | unsignedInteger i =>
    rw [CustomFeatureFormat.decodeU64]
    by_cases hx : x < zero
    · rw [if_pos hx]; exact ⟨nofun, fun h => absurd hx h.2.1⟩
    · rw [if_neg hx]
      exact ⟨fun h => ⟨⟨i, rfl⟩, hx, by cases h; rfl⟩, fun h => by rw [h.2.2]⟩
  | _ => exact ⟨nofun, fun ⟨⟨_, h⟩, _⟩ => nomatch h⟩

theorem _root_.Compass.CustomFeatureFormat.decodeBool_ok {fmt : CustomFeatureFormat α} {x : α} {y : Bool} :
    fmt.decodeBool x = .ok y ↔ (∃ i, fmt = .boolean i) ∧ y = !(x == zero) := by
  cases fmt with
  | boolean i =>
    rw [CustomFeatureFormat.decodeBool]
    cases x == zero <;> exact ⟨fun h => ⟨⟨i, rfl⟩, by cases h; rfl⟩, fun h => by rw [h.2]; rfl⟩
  | _ => exact ⟨nofun, fun ⟨⟨_, h⟩, _⟩ => nomatch h⟩

/-! ### the four custom getters: `get_custom_state_variable`, then the format's decoder -/

variable {δ : Type}

/-- the shape of a custom getter: `get_custom_state_variable`, then `dec` of the format and the slot's
    value -/
def decodeWith (m : StateModel α) (st : List α) (name : String)
    (dec : CustomFeatureFormat α → α → Except StateErr δ) : Except StateErr δ := do
  let p ← m.getCustomStateVariable st name
  dec p.2 p.1

theorem decodeWith_ok {m : StateModel α} {st : List α} {name : String}
    {dec : CustomFeatureFormat α → α → Except StateErr δ} {y : δ} :
    decodeWith m st name dec = .ok y ↔
      ∃ ty un fmt i v, m.map.get name = some (.custom ty un fmt) ∧ m.getIndex name = some i ∧
        st[i]? = some v ∧ dec fmt v = .ok y := by
  simp only [decodeWith, Except.bind_eq_ok, Prod.exists, getCustomStateVariable_ok]
  exact ⟨fun ⟨v, fmt, ⟨ty, un, i, hg, hi, hv⟩, hd⟩ => ⟨ty, un, fmt, i, v, hg, hi, hv, hd⟩,
    fun ⟨ty, un, fmt, i, v, hg, hi, hv, hd⟩ => ⟨v, fmt, ⟨ty, un, i, hg, hi, hv⟩, hd⟩⟩

/-- a decoder that accepts exactly the formats `mk i` and the values satisfying `P`: the getter succeeds
    exactly on a custom feature of such a format whose slot holds such a value -/
theorem decodeWith_ok_iff_of_dec {ι : Type} {m : StateModel α} {st : List α} {name : String}
    {dec : CustomFeatureFormat α → α → Except StateErr δ} {mk : ι → CustomFeatureFormat α}
    {P : α → Prop} {g : α → δ}
    (hdec : ∀ {fmt v y}, dec fmt v = .ok y ↔ (∃ i, fmt = mk i) ∧ P v ∧ y = g v) :
    (∃ y, decodeWith m st name dec = .ok y) ↔
      ∃ ty un init i v, m.map.get name = some (.custom ty un (mk init)) ∧ m.getIndex name = some i ∧
        st[i]? = some v ∧ P v := by
  simp only [decodeWith_ok, hdec]
  constructor
  · rintro ⟨_, ty, un, _, i, v, hg, hi, hv, ⟨init, rfl⟩, hp, -⟩
    exact ⟨ty, un, init, i, v, hg, hi, hv, hp⟩
  · rintro ⟨ty, un, init, i, v, hg, hi, hv, hp⟩
    exact ⟨_, ty, un, _, i, v, hg, hi, hv, ⟨init, rfl⟩, hp, rfl⟩

/-- a decoder that accepts every value: on a well-formed model and a vector of the model's length the
    getter succeeds exactly on a custom feature of such a format (the slot is there) -/
theorem decodeWith_ok_iff {ι : Type} {m : StateModel α} (h : WF m) {st : List α}
    (hl : st.length = m.len) {name : String} {dec : CustomFeatureFormat α → α → Except StateErr δ}
    {mk : ι → CustomFeatureFormat α} {g : α → δ}
    (hdec : ∀ {fmt v y}, dec fmt v = .ok y ↔ (∃ i, fmt = mk i) ∧ y = g v) :
    (∃ y, decodeWith m st name dec = .ok y) ↔
      ∃ ty un i, m.map.get name = some (.custom ty un (mk i)) := by
  rw [decodeWith_ok_iff_of_dec (P := fun _ => True) (g := g) (mk := mk)
    (fun {fmt v y} => by rw [hdec, true_and])]
  constructor
  · rintro ⟨ty, un, init, _, _, hg, -⟩
    exact ⟨ty, un, init, hg⟩
  · rintro ⟨ty, un, init, hg⟩
    obtain ⟨j, hj, hlt⟩ := feature_slot_lt h hl hg
    exact ⟨ty, un, init, j, st[j], hg, hj, getElem?_eq_getElem hlt, trivial⟩

theorem decodeWith_congr_slot {m : StateModel α} {st st₂ : List α} {name : String} {i : Nat}
    (hi : m.getIndex name = some i) (hs : st₂[i]? = st[i]?)
    (dec : CustomFeatureFormat α → α → Except StateErr δ) :
    decodeWith m st₂ name dec = decodeWith m st name dec := by
  rw [decodeWith, decodeWith, getCustomStateVariable_eq, getCustomStateVariable_eq,
    readWith_congr_slot hi hs]

/-- what a custom getter answers once a custom setter has written -/
theorem decodeWith_after_setCustomWith {m : StateModel α} {st st' : List α} {name : String}
    {enc : CustomFeatureFormat α → Except StateErr α}
    {dec : CustomFeatureFormat α → α → Except StateErr δ}
    (h : m.setCustomWith st name enc = .ok st') :
    ∃ fmt x, enc fmt = .ok x ∧ decodeWith m st' name dec = dec fmt x := by
  obtain ⟨ty, un, fmt, i, x, hg, he, hi, hl, rfl⟩ := setCustomWith_ok.mp h
  refine ⟨fmt, x, he, ?_⟩
  unfold decodeWith
  rw [getCustomStateVariable_ok.mpr ⟨ty, un, i, hg, hi, getElem?_set_self hl⟩]; rfl

theorem getCustomF64_eq (m : StateModel α) (st : List α) (name : String) :
    m.getCustomF64 st name = decodeWith m st name CustomFeatureFormat.decodeF64 := by
  unfold getCustomF64 decodeWith
  cases m.getCustomStateVariable st name with
  | error e => rfl
  | ok p => obtain ⟨v, fmt⟩ := p; rfl

theorem getCustomI64_eq (m : StateModel α) (st : List α) (name : String) :
    m.getCustomI64 st name = decodeWith m st name CustomFeatureFormat.decodeI64 := by
  unfold getCustomI64 decodeWith
  cases m.getCustomStateVariable st name with
  | error e => rfl
  | ok p => obtain ⟨v, fmt⟩ := p; rfl

theorem getCustomU64_eq (m : StateModel α) (st : List α) (name : String) :
    m.getCustomU64 st name = decodeWith m st name CustomFeatureFormat.decodeU64 := by
  unfold getCustomU64 decodeWith
  cases m.getCustomStateVariable st name with
  | error e => rfl
  | ok p => obtain ⟨v, fmt⟩ := p; rfl

theorem getCustomBool_eq (m : StateModel α) (st : List α) (name : String) :
    m.getCustomBool st name = decodeWith m st name CustomFeatureFormat.decodeBool := by
  unfold getCustomBool decodeWith
  cases m.getCustomStateVariable st name with
  | error e => rfl
  | ok p => obtain ⟨v, fmt⟩ := p; rfl

end custom

end StateModel

/-! ### `collect_features` -/

section collect
variable {α : Type}

theorem collectFeatures_check_ok (model l : List (String × StateFeature α)) :
    collectFeatures.check model l = .ok () ↔
      ∀ e ∈ l, ∃ existing, Spec.get model e.1 = some existing ∧
        existing.featureType = e.2.featureType := by
  induction l with
  | nil => exact ⟨fun _ _ h => (nomatch h), fun _ => rfl⟩
  | cons e r ih =>
    obtain ⟨name, feature⟩ := e
    rw [forall_mem_cons, ← ih, collectFeatures.check, Spec.hmap_get_eq]
    cases Spec.get model name with
    | none => exact ⟨nofun, fun h => by obtain ⟨_, h, _⟩ := h.1; cases h⟩
    | some existing =>
      by_cases ht : existing.featureType = feature.featureType <;> simp [ht]

theorem collectFeatures_ok (traversal access : List (String × StateFeature α))
    (user : Option (List (String × StateFeature α))) (fs : List (String × StateFeature α)) :
    collectFeatures traversal access user = .ok fs ↔
      collectFeatures.check (Spec.insertAll [] (traversal ++ access)) (user.getD []) = .ok () ∧
        fs = Spec.insertAll [] (traversal ++ access) ++ user.getD [] := by
  rw [collectFeatures, Spec.ofList_eq_insertAll]
  cases collectFeatures.check (Spec.insertAll [] (traversal ++ access)) (user.getD []) with
  | error e => exact ⟨nofun, fun h => (nomatch h.1)⟩
  | ok u => exact ⟨fun h => ⟨rfl, by cases h; rfl⟩, fun h => by rw [h.2]⟩

end collect

end Compass
