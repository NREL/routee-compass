/-
A batch on a Combined sink (`RunC`, Model/Sink.lean): seen from member `i`, every interleaving of the workers'
member writes is a run of the single-sink model on the responses as members `< i` leave them.  Also: what one
Combined `write_response` does, exactly.  Core Lean only.
-/
import Compass.Proofs.Sink

namespace Compass
namespace Sink

/-- `r` after the formatters of `fs`, in order, have amended it -/
def amendBy (N : NumOps) (fs : List Format) (r : Json) : Json := fs.foldl (fun r f => postOf N f r) r

theorem isObject_amendBy (N : NumOps) (fs : List Format) (r : Json) (h : r.isObject = true) :
    (amendBy N fs r).isObject = true := by
  induction fs generalizing r with
  | nil => exact h
  | cons f fs ih => exact ih _ (isObject_postOf N f r h)

/-- the response `r`, which members `< j` have amended, as member `i` will get it (`j ≤ i`) -/
def advance (N : NumOps) (fmts : List Format) (j i : Nat) (r : Json) : Json :=
  amendBy N ((fmts.drop j).take (i - j)) r

theorem advance_self (N : NumOps) (fmts : List Format) (i : Nat) (r : Json) : advance N fmts i i r = r := by
  simp [advance, amendBy]

theorem advance_zero (N : NumOps) (fmts : List Format) (i : Nat) (r : Json) :
    advance N fmts 0 i r = amendBy N (fmts.take i) r := by
  simp [advance]

theorem advance_succ (N : NumOps) (fmts : List Format) (j i : Nat) (r : Json) (f : Format) (hji : j < i)
    (hf : fmts[j]? = some f) : advance N fmts j i r = advance N fmts (j + 1) i (postOf N f r) := by
  unfold advance
  have hlt : j < fmts.length := lt_of_getElem? hf
  have hget : fmts[j] = f := (List.getElem?_eq_some_iff.1 hf).2
  have hd : fmts.drop j = f :: fmts.drop (j + 1) := by rw [← hget]; exact List.drop_eq_getElem_cons hlt
  have hi : i - j = (i - (j + 1)) + 1 := by
    rw [Nat.sub_add_eq, Nat.sub_add_cancel (Nat.sub_pos_of_lt hji)]
  rw [hd, hi, List.take_succ_cons]
  simp [amendBy]

/-- the queue of worker `wk` as member `i` sees it: the response in progress (if it has not passed `i` yet),
then the responses still queued, each as members `< i` will have left it -/
def projQueue (N : NumOps) (fmts : List Format) (i : Nat) (wk : CWorker) : List Json :=
  (match wk.current with
    | some (r, j) => if j ≤ i then [advance N fmts j i r] else []
    | none => []) ++ wk.queue.map (advance N fmts 0 i)

/-- what stays true of a Combined batch: healthy members with the formats `fmts`, object responses -/
structure GoodC (fmts : List Format) (s : RunC) : Prop where
  healthy : ∀ x ∈ s.sinks, x.Healthy
  formats : s.sinks.map (·.format) = fmts
  queued : ∀ wk ∈ s.workers, ∀ r ∈ wk.queue, r.isObject = true
  inProgress : ∀ wk ∈ s.workers, ∀ r j, wk.current = some (r, j) → r.isObject = true
  failed : s.failed = 0

/-- member `i` of the Combined batch `s` and the single-sink run `A` are in step -/
structure SimC (N : NumOps) (fmts : List Format) (i : Nat) (s : RunC) (A : Run) : Prop where
  sink : s.sinks[i]? = some A.sink
  queues : A.queues = s.workers.map (projQueue N fmts i)

theorem initC_good {sinks : List FileSink} {queues : List (List Json)} (hh : ∀ s ∈ sinks, s.Healthy)
    (hobj : ∀ r ∈ queues.flatten, r.isObject = true) : GoodC (sinks.map (·.format)) (RunC.init sinks queues) := by
  refine ⟨hh, rfl, ?_, ?_, rfl⟩
  · intro wk hwk r hr
    obtain ⟨q, hq, rfl⟩ := List.mem_map.1 hwk
    exact hobj r (List.mem_flatten.2 ⟨q, hq, hr⟩)
  · intro wk hwk r j hc
    obtain ⟨q, _, rfl⟩ := List.mem_map.1 hwk
    cases hc

theorem initC_sim (N : NumOps) {sinks : List FileSink} (queues : List (List Json)) {i : Nat} {si : FileSink}
    (hi : sinks[i]? = some si) :
    SimC N (sinks.map (·.format)) i (RunC.init sinks queues)
      (Run.init si (queues.map fun q => q.map (amendBy N ((sinks.map (·.format)).take i)))) := by
  refine ⟨hi, ?_⟩
  simp only [Run.init, RunC.init, List.map_map]
  apply List.map_congr_left
  intro q _
  simp only [Function.comp, projQueue, List.nil_append, ← funext (advance_zero N _ i)]

theorem doneC_projQueue_nil (N : NumOps) (fmts : List Format) (i : Nat) {s : RunC} (h : s.done = true) :
    (s.workers.map (projQueue N fmts i)).flatten = [] := by
  refine flatten_map_eq_nil fun wk hwk => ?_
  have := List.all_eq_true.1 h wk hwk
  simp only [Bool.and_eq_true, List.isEmpty_iff, Option.isNone_iff_eq_none] at this
  simp [projQueue, this.1, this.2]

/-- all a step of a Combined batch with healthy members and object responses can be: nothing (no such worker, or a
worker at rest); taking the next response; handing a response back past the last member; one member write -/
theorem stepC_cases (N : NumOps) (persist : Bool) {fmts : List Format} {s : RunC} (hg : GoodC fmts s) (w : Nat) :
    s.step N persist w = s ∨
    (∃ wk r rest, s.workers[w]? = some wk ∧ wk.current = none ∧ wk.queue = r :: rest ∧
      s.step N persist w =
        { s with workers := s.workers.set w { wk with queue := rest, current := some (r, 0) } }) ∨
    (∃ wk r j, s.workers[w]? = some wk ∧ wk.current = some (r, j) ∧ s.sinks[j]? = none ∧
      s.step N persist w =
        { s with
          workers := s.workers.set w
            { wk with current := none, returned := if persist then wk.returned ++ [r] else wk.returned } }) ∨
    ∃ wk r j sink sink', s.workers[w]? = some wk ∧ wk.current = some (r, j) ∧ r.isObject = true ∧
      s.sinks[j]? = some sink ∧ sink.write N r = .ok sink' (postOf N sink.format r) ∧
      sink'.format = sink.format ∧ sink'.Healthy ∧
      s.step N persist w =
        { s with
          sinks := s.sinks.set j sink'
          workers := s.workers.set w { wk with current := some (postOf N sink.format r, j + 1) } } := by
  cases hwk : s.workers[w]? with
  | none => exact .inl (by simp only [RunC.step, hwk])
  | some wk =>
    cases hcur : wk.current with
    | none =>
      cases hqu : wk.queue with
      | nil => exact .inl (by simp only [RunC.step, hwk, hcur, hqu])
      | cons r rest => exact .inr (.inl ⟨wk, r, rest, rfl, hcur, hqu, by simp only [RunC.step, hwk, hcur, hqu]⟩)
    | some cur =>
      obtain ⟨r, j⟩ := cur
      cases hs : s.sinks[j]? with
      | none => exact .inr (.inr (.inl ⟨wk, r, j, rfl, hcur, hs, by simp only [RunC.step, hwk, hcur, hs]⟩))
      | some sink =>
        have hr := hg.inProgress wk (List.mem_of_getElem? hwk) r j hcur
        obtain ⟨sink', hw', _, _, hfmt', hh'⟩ := write_ok_of_writable N sink r
          (hg.healthy sink (List.mem_of_getElem? hs)) (writable_of_obj_or_null N sink.format r (Or.inl hr))
        exact .inr (.inr (.inr ⟨wk, r, j, sink, sink', rfl, hcur, hr, hs, hw', hfmt', hh',
          by simp only [RunC.step, hwk, hcur, hs, hw']⟩))

theorem GoodC.set_worker {fmts : List Format} {s : RunC} (hg : GoodC fmts s) (w : Nat) (wk' : CWorker)
    (hq : ∀ r ∈ wk'.queue, r.isObject = true) (hc : ∀ r j, wk'.current = some (r, j) → r.isObject = true) :
    GoodC fmts { s with workers := s.workers.set w wk' } := by
  refine ⟨hg.healthy, hg.formats, ?_, ?_, hg.failed⟩
  · intro x hx
    rcases List.mem_or_eq_of_mem_set hx with hx | rfl
    · exact hg.queued x hx
    · exact hq
  · intro x hx
    rcases List.mem_or_eq_of_mem_set hx with hx | rfl
    · exact hg.inProgress x hx
    · exact hc

theorem stepC_good (N : NumOps) (persist : Bool) (fmts : List Format) (s : RunC) (hg : GoodC fmts s) (w : Nat) :
    GoodC fmts (s.step N persist w) := by
  rcases stepC_cases N persist hg w with hstep | ⟨wk, r, rest, hwk, _, hqu, hstep⟩ | ⟨wk, r, j, hwk, _, _, hstep⟩ |
    ⟨wk, r, j, sink, sink', hwk, _, hr, hs, _, hfmt', hh', hstep⟩ <;> rw [hstep]
  · exact hg
  · have hqueued := hg.queued wk (List.mem_of_getElem? hwk)
    rw [hqu] at hqueued
    refine hg.set_worker w _ (fun r' hr' => hqueued r' (List.mem_cons_of_mem _ hr')) ?_
    intro r' j' hc
    cases hc
    exact hqueued r (List.mem_cons_self ..)
  · exact hg.set_worker w _ (hg.queued wk (List.mem_of_getElem? hwk)) (fun _ _ hc => nomatch hc)
  · have hg' : GoodC fmts { s with sinks := s.sinks.set j sink' } := by
      refine ⟨?_, ?_, hg.queued, hg.inProgress, hg.failed⟩
      · intro x hx
        rcases List.mem_or_eq_of_mem_set hx with hx | rfl
        · exact hg.healthy x hx
        · exact hh'
      · show (s.sinks.set j sink').map (·.format) = fmts
        rw [map_set_same (·.format) hs hfmt']; exact hg.formats
    refine hg'.set_worker w _ (hg.queued wk (List.mem_of_getElem? hwk)) ?_
    intro r' j' hc
    cases hc
    exact isObject_postOf N sink.format r hr

/-- a step that member `i` does not see: its sink stays, and the queue of the worker that moved looks the same
from `i` -/
theorem SimC.invisible {N : NumOps} {fmts : List Format} {i : Nat} {s : RunC} {A : Run} (h : SimC N fmts i s A)
    {w : Nat} {wk wk' : CWorker} (hwk : s.workers[w]? = some wk)
    (hproj : projQueue N fmts i wk' = projQueue N fmts i wk) (sinks' : List FileSink)
    (hs : sinks'[i]? = some A.sink) (failed' : Nat) :
    SimC N fmts i { sinks := sinks', workers := s.workers.set w wk', failed := failed' } A :=
  ⟨hs, h.queues.trans (map_set_same _ hwk hproj).symm⟩

/-- seen from member `i`, a step of the Combined batch is invisible or is the single-sink step of the same
worker -/
theorem stepC_sim (N : NumOps) (persist : Bool) (fmts : List Format) (i : Nat) (s : RunC) (A : Run)
    (hg : GoodC fmts s) (h : SimC N fmts i s A) (w : Nat) :
    SimC N fmts i (s.step N persist w) A ∨ SimC N fmts i (s.step N persist w) (A.step N false w) := by
  rcases stepC_cases N persist hg w with hstep | ⟨wk, r, rest, hwk, hcur, hqu, hstep⟩ |
    ⟨wk, r, j, hwk, hcur, hs, hstep⟩ | ⟨wk, r, j, sink, sink', hwk, hcur, _, hs, hw', _, _, hstep⟩ <;> rw [hstep]
  · exact .inl h
  · exact .inl (h.invisible hwk (by simp [projQueue, hcur, hqu]) _ h.sink _)
  · -- `j` is past the last member, hence past `i`
    have hij : ¬ j ≤ i := fun hle => by
      have hi : i < s.sinks.length := lt_of_getElem? h.sink
      have hj : s.sinks.length ≤ j := List.getElem?_eq_none_iff.1 hs
      omega
    exact .inl (h.invisible hwk (by simp [projQueue, hcur, hij]) _ h.sink _)
  · rcases Nat.lt_trichotomy j i with hlt | heq | hgt
    · -- an earlier member: member `i` will get the amended response — the same thing it was going to get
      refine .inl (h.invisible hwk ?_ _ ((List.getElem?_set_ne (by omega)).trans h.sink) _)
      have h1 : j ≤ i := by omega
      have h2 : j + 1 ≤ i := by omega
      simp only [projQueue, hcur, h1, h2, if_true]
      rw [advance_succ N fmts j i r sink.format hlt (by rw [← hg.formats, List.getElem?_map, hs]; rfl)]
    · -- member `i` itself: its single-sink model writes the same response now; afterwards the response is past
      -- `i`, so `projQueue` no longer lists it
      subst heq
      right
      obtain rfl : sink = A.sink := Option.some.inj (hs.symm.trans h.sink)
      have hAq : A.queues[w]? = some (r :: wk.queue.map (advance N fmts 0 j)) := by
        rw [h.queues, List.getElem?_map, hwk]
        simp [projQueue, hcur, advance_self]
      rw [Run.step_of_write false hAq hw']
      refine ⟨List.getElem?_set_self (lt_of_getElem? hs), ?_⟩
      simp only [h.queues, List.map_set]
      congr 1
      simp [projQueue]
    · -- a later member: nothing member `i` can see
      refine .inl (h.invisible hwk ?_ _ ((List.getElem?_set_ne (by omega)).trans h.sink) _)
      have h1 : ¬ j ≤ i := by omega
      have h2 : ¬ j + 1 ≤ i := by omega
      simp [projQueue, hcur, h1, h2]

theorem execC_sim (N : NumOps) (persist : Bool) (fmts : List Format) (i : Nat) (schedule : List Nat)
    (s : RunC) (A : Run) (hg : GoodC fmts s) (h : SimC N fmts i s A) :
    ∃ atomic : List Nat, GoodC fmts (s.exec N persist schedule) ∧
      SimC N fmts i (s.exec N persist schedule) (A.exec N false atomic) := by
  exact foldl_stutter (RunC.step N persist) (Run.step N false) (fun s A => GoodC fmts s ∧ SimC N fmts i s A)
    (fun s A w ⟨hg, h⟩ => (stepC_sim N persist fmts i s A hg h w).imp
      (⟨stepC_good N persist fmts s hg w, ·⟩) (⟨stepC_good N persist fmts s hg w, ·⟩))
    schedule s A ⟨hg, h⟩

/-! ### one Combined `write_response`, exactly -/

theorem writeCombined_spec (N : NumOps) (ss : List FileSink) (r : Json)
    (hp : ∀ s ∈ ss, s.Healthy) (hr : r.isObject = true) :
    ∃ ss', writeCombined N ss r = .ok ss' (amendBy N (ss.map (·.format)) r) ∧ ss'.length = ss.length ∧
      ∀ i s, ss[i]? = some s → ∃ s', ss'[i]? = some s' ∧
        s'.file = s.file ++ [recordOf N s.format (amendBy N ((ss.map (·.format)).take i) r)] ∧
        s'.iterations = s.iterations + 1 ∧ s'.format = s.format ∧ s'.Healthy := by
  induction ss generalizing r with
  | nil => exact ⟨[], rfl, rfl, by intro i s h; simp at h⟩
  | cons s0 ss ih =>
    have hw := writable_of_obj_or_null N s0.format r (Or.inl hr)
    obtain ⟨s0', hs0', hfile, hit, hfmt, hh⟩ :=
      write_ok_of_writable N s0 r (hp s0 (List.mem_cons_self ..)) hw
    obtain ⟨ss', hss', hlen, hall⟩ :=
      ih (postOf N s0.format r) (fun x hx => hp x (List.mem_cons_of_mem _ hx)) (isObject_postOf N s0.format r hr)
    refine ⟨s0' :: ss', ?_, by simp [hlen], ?_⟩
    · simp only [writeCombined, hs0', hss', List.map_cons, amendBy, List.foldl_cons]
    · intro i s hi
      cases i with
      | zero =>
        simp only [List.getElem?_cons_zero, Option.some.injEq] at hi
        subst hi
        exact ⟨s0', rfl, by simpa [amendBy] using hfile, hit, hfmt, hh⟩
      | succ i =>
        simp only [List.getElem?_cons_succ] at hi
        obtain ⟨s', h1, h2, h3, h4, h5⟩ := hall i s hi
        exact ⟨s', by simpa using h1, by simpa [amendBy] using h2, h3, h4, h5⟩

/-- every member got exactly one more chunk and one more count -/
def AppendedOne : List FileSink → List FileSink → Prop
  | [], [] => True
  | s :: ss, s' :: ss' =>
    (∃ row, s'.file = s.file ++ [record row] ∧ s'.iterations = s.iterations + 1 ∧ s'.format = s.format) ∧
      AppendedOne ss ss'
  | _, _ => False

/-- the shape of a Combined write without the records: every member appends one chunk and counts it, and an object is
handed back (`writeCombined_spec` above says more: which record, which response) -/
theorem writeCombined_objects (N : NumOps) (ss : List FileSink) (r : Json)
    (hp : ∀ s ∈ ss, s.Healthy) (hr : r.isObject = true) :
    ∃ ss' r', writeCombined N ss r = .ok ss' r' ∧ r'.isObject = true ∧ AppendedOne ss ss' := by
  induction ss generalizing r with
  | nil => exact ⟨[], r, rfl, hr, trivial⟩
  | cons s ss ih =>
    have hw := writable_of_obj_or_null N s.format r (Or.inl hr)
    obtain ⟨s', hs', hfile, hit, hfmt, _⟩ :=
      write_ok_of_writable N s r (hp s (List.mem_cons_self ..)) hw
    obtain ⟨ss', r', hss', hobj, happ⟩ :=
      ih (postOf N s.format r) (fun x hx => hp x (List.mem_cons_of_mem _ hx)) (isObject_postOf N s.format r hr)
    refine ⟨s' :: ss', r', ?_, hobj, ⟨⟨_, hfile, hit, hfmt⟩, happ⟩⟩
    simp only [writeCombined, hs', hss']

theorem writeCombined_ok_resp (N : NumOps) (ss : List FileSink) (r : Json) (ss' : List FileSink) (r' : Json)
    (h : writeCombined N ss r = .ok ss' r') : r' = amendBy N (ss.map (·.format)) r := by
  induction ss generalizing r ss' with
  | nil =>
    simp only [writeCombined, CombinedResult.ok.injEq] at h
    exact h.2.symm
  | cons s ss ih =>
    rw [writeCombined] at h
    cases hs : s.write N r with
    | ok s1 r1 =>
      rw [hs] at h
      cases hc : writeCombined N ss r1 with
      | ok ss2 r2 =>
        simp only [hc, CombinedResult.ok.injEq] at h
        obtain ⟨_, rfl⟩ := h
        rw [ih r1 ss2 hc, write_ok_resp hs]
        rfl
      | _ => simp [hc] at h
    | _ => simp [hs] at h

theorem amendBy_keeps (N : NumOps) (fs : List Format) (r : Json) (k : String) (v : Json)
    (hk : r.get? k = some v) : (amendBy N fs r).get? k = some v := by
  induction fs generalizing r with
  | nil => exact hk
  | cons f fs ih => exact ih _ (postOf_keeps N f r k v hk)

theorem writeCombined_never_loses (N : NumOps) (ss : List FileSink) (r : Json) (ss' : List FileSink) (r' : Json)
    (h : writeCombined N ss r = .ok ss' r') : ∀ k v, r.get? k = some v → r'.get? k = some v := by
  rw [writeCombined_ok_resp N ss r ss' r' h]
  exact amendBy_keeps N _ r

end Sink
end Compass
