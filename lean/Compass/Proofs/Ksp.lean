/-
Lemmas for C13 (k-shortest paths, `Model/Ksp.lean`), for an arbitrary similarity test
`sim : List Nat → List Nat → Except ErrKind Bool`.
Both algorithms return `Answer Alt first k`: the first `k` of the underlying search's route followed by
alternatives, each an `Alt` of the routes before it (`Grown`).  What follows from that shape is proved
once; the loops are shown to build it (`svLoop_grown`, `yenWhile_spec`), and C13 reads both algorithms
through it (`singleVia_answer` / `singleVia_alts` with `SvAlt`, `yens_spec` with `YenAlt`).  Failures
are read by outcome (`singleVia_spec`, `yenSpur_spec` … `yens_spec`).
`c.fwd`, `c.rev g` and `cutCfg c cut` differ from `c` in `reverse`, `gc` and `frontier` only: their
`edges`, `feats` and adjacency lists are `c`'s by unfolding, and statements and proofs pass between the
two spellings without saying so (`cutCfg_adj`, `rev_adj_irrel` are `:= h`; a caller sometimes has to
name the configuration, `(cf := c.fwd)`).
-/
import Compass.Proofs.SearchDiscipline
import Compass.Proofs.ConfigUniform
import Compass.Proofs.RouteSums
import Compass.Model.Ksp

namespace Compass
namespace Ksp

/-! ### the shape of a result: a first route followed by alternatives
Both loops build their solution by appending routes that passed their tests against the routes held, and both
algorithms return the first `k` of it; what follows from that shape alone is proved here, for any type of route. -/

/-- `acc` is `l` followed by elements each of which is an `Alt` of the list before it -/
inductive Grown {R : Type} (Alt : List R → R → Prop) (l : List R) : List R → Prop
  | refl : Grown Alt l l
  | snoc {acc : List R} {x : R} : Grown Alt l acc → Alt acc x → Grown Alt l (acc ++ [x])

namespace Grown
variable {R : Type} {Alt : List R → R → Prop} {l acc : List R}

theorem trans {m : List R} (h : Grown Alt l m) (h' : Grown Alt m acc) : Grown Alt l acc := by
  induction h' with
  | refl => exact h
  | snoc _ hx ih => exact ih.snoc hx

theorem mono {Alt' : List R → R → Prop} (hA : ∀ before x, Alt before x → Alt' before x)
    (h : Grown Alt l acc) : Grown Alt' l acc := by
  induction h with
  | refl => exact .refl
  | snoc _ hx ih => exact ih.snoc (hA _ _ hx)

theorem isPrefix (h : Grown Alt l acc) : l <+: acc := by
  induction h with
  | refl => exact List.prefix_refl _
  | snoc _ _ ih => exact ih.trans (List.prefix_append _ _)

/-- what holds of `l` and is passed on from the routes before an alternative to it holds of all -/
theorem all {P : R → Prop} (h : Grown Alt l acc) (hl : ∀ a ∈ l, P a)
    (hstep : ∀ before x, Alt before x → (∀ a ∈ before, P a) → P x) : ∀ a ∈ acc, P a := by
  induction h with
  | refl => exact hl
  | snoc _ hx ih =>
    intro a ha
    rcases List.mem_append.1 ha with ha | ha
    · exact ih a ha
    · rw [List.mem_singleton.1 ha]; exact hstep _ _ hx ih

theorem pairwise {S : R → R → Prop} (h : Grown Alt l acc) (hl : l.Pairwise S)
    (hstep : ∀ before x, Alt before x → ∀ a ∈ before, S a x) : acc.Pairwise S := by
  induction h with
  | refl => exact hl
  | snoc _ hx ih =>
    rw [List.pairwise_append]
    refine ⟨ih, List.pairwise_singleton _ _, fun a ha b hb => ?_⟩
    rw [List.mem_singleton.1 hb]
    exact hstep _ _ hx a ha

/-- a prefix that still contains `l` is grown the same way -/
theorem take (h : Grown Alt l acc) {n : Nat} (hn : l.length ≤ n) : Grown Alt l (acc.take n) := by
  induction h with
  | refl => rw [List.take_of_length_le hn]; exact .refl
  | @snoc acc x hacc hx ih =>
    by_cases hle : n ≤ acc.length
    · rw [List.take_append_of_le_length hle]; exact ih
    · rw [List.take_of_length_le (by simp only [List.length_append, List.length_singleton]; omega)]
      exact hacc.snoc hx

theorem drop_alt (h : Grown Alt l acc) :
    ∀ p ∈ acc.drop l.length, ∃ before, before <+: acc ∧ Alt before p := by
  induction h with
  | refl => intro p hp; simp at hp
  | @snoc acc x hacc hx ih =>
    intro p hp
    rw [List.drop_append_of_le_length hacc.isPrefix.length_le] at hp
    rcases List.mem_append.1 hp with hp | hp
    · obtain ⟨before, hb1, hb2⟩ := ih p hp
      exact ⟨before, hb1.trans (List.prefix_append _ _), hb2⟩
    · rw [List.mem_singleton.1 hp]
      exact ⟨acc, List.prefix_append _ _, hx⟩

end Grown

/-- the routes both algorithms return: the first `k` of the underlying search's route followed by
alternatives, each an `Alt` of the routes before it -/
def Answer {R : Type} (Alt : List R → R → Prop) (first : R) (k : Nat) (routes : List R) : Prop :=
  ∃ acc, Grown Alt [first] acc ∧ routes = acc.take k

namespace Answer
variable {R : Type} {Alt : List R → R → Prop} {first : R} {k : Nat} {routes : List R}

theorem mono {Alt' : List R → R → Prop} (hA : ∀ before x, Alt before x → Alt' before x)
    (h : Answer Alt first k routes) : Answer Alt' first k routes :=
  let ⟨acc, hg, hr⟩ := h
  ⟨acc, hg.mono hA, hr⟩

theorem grown (h : Answer Alt first k routes) (hk : 1 ≤ k) : Grown Alt [first] routes :=
  let ⟨_, hg, hr⟩ := h
  hr ▸ hg.take hk

theorem eq_nil (h : Answer Alt first 0 routes) : routes = [] :=
  let ⟨_, _, hr⟩ := h
  hr.trans List.take_zero

theorem count (h : Answer Alt first k routes) :
    routes.length ≤ k ∧ (1 ≤ k → 1 ≤ routes.length) := by
  obtain ⟨acc, hg, rfl⟩ := h
  have := hg.isPrefix.length_le
  simp only [List.length_singleton] at this
  simp only [List.length_take]
  omega

theorem head (h : Answer Alt first k routes) (hk : 1 ≤ k) : routes.head? = some first :=
  (List.prefix_iff_eq_append.1 (h.grown hk).isPrefix) ▸ rfl

theorem all {P : R → Prop} (h : Answer Alt first k routes) (hfirst : P first)
    (hstep : ∀ before x, Alt before x → (∀ a ∈ before, P a) → P x) : ∀ a ∈ routes, P a := by
  obtain ⟨acc, hg, rfl⟩ := h
  exact fun a ha => hg.all (by simpa using hfirst) hstep a (List.mem_of_mem_take ha)

theorem pairwise {S : R → R → Prop} (h : Answer Alt first k routes)
    (hstep : ∀ before x, Alt before x → ∀ a ∈ before, S a x) : routes.Pairwise S := by
  obtain ⟨acc, hg, rfl⟩ := h
  exact (hg.pairwise (List.pairwise_singleton _ _) hstep).sublist (List.take_sublist _ _)

theorem tail_alt (h : Answer Alt first k routes) :
    ∀ p ∈ routes.tail, ∃ before, before <+: routes ∧ Alt before p := by
  cases k with
  | zero => rw [h.eq_nil]; intro p hp; cases hp
  | succ k =>
    have := (h.grown (Nat.succ_le_succ (Nat.zero_le k))).drop_alt
    rwa [List.length_singleton, List.drop_one] at this

end Answer

set_option linter.unusedSectionVars false

variable {α : Type} [Field α] [LinearOrder α] [IsStrictOrderedRing α] [Lit α] [LawfulLit α]

open SearchTree (TreeInv WF PathTo)

/-! ### small list facts and the scan `rejectedBy`: nothing here computes in `α` -/

section lists
omit [Field α] [LinearOrder α] [IsStrictOrderedRing α] [Lit α] [LawfulLit α]

theorem hasDup_false_iff (l : List Nat) : hasDup l = false ↔ l.Nodup := by
  induction l with
  | nil => simp [hasDup]
  | cons x xs ih =>
    simp only [hasDup, Bool.or_eq_false_iff, List.nodup_cons, ih]
    constructor
    · rintro ⟨h1, h2⟩
      exact ⟨by simpa using h1, h2⟩
    · rintro ⟨h1, h2⟩
      exact ⟨by simpa using h1, h2⟩

theorem sameIds_iff (a b : List (Branch α)) :
    sameIds a b = true ↔ a.map (·.edge) = b.map (·.edge) := by
  simp [sameIds]

theorem eq_of_terminate {term : KspTerm} {k n : Nat} (h : term.terminate k n = true) : n = k := by
  cases term with
  | exact => simpa [KspTerm.terminate] using h
  | maxIteration max => simp [KspTerm.terminate] at h; exact h.1
  | factor f => simp [KspTerm.terminate] at h; exact h.1

theorem rejectedBy_false_iff (sim : List Nat → List Nat → Except ErrKind Bool)
    (this : List (Branch α)) (sol : List (List (Branch α))) :
    rejectedBy sim this sol = .ok false ↔
      ∀ s ∈ sol, sim (this.map (·.edge)) (s.map (·.edge)) = .ok false ∧ sameIds this s = false := by
  induction sol with
  | nil => simp [rejectedBy]
  | cons s rest ih =>
    simp only [rejectedBy, List.mem_cons, forall_eq_or_imp]
    cases hs : sim (this.map (·.edge)) (s.map (·.edge)) with
    | error k => exact ⟨fun h => (by cases h), fun h => (by cases h.1.1)⟩
    | ok too =>
      -- only a pair that is neither identical nor similar lets the scan go on
      cases hid : sameIds this s <;> cases too
      · exact ih.trans ⟨fun h => ⟨⟨rfl, rfl⟩, h⟩, fun h => h.2⟩
      · exact ⟨fun h => (by cases h), fun h => (by cases h.1.1)⟩
      · exact ⟨fun h => (by cases h), fun h => (by cases h.1.2)⟩
      · exact ⟨fun h => (by cases h), fun h => (by cases h.1.1)⟩

end lists

/-! ### the loop, turn by turn: `svTurn`, the unfolding equations, induction over successful runs -/

/-- what a turn that popped `v` does to the solution: a dropped candidate leaves it alone, a candidate
is appended when it passes the loop test, the frontier validation and the scan.  It is the body of
`svLoop` after the pop, cut out so that it can be reasoned about alone; `svLoop_cons` says so. -/
def svTurn (cf : Config α) (sim : List Nat → List Nat → Except ErrKind Bool) (source target : Nat)
    (fwd rev : SState α) (v : Nat) (sol : List (List (Branch α))) :
    Except ErrKind (List (List (Branch α))) :=
  match svCandidate cf source target fwd rev v with
  | .error e => .error e
  | .ok none => .ok sol
  | .ok (some this) =>
    match routeContainsLoop cf this with
    | .error e => .error e
    | .ok hasLoop =>
      match rejectedBy sim this sol with
      | .error e => .error e
      | .ok rej =>
        .ok (if !hasLoop && routePermitted cf this (initialState cf.feats) none && !rej
             then sol ++ [this] else sol)

section loop
variable {cf : Config α} {sim : List Nat → List Nat → Except ErrKind Bool} {term : KspTerm}
  {k source target : Nat} {fwd rev : SState α}

section
omit [IsStrictOrderedRing α] [LawfulLit α]

theorem svTurn_tested {v : Nat} {this : List (Branch α)} {hasLoop : Bool}
    {sol : List (List (Branch α))} (hc : svCandidate cf source target fwd rev v = .ok (some this))
    (hl : routeContainsLoop cf this = .ok hasLoop) :
    svTurn cf sim source target fwd rev v sol =
      match rejectedBy sim this sol with
      | .error e => .error e
      | .ok rej =>
        .ok (if !hasLoop && routePermitted cf this (initialState cf.feats) none && !rej
             then sol ++ [this] else sol) := by
  unfold svTurn
  rw [hc]
  dsimp only
  rw [hl]

theorem svTurn_ok {v : Nat} {sol sol' : List (List (Branch α))}
    (h : svTurn cf sim source target fwd rev v sol = .ok sol') :
    sol' = sol ∨ ∃ this, svCandidate cf source target fwd rev v = .ok (some this) ∧
      routeContainsLoop cf this = .ok false ∧
      routePermitted cf this (initialState cf.feats) none = true ∧
      rejectedBy sim this sol = .ok false ∧ sol' = sol ++ [this] := by
  cases hc : svCandidate cf source target fwd rev v with
  | error e => rw [svTurn, hc] at h; cases h
  | ok o =>
    cases o with
    | none => rw [svTurn, hc] at h; cases h; exact Or.inl rfl
    | some this =>
      cases hl : routeContainsLoop cf this with
      | error e => rw [svTurn, hc] at h; dsimp only at h; rw [hl] at h; cases h
      | ok hasLoop =>
        rw [svTurn_tested hc hl] at h
        cases hr : rejectedBy sim this sol with
        | error e => rw [hr] at h; cases h
        | ok rej =>
          rw [hr] at h
          cases h
          split
          · rename_i hacc
            simp only [Bool.and_eq_true, Bool.not_eq_eq_eq_not, Bool.not_true] at hacc
            obtain ⟨⟨rfl, hperm⟩, rfl⟩ := hacc
            exact Or.inr ⟨this, rfl, hl, hperm, hr, rfl⟩
          · exact Or.inl rfl

theorem svLoop_stop {pops : List Nat} {queue : List (Nat × α)} {sol : List (List (Branch α))}
    {it : Nat} (h : term.terminate k sol.length = true ∨ queue.isEmpty = true) :
    svLoop cf sim term k source target fwd rev pops queue sol it = .ok (sol, it) := by
  unfold svLoop
  by_cases ht : term.terminate k sol.length = true
  · rw [if_pos ht]
  · rw [if_neg ht, if_pos (h.resolve_left ht)]

theorem svLoop_nil {queue : List (Nat × α)} {sol : List (List (Branch α))} {it : Nat}
    (h : ¬(term.terminate k sol.length = true ∨ queue.isEmpty = true)) :
    svLoop cf sim term k source target fwd rev [] queue sol it = .error .scheduleExhausted := by
  rw [svLoop.eq_1, if_neg (fun ht => h (Or.inl ht)), if_neg (fun hq => h (Or.inr hq))]

theorem svLoop_cons {v : Nat} {rest : List Nat} {queue : List (Nat × α)}
    {sol : List (List (Branch α))} {it : Nat}
    (h : ¬(term.terminate k sol.length = true ∨ queue.isEmpty = true)) :
    svLoop cf sim term k source target fwd rev (v :: rest) queue sol it =
      if popOk queue v = true then
        match svTurn cf sim source target fwd rev v sol with
        | .error e => .error e
        | .ok sol' =>
          svLoop cf sim term k source target fwd rev rest (queue.filter (fun p => !(p.1 == v)))
            sol' (it + 1)
      else .error .badSchedule := by
  rw [svLoop.eq_2, if_neg (fun ht => h (Or.inl ht)), if_neg (fun hq => h (Or.inr hq))]
  unfold svTurn
  by_cases hp : popOk queue v = true
  · rw [if_pos hp, if_neg (by simp [hp])]
    cases svCandidate cf source target fwd rev v with
    | error e => rfl
    | ok o =>
      cases o with
      | none => rfl
      | some this =>
        simp only
        cases routeContainsLoop cf this with
        | error e => rfl
        | ok hasLoop =>
          simp only
          cases rejectedBy sim this sol <;> rfl
  · rw [if_neg hp, if_pos (by simpa using hp)]

end

/-- a successful run read from its result `res`: to show `motive` of the state the loop was entered
with, show it where the loop stops and carry it back over one turn -/
theorem svLoop_ok_induction {res : List (List (Branch α)) × Nat}
    {motive : List (Nat × α) → List (List (Branch α)) → Nat → Prop}
    (stop : ∀ queue, term.terminate k res.1.length = true ∨ queue.isEmpty = true →
      motive queue res.1 res.2)
    (turn : ∀ v queue sol sol' it, term.terminate k sol.length = false → (∃ p ∈ queue, p.1 = v) →
      svTurn cf sim source target fwd rev v sol = .ok sol' →
      motive (queue.filter (fun p => !(p.1 == v))) sol' (it + 1) → motive queue sol it)
    {pops : List Nat} {queue : List (Nat × α)} {sol : List (List (Branch α))} {it : Nat}
    (h : svLoop cf sim term k source target fwd rev pops queue sol it = .ok res) :
    motive queue sol it := by
  induction pops generalizing queue sol it with
  | nil =>
    by_cases hs : term.terminate k sol.length = true ∨ queue.isEmpty = true
    · rw [svLoop_stop hs] at h; cases h; exact stop queue hs
    · rw [svLoop_nil hs] at h; cases h
  | cons v rest ih =>
    by_cases hs : term.terminate k sol.length = true ∨ queue.isEmpty = true
    · rw [svLoop_stop hs] at h; cases h; exact stop queue hs
    · rw [svLoop_cons hs] at h
      split at h
      · rename_i hp
        split at h
        · cases h
        · rename_i sol' hT
          exact turn v queue sol sol' it (by simpa using fun ht => hs (Or.inl ht))
            (SearchLoop.popOk_mem hp) hT (ih h)
      · cases h

/-! ### what a successful run leaves -/

section run
variable {pops : List Nat} {queue : List (Nat × α)} {sol : List (List (Branch α))} {it : Nat}
  {res : List (List (Branch α)) × Nat}

/-- a loop-free permitted candidate of a vertex of the queue: what an accepting turn offers, and
what `AcceptAll` collects all of -/
def SvCand (cf : Config α) (source target : Nat) (fwd rev : SState α) (queue : List (Nat × α))
    (this : List (Branch α)) : Prop :=
  ∃ p ∈ queue, svCandidate cf source target fwd rev p.1 = .ok (some this) ∧
    routeContainsLoop cf this = .ok false ∧
    routePermitted cf this (initialState cf.feats) none = true

/-- what an accepting turn knows of the route it appends to the routes `before`: a candidate of the
queue the loop started from that passed the scan -/
def SvStep (cf : Config α) (sim : List Nat → List Nat → Except ErrKind Bool) (source target : Nat)
    (fwd rev : SState α) (queue : List (Nat × α)) (before : List (List (Branch α)))
    (this : List (Branch α)) : Prop :=
  SvCand cf source target fwd rev queue this ∧ rejectedBy sim this before = .ok false

theorem SvStep.passed {before : List (List (Branch α))} {this : List (Branch α)}
    (h : SvStep cf sim source target fwd rev queue before this) :
    ∀ a ∈ before, this.map (·.edge) ≠ a.map (·.edge) ∧
      sim (this.map (·.edge)) (a.map (·.edge)) = .ok false := by
  obtain ⟨_, hrej⟩ := h
  intro a ha
  obtain ⟨h1, h2⟩ := (rejectedBy_false_iff sim this before).1 hrej a ha
  refine ⟨fun heq => ?_, h1⟩
  rw [(sameIds_iff this a).2 heq] at h2
  cases h2

/-- **the solution of a successful run is grown from the one it was entered with**, every appended
route by an accepting turn (the queue only shrinks, so a popped vertex is one of the first queue) -/
theorem svLoop_grown
    (h : svLoop cf sim term k source target fwd rev pops queue sol it = .ok res) :
    Grown (SvStep cf sim source target fwd rev queue) sol res.1 := by
  refine svLoop_ok_induction (motive := fun q sol _ => (∀ p ∈ q, p ∈ queue) →
    Grown (SvStep cf sim source target fwd rev queue) sol res.1) (fun _ _ _ => .refl) ?_ h
    (fun _ hp => hp)
  intro v q sol sol' it _ hpop hT ih hq
  have ih := ih (fun p hp => hq p (List.mem_filter.1 hp).1)
  rcases svTurn_ok hT with rfl | ⟨this, hc, hl, hperm, hr, rfl⟩
  · exact ih
  · obtain ⟨p, hp, hpv⟩ := hpop
    exact (Grown.refl.snoc ⟨⟨p, hq p hp, hpv ▸ hc, hl, hperm⟩, hr⟩).trans ih

/-- **the turn counter of a successful run**: every turn of the loop — a dropped candidate included —
removes one entry of the intersection queue, so the number of turns (`ksp_it`) is at most the number
of intersection entries -/
theorem svLoop_turns
    (h : svLoop cf sim term k source target fwd rev pops queue sol it = .ok res) :
    it ≤ res.2 ∧ res.2 ≤ it + queue.length := by
  refine svLoop_ok_induction (motive := fun queue _ it => it ≤ res.2 ∧ res.2 ≤ it + queue.length)
    (fun _ _ => ⟨le_refl _, Nat.le_add_right _ _⟩) ?_ h
  intro v queue _ _ it _ hpop _ ih
  -- the popped vertex is a queue entry, so the filtered queue is strictly shorter
  obtain ⟨p, hp, hpv⟩ := hpop
  have hlt : (queue.filter (fun p => !(p.1 == v))).length < queue.length :=
    List.length_filter_lt_length_iff_exists.2 ⟨p, hp, by simp [hpv]⟩
  omega

end run

theorem svLoop_exact_le (hk : 1 ≤ k) :
    ∀ (pops : List Nat) (queue : List (Nat × α)) (sol : List (List (Branch α))) (it : Nat)
      (res : List (List (Branch α)) × Nat), sol.length ≤ k →
      svLoop cf sim .exact k source target fwd rev pops queue sol it = .ok res →
      res.1.length ≤ k := by
  intro pops queue sol it res hl h
  refine svLoop_ok_induction (motive := fun _ sol _ => sol.length ≤ k → res.1.length ≤ k)
    (fun _ _ hl => hl) ?_ h hl
  intro v _ sol sol' _ hterm _ hT ih hl
  have hne : sol.length ≠ k := by simpa [KspTerm.terminate] using hterm
  refine ih ?_
  rcases svTurn_ok hT with rfl | ⟨this, _, _, _, _, rfl⟩
  · exact hl
  · simp only [List.length_append, List.length_singleton]; omega

/-! ### `AcceptAll` against any similarity test, whatever the two pop orders -/

def simAcceptAll : List Nat → List Nat → Except ErrKind Bool := fun _ _ => .ok false

theorem rejectedBy_acceptAll (this : List (Branch α)) (sol : List (List (Branch α))) :
    rejectedBy simAcceptAll this sol = .ok (sol.any (fun s => sameIds this s)) := by
  induction sol with
  | nil => rfl
  | cons s rest ih =>
    simp only [rejectedBy, simAcceptAll, Bool.or_false, List.any_cons]
    by_cases hc : sameIds this s = true
    · simp [hc]
    · have hc' : sameIds this s = false := by simpa using hc
      simp only [hc', Bool.false_eq_true, if_false, Bool.false_or]
      exact ih

/-- **`AcceptAll` drains the queue**: when its run does not end on the criterion, every queue entry
was popped, so every loop-free permitted candidate of a queue vertex is in the final solution up to
edge ids -/
theorem svLoop_acceptAll_complete {pops : List Nat} {queue : List (Nat × α)}
    {sol : List (List (Branch α))} {it : Nat} {res : List (List (Branch α)) × Nat}
    (h : svLoop cf simAcceptAll term k source target fwd rev pops queue sol it = .ok res)
    (hterm : term.terminate k res.1.length = false) :
    ∀ this, SvCand cf source target fwd rev queue this →
      ∃ s ∈ res.1, s.map (·.edge) = this.map (·.edge) := by
  -- together with: the routes held now are still there at the end
  refine (svLoop_ok_induction (motive := fun queue sol _ => (∀ x ∈ sol, x ∈ res.1) ∧
    ∀ this, SvCand cf source target fwd rev queue this →
      ∃ s ∈ res.1, s.map (·.edge) = this.map (·.edge)) ?_ ?_ h).2
  · intro queue hstop
    refine ⟨fun x hx => hx, fun this ⟨p, hp, _⟩ => ?_⟩
    rcases hstop with hstop | hstop
    · rw [hstop] at hterm; cases hterm
    · rw [List.isEmpty_iff] at hstop; subst hstop; cases hp
  · intro v queue sol sol' it _ _ hT ⟨ihsub, ih⟩
    have hsub : ∀ x ∈ sol, x ∈ res.1 := by
      intro x hx
      rcases svTurn_ok hT with rfl | ⟨_, _, _, _, _, rfl⟩
      · exact ihsub x hx
      · exact ihsub x (List.mem_append_left _ hx)
    refine ⟨hsub, fun this ⟨p, hp, hcand, hloop, hperm⟩ => ?_⟩
    by_cases hpv : p.1 = v
    · -- this entry is the one popped now: its candidate is accepted unless a route with its ids is held
      rw [hpv] at hcand
      rw [svTurn_tested hcand hloop, rejectedBy_acceptAll] at hT
      simp only [hperm, Bool.not_false, Bool.true_and, Except.ok.injEq] at hT
      subst hT
      by_cases hany : (sol.any fun s => sameIds this s) = true
      · obtain ⟨s, hs, hid⟩ := List.any_eq_true.1 hany
        exact ⟨s, hsub s hs, ((sameIds_iff this s).1 hid).symm⟩
      · exact ⟨this, ihsub this (by simp [hany]), rfl⟩
    · exact ih this ⟨p, List.mem_filter.2 ⟨hp, by simpa using hpv⟩, hcand, hloop, hperm⟩

/-- **`AcceptAll` returns at least as many routes, whatever the two pop orders**: from the same
queue and initial route, a run under `AcceptAll` (replaying any accepted pop sequence) ends with at
least as many routes after `take(k)` as a run under any similarity test (replaying any other) -/
theorem svLoop_acceptAll_ge_any_order {popsA popsT : List Nat} {queue : List (Nat × α)}
    {tsp : List (Branch α)} {itA itT : Nat} {resA resT : List (List (Branch α)) × Nat}
    (hA : svLoop cf simAcceptAll term k source target fwd rev popsA queue [tsp] itA = .ok resA)
    (hT : svLoop cf sim term k source target fwd rev popsT queue [tsp] itT = .ok resT) :
    (resT.1.take k).length ≤ (resA.1.take k).length := by
  cases hterm : term.terminate k resA.1.length with
  | true =>
    have := eq_of_terminate hterm
    simp only [List.length_take]
    omega
  | false =>
    suffices hle : resT.1.length ≤ resA.1.length by simp only [List.length_take]; omega
    -- every route of the other run is, up to ids, a route of the AcceptAll run
    have hcomplete := svLoop_acceptAll_complete hA hterm
    have hgT := svLoop_grown hT
    have hsub : resT.1.map (fun r => r.map (·.edge)) ⊆ resA.1.map (fun r => r.map (·.edge)) :=
      fun _ hids => List.forall_mem_map.2
        (hgT.all (P := fun r => r.map (·.edge) ∈ resA.1.map (fun r => r.map (·.edge)))
          (fun _ hr => List.mem_map_of_mem ((svLoop_grown hA).isPrefix.subset hr))
          (fun _ r hx _ => let ⟨s, hs, hse⟩ := hcomplete r hx.1; List.mem_map.2 ⟨s, hs, hse⟩))
        _ hids
    -- the other run's routes have pairwise distinct ids
    have hndT : (resT.1.map (fun r => r.map (·.edge))).Nodup := by
      rw [List.Nodup, List.pairwise_map]
      exact hgT.pairwise (List.pairwise_singleton _ _) fun _ _ hx a ha heq =>
        (hx.passed a ha).1 heq.symm
    have := (hndT.subperm hsub).length_le
    simpa using this

end loop

/-! ### what a candidate route is -/

/-- every id of the list is an edge of the graph: what the similarity functions are applied to -/
def GraphIds (edges : List (EdgeRec α)) (l : List Nat) : Prop := ∀ e ∈ l, ∃ er, edges[e]? = some er

/-- contiguous walk `u ⇝ v` in *graph orientation* over the edge list: every edge id is in range,
each edge leaves where the previous one arrived -/
def GWalk (edges : List (EdgeRec α)) : Nat → List Nat → Nat → Prop
  | u, [], v => u = v
  | u, e :: es, v => ∃ er, edges[e]? = some er ∧ er.src = u ∧ GWalk edges er.dst es v

theorem GWalk.append {edges : List (EdgeRec α)} :
    ∀ {es fs : List Nat} {u v w : Nat}, GWalk edges u es v → GWalk edges v fs w →
      GWalk edges u (es ++ fs) w
  | [], _, u, v, w, h, h' => by
    simp only [GWalk] at h
    subst h
    exact h'
  | e :: es, _, u, v, w, h, h' => by
    obtain ⟨er, h1, h2, h3⟩ := h
    exact ⟨er, h1, h2, GWalk.append h3 h'⟩

theorem GWalk.single {edges : List (EdgeRec α)} {e : Nat} {er : EdgeRec α}
    (h : edges[e]? = some er) : GWalk edges er.src [e] er.dst :=
  ⟨er, h, rfl, rfl⟩

theorem GWalk.split {edges : List (EdgeRec α)} :
    ∀ {es fs : List Nat} {u v : Nat}, GWalk edges u (es ++ fs) v →
      ∃ w, GWalk edges u es w ∧ GWalk edges w fs v
  | [], _, u, v, h => ⟨u, rfl, h⟩
  | e :: es, _, u, v, h => by
    obtain ⟨er, h1, h2, h3⟩ := h
    obtain ⟨w, h4, h5⟩ := GWalk.split h3
    exact ⟨w, ⟨er, h1, h2, h4⟩, h5⟩

theorem GWalk.last_dst {edges : List (EdgeRec α)} :
    ∀ {es : List Nat} {u v : Nat}, GWalk edges u es v → ∀ e er, es.getLast? = some e →
      edges[e]? = some er → v = er.dst
  | [], _, _, _, e, er, hl, _ => by simp at hl
  | [x], u, v, h, e, er, hl, he => by
    obtain ⟨er', h1, _, h3⟩ := h
    simp only [List.getLast?_singleton, Option.some.injEq] at hl
    subst hl
    rw [h1] at he; cases he
    exact h3.symm
  | x :: y :: es, u, v, h, e, er, hl, he => by
    obtain ⟨er', _, _, h3⟩ := h
    exact GWalk.last_dst h3 e er (by simpa using hl) he

theorem GWalk.graphIds {edges : List (EdgeRec α)} :
    ∀ {es : List Nat} {u v : Nat}, GWalk edges u es v → GraphIds edges es
  | [], _, _, _ => fun _ he => nomatch he
  | _ :: _, _, _, ⟨er, h1, _, h3⟩ => List.forall_mem_cons.2 ⟨⟨er, h1⟩, GWalk.graphIds h3⟩

theorem edge_of_traversal {c : Config α} {e : Nat} {le : Option Nat} {st : List α}
    {r : α × α × List α} (h : edgeTraversal c e le st = .ok r) : ∃ er, c.edges[e]? = some er := by
  obtain ⟨er, _, _, her, _⟩ := edgeTraversal_ok (ac := r.1) (tc := r.2.1) (st' := r.2.2) h
  exact ⟨er, her⟩

theorem gwalk_of_fwd_walk (c : Config α) {ok : Nat → Bool} :
    ∀ {es : List Nat} {u v : Nat}, SearchOpt.Walk c.fwd.inst ok u es v →
      GraphIds c.edges es → GWalk c.edges u es v
  | [], u, v, h, _ => h
  | e :: es, u, v, h, hex => by
    obtain ⟨_, _, h3, h4⟩ := h
    obtain ⟨er, her⟩ := hex e List.mem_cons_self
    have ht := SearchRoute.inst_termV_fwd (c := c.fwd) rfl her
    have hk := SearchRoute.inst_keyV_fwd (c := c.fwd) rfl her
    rw [ht] at h3
    rw [hk] at h4
    exact ⟨er, her, h3, gwalk_of_fwd_walk c h4 (fun e' he' => hex e' (List.mem_cons_of_mem _ he'))⟩

theorem gwalk_of_rev_walk (c : Config α) (g : List α) {ok : Nat → Bool} :
    ∀ {es : List Nat} {u v : Nat}, SearchOpt.Walk (c.rev g).inst ok u es v →
      GraphIds c.edges es → GWalk c.edges v es.reverse u
  | [], u, v, h, _ => by simp only [SearchOpt.Walk] at h; subst h; rfl
  | e :: es, u, v, h, hex => by
    obtain ⟨_, _, h3, h4⟩ := h
    obtain ⟨er, her⟩ := hex e List.mem_cons_self
    have ht : (c.rev g).inst.termV e = er.dst := Config.inst_termV (c := c.rev g) her
    have hk : (c.rev g).inst.keyV e = er.src := Config.inst_keyV (c := c.rev g) her
    rw [ht] at h3
    rw [hk] at h4
    have ih := gwalk_of_rev_walk c g h4 (fun e' he' => hex e' (List.mem_cons_of_mem _ he'))
    rw [List.reverse_cons]
    have := GWalk.single her
    rw [h3] at this
    exact GWalk.append ih this

/-- the state and costs of a list of route elements are the forward re-accumulation from a given
previous edge and state: each element is `EdgeTraversal::forward_traversal` of its edge from the
element before it -/
def Reaccumulated (cf : Config α) : Option Nat → List α → List (Branch α) → Prop
  | _, _, [] => True
  | prev, st, b :: bs =>
    edgeTraversal cf b.edge prev st = .ok (b.access, b.traversal, b.state) ∧
    Reaccumulated cf (some b.edge) b.state bs

theorem retraverse_spec (cf : Config α) :
    ∀ (es : List Nat) (prev : Option Nat) (st : List α) (r : List (Branch α)),
      retraverse cf es prev st = .ok r → r.map (·.edge) = es ∧ Reaccumulated cf prev st r
  | [], prev, st, r, h => by
    simp only [retraverse] at h
    cases h
    exact ⟨rfl, trivial⟩
  | e :: es, prev, st, r, h => by
    unfold retraverse at h
    split at h
    · cases h
    · rename_i ac tc st' htr
      split at h
      · cases h
      · rename_i restr hrest
        cases h
        obtain ⟨h1, h2⟩ := retraverse_spec cf es (some e) st' restr hrest
        exact ⟨by simp [h1], htr, h2⟩

theorem Reaccumulated.graphIds {cf : Config α} :
    ∀ {r : List (Branch α)} {prev : Option Nat} {st : List α}, Reaccumulated cf prev st r →
      GraphIds cf.edges (r.map (·.edge))
  | [], _, _, _ => fun _ he => nomatch he
  | _ :: _, _, _, h => List.forall_mem_cons.2 ⟨edge_of_traversal h.1, Reaccumulated.graphIds h.2⟩

/-- the edge a route hands to what follows it as "previous edge": its last edge, none for the empty route -/
def lastEdge (r : List (Branch α)) : Option Nat := r.getLast?.map (·.edge)

/-- the state a route hands to what follows it: that of its last element; what follows an EMPTY first
half (via vertex = origin, root path of no edge) starts from the initial state -/
def lastState (cf : Config α) (r : List (Branch α)) : List α :=
  match r.getLast? with
  | some l => l.state
  | none => initialState cf.feats

/-- `reorient_reverse_route`: the second route read backwards and re-traversed forwards from the first
route's last edge and state -/
theorem reorient_eq (cf : Config α) (a b : List (Branch α)) :
    reorient cf a b = retraverse cf (b.reverse.map (·.edge)) (lastEdge a) (lastState cf a) := by
  unfold reorient lastEdge lastState
  cases a.getLast? <;> rfl

theorem reorient_spec {cf : Config α} {a b r : List (Branch α)} (h : reorient cf a b = .ok r) :
    r.map (·.edge) = (b.map (·.edge)).reverse ∧ Reaccumulated cf (lastEdge a) (lastState cf a) r := by
  rw [reorient_eq, List.map_reverse] at h
  exact retraverse_spec cf _ _ _ _ h

theorem Reaccumulated.take {cf : Config α} :
    ∀ {r : List (Branch α)} {prev : Option Nat} {st : List α} (n : Nat),
      Reaccumulated cf prev st r → Reaccumulated cf prev st (r.take n)
  | [], _, _, n, _ => by simp [Reaccumulated]
  | _ :: _, _, _, 0, _ => by simp [Reaccumulated]
  | b :: bs, _, _, n + 1, h => by
    simp only [List.take_succ_cons]
    exact ⟨h.1, Reaccumulated.take n h.2⟩

theorem Reaccumulated.append {cf : Config α} :
    ∀ {a : List (Branch α)} {prev : Option Nat} {st : List α} {b : List (Branch α)},
      Reaccumulated cf prev st a →
      Reaccumulated cf (match a.getLast? with | some l => some l.edge | none => prev)
        (match a.getLast? with | some l => l.state | none => st) b →
      Reaccumulated cf prev st (a ++ b)
  | [], _, _, _, _, hb => by simpa using hb
  | [x], _, _, _, ha, hb => by
    simp only [List.getLast?_singleton] at hb
    exact ⟨ha.1, hb⟩
  | x :: y :: r, _, _, _, ha, hb => by
    refine ⟨ha.1, Reaccumulated.append (a := y :: r) ha.2 ?_⟩
    rw [List.getLast?_cons_cons] at hb
    cases hl : (y :: r).getLast? with
    | none => simp at hl
    | some l => simp only [hl] at hb ⊢; exact hb

theorem reaccumulated_append_init {cf : Config α} {a b : List (Branch α)}
    (ha : Reaccumulated cf none (initialState cf.feats) a)
    (hb : Reaccumulated cf (lastEdge a) (lastState cf a) b) :
    Reaccumulated cf none (initialState cf.feats) (a ++ b) := by
  apply Reaccumulated.append ha
  unfold lastEdge lastState at hb
  cases h : a.getLast? with
  | none => simpa [h] using hb
  | some l => simpa [h] using hb

/-! ### the frontier validation -/

/-- the frontier model accepts every element of the list given the state and edge of the element
before it (`st`, `prev` for the first) -/
def PermittedFrom (cf : Config α) : List α → Option Nat → List (Branch α) → Prop
  | _, _, [] => True
  | st, prev, b :: bs =>
    cf.inst.valid b.edge st prev = .ok true ∧ PermittedFrom cf b.state (some b.edge) bs

theorem routePermitted_iff (cf : Config α) :
    ∀ (r : List (Branch α)) (st : List α) (prev : Option Nat),
      routePermitted cf r st prev = true ↔ PermittedFrom cf st prev r
  | [], _, _ => by simp [routePermitted, PermittedFrom]
  | b :: bs, st, prev => by
    unfold routePermitted PermittedFrom
    split
    · rename_i h
      rw [routePermitted_iff cf bs b.state (some b.edge)]
      simp [h]
    · rename_i h
      constructor
      · intro hf; cases hf
      · intro hp; exact absurd hp.1 (by simpa using h)

theorem PermittedFrom.head {cf : Config α} {r : List (Branch α)} {st : List α} {prev : Option Nat}
    (h : PermittedFrom cf st prev r) {b : Branch α} (hb : r.head? = some b) :
    cf.inst.valid b.edge st prev = .ok true := by
  cases r with
  | nil => cases hb
  | cons x xs => cases hb; exact h.1

theorem PermittedFrom.isChain {cf : Config α} :
    ∀ {r : List (Branch α)} {st : List α} {prev : Option Nat}, PermittedFrom cf st prev r →
      r.IsChain (fun a b => cf.inst.valid b.edge a.state (some a.edge) = .ok true)
  | [], _, _, _ => .nil
  | [x], _, _, _ => .singleton x
  | _ :: _ :: _, _, _, h => .cons_cons h.2.1 (PermittedFrom.isChain h.2)

/-- a turn-restriction model among the configuration's frontier models: a permitted route takes
none of its listed turns -/
theorem PermittedFrom.no_restricted_turn {cf : Config α} {r : List (Branch α)} {st : List α}
    {prev : Option Nat} (h : PermittedFrom cf st prev r) {pairs : List (Nat × Nat)}
    (hm : FrontierM.turnRestriction pairs ∈ cf.frontier) :
    r.IsChain (fun a b => (a.edge, b.edge) ∉ pairs) :=
  h.isChain.imp fun _ _ hv =>
    (FrontierM.turnRestriction_valid_iff _ _ _).1 (Config.inst_valid_models hv _ hm)

/-! ### the loop test -/

/-- an answer of `srcVertices` lists the source vertex of every edge: a function of the edge ids -/
theorem srcVertices_ok (cf : Config α) :
    ∀ (r : List (Branch α)) (vs : List Nat), srcVertices cf r = .ok vs →
      vs = (r.map (·.edge)).map (fun e => match cf.edges[e]? with | some er => er.src | none => 0)
  | [], vs, h => by cases h; rfl
  | x :: xs, vs, h => by
    unfold srcVertices at h
    split at h
    · cases h
    · rename_i er her
      split at h
      · cases h
      · rename_i vs' hvs'
        cases h
        rw [srcVertices_ok cf xs vs' hvs']
        simp only [List.map_cons, her]

/-- conversely it answers on a route made of edges of the graph; `f` is any reading of their source
vertices off the elements (the default one in `routeContainsLoop_total`, `terminal` on a tree path) -/
theorem srcVertices_of_src (cf : Config α) (f : Branch α → Nat) :
    ∀ (r : List (Branch α)), (∀ b ∈ r, ∃ er, cf.edges[b.edge]? = some er ∧ er.src = f b) →
      srcVertices cf r = .ok (r.map f)
  | [], _ => rfl
  | x :: xs, h => by
    obtain ⟨er, her, hsrc⟩ := h x List.mem_cons_self
    unfold srcVertices
    rw [her]
    simp only
    rw [srcVertices_of_src cf f xs (fun b hb => h b (List.mem_cons_of_mem _ hb))]
    simp [hsrc]

/-- `route_contains_loop = false`: the source vertices of the route's edges are pairwise distinct,
hence so are its edges (the vertices are a function of the edges) -/
theorem routeContainsLoop_false {cf : Config α} {r : List (Branch α)}
    (h : routeContainsLoop cf r = .ok false) :
    (∃ vs, srcVertices cf r = .ok vs ∧ vs.Nodup) ∧ (r.map (·.edge)).Nodup := by
  unfold routeContainsLoop at h
  split at h
  · cases h
  · rename_i vs hvs
    simp only [Except.ok.injEq] at h
    have hnd := (hasDup_false_iff vs).1 h
    exact ⟨⟨vs, hvs, hnd⟩, (srcVertices_ok cf r vs hvs ▸ hnd).of_map _⟩

theorem routeContainsLoop_of_src {cf : Config α} {r : List (Branch α)} {vs : List Nat}
    (h : srcVertices cf r = .ok vs) : routeContainsLoop cf r = .ok (hasDup vs) := by
  unfold routeContainsLoop; rw [h]

theorem routeContainsLoop_total (cf : Config α) (r : List (Branch α))
    (h : GraphIds cf.edges (r.map (·.edge))) : ∃ b, routeContainsLoop cf r = .ok b :=
  ⟨_, routeContainsLoop_of_src (srcVertices_of_src cf (fun b => match cf.edges[b.edge]? with
    | some er => er.src | none => 0) r
    (fun b hb => let ⟨er, her⟩ := h b.edge (List.mem_map_of_mem hb); ⟨er, her, by simp only [her]⟩))⟩

/-! ### the two trees -/

/-- what a successful run establishes about its tree `st`, rooted at `s`: the tree invariant, and every
entry's edge is an edge of the graph -/
structure TreeOf (cf : Config α) (s : Nat) (st : SState α) : Prop where
  inv : TreeInv cf.inst s st
  edges : ∀ v b, st.sol v = some b → ∃ er, cf.edges[b.edge]? = some er

/-- the trees of the two underlying runs (`g` is the great-circle table of the reverse run: it is part
of the reverse instance) -/
structure Trees (c : Config α) (g : List α) (source target : Nat) (fwd rev : SState α) : Prop where
  fwd : TreeOf c.fwd source fwd
  rev : TreeOf (c.rev g) target rev

theorem tree_of_run (cf : Config α) (hadj : cf.AdjConsistent) {source target : Nat}
    (hts : target ≠ source) {fs : List Nat} {fres : SearchResult α}
    (h1 : runVertexOriented cf.inst source (some target) fs = .ok fres) :
    TreeOf cf source fres.final := by
  obtain ⟨hinv, _⟩ :=
    SearchTree.runVertexOriented_route (cf.inst_wf hadj) source target fs fres hts h1
  refine ⟨hinv, fun v b hb => ?_⟩
  obtain ⟨st, le, _, htr⟩ := (SearchRoute.runVertexOriented_validInv _ _ _ _ _ h1).1 v b hb
  exact edge_of_traversal (c := cf) htr

theorem trees_of_runs (c : Config α) (g : List α) (hf : c.fwd.AdjConsistent)
    (hr : (c.rev g).AdjConsistent) {source target : Nat} (hts : target ≠ source)
    {fs rs : List Nat} {fres rres : SearchResult α}
    (h1 : runVertexOriented c.fwd.inst source (some target) fs = .ok fres)
    (h2 : runVertexOriented (c.rev g).inst target (some source) rs = .ok rres) :
    Trees c g source target fres.final rres.final :=
  ⟨tree_of_run c.fwd hf hts h1, tree_of_run (c.rev g) hr (Ne.symm hts) h2⟩

theorem rev_adj_irrel (c : Config α) (g g' : List α) (h : (c.rev g).AdjConsistent) :
    (c.rev g').AdjConsistent := h

section candidates
variable {c : Config α} {g : List α} {source target : Nat} {fwd rev : SState α}

/-- the backtrack in the tree of a search, in the orientation of that search: a walk of the instance
from the root, made of edges of the graph and of tree entries -/
theorem backtrack_walk_ids {cf : Config α} {s : Nat} {st : SState α} (T : TreeOf cf s st)
    {v fuel : Nat} {r : List (Branch α)} (h : backtrack s v st.sol fuel = .ok r) :
    SearchOpt.Walk cf.inst (fun _ => true) s (r.map (·.edge)) v ∧
    GraphIds cf.edges (r.map (·.edge)) ∧ ∀ b ∈ r, ∃ u, st.sol u = some b := by
  have hent := (SearchTree.route_chain T.inv h).entry
  exact ⟨SearchRoute.pathTo_walk (ok := fun _ => true) T.inv (fun _ _ _ => rfl)
      (SearchTree.backtrack_sound h),
    List.forall_mem_map.2 fun b hb => T.edges _ b (hent b hb), fun b hb => ⟨_, hent b hb⟩⟩

theorem fwd_backtrack_walk (T : TreeOf c.fwd source fwd) {v fuel : Nat}
    {r : List (Branch α)} (h : backtrack source v fwd.sol fuel = .ok r) :
    GWalk c.edges source (r.map (·.edge)) v ∧ routeContainsLoop c.fwd r = .ok false ∧
    ∀ b ∈ r, ∃ u, fwd.sol u = some b := by
  obtain ⟨hw, hex, hent⟩ := backtrack_walk_ids T h
  refine ⟨gwalk_of_fwd_walk c hw hex, ?_, hent⟩
  -- the source vertices of the edges are the parents along the path, which are pairwise distinct
  have hsv : srcVertices c.fwd r = .ok (r.map (·.terminal)) := by
    apply srcVertices_of_src
    intro b hb
    obtain ⟨er, her⟩ := hex b.edge (List.mem_map_of_mem hb)
    exact ⟨er, her, by rw [← ((SearchTree.route_chain T.inv h).term_eq b hb).1,
      SearchRoute.inst_termV_fwd (c := c.fwd) rfl her]⟩
  rw [routeContainsLoop_of_src hsv, (hasDup_false_iff _).2
    (SearchTree.pathTo_terminals_nodup T.inv (SearchTree.backtrack_sound h))]

/-- the shape of a single-via candidate: the forward tree's path to a via vertex `v` (its elements are
that tree's entries), then a walk `v` ⇝ destination that is the forward re-accumulation from that
path's last edge and state -/
def SvShape (c : Config α) (source target : Nat) (fwd : SState α) (cand : List (Branch α)) : Prop :=
  ∃ v fwdRoute revRoute, cand = fwdRoute ++ revRoute ∧
    backtrack source v fwd.sol (fwd.solSize + 1) = .ok fwdRoute ∧
    GWalk c.edges source (fwdRoute.map (·.edge)) v ∧
    GWalk c.edges v (revRoute.map (·.edge)) target ∧
    (∀ b ∈ fwdRoute, ∃ u, fwd.sol u = some b) ∧
    Reaccumulated c.fwd (lastEdge fwdRoute) (lastState c.fwd fwdRoute) revRoute

/-- the two halves meet at the via vertex -/
theorem SvShape.walk {cand : List (Branch α)} (h : SvShape c source target fwd cand) :
    GWalk c.edges source (cand.map (·.edge)) target := by
  obtain ⟨_, _, _, rfl, _, hwF, hwR, _⟩ := h
  rw [List.map_append]
  exact GWalk.append hwF hwR

/-- **what a candidate is**: forward half by the forward tree, reverse half by the reverse tree read
backwards and re-traversed forwards after it, junction at the intersection vertex -/
theorem svCandidate_shape (T : Trees c g source target fwd rev) {v : Nat} {this : List (Branch α)}
    (h : svCandidate c.fwd source target fwd rev v = .ok (some this)) :
    SvShape c source target fwd this := by
  unfold svCandidate at h
  split at h
  · cases h
  rename_i fwdRoute hf
  split at h
  · cases h
  rename_i revBack hr
  split at h
  · cases h
  rename_i revRoute hreo
  cases h
  obtain ⟨hids, hre⟩ := reorient_spec hreo
  obtain ⟨hwF, _, hentF⟩ := fwd_backtrack_walk T.fwd hf
  obtain ⟨hw, hex, _⟩ := backtrack_walk_ids T.rev hr
  have hwR := gwalk_of_rev_walk c g hw hex
  rw [← hids] at hwR
  exact ⟨v, fwdRoute, revRoute, rfl, hf, hwF, hwR, hentF, hre⟩

end candidates

/-- an alternative of single-via relative to the routes held before it: a candidate that passed the
three tests (`YenAlt` is its counterpart for Yen's algorithm; `passed` holds what `YenAlt.fresh` and
`.dissimilar` hold, with the arguments of `sim` in the order of this algorithm: candidate first) -/
structure SvAlt (c : Config α) (sim : List Nat → List Nat → Except ErrKind Bool)
    (source target : Nat) (fwd : SState α) (before : List (List (Branch α)))
    (cand : List (Branch α)) : Prop where
  loopfree : routeContainsLoop c.fwd cand = .ok false
  permitted : PermittedFrom c.fwd (initialState c.fwd.feats) none cand
  passed : ∀ a ∈ before, cand.map (·.edge) ≠ a.map (·.edge) ∧
    sim (cand.map (·.edge)) (a.map (·.edge)) = .ok false
  shape : SvShape c source target fwd cand

theorem SvStep.alt {c : Config α} {g : List α} {sim : List Nat → List Nat → Except ErrKind Bool}
    {source target : Nat} {fwd rev : SState α} (T : Trees c g source target fwd rev)
    {queue : List (Nat × α)} {before : List (List (Branch α))} {this : List (Branch α)}
    (h : SvStep c.fwd sim source target fwd rev queue before this) :
    SvAlt c sim source target fwd before this :=
  let ⟨⟨_, _, hc, hl, hperm⟩, _⟩ := h
  ⟨hl, (routePermitted_iff c.fwd _ _ _).1 hperm, h.passed, svCandidate_shape T hc⟩

/-! ### the route of the underlying search -/

/-- the forward accumulation of this file is the link relation of `Proofs/RouteSums`, clause for clause: its
closed forms (`RouteSums.accFrom_adds`, `route_slot`) hold of every re-accumulated part -/
theorem reaccumulated_eq_accFrom (cf : Config α) : Reaccumulated cf = RouteSums.AccFrom cf := by
  funext l st r
  induction r generalizing l st with
  | nil => rfl
  | cons b r ih => simp only [Reaccumulated, RouteSums.AccFrom, ih]

/-- links validated from the state and edge of the link before them are permitted by the frontier model in
travel order -/
theorem linksFresh_permitted {cf : Config α} :
    ∀ {r : List (Branch α)} {prev : Option (Branch α)},
      SearchDiscipline.LinksFresh cf.inst prev r →
      PermittedFrom cf (match prev with | some a => a.state | none => initialState cf.feats)
        (prev.map (·.edge)) r
  | [], _, _ => trivial
  | b :: _, none, h => ⟨h.1.1, linksFresh_permitted (prev := some b) h.2⟩
  | b :: _, some _, h => ⟨h.1.1, linksFresh_permitted (prev := some b) h.2⟩

/-- **every tree path of a search under the discipline has fresh links** (consistent vertex heuristic
`H`; Dijkstra is `H = 0`): the backtrack from ANY vertex of the final tree, not only from the target,
is permitted link by link and is a forward accumulation from the initial state -/
theorem tree_path_links {cf : Config α} (hI : WF cf.inst) {H : Nat → α} {source t : Nat}
    (hH : SearchDiscipline.Heur cf.inst true H) {sched : List Nat} {res : SearchResult α}
    (hts : t ≠ source) (hrun : runVertexOriented cf.inst source (some t) sched = .ok res)
    {v fuel : Nat} {route : List (Branch α)}
    (hbt : backtrack source v res.final.sol fuel = .ok route) :
    PermittedFrom cf (initialState cf.feats) none route ∧
      Reaccumulated cf none (initialState cf.feats) route :=
  have h := (SearchDiscipline.backtrack_linksFresh hI hH hts hrun hbt).2
  ⟨linksFresh_permitted h,
    reaccumulated_eq_accFrom cf ▸ SearchDiscipline.accFrom_of_linksFresh cf none route h⟩

/-- the route of the search itself, origin = destination (the empty route) included -/
theorem first_route_links {cf : Config α} (hI : WF cf.inst) {H : Nat → α}
    (hH : SearchDiscipline.Heur cf.inst true H) {source target : Nat} {sched : List Nat}
    {res : SearchResult α} {first : List (Branch α)}
    (hrun : runVertexOriented cf.inst source (some target) sched = .ok res)
    (hfirst : res.route = some first) :
    PermittedFrom cf (initialState cf.feats) none first ∧
      Reaccumulated cf none (initialState cf.feats) first := by
  by_cases hts : target = source
  · subst hts
    cases SearchTree.route_nil_of_eq hrun hfirst
    exact ⟨trivial, trivial⟩
  · exact tree_path_links hI hH hts hrun (SearchTree.route_backtrack hrun hfirst)

/-! ### where an error can come from -/

/-- the similarity function fails with `e` on two id lists made of edges of the graph: the only failure
of their own the two loops let through -/
def SimFailure (edges : List (EdgeRec α)) (sim : List Nat → List Nat → Except ErrKind Bool)
    (e : ErrKind) : Prop :=
  ∃ a b, GraphIds edges a ∧ GraphIds edges b ∧ sim a b = .error e

theorem rejectedBy_error_mem {sim : List Nat → List Nat → Except ErrKind Bool}
    {this : List (Branch α)} {e : ErrKind} :
    ∀ {sol : List (List (Branch α))}, rejectedBy sim this sol = .error e →
      ∃ s ∈ sol, sim (this.map (·.edge)) (s.map (·.edge)) = .error e
  | [], h => by cases h
  | s :: rest, h => by
    unfold rejectedBy at h
    split at h
    · rename_i k hk; cases h; exact ⟨s, List.mem_cons_self, hk⟩
    · split at h
      · cases h
      · obtain ⟨s', hs', h'⟩ := rejectedBy_error_mem h
        exact ⟨s', List.mem_cons_of_mem _ hs', h'⟩

theorem rejectedBy_error {sim : List Nat → List Nat → Except ErrKind Bool}
    {this : List (Branch α)} {e : ErrKind} :
    ∀ {sol : List (List (Branch α))}, rejectedBy sim this sol = .error e →
      ∃ a b, sim a b = .error e :=
  fun h => let ⟨_, _, h'⟩ := rejectedBy_error_mem h; ⟨_, _, h'⟩

theorem retraverse_error {cf : Config α} {e : ErrKind} :
    ∀ {es : List Nat} {prev : Option Nat} {st : List α}, retraverse cf es prev st = .error e →
      ∃ e' prev' st', edgeTraversal cf e' prev' st' = .error e
  | [], _, _, h => by cases h
  | x :: xs, prev, st, h => by
    unfold retraverse at h
    split at h
    · rename_i k hk; cases h; exact ⟨_, _, _, hk⟩
    · split at h
      · rename_i k hk; cases h; exact retraverse_error hk
      · cases h

theorem mem_interQueue {nV : Nat} {f r : Nat → Option (Branch α)} {p : Nat × α}
    (h : p ∈ interQueue nV f r) : (f p.1).isSome ∧ (r p.1).isSome := by
  unfold interQueue at h
  obtain ⟨v, _, hv⟩ := List.mem_filterMap.1 h
  split at hv
  · cases hv
  · split at hv
    · cases hv
    · split at hv
      · rename_i _ fb hfb _ _ _ hrv
        cases hv
        exact ⟨by simp [hfb], hrv⟩
      · cases hv

theorem interQueue_length_le (nV : Nat) (f r : Nat → Option (Branch α)) :
    (interQueue nV f r).length ≤ nV :=
  (List.length_filterMap_le _ _).trans (by simp)

section errors
variable {c : Config α} {g : List α} {source target : Nat} {fwd rev : SState α}

variable {sim : List Nat → List Nat → Except ErrKind Bool} {term : KspTerm} {k : Nat}

/-- building the candidate of an intersection vertex never fails: both backtracks succeed, a failing
re-traversal drops it -/
theorem svCandidate_ok (T : Trees c g source target fwd rev) {v : Nat} (hvf : (fwd.sol v).isSome)
    (hvr : (rev.sol v).isSome) : ∃ o, svCandidate c.fwd source target fwd rev v = .ok o := by
  obtain ⟨fr, _, hfr⟩ := SearchTree.backtrack_ok T.fwd.inv (t := v) (Or.inr hvf)
  obtain ⟨rb, _, hrb⟩ := SearchTree.backtrack_ok T.rev.inv (t := v) (Or.inr hvr)
  unfold svCandidate
  rw [hfr, hrb]
  dsimp only
  split
  · exact ⟨none, rfl⟩
  · exact ⟨_, rfl⟩

/-- a turn on an intersection vertex fails only in the similarity function, applied to the
candidate and an accepted route -/
theorem svTurn_error (T : Trees c g source target fwd rev) {v : Nat} (hvf : (fwd.sol v).isSome)
    (hvr : (rev.sol v).isSome) {sol : List (List (Branch α))}
    (hsol : ∀ s ∈ sol, GraphIds c.edges (s.map (·.edge))) {e : ErrKind}
    (h : svTurn c.fwd sim source target fwd rev v sol = .error e) :
    SimFailure c.edges sim e := by
  obtain ⟨o, ho⟩ := svCandidate_ok T hvf hvr
  cases o with
  | none => rw [svTurn, ho] at h; cases h
  | some this =>
    have hthis := (svCandidate_shape T ho).walk.graphIds
    obtain ⟨bl, hbl⟩ := routeContainsLoop_total c.fwd this hthis
    rw [svTurn_tested ho hbl] at h
    cases hr : rejectedBy sim this sol with
    | error e' =>
      rw [hr] at h
      cases h
      obtain ⟨s, hs, hse⟩ := rejectedBy_error_mem hr
      exact ⟨_, _, hthis, hsol s hs, hse⟩
    | ok rej => rw [hr] at h; cases h

/-- where a failure of the loop comes from (`svLoop_ok_induction` speaks of successful runs only, so
this is an induction of its own over the same three equations) -/
theorem svLoop_error (T : Trees c g source target fwd rev) {pops : List Nat}
    {queue : List (Nat × α)} {sol : List (List (Branch α))} {it : Nat} {e : ErrKind}
    (hq : ∀ p ∈ queue, (fwd.sol p.1).isSome ∧ (rev.sol p.1).isSome)
    (hsol : ∀ s ∈ sol, GraphIds c.edges (s.map (·.edge)))
    (h : svLoop c.fwd sim term k source target fwd rev pops queue sol it = .error e) :
    e = .scheduleExhausted ∨ e = .badSchedule ∨
      SimFailure c.edges sim e := by
  induction pops generalizing queue sol it with
  | nil =>
    by_cases hs : term.terminate k sol.length = true ∨ queue.isEmpty = true
    · rw [svLoop_stop hs] at h; cases h
    · rw [svLoop_nil hs] at h; cases h; exact Or.inl rfl
  | cons v rest ih =>
    by_cases hs : term.terminate k sol.length = true ∨ queue.isEmpty = true
    · rw [svLoop_stop hs] at h; cases h
    · rw [svLoop_cons hs] at h
      split at h
      · rename_i hpop
        obtain ⟨p, hp, hpv⟩ := SearchLoop.popOk_mem hpop
        have hv := hq p hp
        rw [hpv] at hv
        split at h
        · rename_i e' hT
          cases h
          exact Or.inr (Or.inr (svTurn_error T hv.1 hv.2 hsol hT))
        · rename_i sol' hT
          refine ih (fun p hp => hq p (List.mem_filter.1 hp).1) ?_ h
          rcases svTurn_ok hT with rfl | ⟨this, hc, _, _, _, rfl⟩
          · exact hsol
          · intro s hs
            rcases List.mem_append.1 hs with hs | hs
            · exact hsol s hs
            · rw [List.mem_singleton.1 hs]; exact (svCandidate_shape T hc).walk.graphIds
      · cases h; exact Or.inr (Or.inl rfl)

end errors

/-! ### `singleVia` -/

/-- what a result `r` of `singleVia` is: the shortest route alone (the reverse search failed, not by a
limit) or `take k` of what the loop returns from `[tsp]`, with the trees and iteration counts of the runs -/
@[reducible] def SvResult (c : Config α) (g : List α)
    (sim : List Nat → List Nat → Except ErrKind Bool) (term : KspTerm) (source target k : Nat)
    (fs rs pops : List Nat) (r : AlgResult α) : Prop :=
  ∃ fres tsp,
    runVertexOriented c.fwd.inst source (some target) fs = .ok fres ∧
    backtrack source target fres.final.sol (fres.final.solSize + 1) = .ok tsp ∧
    (((∃ e, runVertexOriented (c.rev g).inst target (some source) rs = .error e ∧
          e.stopsQuery = false) ∧
        r = { trees := [fres.final.sol], routes := [tsp].take k,
              iterations := fres.final.iters }) ∨
     ∃ rres sol it,
      runVertexOriented (c.rev g).inst target (some source) rs = .ok rres ∧
      svLoop c.fwd sim term k source target fres.final rres.final pops
        (interQueue c.nV fres.final.sol rres.final.sol) [tsp] 0 = .ok (sol, it) ∧
      r = { trees := [fres.final.sol, rres.final.sol], routes := sol.take k,
            iterations := fres.final.iters + rres.final.iters + it })

/-- `single_via_paths_algorithm::run`, by outcome; the failure clause is for consistent adjacency and
distinct origin and destination, which `svLoop_error` needs of the two trees -/
theorem singleVia_spec (c : Config α) (g : List α)
    (sim : List Nat → List Nat → Except ErrKind Bool) (term : KspTerm) (source target k : Nat)
    (fs rs pops : List Nat) :
    match singleVia c g sim term source target k fs rs pops with
    | .ok r => SvResult c g sim term source target k fs rs pops r
    | .error e =>
      c.fwd.AdjConsistent → (c.rev g).AdjConsistent → target ≠ source →
      runVertexOriented c.fwd.inst source (some target) fs = .error e ∨
      (runVertexOriented (c.rev g).inst target (some source) rs = .error e ∧ e.stopsQuery = true) ∨
      e = .scheduleExhausted ∨ e = .badSchedule ∨
        SimFailure c.edges sim e := by
  unfold singleVia
  dsimp only
  cases hfres : runVertexOriented c.fwd.inst source (some target) fs with
  | error e => exact fun _ _ _ => Or.inl rfl
  | ok fres =>
    dsimp only
    -- the run has already done the backtrack to the destination that the algorithm repeats
    obtain ⟨_, tsp, _, htsp⟩ := SearchTree.runVertexOriented_some hfres
    cases hrres : runVertexOriented (c.rev g).inst target (some source) rs with
    | error e =>
      dsimp only
      by_cases hstop : e.stopsQuery = true
      · rw [if_pos hstop]; exact fun _ _ _ => Or.inr (Or.inl ⟨rfl, hstop⟩)
      · rw [if_neg hstop]
        rw [htsp]
        exact ⟨fres, tsp, hfres, htsp, Or.inl ⟨⟨e, hrres, by simpa using hstop⟩, rfl⟩⟩
    | ok rres =>
      simp only [List.length_singleton, bne_self_eq_false, Bool.false_eq_true, if_false]
      rw [htsp]
      dsimp only
      cases hloop : svLoop c.fwd sim term k source target fres.final rres.final pops
          (interQueue c.nV fres.final.sol rres.final.sol) [tsp] 0 with
      | error e =>
        intro hf hr hts
        have T := trees_of_runs c g hf hr hts hfres hrres
        refine Or.inr (Or.inr (svLoop_error T (fun p hp => mem_interQueue hp) ?_ hloop))
        intro s hs
        rw [List.mem_singleton.1 hs]
        exact (fwd_backtrack_walk T.fwd htsp).1.graphIds
      | ok res => exact ⟨fres, tsp, hfres, htsp, Or.inr ⟨rres, res.1, res.2, hrres, hloop, rfl⟩⟩

theorem singleVia_ok {c : Config α} {g : List α}
    {sim : List Nat → List Nat → Except ErrKind Bool} {term : KspTerm} {source target k : Nat}
    {fs rs pops : List Nat} {r : AlgResult α}
    (h : singleVia c g sim term source target k fs rs pops = .ok r) :
    SvResult c g sim term source target k fs rs pops r := by
  have := singleVia_spec c g sim term source target k fs rs pops
  rw [h] at this
  exact this

/-- **the routes of a single-via result**: the underlying search's route followed by routes accepted
by turns of the loop over the trees of the two runs, the first `k` of them (a reverse search that
failed leaves the first route alone) -/
theorem singleVia_answer {c : Config α} {g : List α}
    {sim : List Nat → List Nat → Except ErrKind Bool} {term : KspTerm} {source target k : Nat}
    {fs rs pops : List Nat} {r : AlgResult α}
    (h : singleVia c g sim term source target k fs rs pops = .ok r) :
    ∃ fres first, runVertexOriented c.fwd.inst source (some target) fs = .ok fres ∧
      fres.route = some first ∧
      Answer (fun before this => ∃ rres,
        runVertexOriented (c.rev g).inst target (some source) rs = .ok rres ∧
        SvStep c.fwd sim source target fres.final rres.final
          (interQueue c.nV fres.final.sol rres.final.sol) before this) first k r.routes := by
  obtain ⟨fres, tsp, h1, htsp, hcase⟩ := singleVia_ok h
  -- `tsp` is the route of the forward run: both are the backtrack of its final tree to the destination
  obtain ⟨_, first, hfirst, hbt⟩ := SearchTree.runVertexOriented_some h1
  cases htsp.symm.trans hbt
  refine ⟨fres, tsp, h1, hfirst, ?_⟩
  rcases hcase with ⟨_, rfl⟩ | ⟨rres, sol, it, h2, hloop, rfl⟩
  · exact ⟨[tsp], .refl, rfl⟩
  · exact ⟨sol, (svLoop_grown hloop).mono fun _ _ hx => ⟨rres, h2, hx⟩, rfl⟩

theorem singleVia_alts {c : Config α} {g : List α} (hf : c.fwd.AdjConsistent)
    (hr : (c.rev g).AdjConsistent) {sim : List Nat → List Nat → Except ErrKind Bool}
    {term : KspTerm} {source target k : Nat} (hts : target ≠ source) {fs rs pops : List Nat}
    {r : AlgResult α} (h : singleVia c g sim term source target k fs rs pops = .ok r) :
    ∃ fres first, runVertexOriented c.fwd.inst source (some target) fs = .ok fres ∧
      fres.route = some first ∧ Answer (SvAlt c sim source target fres.final) first k r.routes := by
  obtain ⟨fres, first, h1, hfirst, hA⟩ := singleVia_answer h
  exact ⟨fres, first, h1, hfirst,
    hA.mono fun _ _ ⟨_, h2, hx⟩ => hx.alt (trees_of_runs c g hf hr hts h1 h2)⟩

/-- `AcceptAll` against any similarity test on the same replay of the two underlying searches,
whatever the two pop orders of the intersection queue -/
theorem singleVia_acceptAll_ge {c : Config α} {g : List α}
    {sim : List Nat → List Nat → Except ErrKind Bool} {term : KspTerm} {source target k : Nat}
    {fs rs popsA popsT : List Nat} {rA rT : AlgResult α}
    (hA : singleVia c g simAcceptAll term source target k fs rs popsA = .ok rA)
    (hT : singleVia c g sim term source target k fs rs popsT = .ok rT) :
    rT.routes.length ≤ rA.routes.length := by
  obtain ⟨fres, tsp, h1, htsp, hcA⟩ := singleVia_ok hA
  obtain ⟨fres', tsp', h1', htsp', hcT⟩ := singleVia_ok hT
  rw [h1] at h1'; cases h1'
  rw [htsp] at htsp'; cases htsp'
  rcases hcA with ⟨⟨e, he, _⟩, rfl⟩ | ⟨rres, solA, itA, h2, hloopA, rfl⟩
  · rcases hcT with ⟨_, rfl⟩ | ⟨rres', _, _, h2', _, _⟩
    · exact le_refl _
    · rw [he] at h2'; cases h2'
  · rcases hcT with ⟨⟨e, he, _⟩, _⟩ | ⟨rres', solT, itT, h2', hloopT, rfl⟩
    · rw [he] at h2; cases h2
    · rw [h2] at h2'; cases h2'
      exact svLoop_acceptAll_ge_any_order hloopA hloopT

/-! ### similarity: rank, decision, totality -/

section similarity
variable [HasSqrt α]
omit [IsStrictOrderedRing α] [LawfulLit α]

theorem distsOf_error {dist : Nat → Except ErrKind α} {k : ErrKind} :
    ∀ {es : List Nat}, distsOf dist es = .error k → ∃ e ∈ es, dist e = .error k
  | [], h => by cases h
  | e :: es, h => by
    unfold distsOf at h
    split at h
    · rename_i k' hk'; cases h; exact ⟨e, List.mem_cons_self, hk'⟩
    · split at h
      · rename_i k' hk'
        cases h
        obtain ⟨e', he', h'⟩ := distsOf_error hk'
        exact ⟨e', List.mem_cons_of_mem _ he', h'⟩
      · cases h

theorem cosSimilarity_error {dist : Nat → Except ErrKind α} {a b : List Nat} {k : ErrKind}
    (h : cosSimilarity dist a b = .error k) : ∃ e ∈ a ++ b, dist e = .error k := by
  unfold cosSimilarity at h
  split at h
  · rename_i k' hk'
    cases h
    obtain ⟨e, he, h'⟩ := distsOf_error hk'
    exact ⟨e, List.mem_append_left _ he, h'⟩
  · split at h
    · rename_i k' hk'
      cases h
      obtain ⟨e, he, h'⟩ := distsOf_error hk'
      exact ⟨e, List.mem_append_right _ he, h'⟩
    · cases h

theorem SimFn.test_eq (f : SimFn α) (edges : List (EdgeRec α)) (a b : List Nat) :
    f.test edges a b = (match f.rank edges a b with
                        | .error k => .error k
                        | .ok r => .ok (f.isSimilar r)) := by
  cases f with
  | acceptAll => rfl
  | edgeIdCosine thr =>
    simp only [SimFn.test, SimFn.rank, SimFn.isSimilar]
    cases cosSimilarity (fun _ => Except.ok (one : α)) a b <;> rfl
  | distanceWeightedCosine thr =>
    simp only [SimFn.test, SimFn.rank, SimFn.isSimilar]
    cases cosSimilarity (fun e => match edges[e]? with
                                  | some er => Except.ok er.dist
                                  | none => .error .network) a b <;> rfl

/-- the similarity functions fail only on an edge id outside the graph, only for the
distance-weighted variant, and then with the network error -/
theorem SimFn.rank_error (f : SimFn α) (edges : List (EdgeRec α)) {a b : List Nat} {k : ErrKind}
    (h : f.rank edges a b = .error k) :
    k = .network ∧ (∃ thr, f = .distanceWeightedCosine thr) ∧ ∃ e ∈ a ++ b, edges[e]? = none := by
  cases f with
  | acceptAll => cases h
  | edgeIdCosine thr =>
    obtain ⟨e, _, he⟩ := cosSimilarity_error h
    cases he
  | distanceWeightedCosine thr =>
    obtain ⟨e, hmem, he⟩ := cosSimilarity_error h
    split at he
    · cases he
    · rename_i hnone
      cases he
      exact ⟨rfl, ⟨thr, rfl⟩, e, hmem, hnone⟩

/-- hence they never fail on routes whose edges are in the graph -/
theorem SimFn.rank_ok (f : SimFn α) (edges : List (EdgeRec α)) {a b : List Nat}
    (ha : GraphIds edges a) (hb : GraphIds edges b) : ∃ r, f.rank edges a b = .ok r := by
  cases hr : f.rank edges a b with
  | ok r => exact ⟨r, rfl⟩
  | error k =>
    obtain ⟨_, _, e, he, hnone⟩ := SimFn.rank_error f edges hr
    obtain ⟨er, her⟩ := List.forall_mem_append.2 ⟨ha, hb⟩ e he
    rw [her] at hnone
    cases hnone

theorem SimFn.test_ok (f : SimFn α) (edges : List (EdgeRec α)) {a b : List Nat}
    (ha : GraphIds edges a) (hb : GraphIds edges b) : ∃ x, f.test edges a b = .ok x := by
  obtain ⟨r, hr⟩ := SimFn.rank_ok f edges ha hb
  rw [SimFn.test_eq f, hr]
  exact ⟨_, rfl⟩

end similarity

/-! ### Yen's algorithm -/

section yen

/-! #### small facts -/

theorem yenDissimilar_true_iff (sim : List Nat → List Nat → Except ErrKind Bool)
    (cand : List (Branch α)) (acc : List (List (Branch α))) :
    yenDissimilar sim cand acc = .ok true ↔
      ∀ a ∈ acc, sim (a.map (·.edge)) (cand.map (·.edge)) = .ok false := by
  induction acc with
  | nil => simp [yenDissimilar]
  | cons t rest ih =>
    simp only [yenDissimilar, List.mem_cons, forall_eq_or_imp]
    cases hs : sim (t.map (·.edge)) (cand.map (·.edge)) with
    | error k => exact ⟨fun h => (by cases h), fun h => (by cases h.1)⟩
    | ok x =>
      cases x
      · exact ih.trans ⟨fun h => ⟨rfl, h⟩, fun h => h.2⟩
      · exact ⟨fun h => (by cases h), fun h => (by cases h.1)⟩

theorem yenDissimilar_error_mem {sim : List Nat → List Nat → Except ErrKind Bool}
    {cand : List (Branch α)} {e : ErrKind} :
    ∀ {acc : List (List (Branch α))}, yenDissimilar sim cand acc = .error e →
      ∃ t ∈ acc, sim (t.map (·.edge)) (cand.map (·.edge)) = .error e
  | [], h => by cases h
  | t :: rest, h => by
    unfold yenDissimilar at h
    split at h
    · rename_i k hk; cases h; exact ⟨t, List.mem_cons_self, hk⟩
    · cases h
    · obtain ⟨t', ht', h'⟩ := yenDissimilar_error_mem h
      exact ⟨t', List.mem_cons_of_mem _ ht', h'⟩

theorem yenDissimilar_error {sim : List Nat → List Nat → Except ErrKind Bool}
    {cand : List (Branch α)} {e : ErrKind} :
    ∀ {acc : List (List (Branch α))}, yenDissimilar sim cand acc = .error e →
      ∃ a b, sim a b = .error e :=
  fun h => let ⟨_, _, h'⟩ := yenDissimilar_error_mem h; ⟨_, _, h'⟩

theorem yenBetter_some {best : Option (List (Branch α) × α)} {cand bp : List (Branch α)} {cost bc : α}
    (h : yenBetter best cand cost = some (bp, bc)) : bp = cand ∨ best = some (bp, bc) := by
  unfold yenBetter at h
  split at h
  · cases h; exact Or.inl rfl
  · split at h
    · cases h; exact Or.inl rfl
    · exact Or.inr h

/-- the cut configuration differs from the forward configuration in its frontier model only -/
theorem cutCfg_adj (c : Config α) (cut : List Nat) (h : c.fwd.AdjConsistent) :
    (cutCfg c cut).fwd.AdjConsistent := h

/-- an accepted route that continues the root path: the edge it continues with is cut -/
theorem mem_yenCut {accepted : List (List (Branch α))} {root a : List (Branch α)} {i : Nat}
    (ha : a ∈ accepted) (hlen : root.length = i + 1) {y : Nat} {ys : List Nat}
    (hids : a.map (·.edge) = root.map (·.edge) ++ y :: ys) : y ∈ yenCut accepted root i := by
  have hl : (root.map (·.edge)).length = i + 1 := by rw [List.length_map, hlen]
  have htake : sameIds root (a.take (i + 1)) = true := by
    rw [sameIds_iff, List.map_take, hids, List.take_left' hl]
  unfold yenCut
  refine List.mem_filterMap.2 ⟨a, ha, ?_⟩
  rw [if_pos htake, ← List.getElem?_map, hids, List.getElem?_append_right (by omega), hl,
    Nat.sub_self]
  rfl

/-- the route of a search on a cut configuration takes no cut edge -/
theorem route_avoids_cut {c : Config α} {cut : List Nat} {s : Nat} {t : Option Nat}
    {sched : List Nat} {res : SearchResult α} {route : List (Branch α)}
    (hres : runVertexOriented (cutCfg c cut).inst s t sched = .ok res)
    (hroute : res.route = some route) : ∀ b ∈ route, b.edge ∉ cut := fun b hb =>
  let ⟨_, _, hv, _⟩ := (SearchRoute.runVertexOriented_validInv _ _ _ _ _ hres).2 route hroute b hb
  (FrontierM.edgeCut_valid_iff cut _ _).1 (Config.inst_valid_models hv _ List.mem_cons_self)

variable {c : Config α} {sim : List Nat → List Nat → Except ErrKind Bool} {target : Nat}

/-! #### what an accepted route is -/

/-- every accepted route is a contiguous walk origin ⇝ destination in graph orientation none of
whose edges leaves the destination.  The second clause is what makes a spur vertex differ from the
destination: the spur search is then not the trivial one, its route is not empty, and its first edge
would have been cut had the candidate the edges of an accepted route (`spur_candidate`). -/
structure YenGood (c : Config α) (source target : Nat) (p : List (Branch α)) : Prop where
  walk : GWalk c.edges source (p.map (·.edge)) target
  src_ne : ∀ b ∈ p, ∀ er, c.edges[b.edge]? = some er → er.src ≠ target

/-- every accepted alternative, relative to the routes accepted before it -/
structure YenAlt (c : Config α) (sim : List Nat → List Nat → Except ErrKind Bool)
    (source target : Nat) (accepted : List (List (Branch α))) (cand : List (Branch α)) : Prop where
  good : YenGood c source target cand
  /-- it passed `route_contains_loop` -/
  loopfree : routeContainsLoop c.fwd cand = .ok false
  /-- it passed `route_is_permitted` -/
  permitted : PermittedFrom c.fwd (initialState c.fwd.feats) none cand
  /-- it is dissimilar to every route accepted before it -/
  dissimilar : ∀ a ∈ accepted, sim (a.map (·.edge)) (cand.map (·.edge)) = .ok false
  /-- its edge sequence differs from that of every route accepted before it -/
  fresh : ∀ a ∈ accepted, a.map (·.edge) ≠ cand.map (·.edge)
  /-- it is a root path of an accepted route followed by a forward re-accumulation -/
  shape : ∃ prev ∈ accepted, ∃ i spurRoute, cand = prev.take (i + 1) ++ spurRoute ∧
    Reaccumulated c.fwd (lastEdge (prev.take (i + 1))) (lastState c.fwd (prev.take (i + 1))) spurRoute

/-- an alternative of Yen's algorithm is a forward accumulation from the initial state as soon as the
routes before it are: a root path is a prefix of one of them, the spur part continues it -/
theorem YenAlt.reaccumulated {c : Config α} {sim : List Nat → List Nat → Except ErrKind Bool}
    {source target : Nat} {before : List (List (Branch α))} {cand : List (Branch α)}
    (h : YenAlt c sim source target before cand)
    (hb : ∀ p ∈ before, Reaccumulated c.fwd none (initialState c.fwd.feats) p) :
    Reaccumulated c.fwd none (initialState c.fwd.feats) cand := by
  obtain ⟨prev, hprev, i, spur, h1, h2⟩ := h.shape
  rw [h1]
  exact reaccumulated_append_init (Reaccumulated.take _ (hb prev hprev)) h2

/-- the root path of a spur turn on a `YenGood` route: it is not empty, its last edge `er` is an edge
of the graph, it is a walk from the origin to the head of `er`, and that head is not the destination —
the next edge of the route leaves it -/
theorem YenGood.root {source : Nat} {prev : List (Branch α)} (hG : YenGood c source target prev)
    {i : Nat} (hi : i + 1 < prev.length) :
    ∃ spurEt er, (prev.take (i + 1)).getLast? = some spurEt ∧ c.edges[spurEt.edge]? = some er ∧
      GWalk c.edges source ((prev.take (i + 1)).map (·.edge)) er.dst ∧ er.dst ≠ target := by
  have hsplit : prev = prev.take (i + 1) ++ prev[i + 1] :: prev.drop (i + 1 + 1) := by
    rw [← List.drop_eq_getElem_cons hi, List.take_append_drop]
  have hw := hG.walk
  rw [hsplit, List.map_append, List.map_cons] at hw
  obtain ⟨w, hw1, er2, he2, hs2, _⟩ := GWalk.split hw
  obtain ⟨spurEt, hlast⟩ : ∃ x, (prev.take (i + 1)).getLast? = some x :=
    ⟨_, List.getLast?_eq_some_getLast (List.ne_nil_of_length_pos (by rw [List.length_take]; omega))⟩
  obtain ⟨er, her⟩ := hw1.graphIds spurEt.edge (List.mem_map_of_mem (List.mem_of_getLast? hlast))
  have hwdst : w = er.dst :=
    GWalk.last_dst hw1 spurEt.edge er (by rw [List.getLast?_map, hlast]; rfl) her
  refine ⟨spurEt, er, hlast, her, hwdst ▸ hw1, ?_⟩
  rw [← hwdst, ← hs2]
  exact hG.src_ne _ (List.getElem_mem hi) er2 he2

/-- the route of a search that answers — the first route, and every spur route — is a `YenGood` route
that passes the loop test -/
theorem first_route_good {c : Config α} (hf : c.fwd.AdjConsistent) {source target : Nat}
    {sched : List Nat} {res : SearchResult α} {first : List (Branch α)}
    (hrun : runVertexOriented c.fwd.inst source (some target) sched = .ok res)
    (hfirst : res.route = some first) :
    YenGood c source target first ∧ routeContainsLoop c.fwd first = .ok false := by
  have hbt := SearchTree.route_backtrack hrun hfirst
  by_cases hts : target = source
  · subst hts
    cases SearchTree.route_nil_of_eq hrun hfirst
    exact ⟨⟨rfl, fun b hb => by simp at hb⟩, rfl⟩
  · have T := tree_of_run c.fwd hf hts hrun
    obtain ⟨hw, hl, _⟩ := fwd_backtrack_walk T hbt
    refine ⟨⟨hw, fun b hb er her => ?_⟩, hl⟩
    rw [← SearchRoute.inst_termV_fwd (c := c.fwd) rfl her,
      ((SearchTree.route_chain T.inv hbt).term_eq b hb).1]
    exact SearchRoute.pathTo_terminal_ne T.inv (SearchTree.backtrack_sound hbt) b hb

/-- **the candidate of a spur turn that passed every test is a proper alternative** -/
theorem spur_candidate {source : Nat} (hf : c.fwd.AdjConsistent)
    {prev : List (Branch α)} {accepted : List (List (Branch α))}
    (hG : YenGood c source target prev) (hprev : prev ∈ accepted)
    {i : Nat} (hi : i + 1 < prev.length) {sched : List Nat}
    {er : EdgeRec α} {res : SearchResult α} {spurPath spurRoute : List (Branch α)}
    (hroot : GWalk c.edges source ((prev.take (i + 1)).map (·.edge)) er.dst) (hwt : er.dst ≠ target)
    (hres : runVertexOriented (cutCfg c (yenCut accepted (prev.take (i + 1)) i)).inst er.dst
      (some target) sched = .ok res)
    (hroute : res.route = some spurPath)
    (hre : reorient c.fwd (prev.take (i + 1)) spurPath.reverse = .ok spurRoute)
    (hloop : routeContainsLoop c.fwd (prev.take (i + 1) ++ spurRoute) = .ok false)
    (hperm : routePermitted c.fwd (prev.take (i + 1) ++ spurRoute) (initialState c.fwd.feats) none = true)
    (hdis : yenDissimilar sim (prev.take (i + 1) ++ spurRoute) accepted = .ok true) :
    YenAlt c sim source target accepted (prev.take (i + 1) ++ spurRoute) := by
  -- the spur search: its route is a walk from there none of whose edges leaves the destination
  generalize hcut : yenCut accepted (prev.take (i + 1)) i = cut at hres
  have hgS := (first_route_good (c := cutCfg c cut) (cutCfg_adj c cut hf) hres hroute).1
  have hpath := SearchTree.backtrack_sound (SearchTree.route_backtrack hres hroute)
  have hne : spurPath ≠ [] := fun h0 => hwt ((SearchTree.pathTo_nil_iff hpath).1 h0).symm
  -- the re-traversed spur part has the spur route's edges
  obtain ⟨hids, hreacc⟩ := reorient_spec hre
  rw [List.map_reverse, List.reverse_reverse] at hids
  refine ⟨⟨?_, ?_⟩, hloop, (routePermitted_iff c.fwd _ _ _).1 hperm,
    (yenDissimilar_true_iff sim _ accepted).1 hdis, ?_, ⟨prev, hprev, i, spurRoute, rfl, hreacc⟩⟩
  · rw [List.map_append, hids]
    exact GWalk.append hroot hgS.walk
  · intro b hb er' her'
    rcases List.mem_append.1 hb with hb | hb
    · exact hG.src_ne b (List.mem_of_mem_take hb) er' her'
    · have : b.edge ∈ spurPath.map (·.edge) := hids ▸ List.mem_map_of_mem hb
      obtain ⟨b', hb', hbe⟩ := List.mem_map.1 this
      exact hgS.src_ne b' hb' er' (by rw [hbe]; exact her')
  · -- a route with the same edge sequence would have had its next edge cut
    intro a ha heq
    obtain ⟨y, ys, hy⟩ := List.exists_cons_of_ne_nil hne
    have hincut : y.edge ∈ cut := by
      rw [← hcut]
      refine mem_yenCut ha (by rw [List.length_take]; omega) (ys := ys.map (·.edge)) ?_
      rw [heq, List.map_append, hids, hy]
      rfl
    exact route_avoids_cut hres hroute y (by rw [hy]; exact List.mem_cons_self) hincut

/-- the failures a spur turn lets through: a search on a cut configuration stopped by a limit, a
panic or an invalid replay (the statement keeps the error kind only), or the similarity function on
two id lists made of edges of the graph -/
def SpurFailure (c : Config α) (sim : List Nat → List Nat → Except ErrKind Bool) (target : Nat)
    (e : ErrKind) : Prop :=
  (∃ cut v sched, runVertexOriented (cutCfg c cut).inst v (some target) sched = .error e ∧
    e.stopsQuery = true) ∨
  SimFailure c.edges sim e

/-! #### the spur loop -/

section spurloop
variable {source : Nat}

/-- **a spur turn, by outcome**: the best candidate stays a proper alternative — a turn leaves it
alone or offers a candidate that passed every test —, and the only failures are a spur search stopped
by a limit, a panic or — in the model — an invalid replay, and an error of the similarity function on
an accepted route and the candidate: never "no path", never an error of the re-traversal, the loop test or the frontier
validation -/
theorem yenSpur_spec (hf : c.fwd.AdjConsistent) {prev : List (Branch α)}
    {accepted : List (List (Branch α))} (hacc : ∀ p ∈ accepted, YenGood c source target p)
    (hprev : prev ∈ accepted) {i : Nat} (hi : i + 1 < prev.length) {st : YenState α}
    (hbest : ∀ bp bc, st.best = some (bp, bc) → YenAlt c sim source target accepted bp) :
    match yenSpur c sim target prev accepted st i with
    | .ok st' => ∀ bp bc, st'.best = some (bp, bc) → YenAlt c sim source target accepted bp
    | .error e =>
      SpurFailure c sim target e := by
  have hG := hacc prev hprev
  obtain ⟨spurEt, er, hlast, her, hroot, hwt⟩ := hG.root hi
  have hrootex := hroot.graphIds
  unfold yenSpur
  dsimp only
  rw [hlast]
  dsimp only
  rw [her]
  dsimp only
  cases hres : runVertexOriented (cutCfg c (yenCut accepted (prev.take (i + 1)) i)).inst er.dst
      (some target) (st.scheds.headD []) with
  | error k =>
    dsimp only
    by_cases hstop : k.stopsQuery = true
    · rw [if_pos hstop]; exact Or.inl ⟨_, _, _, hres, hstop⟩
    · rw [if_neg hstop]; exact hbest
  | ok res =>
    dsimp only
    obtain ⟨_, spurPath, hroute, _⟩ := SearchTree.runVertexOriented_some hres
    rw [hroute]
    dsimp only
    cases hre : reorient c.fwd (prev.take (i + 1)) spurPath.reverse with
    | error k => exact hbest
    | ok spurRoute =>
      dsimp only
      -- the loop test cannot fail: every edge of the candidate is in the edge list
      have hex : GraphIds c.edges ((prev.take (i + 1) ++ spurRoute).map (·.edge)) := by
        rw [List.map_append]
        exact List.forall_mem_append.2 ⟨hrootex, (reorient_spec hre).2.graphIds⟩
      obtain ⟨bl, hloop⟩ := routeContainsLoop_total c.fwd _ hex
      rw [hloop]
      cases bl with
      | true => exact hbest
      | false =>
        dsimp only
        by_cases hperm : routePermitted c.fwd (prev.take (i + 1) ++ spurRoute)
            (initialState c.fwd.feats) none = true
        · rw [if_neg (by simp [hperm])]
          cases hdis : yenDissimilar sim (prev.take (i + 1) ++ spurRoute) accepted with
          | error k =>
            obtain ⟨t, ht, hte⟩ := yenDissimilar_error_mem hdis
            exact Or.inr ⟨_, _, (hacc t ht).walk.graphIds, hex, hte⟩
          | ok dis =>
            cases dis with
            | false => exact hbest
            | true =>
              have halt := spur_candidate (sim := sim) hf hG hprev hi hroot hwt hres hroute
                hre hloop hperm hdis
              intro bp bc hb
              rcases yenBetter_some (show yenBetter st.best _ _ = some (bp, bc) from hb) with
                rfl | hb
              · exact halt
              · exact hbest bp bc hb
        · rw [if_pos (by simp [hperm])]; exact hbest

theorem yenFor_spec (hf : c.fwd.AdjConsistent) {prev : List (Branch α)}
    {accepted : List (List (Branch α))} (hacc : ∀ p ∈ accepted, YenGood c source target p)
    (hprev : prev ∈ accepted) :
    ∀ (is : List Nat) (st : YenState α), (∀ i ∈ is, i + 1 < prev.length) →
      (∀ bp bc, st.best = some (bp, bc) → YenAlt c sim source target accepted bp) →
      match yenFor c sim target prev accepted is st with
      | .ok st' => ∀ bp bc, st'.best = some (bp, bc) → YenAlt c sim source target accepted bp
      | .error e =>
        SpurFailure c sim target e
  | [], _, _, hbest => hbest
  | i :: is, st, his, hbest => by
    have h1 := yenSpur_spec (sim := sim) hf hacc hprev (his i List.mem_cons_self) hbest
    unfold yenFor
    cases hsp : yenSpur c sim target prev accepted st i with
    | error e => rw [hsp] at h1; exact h1
    | ok st1 =>
      rw [hsp] at h1
      exact yenFor_spec hf hacc hprev is st1 (fun j hj => his j (List.mem_cons_of_mem _ hj)) h1

end spurloop

/-! #### the `while` loop -/

section whileloop
variable {source : Nat}

/-- the accepted list, the invariant of `yenWhile_spec`: `Grown (YenAlt …) [first]` with a `YenGood`
first route (`YenAcc.grown`) -/
inductive YenAcc (c : Config α) (sim : List Nat → List Nat → Except ErrKind Bool)
    (source target : Nat) (first : List (Branch α)) : List (List (Branch α)) → Prop
  | base : YenGood c source target first → YenAcc c sim source target first [first]
  | snoc {acc : List (List (Branch α))} {bp : List (Branch α)} :
      YenAcc c sim source target first acc → YenAlt c sim source target acc bp →
      YenAcc c sim source target first (acc ++ [bp])

variable {first : List (Branch α)}

theorem YenAcc.grown {acc : List (List (Branch α))} (h : YenAcc c sim source target first acc) :
    YenGood c source target first ∧ Grown (YenAlt c sim source target) [first] acc := by
  induction h with
  | base hg => exact ⟨hg, .refl⟩
  | snoc _ halt ih => exact ⟨ih.1, ih.2.snoc halt⟩

theorem YenAcc.good {acc : List (List (Branch α))} (h : YenAcc c sim source target first acc) :
    ∀ p ∈ acc, YenGood c source target p :=
  h.grown.2.all (fun _ hp => List.mem_singleton.1 hp ▸ h.grown.1) fun _ _ hx _ => hx.good

theorem YenAcc.ne_nil {acc : List (List (Branch α))} (h : YenAcc c sim source target first acc) :
    acc ≠ [] := by
  cases h <;> simp

theorem YenAcc.pairwise {acc : List (List (Branch α))} (h : YenAcc c sim source target first acc) :
    acc.Pairwise (fun earlier later =>
      earlier.map (·.edge) ≠ later.map (·.edge) ∧
      sim (earlier.map (·.edge)) (later.map (·.edge)) = .ok false) :=
  h.grown.2.pairwise (List.pairwise_singleton _ _) fun _ _ hx a ha =>
    ⟨hx.fresh a ha, hx.dissimilar a ha⟩

variable {term : KspTerm} {k : Nat} {tree : Nat → Option (Branch α)}

/-- **what the loop returns, by outcome**: the first `k` routes of an accepted list, or a failure of
a spur turn -/
theorem yenWhile_spec (hf : c.fwd.AdjConsistent) :
    ∀ (fuel : Nat) (acc : List (List (Branch α))) (its : Nat) (scheds : List (List Nat)),
      YenAcc c sim source target first acc →
      match yenWhile c sim term target k tree fuel acc its scheds with
      | .ok r => ∃ acc', YenAcc c sim source target first acc' ∧
          r.routes = acc'.take k ∧ r.trees = [tree]
      | .err e =>
        SpurFailure c sim target e
      | .diverges _ => True
  | 0, _, _, _, _ => trivial
  | fuel + 1, acc, its, scheds, hacc => by
    have hstop : ∀ its', ∃ acc', YenAcc c sim source target first acc' ∧
        (AlgResult.mk [tree] (acc.take k) its').routes = acc'.take k ∧
        (AlgResult.mk [tree] (acc.take k) its').trees = [tree] :=
      fun _ => ⟨acc, hacc, rfl, rfl⟩
    unfold yenWhile
    by_cases hlt : acc.length < k
    · rw [if_pos hlt]
      by_cases hterm : term.terminate k acc.length = true
      · rw [if_pos hterm]; exact hstop _
      · rw [if_neg hterm]
        cases hprev : acc.getLast? with
        | none => exact absurd (List.getLast?_eq_none_iff.1 hprev) hacc.ne_nil
        | some prev =>
          have hprevmem : prev ∈ acc := List.mem_of_getLast? hprev
          have hrange : ∀ i ∈ List.range (prev.length - 2), i + 1 < prev.length :=
            fun i hi => by have := List.mem_range.1 hi; omega
          dsimp only
          have hspec := yenFor_spec (sim := sim) hf hacc.good hprevmem _
            { best := none, iterations := its, scheds := scheds } hrange (fun bp bc hb => by cases hb)
          cases hfor : yenFor c sim target prev acc (List.range (prev.length - 2))
              { best := none, iterations := its, scheds := scheds } with
          | error e => rw [hfor] at hspec; exact hspec
          | ok st' =>
            have hbest : ∀ bp bc, st'.best = some (bp, bc) →
                YenAlt c sim source target acc bp := by rw [hfor] at hspec; exact hspec
            dsimp only
            cases hb : st'.best with
            | none => exact hstop _
            | some p =>
              obtain ⟨bp, bc⟩ := p
              dsimp only
              exact yenWhile_spec hf fuel (acc ++ [bp]) st'.iterations st'.scheds
                (YenAcc.snoc hacc (hbest bp bc hb))
    · rw [if_neg hlt]; exact hstop _

/-- **the loop ends**: every turn that goes on has lengthened the accepted list, so it never needs
more turns than routes are missing -/
theorem yenWhile_terminates :
    ∀ (fuel : Nat) (acc : List (List (Branch α))) (its : Nat) (scheds : List (List Nat)),
      k - acc.length < fuel →
      ∀ why, yenWhile c sim term target k tree fuel acc its scheds ≠ .diverges why
  | 0, _, _, _, h, _ => by omega
  | fuel + 1, acc, its, scheds, hfuel, why => by
    unfold yenWhile
    split
    · rename_i hlt
      split
      · exact fun h => by cases h
      · split
        · exact fun h => by cases h
        · split
          · exact fun h => by cases h
          · split
            · -- the only exit that is not a result or an error: the recursive call, on a longer list
              apply yenWhile_terminates fuel
              simp only [List.length_append, List.length_singleton]
              omega
            · exact fun h => by cases h
    · exact fun h => by cases h

end whileloop

/-! #### `yens` -/

/-- what a result `r` of `yens` is: the first `k` routes of the underlying search's route followed by
proper alternatives, and that search's tree -/
@[reducible] def YenResult (c : Config α) (sim : List Nat → List Nat → Except ErrKind Bool)
    (source target k : Nat) (scheds : List (List Nat)) (r : AlgResult α) : Prop :=
  ∃ fres first, runVertexOriented c.fwd.inst source (some target) (scheds.headD []) = .ok fres ∧
    fres.route = some first ∧
    Answer (YenAlt c sim source target) first k r.routes ∧ r.trees = [fres.final.sol]

/-- **`yens`, by outcome**; a failure is the first search's, or a spur turn's -/
theorem yens_spec {c : Config α} (hf : c.fwd.AdjConsistent)
    (sim : List Nat → List Nat → Except ErrKind Bool) (term : KspTerm) (source target k : Nat)
    (scheds : List (List Nat)) :
    match yens c sim term source target k scheds with
    | .ok r => YenResult c sim source target k scheds r
    | .err e =>
      runVertexOriented c.fwd.inst source (some target) (scheds.headD []) = .error e ∨
      SpurFailure c sim target e
    | .diverges _ => True := by
  unfold yens
  cases hfres : runVertexOriented c.fwd.inst source (some target) (scheds.headD []) with
  | error e => exact Or.inl rfl
  | ok fres =>
    obtain ⟨_, first, hfirst, _⟩ := SearchTree.runVertexOriented_some hfres
    dsimp only
    rw [hfirst]
    dsimp only
    have hw := yenWhile_spec (sim := sim) (term := term) (k := k) (tree := fres.final.sol) hf (k + 1)
      [first] 1 scheds.tail (YenAcc.base (first_route_good hf hfres hfirst).1)
    cases hrec : yenWhile c sim term target k fres.final.sol (k + 1) [first] 1 scheds.tail with
    | ok r =>
      rw [hrec] at hw
      obtain ⟨acc, h1, h3, h4⟩ := hw
      exact ⟨fres, first, hfres, hfirst, ⟨acc, h1.grown.2, h3⟩, h4⟩
    | err e => rw [hrec] at hw; exact Or.inr hw
    | diverges why => trivial

theorem yens_ok {c : Config α} (hf : c.fwd.AdjConsistent)
    {sim : List Nat → List Nat → Except ErrKind Bool} {term : KspTerm} {source target k : Nat}
    {scheds : List (List Nat)} {r : AlgResult α}
    (h : yens c sim term source target k scheds = .ok r) :
    YenResult c sim source target k scheds r := by
  have := yens_spec hf sim term source target k scheds
  rw [h] at this
  exact this

end yen

/-! ### which errors can stop a query: limits and panics come from the limit function only -/

/-- the error kinds that stop a k-shortest-paths query on the real code: a limit of the termination
model, a Rust panic.  `ErrKind.stopsQuery` is `isStop` or an exhausted / impossible replay, which
only the model has. -/
def isStop : ErrKind → Bool
  | .terminated _ => true
  | .panic _ => true
  | _ => false

theorem stopsQuery_iff (e : ErrKind) :
    e.stopsQuery = true ↔ isStop e = true ∨ e = .scheduleExhausted ∨ e = .badSchedule := by
  cases e <;> simp [ErrKind.stopsQuery, isStop]

theorem isStop_iff (k : ErrKind) : isStop k = true ↔ (∃ ks, k = .terminated ks) ∨ ∃ s, k = .panic s := by
  cases k <;> simp [isStop]

/-- **a configuration without limits**: no search on a cut configuration — every cut, from every
vertex, on every replay — is stopped by a limit or panics (these are the spur searches of Yen's
algorithm; its first search runs on `c.fwd`, which has no cut) -/
theorem no_limit_never_stopped (c : Config α) (hf : c.fwd.AdjConsistent)
    (hterm : ∀ sz it, c.term.test sz it = .ok ()) (target : Nat) (cut : List Nat) (v : Nat)
    (sched : List Nat) (e : ErrKind)
    (h : runVertexOriented (cutCfg c cut).inst v (some target) sched = .error e) :
    (∀ ks, e ≠ .terminated ks) ∧ (∀ s, e ≠ .panic s) := by
  -- an error is one of the loop's own, the limit function's, or a component's in its own kind
  rcases (cutCfg c cut).error_origin (cutCfg_adj c cut hf) h with
    rfl | rfl | rfl | ⟨_, _, hd, _, _, ht⟩ | hk
  · exact ⟨nofun, nofun⟩
  · exact ⟨nofun, nofun⟩
  · exact ⟨nofun, nofun⟩
  · have : (cutCfg c cut).term.test hd.solSize hd.iters = c.term.test hd.solSize hd.iters := rfl
    rw [this, hterm] at ht
    cases ht
  · exact ⟨hk.ne_terminated, hk.ne_panic⟩

/-! ### configuration -/

theorem tagged_obj {kvs : List (String × Json)} {t : String}
    (h : Json.lookup kvs "type" = some (.str t)) : tagged (.obj kvs) = some (t, .fields kvs) := by
  simp only [tagged, h]

/-! ### concrete configurations over ℚ (non-vacuity and witnesses) -/

namespace Example

/-- distance model in metres, cost = raw distance, Dijkstra (weight factor 0), no limits -/
def mk (nV : Nat) (edges : List (EdgeRec ℚ)) (outAdj inAdj : List (List Nat))
    (frontier : List (FrontierM ℚ)) : Config ℚ where
  nV := nV
  edges := edges
  outAdj := outAdj
  inAdj := inAdj
  feats := [{ name := "distance", kind := .dist .meters, init := 0 }]
  trav := .distance .meters
  access := .noAccess
  cost := { indices := [0], weights := [1], vehicleRates := [.raw], networkRates := [.zero],
            agg := .sum }
  frontier := frontier
  term := .combined []
  reverse := false
  gc := List.replicate nV 0
  wf := some 0

/-- diamond 0 → {1, 2} → 3: edges 0: 0→1 (1), 1: 1→3 (1), 2: 0→2 (2), 3: 2→3 (2) -/
def diamond : Config ℚ :=
  mk 4 [⟨0, 1, 1⟩, ⟨1, 3, 1⟩, ⟨0, 2, 2⟩, ⟨2, 3, 2⟩] [[0, 2], [1], [3], []] [[], [0], [2], [1, 3]] []

/-- decidable observation of a result: the edge-id sequences of the routes -/
def idsOf (r : Except ErrKind (AlgResult ℚ)) : Except ErrKind (List (List Nat)) :=
  match r with
  | .ok res => .ok (res.routes.map (·.map (·.edge)))
  | .error k => .error k

theorem ok_of_idsOf {r : Except ErrKind (AlgResult ℚ)} {l : List (List Nat)}
    (h : idsOf r = .ok l) : ∃ res, r = .ok res ∧ res.routes.map (·.map (·.edge)) = l := by
  cases r with
  | error k => cases h
  | ok res => simp only [idsOf, Except.ok.injEq] at h; exact ⟨res, rfl, h⟩

theorem diamond_adj : diamond.fwd.AdjConsistent ∧ (diamond.rev []).AdjConsistent := by
  constructor
  · exact adjConsistent_of_lists _ (by decide +kernel)
  · exact adjConsistent_of_lists _ (by decide +kernel)

/-- diamond, k = 2, `AcceptAll`: both routes, best first -/
theorem diamond_accept_all :
    idsOf (singleVia diamond (List.replicate 4 0) simAcceptAll .exact 0 3 2 [0, 1, 3] [3, 1, 0] [1, 2]) =
      .ok [[0, 1], [2, 3]] := by
  decide +kernel

/-- a similarity test that is constantly `true` returns one route -/
theorem diamond_reject_all :
    idsOf (singleVia diamond (List.replicate 4 0) (fun _ _ => .ok true) .exact 0 3 2 [0, 1, 3] [3, 1, 0]
      [1, 2]) = .ok [[0, 1]] := by
  decide +kernel

/-- k = 0 drains the queue and returns nothing; k = 1 returns the shortest route without a pop -/
theorem diamond_k0_k1 :
    idsOf (singleVia diamond (List.replicate 4 0) simAcceptAll .exact 0 3 0 [0, 1, 3] [3, 1, 0] [1, 2]) =
      .ok [] ∧
    idsOf (singleVia diamond (List.replicate 4 0) simAcceptAll .exact 0 3 1 [0, 1, 3] [3, 1, 0] []) =
      .ok [[0, 1]] := by
  decide +kernel

/-- 0 -e0→ 1 -e1→ 4 and 0 -e2→ 2 -e3→ 3 -e4→ 4, the turn (e3, e4) is restricted -/
def restrictedTurn : Config ℚ :=
  mk 5 [⟨0, 1, 1⟩, ⟨1, 4, 1⟩, ⟨0, 2, 2⟩, ⟨2, 3, 2⟩, ⟨3, 4, 2⟩]
    [[0, 2], [1], [3], [4], []] [[], [0], [2], [3], [1, 4]] [.turnRestriction [(3, 4)]]

/-- the same network without the short branch: the only route takes the restricted turn -/
def restrictedTurnOnly : Config ℚ :=
  mk 5 [⟨0, 1, 1⟩, ⟨1, 4, 1⟩, ⟨0, 2, 2⟩, ⟨2, 3, 2⟩, ⟨3, 4, 2⟩]
    [[2], [], [3], [4], []] [[], [], [2], [3], [4]] [.turnRestriction [(3, 4)]]

/-- 0 -e0→ 1 -e1→ 2 with the pair (e1, e0) "restricted": no route ever takes e1 before e0 -/
def reversedPair : Config ℚ :=
  mk 3 [⟨0, 1, 1⟩, ⟨1, 2, 1⟩] [[0], [1], []] [[], [0], [1]] [.turnRestriction [(1, 0)]]

/-- the diamond with lengths 1, 1, 3, 5/2, a time feature and a turn-delay table without an entry
for "left" (`Turn` number 4): edge headings 0, 0, 90, 0, so only the turn (e2, e3) is a left turn -/
def missingDelay : Config ℚ where
  nV := 4
  edges := [⟨0, 1, 1⟩, ⟨1, 3, 1⟩, ⟨0, 2, 3⟩, ⟨2, 3, 5 / 2⟩]
  outAdj := [[0, 2], [1], [3], []]
  inAdj := [[], [0], [2], [1, 3]]
  feats := [{ name := "distance", kind := .dist .meters, init := 0 },
            { name := "time", kind := .time .seconds, init := 0 }]
  trav := .distance .meters
  access := .turnDelay .seconds [(0, none), (0, none), (90, none), (0, none)]
    [some 1, some 1, some 1, some 1, none, some 1, some 1, some 1]
  cost := { indices := [0, 1], weights := [1, 0], vehicleRates := [.raw, .zero],
            networkRates := [.zero, .zero], agg := .sum }
  frontier := []
  term := .combined []
  reverse := false
  gc := List.replicate 4 0
  wf := some 0

/-! #### Yen's algorithm on concrete networks (each is a corpus witness of the harness, where the
real code shows the same behaviour; schedules are the ones the implementation took).  Yen's algorithm
searches forwards only, so these networks leave `inAdj` empty: it is never read. -/

/-- decidable observation of a k-shortest-paths outcome -/
inductive Obs where
  | routes (ids : List (List Nat))
  | err (e : ErrKind)
  | diverges (why : String)
  deriving DecidableEq, Repr

def obsOf : KspOutcome ℚ → Obs
  | .ok r => .routes (r.routes.map (·.map (·.edge)))
  | .err e => .err e
  | .diverges why => .diverges why

/-- the state vectors along every returned route -/
def statesOf : KspOutcome ℚ → List (List (List ℚ))
  | .ok r => r.routes.map (·.map (·.state))
  | _ => []

theorem ok_of_obsOf {o : KspOutcome ℚ} {l : List (List Nat)} (h : obsOf o = .routes l) :
    ∃ r, o = .ok r ∧ r.routes.map (·.map (·.edge)) = l := by
  cases o with
  | ok r => simp only [obsOf, Obs.routes.injEq] at h; exact ⟨r, rfl, h⟩
  | err e => cases h
  | diverges w => cases h

/-- "similar" = at least `n` common edges (a stand-in for a cosine threshold over ℚ) -/
def shareAtLeast (n : Nat) : List Nat → List Nat → Except ErrKind Bool :=
  fun a b => .ok (decide (n ≤ (a.filter (fun e => b.contains e)).length))

/-- one-edge shortest route `0 -e0→ 1` (with a detour `0 → 2 → 1`) -/
def oneEdge : Config ℚ :=
  mk 3 [⟨0, 1, 1⟩, ⟨0, 2, 1⟩, ⟨2, 1, 1⟩] [[0, 1], [], [2]] [] []

/-- `0 → 1 → 2 → 3`, nothing else -/
def line3 : Config ℚ :=
  mk 4 [⟨0, 1, 1⟩, ⟨1, 2, 1⟩, ⟨2, 3, 1⟩] [[0], [1], [2], []] [] []

/-- `0 -e0→ 1 -e1→ 2 -e2→ 3` and the alternative `1 -e3→ 4 -e4→ 3` -/
def alt3 (frontier : List (FrontierM ℚ)) : Config ℚ :=
  mk 5 [⟨0, 1, 1⟩, ⟨1, 2, 1⟩, ⟨2, 3, 1⟩, ⟨1, 4, 2⟩, ⟨4, 3, 2⟩] [[0], [1, 3], [2], [], [4]] [] frontier

/-- four-edge route `0 → 1 → 2 → 3 → 4`, alternatives `1 → 5 → 4` (lengths `a`) and `2 → 6 → 4` (`b`) -/
def twoSpurs (a b : ℚ) : Config ℚ :=
  mk 7 [⟨0, 1, 1⟩, ⟨1, 2, 1⟩, ⟨2, 3, 1⟩, ⟨3, 4, 1⟩, ⟨1, 5, a⟩, ⟨5, 4, a⟩, ⟨2, 6, b⟩, ⟨6, 4, b⟩]
    [[0], [1, 4], [2, 6], [3], [], [5], [7]] [] []

/-- `0 → 1 → 2 → 3` and, from 1, back through the origin: `1 -e3→ 0 -e4→ 4 -e5→ 3` -/
def loopy : Config ℚ :=
  mk 5 [⟨0, 1, 1⟩, ⟨1, 2, 1⟩, ⟨2, 3, 1⟩, ⟨1, 0, 1⟩, ⟨0, 4, 2⟩, ⟨4, 3, 2⟩]
    [[0, 4], [1, 3], [2], [], [5]] [] []

/-- S = [e0,e1,e2], [e0,e3,e4,e5], [e0,e6,e7], [e0,e3,e8,e9] between 0 and 9 -/
def fan : Config ℚ :=
  mk 10 [⟨0, 1, 1⟩, ⟨1, 2, 1⟩, ⟨2, 9, 1⟩, ⟨1, 3, 1⟩, ⟨3, 4, 1⟩, ⟨4, 9, 1⟩, ⟨1, 5, 2⟩, ⟨5, 9, 2⟩,
         ⟨3, 6, 9 / 10⟩, ⟨6, 9, 9 / 10⟩]
    [[0], [1, 3, 6], [2], [4, 8], [5], [7], [9], [], [], []] [] []

/-- `0 ⇄ 1` -/
def pair : Config ℚ := mk 2 [⟨0, 1, 1⟩, ⟨1, 0, 1⟩] [[0], [1]] [] []

/-- `0 → 1 → 2 → 3` and the long direct edge `1 -e3→ 3` -/
def shortcut : Config ℚ :=
  mk 4 [⟨0, 1, 1⟩, ⟨1, 2, 1⟩, ⟨2, 3, 1⟩, ⟨1, 3, 5⟩] [[0], [1, 3], [2], []] [] []

theorem yen_k1 : obsOf (yens diamond simAcceptAll .exact 0 3 1 [[0, 1, 3]]) = .routes [[0, 1]] := by
  decide +kernel

theorem yen_state_accumulated :
    obsOf (yens (alt3 []) simAcceptAll .exact 0 3 2 [[0, 1, 2, 4, 3], [1, 4, 3]]) =
      .routes [[0, 1, 2], [0, 3, 4]] ∧
    statesOf (yens (alt3 []) simAcceptAll .exact 0 3 2 [[0, 1, 2, 4, 3], [1, 4, 3]]) =
      [[[1], [2], [3]], [[1], [3], [5]]] := by
  decide +kernel

theorem alt3_adj : (alt3 []).fwd.AdjConsistent := by
  exact adjConsistent_of_lists _ (by decide +kernel)

/-! #### `AcceptAll` against a threshold under Yen's algorithm: NOT monotone -/

/-- `0 -e0→ 1 -e1→ 2 -e2→ 3 -e3→ 4` (lengths 1, 1/10, 2/5, 2/5) with the direct edge `e4 : 1 → 4`
(1) and the detours `2 -e5→ 5 -e6→ 4` (2, 2) and `2 -e7→ 6 -e8→ 4` (3, 3) -/
def net7 : Config ℚ :=
  mk 7 [⟨0, 1, 1⟩, ⟨1, 2, 1/10⟩, ⟨2, 3, 2/5⟩, ⟨3, 4, 2/5⟩, ⟨1, 4, 1⟩, ⟨2, 5, 2⟩, ⟨5, 4, 2⟩,
        ⟨2, 6, 3⟩, ⟨6, 4, 3⟩]
    [[0], [1, 4], [2, 5, 7], [3], [], [6], [8]] [] []

/-- `RouteSimilarityFunction::DistanceWeightedCosineSimilarity { threshold: 0.5 }` on `net7`, decided
without the square root (both sides of `cos ≥ 1/2` are non-negative, so it is
`(Σ_{common} d²)² ≥ 1/4 · Σ_a d² · Σ_b d²`): ℚ has no square root -/
def simCos7 : List Nat → List Nat → Except ErrKind Bool := fun a b =>
  let d : Nat → ℚ := fun e => match net7.edges[e]? with | some er => er.dist | none => 0
  let sq : List Nat → ℚ := fun l => (l.eraseDups.map (fun e => d e * d e)).sum
  let num := ((a.eraseDups.filter (fun e => b.contains e)).map (fun e => d e * d e)).sum
  .ok (decide ((1 / 4 : ℚ) * sq a * sq b ≤ num * num))

/-! #### the C03 stale-link witness seen through the two algorithms -/

/-- the configuration of `C03.staleConfig` (harness `stale_link_witness(false)`): `s=0, w=1, u=2, v=3,
t=4`; edges `e0: s→u` (1000), `e1: s→w`, `e2: w→u`, `e3: u→v`, `e4: v→t` (100 each); A* (weight
factor 1) with great-circle distances far above the edge lengths, so the estimate is inconsistent
for the network; a 2000 s delay on the right turn `(e2, e3)` -/
def stale : Config ℚ where
  nV := 5
  edges := [⟨0, 2, 1000⟩, ⟨0, 1, 100⟩, ⟨1, 2, 100⟩, ⟨2, 3, 100⟩, ⟨3, 4, 100⟩]
  outAdj := [[0, 1], [2], [3], [4], []]
  inAdj := [[], [1], [0, 2], [3], [4]]
  feats := [{ name := "distance", kind := .dist .meters, init := 0 },
            { name := "time", kind := .time .seconds, init := 0 }]
  trav := .distance .meters
  access := .turnDelay .seconds [(90, some 90), (0, some 0), (0, some 0), (90, some 90), (90, some 90)]
    [some 0, some 0, some 0, some 2000, some 0, some 0, some 0, some 0]
  cost := { indices := [0, 1], weights := [1, 1], vehicleRates := [.raw, .raw],
            networkRates := [.zero, .zero], agg := .sum }
  frontier := []
  term := .combined []
  reverse := false
  gc := [7000, 6000, 5000, 5200, 0]
  wf := some 1

/-- (edge, reported state) along every route of a single-via result -/
def svStatesOf (r : Except ErrKind (AlgResult ℚ)) : Option (List (List (Nat × List ℚ))) :=
  match r with
  | .ok res => some (res.routes.map (·.map (fun b => (b.edge, b.state))))
  | .error _ => none

/-- (edge, reported state) along every route of a Yen outcome -/
def yenStatesOf (o : KspOutcome ℚ) : Option (List (List (Nat × List ℚ))) :=
  match o with
  | .ok res => some (res.routes.map (·.map (fun b => (b.edge, b.state))))
  | _ => none

theorem stale_adj : stale.fwd.AdjConsistent ∧ (stale.rev [0, 0, 0, 0, 0]).AdjConsistent := by
  constructor
  · exact adjConsistent_of_lists _ (by decide +kernel)
  · exact adjConsistent_of_lists _ (by decide +kernel)

end Example

end Ksp
end Compass
