/-
Lemmas about the graph loader model (`Compass.Model.Graph`): the association list of an adjacency entry; the
adjacency tables after the fold of the row callback, for arbitrary row lists and for row lists whose ids are their
row numbers; the loader's validation (missing vertices, ids against row numbers, decoding of rows, `readCsv`,
`readTable`, the table lookup); a list partitioned by a key below `n` is a permutation of the list; the accessors of
the assembled graph and what a successful load implies (`LoadedFrom`; the statements `Props/C15.lean` and
`Proofs/SccNet.lean` both build on); `incident_triplet_ids` and the records of one id triplet (`Graph.tripletAt`).
-/
import Mathlib.Data.List.Nodup
import Mathlib.Data.List.Range
import Mathlib.Data.List.Perm.Basic
import Compass.Model.Graph

namespace Compass

/-! ### the association list -/

theorem adjInsert_of_not_mem (k v : Nat) (m : AdjMap) (h : k ∉ adjKeys m) :
    adjInsert k v m = m ++ [(k, v)] := by
  induction m with
  | nil => rfl
  | cons p r ih =>
    obtain ⟨k', v'⟩ := p
    rw [adjKeys, List.map_cons, List.mem_cons, not_or] at h
    rw [adjInsert, if_neg fun e => h.1 e.symm, ih h.2]
    rfl

theorem adjKeys_adjInsert_of_mem (k v : Nat) (m : AdjMap) (h : k ∈ adjKeys m) :
    adjKeys (adjInsert k v m) = adjKeys m := by
  induction m with
  | nil => cases h
  | cons p r ih =>
    obtain ⟨k', v'⟩ := p
    rw [adjInsert]
    split
    · next hk => rw [hk]; rfl
    · next hk =>
      rw [adjKeys, List.map_cons, List.mem_cons] at h
      exact congrArg (k' :: ·) (ih (h.resolve_left fun e => hk e.symm))

theorem adjKeys_adjInsert (k v : Nat) (m : AdjMap) :
    adjKeys (adjInsert k v m) = if k ∈ adjKeys m then adjKeys m else adjKeys m ++ [k] := by
  split
  · next h => exact adjKeys_adjInsert_of_mem k v m h
  · next h => rw [adjInsert_of_not_mem k v m h, adjKeys, List.map_append]; rfl

/-! ### `modifyAt` -/

theorem modifyAt_eq_modify {β : Type} (f : β → β) (i : Nat) (l : List β) : modifyAt f i l = l.modify i f := by
  induction l generalizing i with
  | nil => cases i <;> rfl
  | cons x xs ih =>
    cases i with
    | zero => rfl
    | succ n => exact congrArg (x :: ·) (ih n)

/-! ### the fold of the row callback

The callback treats the two tables alike: `adj` is updated at `src` with `edge_id ↦ dst`, `rev` at `dst`
with `edge_id ↦ src`.  The lemmas are stated once, for a table `F` of the loader state that a step
updates at `key e` with `edge_id ↦ val e`. -/

section
variable {α : Type}

/-- what the callback does to the entry of vertex `v` over a list of rows -/
def adjFold (key val : Edge α → Nat) (v : Nat) : List (Edge α) → AdjMap → AdjMap
  | [], m => m
  | e :: es, m => adjFold key val v es (if key e = v then adjInsert e.edgeId (val e) m else m)

/-- the forward instance (it has a name because an `example` of C15 evaluates it) -/
def outFold (v : Nat) : List (Edge α) → AdjMap → AdjMap := adjFold Edge.src Edge.dst v

/-- an endpoint outside the table leaves the table as it is, and so does `modifyAt` -/
theorem step_adj (st : EdgeLoad) (e : Edge α) :
    (st.step e).adj = modifyAt (adjInsert e.edgeId e.dst) e.src st.adj := by
  unfold EdgeLoad.step
  by_cases h1 : e.src < st.adj.length
  · rw [if_pos h1]; dsimp only; split <;> rfl
  · rw [if_neg h1, modifyAt_eq_modify, List.modify_eq_self (Nat.le_of_not_lt h1)]; dsimp only; split <;> rfl

theorem step_rev (st : EdgeLoad) (e : Edge α) :
    (st.step e).rev = modifyAt (adjInsert e.edgeId e.src) e.dst st.rev := by
  unfold EdgeLoad.step
  have h0 : ∀ st1 : EdgeLoad, st1.rev = st.rev →
      (if e.dst < st1.rev.length then { st1 with rev := modifyAt (adjInsert e.edgeId e.src) e.dst st1.rev }
        else { st1 with missing := st1.missing ++ [e.dst] }).rev =
      modifyAt (adjInsert e.edgeId e.src) e.dst st.rev := by
    intro st1 h1
    by_cases h2 : e.dst < st1.rev.length
    · rw [if_pos h2, ← h1]
    · rw [if_neg h2, modifyAt_eq_modify, List.modify_eq_self (h1 ▸ Nat.le_of_not_lt h2)]; exact h1
  exact h0 _ (by split <;> rfl)

section
variable (F : EdgeLoad → List AdjMap) (key val : Edge α → Nat)
  (hF : ∀ (st : EdgeLoad) (e : Edge α), F (st.step e) = modifyAt (adjInsert e.edgeId (val e)) (key e) (F st))
include hF

theorem foldl_step_get (es : List (Edge α)) (st : EdgeLoad) (v : Nat) :
    (F (es.foldl EdgeLoad.step st))[v]? = ((F st)[v]?).map (adjFold key val v es) := by
  induction es generalizing st with
  | nil => rw [List.foldl_nil]; cases (F st)[v]? <;> rfl
  | cons e es ih =>
    rw [List.foldl_cons, ih, hF, modifyAt_eq_modify, List.getElem?_modify]
    cases (F st)[v]? <;> rfl

theorem foldl_step_length (es : List (Edge α)) (st : EdgeLoad) :
    (F (es.foldl EdgeLoad.step st)).length = (F st).length := by
  induction es generalizing st with
  | nil => rfl
  | cons e es ih => rw [List.foldl_cons, ih, hF, modifyAt_eq_modify, List.length_modify]

/-- a table that starts empty: a vertex at or beyond the declared count has no entry, and the rows at it
are silently ignored -/
theorem getElem?_loadEdges (hinit : ∀ n, F (EdgeLoad.init n) = List.replicate n []) (es : List (Edge α))
    (nV v : Nat) :
    (F (loadEdges es nV))[v]? = if v < nV then some (adjFold key val v es []) else none := by
  rw [loadEdges, foldl_step_get F key val hF, hinit, List.getElem?_replicate]
  split <;> rfl

/-- the same read the way `out_edges` / `in_edges` read a table: no entry means no edges -/
theorem keys_loadEdges (hinit : ∀ n, F (EdgeLoad.init n) = List.replicate n []) (es : List (Edge α)) (nV v : Nat) :
    (match (F (loadEdges es nV))[v]? with
      | none => []
      | some m => adjKeys m) = if v < nV then adjKeys (adjFold key val v es []) else [] := by
  rw [getElem?_loadEdges F key val hF hinit]
  by_cases h : v < nV
  · rw [if_pos h, if_pos h]
  · rw [if_neg h, if_neg h]

end

theorem adjFold_of_nodup (key val : Edge α → Nat) (v : Nat) (es : List (Edge α)) (m : AdjMap)
    (h : (adjKeys m ++ (es.filter (fun e => key e = v)).map Edge.edgeId).Nodup) :
    adjFold key val v es m = m ++ (es.filter (fun e => key e = v)).map (fun e => (e.edgeId, val e)) := by
  induction es generalizing m with
  | nil => exact (List.append_nil m).symm
  | cons e es ih =>
    rw [adjFold, List.filter_cons] at *
    by_cases hs : key e = v
    · rw [if_pos hs]
      rw [if_pos (decide_eq_true hs), List.map_cons] at h ⊢
      have hk : e.edgeId ∉ adjKeys m := fun hm => List.disjoint_of_nodup_append h hm List.mem_cons_self
      rw [adjInsert_of_not_mem _ _ _ hk, ih, List.append_assoc]
      · rfl
      · rw [adjKeys, List.map_append, List.append_assoc]; exact h
    · rw [if_neg hs]
      rw [if_neg (by rw [decide_eq_true_eq]; exact hs)] at h ⊢
      exact ih m h

/-! ### row lists whose ids are their row numbers -/

/-- every edge id is the number of its row (the documented input format) -/
def RowIds (es : List (Edge α)) : Prop := ∀ i (h : i < es.length), (es[i]'h).edgeId = i

def EndpointsBelow (es : List (Edge α)) (n : Nat) : Prop := ∀ e ∈ es, e.src < n ∧ e.dst < n

theorem RowIds.map_eq_range {es : List (Edge α)} (h : RowIds es) :
    es.map Edge.edgeId = List.range es.length := by
  apply List.ext_getElem
  · simp
  · intro i h1 h2
    simp only [List.getElem_map, List.getElem_range]
    exact h i (by simpa using h1)

theorem RowIds.nodup_filter {es : List (Edge α)} (h : RowIds es) (p : Edge α → Bool) :
    ((es.filter p).map Edge.edgeId).Nodup := by
  have hs : ((es.filter p).map Edge.edgeId).Sublist (es.map Edge.edgeId) :=
    (List.filter_sublist).map _
  rw [h.map_eq_range] at hs
  exact List.Nodup.sublist hs List.nodup_range

/-- ids that are row numbers are never inserted twice, so the entry of `v` lists the rows with `key e = v` in file order -/
theorem RowIds.adjKeys_adjFold {es : List (Edge α)} (h : RowIds es) (key val : Edge α → Nat) (v : Nat) :
    adjKeys (adjFold key val v es []) = (es.filter (fun e => key e = v)).map Edge.edgeId := by
  rw [adjFold_of_nodup key val v es [] (h.nodup_filter _)]
  exact List.map_map

/-- no row has its key at or beyond a bound on the keys -/
theorem filter_key_eq_nil {es : List (Edge α)} {key : Edge α → Nat} {nV v : Nat} (hb : ∀ e ∈ es, key e < nV)
    (hv : ¬ v < nV) : es.filter (fun e => key e = v) = [] := by
  rw [List.filter_eq_nil_iff]
  intro e he hs
  rw [decide_eq_true_eq] at hs
  exact hv (hs ▸ hb e he)

/-- a table of the loader over rows whose ids are row numbers and whose keys are inside it -/
theorem RowIds.keys_loadEdges {es : List (Edge α)} (h : RowIds es) (F : EdgeLoad → List AdjMap) (key val : Edge α → Nat)
    (hF : ∀ (st : EdgeLoad) (e : Edge α), F (st.step e) = modifyAt (adjInsert e.edgeId (val e)) (key e) (F st))
    (hinit : ∀ n, F (EdgeLoad.init n) = List.replicate n []) (nV : Nat) (hb : ∀ e ∈ es, key e < nV) (v : Nat) :
    (match (F (loadEdges es nV))[v]? with
      | none => []
      | some m => adjKeys m) = (es.filter (fun e => key e = v)).map Edge.edgeId := by
  rw [Compass.keys_loadEdges F key val hF hinit]
  split
  · exact h.adjKeys_adjFold key val v
  · next hv => rw [filter_key_eq_nil hb hv]; rfl

theorem RowIds.mem_iff {es : List (Edge α)} (h : RowIds es) (e : Edge α) :
    e ∈ es ↔ ∃ hi : e.edgeId < es.length, es[e.edgeId]'hi = e := by
  constructor
  · intro hm
    obtain ⟨i, hi, he⟩ := List.mem_iff_getElem.1 hm
    have := h i hi
    rw [he] at this
    subst this
    exact ⟨hi, he⟩
  · rintro ⟨hi, he⟩
    exact he ▸ List.getElem_mem hi

theorem RowIds.mem_filter_map {es : List (Edge α)} (h : RowIds es) (p : Edge α → Bool) (x : Nat) :
    x ∈ (es.filter p).map Edge.edgeId ↔ ∃ hx : x < es.length, p es[x] = true := by
  rw [List.mem_map]
  constructor
  · rintro ⟨e, he, rfl⟩
    obtain ⟨he, hp⟩ := List.mem_filter.1 he
    obtain ⟨hi, hx⟩ := (h.mem_iff e).1 he
    exact ⟨hi, by rw [hx]; exact hp⟩
  · rintro ⟨hx, hp⟩
    exact ⟨es[x], List.mem_filter.2 ⟨List.getElem_mem hx, hp⟩, h x hx⟩

/-! ### the loader's validation: missing vertices, ids against rows, decoding -/

def VertexRowIds (vs : List (Vertex α)) : Prop := ∀ i (h : i < vs.length), (vs[i]'h).vertexId = i

/-- the `missing_vertices` set of the row callback stays empty exactly when it was empty and both end points are
inside the tables -/
theorem step_missing_eq_nil (st : EdgeLoad) (e : Edge α) :
    (st.step e).missing = [] ↔ st.missing = [] ∧ e.src < st.adj.length ∧ e.dst < st.rev.length := by
  unfold EdgeLoad.step
  by_cases h1 : e.src < st.adj.length <;> by_cases h2 : e.dst < st.rev.length <;> simp [h1, h2]

theorem foldl_step_missing_eq_nil (es : List (Edge α)) (st : EdgeLoad) :
    (es.foldl EdgeLoad.step st).missing = [] ↔
      st.missing = [] ∧ ∀ e ∈ es, e.src < st.adj.length ∧ e.dst < st.rev.length := by
  induction es generalizing st with
  | nil => simp
  | cons e es ih =>
    rw [List.foldl_cons, ih, step_missing_eq_nil, step_adj, step_rev]
    simp [modifyAt_eq_modify, and_assoc]

theorem missingVertices_eq_nil_iff (es : List (Edge α)) (nV : Nat) :
    missingVertices es nV = [] ↔ EndpointsBelow es nV := by
  rw [missingVertices, loadEdges, foldl_step_missing_eq_nil]
  simp [EdgeLoad.init, EndpointsBelow]

theorem idsAreRowsFrom_iff (k : Nat) (l : List Nat) :
    idsAreRowsFrom k l = true ↔ ∀ i (h : i < l.length), l[i]'h = k + i := by
  induction l generalizing k with
  | nil => exact ⟨fun _ i h => absurd h (Nat.not_lt_zero i), fun _ => rfl⟩
  | cons x r ih =>
    rw [idsAreRowsFrom, Bool.and_eq_true, beq_iff_eq, ih]
    constructor
    · rintro ⟨rfl, hr⟩ i hi
      cases i with
      | zero => rfl
      | succ j => exact (hr j (Nat.lt_of_succ_lt_succ hi)).trans (by omega)
    · intro h
      exact ⟨h 0 (Nat.zero_lt_succ _), fun i hi => (h (i + 1) (Nat.succ_lt_succ hi)).trans (by omega)⟩

/-- the loader's check on a list of records with an id field; at `Edge.edgeId` the right side is `RowIds`, at
`Vertex.vertexId` it is `VertexRowIds` -/
theorem idsAreRows_map_iff {β : Type} (id : β → Nat) (l : List β) :
    idsAreRows (l.map id) = true ↔ ∀ i (h : i < l.length), id (l[i]'h) = i := by
  simp only [idsAreRows, idsAreRowsFrom_iff, List.length_map, List.getElem_map, Nat.zero_add]

theorem endpointsWithin_iff (es : List (Edge α)) (n : Nat) :
    endpointsWithin es n = true ↔ EndpointsBelow es n := by
  simp [endpointsWithin, EndpointsBelow, List.all_eq_true]

theorem map_ok_inj {ρ : Type} {a b : List ρ} (h : a.map Row.ok = b.map Row.ok) : a = b :=
  List.map_injective_iff.2 (fun _ _ h => Row.ok.inj h) h

theorem rows_of_decodeRows_ok {ρ : Type} (rows : List (Row ρ)) (l : List ρ) (h : decodeRows rows = .ok l) :
    rows = l.map Row.ok := by
  induction rows generalizing l with
  | nil => cases h; rfl
  | cons r rest ih =>
    cases r with
    | bad => cases h
    | ok x =>
      rw [decodeRows] at h
      cases hd : decodeRows rest with
      | error e => rw [hd] at h; cases h
      | ok l' => rw [hd] at h; cases h; exact congrArg (Row.ok x :: ·) (ih l' hd)

theorem decodeRows_ok {ρ : Type} (l : List ρ) : decodeRows (l.map Row.ok) = .ok l := by
  induction l with
  | nil => rfl
  | cons x xs ih => rw [List.map_cons, decodeRows, ih]

theorem decodeRows_bad {ρ : Type} (a : List ρ) (b : List (Row ρ)) :
    decodeRows (a.map Row.ok ++ Row.bad :: b) = .error .csv := by
  induction a with
  | nil => rfl
  | cons x xs ih => rw [List.map_cons, List.cons_append, decodeRows, ih]

theorem rows_of_readTable_ok {ρ : Type} {rows : List (Row ρ)} {t : List ρ} (h : readTable true rows = .ok t) :
    rows = t.map Row.ok := by
  unfold readTable at h
  cases hx : decodeRows rows with
  | error e => rw [hx] at h; cases h
  | ok l => rw [hx] at h; cases h; exact rows_of_decodeRows_ok rows _ hx

/-- the consumers' lookup succeeds exactly inside the table -/
theorem tableGet_ok_iff {β : Type} (t : List β) (e : Nat) : (∃ x, tableGet t e = .ok x) ↔ e < t.length := by
  unfold tableGet tableRow
  constructor
  · rintro ⟨x, hx⟩
    cases hk : t[e]? with
    | none => simp [hk] at hx
    | some y => exact (List.getElem?_eq_some_iff.1 hk).1
  · intro h
    exact ⟨t[e], by simp [List.getElem?_eq_getElem h]⟩

theorem tableGet_of_length_le {β : Type} {t : List β} {e : Nat} (h : t.length ≤ e) :
    tableGet t e = .error (.missing e) := by
  simp [tableGet, tableRow, List.getElem?_eq_none h]

theorem callbackCount_map_ok_append {ρ : Type} (a : List ρ) (r : List (Row ρ)) :
    callbackCount (a.map Row.ok ++ r) = a.length + callbackCount r := by
  induction a with
  | nil => rw [List.map_nil, List.nil_append, List.length_nil, Nat.zero_add]
  | cons x xs ih => rw [List.map_cons, List.cons_append, callbackCount, ih, List.length_cons, Nat.add_right_comm]

theorem readCsv_ok_iff {ρ : Type} (f : CsvFile ρ) (l : List ρ) :
    readCsv f = .ok l ↔ f.present = true ∧ f.hasHeader = true ∧ f.rows = l.map Row.ok := by
  unfold readCsv
  cases f.present with
  | false => exact ⟨fun h => (by cases h), fun h => (by cases h.1)⟩
  | true =>
    cases f.hasHeader with
    | false => exact ⟨fun h => (by cases h), fun h => (by cases h.2.1)⟩
    | true => exact ⟨fun h => ⟨rfl, rfl, rows_of_decodeRows_ok _ _ h⟩, fun h => h.2.2 ▸ decodeRows_ok l⟩

end

/-! ### a list partitioned by a key is a permutation of the list -/

theorem flatMap_filter_perm {β : Type} (f : β → Nat) (l : List β) (n : Nat) (h : ∀ x ∈ l, f x < n) :
    ((List.range n).flatMap (fun v => l.filter (fun x => decide (f x = v)))).Perm l := by
  -- the keys `< m + 1` are the keys `< m` followed by the keys `= m`
  have step : ∀ m, (l.filter (fun x => decide (f x < m)) ++ l.filter (fun x => decide (f x = m))).Perm
      (l.filter (fun x => decide (f x < m + 1))) := by
    intro m
    refine (List.Perm.of_eq ?_).trans (List.filter_append_perm (fun x => decide (f x < m)) _)
    rw [List.filter_filter, List.filter_filter]
    congr 1
    · -- below `m + 1` and below `m`: below `m`
      exact List.filter_congr fun x _ => Bool.eq_iff_iff.2 (by simp; omega)
    · -- below `m + 1` and not below `m`: equal to `m`
      exact List.filter_congr fun x _ => Bool.eq_iff_iff.2 (by simp; omega)
  have hlt : ∀ m, ((List.range m).flatMap (fun v => l.filter (fun x => decide (f x = v)))).Perm
      (l.filter (fun x => decide (f x < m))) := by
    intro m
    induction m with
    | zero => simp
    | succ m ih =>
      rw [List.range_succ, List.flatMap_append, List.flatMap_singleton]
      exact (List.Perm.append_right _ ih).trans (step m)
  have := hlt n
  rwa [List.filter_eq_self.2 (by intro x hx; simpa using h x hx)] at this

theorem RowIds.flatMap_filter_perm {α : Type} {es : List (Edge α)} (h : RowIds es) (key : Edge α → Nat) (n : Nat)
    (hb : ∀ e ∈ es, key e < n) :
    ((List.range n).flatMap fun v => (es.filter (fun e => key e = v)).map Edge.edgeId).Perm
      (List.range es.length) := by
  rw [← List.map_flatMap, ← h.map_eq_range]
  exact (Compass.flatMap_filter_perm key es n hb).map _

/-! ### the assembled graph: records by position, adjacency of listed rows, what a successful load implies -/

section
variable {α : Type}

/-- `get_edge i` is row `i` of the edge file, whatever id that row carries (it gains content only together with
`RowIds`: `get_edge_by_id`).  This and the next lemma are `Graph.getEdge` / `Graph.getVertex` at `buildGraph` with the
lookup spelled `es[i]?` / `vs[i]?`, the shape `rw` and `simp` need there. -/
theorem get_edge_general (es : List (Edge α)) (vs : List (Vertex α)) (nV i : Nat) :
    (buildGraph es vs nV).getEdge i =
      match es[i]? with
      | some e => .ok e
      | none => .error (.edgeNotFound i) := by
  unfold Graph.getEdge buildGraph
  dsimp only
  cases es[i]? <;> rfl

theorem get_vertex_general (es : List (Edge α)) (vs : List (Vertex α)) (nV i : Nat) :
    (buildGraph es vs nV).getVertex i =
      match vs[i]? with
      | some v => .ok v
      | none => .error (.vertexNotFound i) := by
  unfold Graph.getVertex buildGraph
  dsimp only
  cases vs[i]? <;> rfl

/-- every input: the forward entry of `v` is the callback's fold over the rows leaving `v`; the rows leaving a vertex
at or beyond the declared count are silently ignored -/
theorem out_edges_general (es : List (Edge α)) (vs : List (Vertex α)) (nV v : Nat) :
    (buildGraph es vs nV).outEdges v = if v < nV then adjKeys (outFold v es []) else [] :=
  keys_loadEdges EdgeLoad.adj Edge.src Edge.dst step_adj (fun _ => rfl) es nV v

theorem in_edges_general (es : List (Edge α)) (vs : List (Vertex α)) (nV v : Nat) :
    (buildGraph es vs nV).inEdges v = if v < nV then adjKeys (adjFold Edge.dst Edge.src v es []) else [] :=
  keys_loadEdges EdgeLoad.rev Edge.dst Edge.src step_rev (fun _ => rfl) es nV v

theorem get_edge_by_id (es : List (Edge α)) (vs : List (Vertex α)) (nV : Nat) (h : RowIds es)
    (e : Edge α) (he : e ∈ es) : (buildGraph es vs nV).getEdge e.edgeId = .ok e := by
  obtain ⟨hi, hx⟩ := (h.mem_iff e).1 he
  rw [get_edge_general, List.getElem?_eq_getElem hi, hx]

/-- the outgoing edges of `v` are precisely the listed edges that leave it, in file order, however
many there are; `nV` may be any count that covers the endpoints (declared, or scanned and therefore
possibly larger than the number of vertex rows) -/
theorem out_edges_eq (es : List (Edge α)) (vs : List (Vertex α)) (nV : Nat) (h : RowIds es)
    (hb : EndpointsBelow es nV) (v : Nat) :
    (buildGraph es vs nV).outEdges v = (es.filter (fun e => e.src = v)).map Edge.edgeId :=
  h.keys_loadEdges EdgeLoad.adj Edge.src Edge.dst step_adj (fun _ => rfl) nV (fun e he => (hb e he).1) v

theorem in_edges_eq (es : List (Edge α)) (vs : List (Vertex α)) (nV : Nat) (h : RowIds es)
    (hb : EndpointsBelow es nV) (v : Nat) :
    (buildGraph es vs nV).inEdges v = (es.filter (fun e => e.dst = v)).map Edge.edgeId :=
  h.keys_loadEdges EdgeLoad.rev Edge.dst Edge.src step_rev (fun _ => rfl) nV (fun e he => (hb e he).2) v

theorem mem_out_edges_iff (es : List (Edge α)) (vs : List (Vertex α)) (nV : Nat) (h : RowIds es)
    (hb : EndpointsBelow es nV) (v x : Nat) :
    x ∈ (buildGraph es vs nV).outEdges v ↔ ∃ hx : x < es.length, es[x].src = v := by
  rw [out_edges_eq es vs nV h hb, h.mem_filter_map]
  simp only [decide_eq_true_eq]

theorem mem_in_edges_iff (es : List (Edge α)) (vs : List (Vertex α)) (nV : Nat) (h : RowIds es)
    (hb : EndpointsBelow es nV) (v x : Nat) :
    x ∈ (buildGraph es vs nV).inEdges v ↔ ∃ hx : x < es.length, es[x].dst = v := by
  rw [in_edges_eq es vs nV h hb, h.mem_filter_map]
  simp only [decide_eq_true_eq]

theorem edge_triplet_eq (es : List (Edge α)) (vs : List (Vertex α)) (nV : Nat) (h : RowIds es)
    (hb : EndpointsBelow es vs.length) (e : Edge α) (he : e ∈ es) :
    (buildGraph es vs nV).edgeTriplet e.edgeId =
      .ok (vs[e.src]'(hb e he).1, e, vs[e.dst]'(hb e he).2) := by
  simp only [Graph.edgeTriplet, get_edge_by_id es vs nV h e he, get_vertex_general,
    List.getElem?_eq_getElem (hb e he).1, List.getElem?_eq_getElem (hb e he).2]

/-- the one inversion of the cascade of `graphFromFiles`.  Note the two endpoint checks: below the vertex count in
force (which sizes the tables) AND below the number of vertex rows. -/
theorem graphFromFiles_ok_iff (ef : CsvFile (Edge α)) (vf : CsvFile (Vertex α)) (nE nV : Option Nat) (g : Graph α) :
    graphFromFiles ef vf nE nV = .ok g ↔
      ∃ es vs n, (∃ k, countOrScan nE ef = .ok k) ∧ countOrScan nV vf = .ok n ∧ readCsv ef = .ok es ∧
        readCsv vf = .ok vs ∧ RowIds es ∧ VertexRowIds vs ∧ EndpointsBelow es n ∧ EndpointsBelow es vs.length ∧
        g = buildGraph es vs n := by
  unfold graphFromFiles
  constructor
  · intro h
    cases h1 : countOrScan nE ef with
    | error x => rw [h1] at h; cases h
    | ok k =>
      cases h2 : countOrScan nV vf with
      | error x => rw [h1, h2] at h; cases h
      | ok n =>
        cases h3 : readCsv ef with
        | error x => rw [h1, h2, h3] at h; cases h
        | ok es =>
          rw [h1, h2, h3] at h
          dsimp only at h
          cases h4 : (missingVertices es n).isEmpty with
          | false => rw [h4] at h; cases h
          | true =>
            cases h5 : readCsv vf with
            | error x => rw [h4, h5] at h; cases h
            | ok vs =>
              rw [h4, h5] at h
              dsimp only at h
              cases h6 : idsAreRows (es.map Edge.edgeId) with
              | false => rw [h6] at h; cases h
              | true =>
                cases h7 : idsAreRows (vs.map Vertex.vertexId) with
                | false => rw [h6, h7] at h; cases h
                | true =>
                  cases h8 : endpointsWithin es vs.length with
                  | false => rw [h6, h7, h8] at h; cases h
                  | true =>
                    rw [h6, h7, h8] at h
                    cases h
                    exact ⟨es, vs, n, ⟨k, rfl⟩, rfl, rfl, rfl, (idsAreRows_map_iff Edge.edgeId es).1 h6,
                      (idsAreRows_map_iff Vertex.vertexId vs).1 h7,
                      (missingVertices_eq_nil_iff es n).1 (List.isEmpty_iff.1 h4), (endpointsWithin_iff _ _).1 h8, rfl⟩
  · rintro ⟨es, vs, n, ⟨k, h1⟩, h2, h3, h5, hr, hvr, hb, hb', rfl⟩
    rw [h1, h2, h3]
    dsimp only
    rw [List.isEmpty_iff.2 ((missingVertices_eq_nil_iff es n).2 hb), h5]
    dsimp only
    rw [(idsAreRows_map_iff Edge.edgeId es).2 hr, (idsAreRows_map_iff Vertex.vertexId vs).2 hvr, (endpointsWithin_iff es vs.length).2 hb']
    rfl

/-- what a successful load says of the two files and the counts: the rows `es`, `vs` the files decode to and the vertex
count `n` in force -/
structure LoadedFrom (ef : CsvFile (Edge α)) (vf : CsvFile (Vertex α)) (nE nV : Option Nat)
    (es : List (Edge α)) (vs : List (Vertex α)) (n : Nat) : Prop where
  edgesPresent : ef.present = true
  verticesPresent : vf.present = true
  edgeHeader : ef.hasHeader = true
  vertexHeader : vf.hasHeader = true
  edgeRows : ef.rows = es.map Row.ok
  vertexRows : vf.rows = vs.map Row.ok
  edgeCount : ∃ k, countOrScan nE ef = .ok k
  count : countOrScan nV vf = .ok n
  rowIds : RowIds es
  vertexRowIds : VertexRowIds vs
  below : EndpointsBelow es n
  belowRows : EndpointsBelow es vs.length

/-- `graphFromFiles_ok_iff` read forwards, with `readCsv_ok_iff` put in -/
theorem from_files_ok_inv (ef : CsvFile (Edge α)) (vf : CsvFile (Vertex α)) (nE nV : Option Nat)
    (g : Graph α) (hg : graphFromFiles ef vf nE nV = .ok g) :
    ∃ es vs n, g = buildGraph es vs n ∧ LoadedFrom ef vf nE nV es vs n := by
  obtain ⟨es, vs, n, hk, hn, he, hv, hr, hvr, hb, hb', hgr⟩ := (graphFromFiles_ok_iff _ _ _ _ _).1 hg
  obtain ⟨pe, he1, he⟩ := (readCsv_ok_iff _ _).1 he
  obtain ⟨pv, hv1, hv⟩ := (readCsv_ok_iff _ _).1 hv
  exact ⟨es, vs, n, hgr, pe, pv, he1, hv1, he, hv, hk, hn, hr, hvr, hb, hb'⟩

end

/-! ### `incident_triplet_ids`: every graph value, and the assembled graph -/

section
variable {α : Type}

theorem incidentVertex_ok_iff (g : Graph α) (e : Nat) (d : Direction) :
    (∃ t, g.incidentVertex e d = .ok t) ↔ e < g.edges.length := by
  have hlt : e < g.edges.length ↔ g.edges[e]?.isSome := by
    rw [Option.isSome_iff_exists]; exact ⟨fun h => ⟨_, List.getElem?_eq_getElem h⟩, fun ⟨_, h⟩ => (List.getElem?_eq_some_iff.1 h).1⟩
  rw [hlt]
  cases d
  · rw [Graph.incidentVertex, Graph.dstVertexId, Graph.getEdge]; cases g.edges[e]? <;> simp
  · rw [Graph.incidentVertex, Graph.srcVertexId, Graph.getEdge]; cases g.edges[e]? <;> simp

theorem tripletIdsGo_cons_ok (g : Graph α) (v : Nat) (d : Direction) (e : Nat) (r : List Nat)
    (l : List (Nat × Nat × Nat)) :
    Graph.tripletIdsGo g v d (e :: r) = .ok l ↔
      ∃ t l', g.incidentVertex e d = .ok t ∧ Graph.tripletIdsGo g v d r = .ok l' ∧ l = (v, e, t) :: l' := by
  rw [Graph.tripletIdsGo]
  cases g.incidentVertex e d with
  | error x => exact ⟨fun h => (by cases h), fun ⟨_, _, h, _⟩ => (by cases h)⟩
  | ok t =>
    cases Graph.tripletIdsGo g v d r with
    | error x => exact ⟨fun h => (by cases h), fun ⟨_, _, _, h, _⟩ => (by cases h)⟩
    | ok l' =>
      constructor
      · intro h; cases h; exact ⟨t, l', rfl, rfl, rfl⟩
      · rintro ⟨_, _, h1, h2, rfl⟩; cases h1; cases h2; rfl

theorem tripletIdsGo_ok_iff (g : Graph α) (v : Nat) (d : Direction) (l : List Nat) :
    (∃ r, Graph.tripletIdsGo g v d l = .ok r) ↔ ∀ e ∈ l, e < g.edges.length := by
  induction l with
  | nil => exact ⟨fun _ e he => (nomatch he), fun _ => ⟨[], rfl⟩⟩
  | cons e r ih =>
    constructor
    · rintro ⟨res, hres⟩ x hx
      obtain ⟨t, l', h1, h2, _⟩ := (tripletIdsGo_cons_ok g v d e r res).1 hres
      rcases List.mem_cons.1 hx with rfl | hx
      · exact (incidentVertex_ok_iff g x d).1 ⟨t, h1⟩
      · exact ih.1 ⟨l', h2⟩ x hx
    · intro h
      obtain ⟨t, ht⟩ := (incidentVertex_ok_iff g e d).2 (h e List.mem_cons_self)
      obtain ⟨l', hl'⟩ := ih.2 fun x hx => h x (List.mem_cons_of_mem _ hx)
      exact ⟨_, (tripletIdsGo_cons_ok g v d e r _).2 ⟨t, l', ht, hl', rfl⟩⟩

theorem tripletIdsGo_ok_edges (g : Graph α) (v : Nat) (d : Direction) (es : List Nat)
    (l : List (Nat × Nat × Nat)) (h : Graph.tripletIdsGo g v d es = .ok l) :
    l.map (fun t => t.2.1) = es := by
  induction es generalizing l with
  | nil => cases h; rfl
  | cons e r ih =>
    obtain ⟨t, l', _, h2, rfl⟩ := (tripletIdsGo_cons_ok g v d e r l).1 h
    exact congrArg (e :: ·) (ih l' h2)

/-- every id triplet `incident_triplet_ids` returns names an edge record that exists: it was just read to find the far
end -/
theorem getEdge_of_incidentTripletIds (g : Graph α) (v : Nat) (d : Direction) (l : List (Nat × Nat × Nat))
    (h : g.incidentTripletIds v d = .ok l) : ∀ t ∈ l, ∃ ed, g.getEdge t.2.1 = .ok ed := by
  intro t ht
  have hall := (tripletIdsGo_ok_iff g v d (g.incidentEdges v d)).1 ⟨l, h⟩
  have hmap := tripletIdsGo_ok_edges g v d _ l h
  have : t.2.1 ∈ g.incidentEdges v d := by rw [← hmap]; exact List.mem_map.2 ⟨t, ht, rfl⟩
  have hlt := hall _ this
  exact ⟨g.edges[t.2.1], by rw [Graph.getEdge, List.getElem?_eq_getElem hlt]⟩

theorem tripletIdsGo_listed (es : List (Edge α)) (vs : List (Vertex α)) (nV : Nat) (h : RowIds es)
    (v : Nat) (d : Direction) (l : List (Edge α)) (hl : ∀ e ∈ l, e ∈ es) :
    Graph.tripletIdsGo (buildGraph es vs nV) v d (l.map Edge.edgeId) =
      .ok (l.map (fun e => (v, e.edgeId, match d with | .forward => e.dst | .reverse => e.src))) := by
  induction l with
  | nil => rfl
  | cons e l ih =>
    have he := get_edge_by_id es vs nV h e (hl e List.mem_cons_self)
    have ih' := ih fun x hx => hl x (List.mem_cons_of_mem _ hx)
    cases d <;>
      simp only [List.map_cons, Graph.tripletIdsGo, Graph.incidentVertex, Graph.dstVertexId, Graph.srcVertexId, he, ih']

/-- `incident_triplet_ids`: for each listed edge at `v` in the direction of travel, (v, edge, far end) -/
theorem incident_triplet_ids_eq (es : List (Edge α)) (vs : List (Vertex α)) (nV : Nat) (h : RowIds es)
    (hb : EndpointsBelow es nV) (v : Nat) :
    (buildGraph es vs nV).incidentTripletIds v .forward =
      .ok ((es.filter (fun e => e.src = v)).map (fun e => (v, e.edgeId, e.dst))) ∧
    (buildGraph es vs nV).incidentTripletIds v .reverse =
      .ok ((es.filter (fun e => e.dst = v)).map (fun e => (v, e.edgeId, e.src))) := by
  constructor
  · simp only [Graph.incidentTripletIds, Graph.incidentEdges, out_edges_eq es vs nV h hb]
    exact tripletIdsGo_listed es vs nV h v .forward _ (fun e he => (List.mem_filter.1 he).1)
  · simp only [Graph.incidentTripletIds, Graph.incidentEdges, in_edges_eq es vs nV h hb]
    exact tripletIdsGo_listed es vs nV h v .reverse _ (fun e he => (List.mem_filter.1 he).1)

end

/-! ### `incident_triplet_attributes`: the records of one id triplet, and the `collect` over them -/

namespace Graph
variable {α : Type}

/-- the three records one id triplet names, or the error of the first position that does not exist -/
def tripletAt (g : Graph α) (t : Nat × Nat × Nat) : Except NetErr (Vertex α × Edge α × Vertex α) :=
  match g.getVertex t.1 with
  | .error x => .error x
  | .ok va =>
    match g.getEdge t.2.1 with
    | .error x => .error x
    | .ok ed =>
      match g.getVertex t.2.2 with
      | .error x => .error x
      | .ok vb => .ok (va, ed, vb)

theorem tripletAttrsGo_cons (g : Graph α) (t : Nat × Nat × Nat) (r : List (Nat × Nat × Nat)) :
    tripletAttrsGo g (t :: r) =
      match tripletAt g t with
      | .error x => .error x
      | .ok y =>
        match tripletAttrsGo g r with
        | .error x => .error x
        | .ok l => .ok (y :: l) := by
  obtain ⟨a, e, b⟩ := t
  rw [tripletAttrsGo]
  unfold tripletAt
  cases g.getVertex a with
  | error x => rfl
  | ok va =>
    cases g.getEdge e with
    | error x => rfl
    | ok ed => cases g.getVertex b <;> rfl

/-- one entry per element of `l`, each related to the element whose id triplet produced it -/
theorem tripletAttrsGo_map {β : Type} (g : Graph α) (ids : β → Nat × Nat × Nat)
    (R : β → Vertex α × Edge α × Vertex α → Prop) (l : List β)
    (h : ∀ x ∈ l, ∃ y, tripletAt g (ids x) = .ok y ∧ R x y) :
    ∃ r, tripletAttrsGo g (l.map ids) = .ok r ∧ List.Forall₂ R l r := by
  induction l with
  | nil => exact ⟨[], rfl, List.Forall₂.nil⟩
  | cons x l ih =>
    obtain ⟨y, hy, hR⟩ := h x List.mem_cons_self
    obtain ⟨r, hr, hf⟩ := ih fun z hz => h z (List.mem_cons_of_mem _ hz)
    exact ⟨y :: r, by rw [List.map_cons, tripletAttrsGo_cons, hy, hr], List.Forall₂.cons hR hf⟩

theorem tripletAt_ok_iff (g : Graph α) (t : Nat × Nat × Nat) (x : Vertex α × Edge α × Vertex α) :
    tripletAt g t = .ok x ↔
      g.vertices[t.1]? = some x.1 ∧ g.edges[t.2.1]? = some x.2.1 ∧ g.vertices[t.2.2]? = some x.2.2 := by
  obtain ⟨x1, x2, x3⟩ := x
  unfold tripletAt getVertex getEdge
  cases g.vertices[t.1]? with
  | none => exact ⟨fun h => (by cases h), fun h => (by cases h.1)⟩
  | some va =>
    cases g.edges[t.2.1]? with
    | none => exact ⟨fun h => (by cases h), fun h => (by cases h.2.1)⟩
    | some ed =>
      cases g.vertices[t.2.2]? with
      | none => exact ⟨fun h => (by cases h), fun h => (by cases h.2.2)⟩
      | some vb =>
        constructor
        · intro h; cases h; exact ⟨rfl, rfl, rfl⟩
        · rintro ⟨h1, h2, h3⟩; cases h1; cases h2; cases h3; rfl

/-- the error `x` names a position of the id triplet `t` at which `g` has no record -/
def Blames (g : Graph α) (x : NetErr) (t : Nat × Nat × Nat) : Prop :=
  (x = .vertexNotFound t.1 ∧ g.vertices[t.1]? = none) ∨ (x = .edgeNotFound t.2.1 ∧ g.edges[t.2.1]? = none) ∨
    (x = .vertexNotFound t.2.2 ∧ g.vertices[t.2.2]? = none)

theorem tripletAt_error (g : Graph α) (t : Nat × Nat × Nat) (x : NetErr) (h : tripletAt g t = .error x) :
    Blames g x t := by
  unfold tripletAt getVertex getEdge at h
  cases ha : g.vertices[t.1]? with
  | none => rw [ha] at h; cases h; exact Or.inl ⟨rfl, ha⟩
  | some va =>
    cases he : g.edges[t.2.1]? with
    | none => rw [ha, he] at h; cases h; exact Or.inr (Or.inl ⟨rfl, he⟩)
    | some ed =>
      cases hb : g.vertices[t.2.2]? with
      | none => rw [ha, he, hb] at h; cases h; exact Or.inr (Or.inr ⟨rfl, hb⟩)
      | some vb => rw [ha, he, hb] at h; cases h

/-- success arm, for every graph value: one entry per id triplet, holding the records at those positions -/
theorem tripletAttrsGo_ok_iff (g : Graph α) (l : List (Nat × Nat × Nat))
    (r : List (Vertex α × Edge α × Vertex α)) :
    tripletAttrsGo g l = .ok r ↔
      List.Forall₂ (fun t x => g.vertices[t.1]? = some x.1 ∧ g.edges[t.2.1]? = some x.2.1 ∧
        g.vertices[t.2.2]? = some x.2.2) l r := by
  induction l generalizing r with
  | nil =>
    constructor
    · intro h; cases h; exact List.Forall₂.nil
    · intro h; cases h; rfl
  | cons t l ih =>
    rw [tripletAttrsGo_cons]
    constructor
    · intro h
      cases ht : tripletAt g t with
      | error x => rw [ht] at h; cases h
      | ok y =>
        cases hrest : tripletAttrsGo g l with
        | error x => rw [ht, hrest] at h; cases h
        | ok rest =>
          rw [ht, hrest] at h
          cases h
          exact List.Forall₂.cons ((tripletAt_ok_iff g t y).1 ht) ((ih rest).1 hrest)
    · intro h
      cases h with
      | @cons _ y _ rest h1 h2 => rw [(tripletAt_ok_iff g t y).2 h1, (ih rest).2 h2]

/-- error arm, for every graph value: the error names a position that does not exist, taken from one of the
id triplets -/
theorem tripletAttrsGo_error (g : Graph α) (l : List (Nat × Nat × Nat)) (x : NetErr)
    (h : tripletAttrsGo g l = .error x) : ∃ t ∈ l, Blames g x t := by
  induction l with
  | nil => cases h
  | cons t l ih =>
    rw [tripletAttrsGo_cons] at h
    cases ht : tripletAt g t with
    | error y =>
      rw [ht] at h
      cases h
      exact ⟨t, List.mem_cons_self, tripletAt_error g t x ht⟩
    | ok y =>
      cases hrest : tripletAttrsGo g l with
      | error z =>
        rw [ht, hrest] at h
        cases h
        obtain ⟨t', ht', hcase⟩ := ih hrest
        exact ⟨t', List.mem_cons_of_mem _ ht', hcase⟩
      | ok rest => rw [ht, hrest] at h; cases h

/-- `incident_triplet_attributes` of the assembled graph once `incident_triplet_ids` is known to list the edges with
`near e = v` (`near` the end at `v`, `far` the other end, in the direction asked for): the call succeeds with one entry
per such edge, and whatever holds of (row at the near end, the edge, row at the far end) holds of its entry -/
theorem incident_triplet_attributes_of_ids (es : List (Edge α)) (vs : List (Vertex α)) (nV : Nat) (h : RowIds es)
    (v : Nat) (d : Direction) (near far : Edge α → Nat) (hside : ∀ e ∈ es, near e < vs.length ∧ far e < vs.length)
    (hid : (buildGraph es vs nV).incidentTripletIds v d =
      .ok ((es.filter (fun e => near e = v)).map fun e => (v, e.edgeId, far e)))
    (R : Edge α → Vertex α × Edge α × Vertex α → Prop)
    (hR : ∀ e ∈ es, ∀ (h1 : near e < vs.length) (h2 : far e < vs.length), R e (vs[near e], e, vs[far e])) :
    ∃ r, (buildGraph es vs nV).incidentTripletAttributes v d = .ok r ∧
      List.Forall₂ R (es.filter (fun e => near e = v)) r := by
  rw [incidentTripletAttributes, hid]
  refine tripletAttrsGo_map _ _ _ _ fun e he => ?_
  obtain ⟨hes, hv⟩ := List.mem_filter.1 he
  obtain ⟨h1, h2⟩ := hside e hes
  obtain rfl : near e = v := of_decide_eq_true hv
  refine ⟨_, ?_, hR e hes h1 h2⟩
  simp only [tripletAt, get_edge_by_id es vs nV h e hes, get_vertex_general, List.getElem?_eq_getElem h1,
    List.getElem?_eq_getElem h2]

end Graph

end Compass
