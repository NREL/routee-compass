/-
The estimate of a concrete configuration is admissible (C02): on a metrically consistent
great-circle table it is consistent, hence admissible, so the A* theorem of
`Proofs/ConfigUniform.lean` applies without a premise on the estimate — for the distance model
(`Config.DistanceMetric`) and for the speed-table model (`Config.SpeedMetric`).  Each is a
`Config.ScaledMetric` (`Config.DistanceMetric.scaled`, `Config.SpeedMetric.scaled`), and a scaled
metric makes the estimate admissible (`Config.ScaledMetric.admissible`; C02 states the two cases as
`config_distance_estimate_admissible`, `config_speed_estimate_admissible`).

Setting: sum aggregation; every vehicle rate in use is linear and non-decreasing (`intercept = 0`,
`slope ≥ 0`: built from `zero / raw / factor f ≥ 0 / combined` of those — **no offset**); weights ≥ 0;
per-edge surcharges ≥ 0; edge lengths ≥ 0; `0 ≤ weight_factor ≤ 1`; table entries ≥ 0, zero at the
destination, and `gc(tail e) ≤ len e + gc(head e)` on every permitted edge (in the search direction);
speed-table model: positive lengths, positive table speeds, none above `max_speed`.

Then the vehicle cost of `x` metres is `κ · x` with `κ ≥ 0` (unit conversions are linear with
positive ratio, C09; distance model `κ = distCoef`, speed-table model at speed `s`
`distCoef + timeCoef / s`, the estimate at `max_speed`), `hOf v = κ · gc v · wf`,
`costOf e ≥ κ · len e` (`Config.ScaledMetric`), and consistency is the triangle inequality scaled by
`κ`.  The last section checks both sets of premises on the example network of
`ConfigUniform.Example`.
-/
import Compass.Proofs.ConfigUniform
import Compass.Proofs.Units

namespace Compass

set_option linter.unusedSectionVars false

section
variable {α : Type} [Field α] [LinearOrder α] [IsStrictOrderedRing α] [Lit α] [LawfulLit α]

open SearchOpt (Walk cost Admissible)

/-- metres → the feature's unit through the model's unit: multiplication by a positive ratio -/
theorem distance_convert2 (du fu : DistanceUnit) (x : α) :
    du.convert fu (DistanceUnit.meters.convert du x)
      = x * (((DistanceUnit.factor .meters du).ratio * (DistanceUnit.factor du fu).ratio : ℚ) : α) := by
  simp only [DistanceUnit.convert, Factor.apply_eq]
  push_cast
  ring

theorem distance_ratio2_pos (du fu : DistanceUnit) :
    (0 : α) < (((DistanceUnit.factor .meters du).ratio * (DistanceUnit.factor du fu).ratio : ℚ) : α) := by
  rw [Rat.cast_mul]
  exact mul_pos (C09.ratio_cast_pos _ (C09.distance_wf .meters du))
    (C09.ratio_cast_pos _ (C09.distance_wf du fu))

/-! ### The vehicle cost of a state change

`costOf` and `hOf` read the state change of an edge / of the estimate through the same expression,
`CostModel.vehicleOfDelta` (`Config.costOf_eq`, `Config.hOf_eq`, Proofs/ConfigUniform.lean).  With
linear rates under sum aggregation it is additive in the change, and a change of `X` in slot `j` alone
costs `X · slotRate j`. -/

/-- every rate in use is linear (no offset) -/
def CostModel.LinearRates (m : CostModel α) : Prop :=
  ∀ i ∈ m.indices, (m.vr i).intercept = 0

/-- every rate in use is non-decreasing and has a non-negative weight -/
def CostModel.NonnegRates (m : CostModel α) : Prop :=
  ∀ i ∈ m.indices, 0 ≤ (m.vr i).slope ∧ 0 ≤ m.wt i

theorem CostModel.vehicleOfDelta_sum (m : CostModel α) (hs : m.agg = .sum) (hl : m.LinearRates)
    (δ : Nat → α) :
    m.vehicleOfDelta δ = (m.indices.map fun i => ((m.vr i).slope * m.wt i) * δ i).sum := by
  rw [CostModel.vehicleOfDelta, m.part_sum hs]
  refine congrArg List.sum (List.map_congr_left fun i hi => ?_)
  rw [VehicleCostRate.mapValue_affine, hl i hi]
  ring

theorem CostModel.vehicleOfDelta_add (m : CostModel α) (hs : m.agg = .sum) (hl : m.LinearRates)
    (δ₁ δ₂ : Nat → α) :
    m.vehicleOfDelta (fun i => δ₁ i + δ₂ i) = m.vehicleOfDelta δ₁ + m.vehicleOfDelta δ₂ := by
  simp only [m.vehicleOfDelta_sum hs hl, mul_add, List.sum_map_add]

/-- slope · weight, summed over the indices that are slot `j` -/
def CostModel.slotRate (m : CostModel α) (j : Nat) : α :=
  (m.indices.map fun i => if i = j then (m.vr i).slope * m.wt i else 0).sum

theorem CostModel.slotRate_nonneg (m : CostModel α) (hn : m.NonnegRates) (j : Nat) :
    0 ≤ m.slotRate j := by
  apply List.sum_nonneg
  intro x hx
  obtain ⟨i, hi, rfl⟩ := List.mem_map.1 hx
  split
  · exact mul_nonneg (hn i hi).1 (hn i hi).2
  · exact le_refl _

/-- a sum whose terms vanish off slot `j` -/
theorem sum_single_slot (l : List Nat) (f : Nat → α) (j : Nat) (X : α) :
    (l.map fun i => f i * (if i = j then X else 0)).sum
      = X * (l.map fun i => if i = j then f i else 0).sum := by
  induction l with
  | nil => simp
  | cons a l ih =>
    simp only [List.map_cons, List.sum_cons, ih]
    split <;> ring

theorem CostModel.vehicleOfDelta_slotDelta (m : CostModel α) (hs : m.agg = .sum)
    (hl : m.LinearRates) {U : Type} (slot : Option (Nat × U)) (conv : U → α) :
    m.vehicleOfDelta (slotDelta slot conv)
      = match slot with
        | some (j, u) => conv u * m.slotRate j
        | none => 0 := by
  rw [m.vehicleOfDelta_sum hs hl]
  cases slot with
  | none => simp [slotDelta]
  | some p => exact sum_single_slot _ _ p.1 (conv p.2)

/-- the coefficient of a length in metres: (unit ratio) · the rate of the distance slot -/
def Config.distCoef (c : Config α) (du : DistanceUnit) : α :=
  match distSlot c.feats "distance" with
  | none => 0
  | some (j, fu) =>
    (((DistanceUnit.factor .meters du).ratio * (DistanceUnit.factor du fu).ratio : ℚ) : α)
      * c.cost.slotRate j

/-- the state change the distance model causes for `x` metres -/
def Config.lenDelta (c : Config α) (du : DistanceUnit) (x : α) (i : Nat) : α :=
  slotDelta (distSlot c.feats "distance")
    (fun fu => du.convert fu (DistanceUnit.meters.convert du x)) i

theorem Config.lenDelta_zero (c : Config α) (du : DistanceUnit) : c.lenDelta du 0 = fun _ => 0 := by
  funext i
  unfold Config.lenDelta
  simp only [distance_convert2, zero_mul]
  exact slotDelta_zero _ i

theorem Config.vehicle_lenDelta (c : Config α) (hs : c.cost.agg = .sum) (hl : c.cost.LinearRates)
    (du : DistanceUnit) (x : α) : c.cost.vehicleOfDelta (c.lenDelta du x) = c.distCoef du * x := by
  unfold Config.lenDelta Config.distCoef
  rw [c.cost.vehicleOfDelta_slotDelta hs hl]
  cases distSlot c.feats "distance" with
  | none => simp
  | some p => simp only [distance_convert2]; ring

theorem Config.distCoef_nonneg (c : Config α) (hn : c.cost.NonnegRates) (du : DistanceUnit) :
    0 ≤ c.distCoef du := by
  unfold Config.distCoef
  cases distSlot c.feats "distance" with
  | none => exact le_refl _
  | some p =>
    exact mul_nonneg (le_of_lt (distance_ratio2_pos du p.2)) (c.cost.slotRate_nonneg hn p.1)

/-! ### The property's own list of rates: `zero / raw / factor f ≥ 0 / combined` of those -/

mutual
/-- built without `offset`, every factor non-negative -/
def VehicleCostRate.offsetFree : VehicleCostRate α → Bool
  | .zero => true
  | .raw => true
  | .factor f => decide (0 ≤ f)
  | .offset _ => false
  | .combined rs => VehicleCostRate.offsetFreeList rs
def VehicleCostRate.offsetFreeList : List (VehicleCostRate α) → Bool
  | [] => true
  | r :: rs => r.offsetFree && VehicleCostRate.offsetFreeList rs
end

mutual
theorem VehicleCostRate.offsetFree_linear :
    ∀ (r : VehicleCostRate α), r.offsetFree = true → r.intercept = 0 ∧ 0 ≤ r.slope
  | .zero, _ => by simp only [VehicleCostRate.intercept, VehicleCostRate.slope, le_refl, and_self]
  | .raw, _ => by
    simp only [VehicleCostRate.intercept, VehicleCostRate.slope, zero_le_one, and_self]
  | .factor f, h => by
    simp only [VehicleCostRate.offsetFree, decide_eq_true_eq] at h
    simp only [VehicleCostRate.intercept, VehicleCostRate.slope, h, and_self]
  | .offset o, h => by simp [VehicleCostRate.offsetFree] at h
  | .combined rs, h => by
    simp only [VehicleCostRate.offsetFree] at h
    simp only [VehicleCostRate.intercept, VehicleCostRate.slope]
    exact VehicleCostRate.offsetFreeList_linear rs h
theorem VehicleCostRate.offsetFreeList_linear :
    ∀ (rs : List (VehicleCostRate α)), VehicleCostRate.offsetFreeList rs = true →
      VehicleCostRate.interceptList rs = 0 ∧ 0 ≤ VehicleCostRate.slopeList rs
  | [], _ => by
    simp only [VehicleCostRate.interceptList, VehicleCostRate.slopeList, zero_le_one, and_self]
  | r :: rs, h => by
    simp only [VehicleCostRate.offsetFreeList, Bool.and_eq_true] at h
    obtain ⟨h1, h2⟩ := VehicleCostRate.offsetFree_linear r h.1
    obtain ⟨h3, h4⟩ := VehicleCostRate.offsetFreeList_linear rs h.2
    simp only [VehicleCostRate.interceptList, VehicleCostRate.slopeList, h1, h3]
    exact ⟨by ring, mul_nonneg h2 h4⟩
end

/-- a cost model whose rates in use are all from the list, with non-negative weights, has linear
non-decreasing rates -/
theorem CostModel.rates_of_offsetFree (m : CostModel α)
    (h : ∀ i ∈ m.indices, (m.vr i).offsetFree = true ∧ 0 ≤ m.wt i) :
    m.LinearRates ∧ m.NonnegRates :=
  ⟨fun i hi => ((m.vr i).offsetFree_linear (h i hi).1).1,
   fun i hi => ⟨((m.vr i).offsetFree_linear (h i hi).1).2, (h i hi).2⟩⟩

/-! ### Cost and estimate of the distance model in closed form -/

/-- great-circle metres of vertex `v` (0 beyond the table: there `estimate` fails anyway) -/
def Config.gcOf (c : Config α) (v : Nat) : α :=
  match c.gc[v]? with
  | some x => x
  | none => 0

theorem Config.gcOf_nonneg (c : Config α) (h : ∀ x ∈ c.gc, 0 ≤ x) (v : Nat) : 0 ≤ c.gcOf v := by
  unfold Config.gcOf
  cases hv : c.gc[v]? with
  | none => exact le_refl _
  | some x => exact h x (List.mem_of_getElem? hv)

theorem le_enforceStrictlyPositive (x : α) : x ≤ enforceStrictlyPositive x := by
  rw [enforceStrictlyPositive_eq]
  split
  · exact le_trans ‹x ≤ 0› (le_of_lt minCost_pos)
  · exact le_refl _

/-- under sum aggregation with non-negative weights and surcharges an edge costs at least its vehicle
part -/
theorem Config.vehicle_le_costOf (c : Config α) (hs : c.cost.agg = .sum) (hn : c.cost.NonnegRates)
    (hnet : ∀ i ∈ c.cost.indices, ∀ e, 0 ≤ (c.cost.nr i).traversalCost e) (e : Nat) :
    c.cost.vehicleOfDelta (c.edgeDelta e) ≤ c.costOf e := by
  rw [c.costOf_eq, c.cost.part_sum hs fun i => (c.cost.nr i).traversalCost e]
  refine le_trans (le_add_of_nonneg_right (List.sum_nonneg ?_)) (le_enforceStrictlyPositive _)
  intro x hx
  obtain ⟨i, hi, rfl⟩ := List.mem_map.1 hx
  exact mul_nonneg (hn i hi).2 (hnet i hi e)

theorem Config.edgeDelta_eq_lenDelta (c : Config α) {du : DistanceUnit} (ht : c.trav = .distance du)
    {e : Nat} {er : EdgeRec α} (he : c.edges[e]? = some er) :
    c.edgeDelta e = c.lenDelta du er.dist := by
  funext i
  rw [c.edgeDelta_distance ht he i]
  -- `edgeDelta` converts from `baseDistanceUnit`, `lenDelta` from metres: the generated constant
  -- `baseDistanceUnit` (`Gen/Units.lean`) is `.meters`
  rfl

theorem Config.estDelta_eq_lenDelta (c : Config α) {du : DistanceUnit} (ht : c.trav = .distance du)
    (v : Nat) : c.estDelta v = c.lenDelta du (c.gcOf v) := by
  funext i
  unfold Config.estDelta Config.gcOf
  cases c.gc[v]? with
  | some x => simp [ht, Config.lenDelta]
  | none => exact (congrFun (c.lenDelta_zero du) i).symm

theorem Config.costOf_distance_ge (c : Config α) (hs : c.cost.agg = .sum) (hl : c.cost.LinearRates)
    (hn : c.cost.NonnegRates) (hnet : ∀ i ∈ c.cost.indices, ∀ e, 0 ≤ (c.cost.nr i).traversalCost e)
    {du : DistanceUnit} (ht : c.trav = .distance du) {e : Nat} {er : EdgeRec α}
    (he : c.edges[e]? = some er) : c.distCoef du * er.dist ≤ c.costOf e := by
  rw [← c.vehicle_lenDelta hs hl, ← c.edgeDelta_eq_lenDelta ht he]
  exact c.vehicle_le_costOf hs hn hnet e

theorem Config.hOf_distance (c : Config α) (hs : c.cost.agg = .sum) (hl : c.cost.LinearRates)
    {du : DistanceUnit} (ht : c.trav = .distance du) (v : Nat) :
    c.hOf v = max (c.distCoef du * c.gcOf v) 0 * c.wfOf := by
  rw [c.hOf_eq, enforceNonNegative_eq, c.estDelta_eq_lenDelta ht v, c.vehicle_lenDelta hs hl]

/-! ### Consistency and admissibility from a scaled metric (both models) -/

/-- the estimate is `κ · gc · weight factor`, every edge costs at least `κ ·` its length (`κ ≥ 0`,
`0 ≤ weight factor ≤ 1`), and the great-circle table satisfies the triangle inequality along the
permitted edges -/
structure Config.ScaledMetric (c : Config α) (κ : α) : Prop where
  scale_nonneg : 0 ≤ κ
  wf_nonneg : 0 ≤ c.wfOf
  wf_le_one : c.wfOf ≤ 1
  hOf_eq : ∀ v, c.hOf v = κ * c.gcOf v * c.wfOf
  cost_ge : ∀ (e : Nat) (er : EdgeRec α), c.edges[e]? = some er → κ * er.dist ≤ c.costOf e
  len_nonneg : ∀ (e : Nat) (er : EdgeRec α), c.edges[e]? = some er → 0 ≤ er.dist
  triangle : ∀ (e : Nat) (er : EdgeRec α), c.edges[e]? = some er → c.okOf e = true →
    c.gcOf (c.inst.termV e) ≤ er.dist + c.gcOf (c.inst.keyV e)

/-- the estimate is consistent on every permitted edge id: the triangle inequality scaled by `κ`,
the edge's own term weakened from `κ · len · wf` to `κ · len ≤ costOf` -/
theorem Config.ScaledMetric.consistent {c : Config α} {κ : α} (M : c.ScaledMetric κ) (e : Nat)
    (hok : c.okOf e = true) : c.hOf (c.inst.termV e) ≤ c.costOf e + c.hOf (c.inst.keyV e) := by
  cases hed : c.edges[e]? with
  | none =>
    -- an id beyond the edge list: `keyV e = termV e = 0`
    simp only [Config.inst, hed]
    exact le_add_of_nonneg_left (le_of_lt (c.costOf_pos e))
  | some er =>
    rw [M.hOf_eq, M.hOf_eq]
    calc κ * c.gcOf (c.inst.termV e) * c.wfOf
        ≤ κ * (er.dist + c.gcOf (c.inst.keyV e)) * c.wfOf :=
          mul_le_mul_of_nonneg_right
            (mul_le_mul_of_nonneg_left (M.triangle e er hed hok) M.scale_nonneg) M.wf_nonneg
      _ = κ * er.dist * c.wfOf + κ * c.gcOf (c.inst.keyV e) * c.wfOf := by ring
      _ ≤ c.costOf e + κ * c.gcOf (c.inst.keyV e) * c.wfOf :=
          add_le_add_left
            ((mul_le_of_le_one_right (mul_nonneg M.scale_nonneg (M.len_nonneg e er hed))
              M.wf_le_one).trans (M.cost_ge e er hed)) _

theorem Config.ScaledMetric.admissible {c : Config α} {κ : α} (M : c.ScaledMetric κ)
    (hadj : c.AdjConsistent) {t : Nat} (ht : c.gcOf t = 0) :
    Admissible c.inst c.okOf c.costOf c.hOf t := by
  apply SearchOpt.admissible_of_consistent
  · intro v e he hok
    have := M.consistent e hok
    rwa [hadj v e he] at this
  · rw [M.hOf_eq, ht]
    simp

/-- the premises under which the estimate of the distance model is admissible -/
structure Config.DistanceMetric (c : Config α) (du : DistanceUnit) (t : Nat) : Prop where
  trav : c.trav = .distance du
  agg : c.cost.agg = .sum
  linear : c.cost.LinearRates
  nonneg : c.cost.NonnegRates
  surcharge : ∀ i ∈ c.cost.indices, ∀ e : Nat, 0 ≤ (c.cost.nr i).traversalCost e
  wf_nonneg : 0 ≤ c.wfOf
  wf_le_one : c.wfOf ≤ 1
  len_nonneg : ∀ (e : Nat) (er : EdgeRec α), c.edges[e]? = some er → 0 ≤ er.dist
  gc_nonneg : ∀ v : Nat, 0 ≤ c.gcOf v
  gc_target : c.gcOf t = 0
  /-- the table is consistent with the lengths of the permitted edges, in the search direction -/
  triangle : ∀ (e : Nat) (er : EdgeRec α), c.edges[e]? = some er → c.okOf e = true →
    c.gcOf (c.inst.termV e) ≤ er.dist + c.gcOf (c.inst.keyV e)

theorem Config.DistanceMetric.scaled {c : Config α} {du : DistanceUnit} {t : Nat}
    (M : c.DistanceMetric du t) : c.ScaledMetric (c.distCoef du) where
  scale_nonneg := c.distCoef_nonneg M.nonneg du
  wf_nonneg := M.wf_nonneg
  wf_le_one := M.wf_le_one
  hOf_eq := fun v => by
    rw [c.hOf_distance M.agg M.linear M.trav,
      max_eq_left (mul_nonneg (c.distCoef_nonneg M.nonneg du) (M.gc_nonneg v))]
  cost_ge := fun _ _ he => c.costOf_distance_ge M.agg M.linear M.nonneg M.surcharge M.trav he
  len_nonneg := M.len_nonneg
  triangle := M.triangle

/-! ### The speed-table model

The time slot changes by `x / s` (metres over table speed) times a positive unit ratio, so the
vehicle cost of `x` metres at speed `s` is `distCoef · x + timeCoef · x / s`; the estimate uses
`max_speed ≥ s`. -/

/-- metres / speed → the time feature's unit: metres → `du`, then C09's factor of `create_time`
(`C09.timeK`: `du` → base, over the speed in base units, base time → `tu`), then `tu` → the feature's
unit -/
def timeTheta (su : SpeedUnit) (du : DistanceUnit) (tu fu : TimeUnit) : ℚ :=
  (DistanceUnit.factor .meters du).ratio * C09.timeK su du tu * (TimeUnit.factor tu fu).ratio

theorem timeTheta_pos (su : SpeedUnit) (du : DistanceUnit) (tu fu : TimeUnit) :
    0 < timeTheta su du tu fu := by
  have h1 := Factor.ratio_pos _ (C09.distance_wf .meters du)
  have h2 := Factor.ratio_pos _ (C09.distance_wf du baseDistanceUnit)
  have h3 := Factor.ratio_pos _ (C09.time_wf baseTimeUnit tu)
  have h4 := Factor.ratio_pos _ (C09.time_wf tu fu)
  have h5 := Factor.ratio_pos _ (C09.speed_wf su baseSpeedUnit)
  unfold timeTheta C09.timeK
  positivity

/-- what `create_time` answers for `x` metres at speed `sp` (`C09.createTime_def`), in the feature's
unit -/
theorem convert_timeTheta (su : SpeedUnit) (du : DistanceUnit) (tu fu : TimeUnit) (x sp : α) :
    tu.convert fu (DistanceUnit.meters.convert du x / sp * ((C09.timeK su du tu : ℚ) : α))
      = x / sp * ((timeTheta su du tu fu : ℚ) : α) := by
  simp only [DistanceUnit.convert, TimeUnit.convert, Factor.apply_eq, timeTheta]
  push_cast
  ring

/-- the coefficient of `metres / speed` -/
def Config.timeCoef (c : Config α) (su : SpeedUnit) (du : DistanceUnit) (tu : TimeUnit) : α :=
  match timeSlot c.feats "time" with
  | none => 0
  | some (j, fu) => ((timeTheta su du tu fu : ℚ) : α) * c.cost.slotRate j

theorem Config.timeCoef_nonneg (c : Config α) (hn : c.cost.NonnegRates) (su : SpeedUnit)
    (du : DistanceUnit) (tu : TimeUnit) : 0 ≤ c.timeCoef su du tu := by
  unfold Config.timeCoef
  cases timeSlot c.feats "time" with
  | none => exact le_refl _
  | some p =>
    refine mul_nonneg (le_of_lt ?_) (c.cost.slotRate_nonneg hn p.1)
    exact_mod_cast timeTheta_pos su du tu p.2

/-- the state change the speed model causes for `x` metres at speed `s` -/
def Config.speedDelta (c : Config α) (su : SpeedUnit) (du : DistanceUnit) (tu : TimeUnit)
    (x s : α) (i : Nat) : α :=
  slotDelta (timeSlot c.feats "time") (fun fu => x / s * ((timeTheta su du tu fu : ℚ) : α)) i
    + c.lenDelta du x i

theorem Config.speedDelta_zero (c : Config α) (su : SpeedUnit) (du : DistanceUnit) (tu : TimeUnit)
    (s : α) : c.speedDelta su du tu 0 s = fun _ => 0 := by
  funext i
  unfold Config.speedDelta
  simp only [c.lenDelta_zero du, add_zero, zero_div, zero_mul]
  exact slotDelta_zero _ i

theorem Config.vehicle_speedDelta (c : Config α) (hs : c.cost.agg = .sum) (hl : c.cost.LinearRates)
    (su : SpeedUnit) (du : DistanceUnit) (tu : TimeUnit) (x s : α) :
    c.cost.vehicleOfDelta (c.speedDelta su du tu x s)
      = c.timeCoef su du tu * (x / s) + c.distCoef du * x := by
  unfold Config.speedDelta
  rw [c.cost.vehicleOfDelta_add hs hl, c.vehicle_lenDelta hs hl,
    c.cost.vehicleOfDelta_slotDelta hs hl]
  unfold Config.timeCoef
  cases timeSlot c.feats "time" with
  | none => simp
  | some p => ring

theorem Config.edgeDelta_eq_speedDelta (c : Config α) {su : SpeedUnit} {du : DistanceUnit}
    {tu : TimeUnit} {ms : α} {table : List α} (ht : c.trav = .speed su du tu ms table)
    {e : Nat} {er : EdgeRec α} (he : c.edges[e]? = some er) {sp : α} (hsp : table[e]? = some sp)
    (hpos : 0 < sp) (hlen : 0 < er.dist) :
    c.edgeDelta e = c.speedDelta su du tu er.dist sp := by
  funext i
  -- `baseDistanceUnit` is `.meters` (`Gen/Units.lean`)
  have hd : 0 < baseDistanceUnit.convert du er.dist :=
    Factor.apply_pos (C09.distance_wf .meters du) hlen
  rw [c.edgeDelta_speed ht he hsp (C09.createTime_def sp su _ du tu hpos hd) i]
  unfold Config.speedDelta Config.lenDelta
  congr 1
  congr 1
  funext fu
  exact convert_timeTheta su du tu fu er.dist sp

/-- the model's shortcut for a zero distance (state untouched) agrees with the closed form, which is 0
at `x = 0` (`Config.speedDelta_zero`); beyond the table the great-circle value is read as 0 as well -/
theorem Config.estDelta_eq_speedDelta (c : Config α) {su : SpeedUnit} {du : DistanceUnit}
    {tu : TimeUnit} {ms : α} {table : List α} (ht : c.trav = .speed su du tu ms table)
    (hms : 0 < ms) (v : Nat) (hgc : 0 ≤ c.gcOf v) :
    c.estDelta v = c.speedDelta su du tu (c.gcOf v) ms := by
  funext i
  have hzero : c.speedDelta su du tu 0 ms i = 0 := congrFun (c.speedDelta_zero su du tu ms) i
  unfold Config.estDelta Config.gcOf at *
  cases hg : c.gc[v]? with
  | none => exact hzero.symm
  | some x =>
    simp only [hg] at hgc ⊢
    simp only [ht]
    rcases eq_or_lt_of_le hgc with h0 | hpos
    · subst h0
      have : (DistanceUnit.meters.convert du (0 : α) == (zero : α)) = true := by
        simp [DistanceUnit.convert, Factor.apply_eq, zero_eq]
      simp only [this, if_true]
      exact hzero.symm
    · have hd : 0 < DistanceUnit.meters.convert du x := Factor.apply_pos (C09.distance_wf .meters du) hpos
      have : (DistanceUnit.meters.convert du x == (zero : α)) = false := by
        simpa [zero_eq] using ne_of_gt hd
      simp only [this, Bool.false_eq_true, if_false, C09.createTime_def ms su _ du tu hms hd]
      unfold Config.speedDelta Config.lenDelta
      congr 1
      congr 1
      funext fu
      exact convert_timeTheta su du tu fu x ms

/-- the premises under which the estimate of the speed-table model is admissible -/
structure Config.SpeedMetric (c : Config α) (su : SpeedUnit) (du : DistanceUnit) (tu : TimeUnit)
    (ms : α) (table : List α) (t : Nat) : Prop where
  trav : c.trav = .speed su du tu ms table
  agg : c.cost.agg = .sum
  linear : c.cost.LinearRates
  nonneg : c.cost.NonnegRates
  surcharge : ∀ i ∈ c.cost.indices, ∀ e : Nat, 0 ≤ (c.cost.nr i).traversalCost e
  wf_nonneg : 0 ≤ c.wfOf
  wf_le_one : c.wfOf ≤ 1
  /-- every edge has a positive length and a positive table speed not above `max_speed` -/
  edge : ∀ (e : Nat) (er : EdgeRec α), c.edges[e]? = some er →
    0 < er.dist ∧ ∃ sp, table[e]? = some sp ∧ 0 < sp ∧ sp ≤ ms
  ms_pos : 0 < ms
  gc_nonneg : ∀ v : Nat, 0 ≤ c.gcOf v
  gc_target : c.gcOf t = 0
  triangle : ∀ (e : Nat) (er : EdgeRec α), c.edges[e]? = some er → c.okOf e = true →
    c.gcOf (c.inst.termV e) ≤ er.dist + c.gcOf (c.inst.keyV e)

theorem Config.hOf_speed (c : Config α) {su : SpeedUnit} {du : DistanceUnit} {tu : TimeUnit}
    {ms : α} {table : List α} {t : Nat} (M : c.SpeedMetric su du tu ms table t) (v : Nat) :
    c.hOf v = (c.distCoef du + c.timeCoef su du tu / ms) * c.gcOf v * c.wfOf := by
  rw [c.hOf_eq, enforceNonNegative_eq, c.estDelta_eq_speedDelta M.trav M.ms_pos v (M.gc_nonneg v),
    c.vehicle_speedDelta M.agg M.linear]
  have hg := M.gc_nonneg v
  have hnn : 0 ≤ c.timeCoef su du tu * (c.gcOf v / ms) + c.distCoef du * c.gcOf v :=
    add_nonneg
      (mul_nonneg (c.timeCoef_nonneg M.nonneg su du tu) (div_nonneg hg (le_of_lt M.ms_pos)))
      (mul_nonneg (c.distCoef_nonneg M.nonneg du) hg)
  rw [max_eq_left hnn]
  ring

/-- the estimate divides by `max_speed`, the edge by its own table speed, which is not larger -/
theorem Config.costOf_speed_ge (c : Config α) {su : SpeedUnit} {du : DistanceUnit} {tu : TimeUnit}
    {ms : α} {table : List α} {t : Nat} (M : c.SpeedMetric su du tu ms table t)
    {e : Nat} {er : EdgeRec α} (he : c.edges[e]? = some er) :
    (c.distCoef du + c.timeCoef su du tu / ms) * er.dist ≤ c.costOf e := by
  obtain ⟨hlen, sp, hsp, hpos, hle⟩ := M.edge e er he
  refine le_trans ?_ (c.vehicle_le_costOf M.agg M.nonneg M.surcharge e)
  rw [c.edgeDelta_eq_speedDelta M.trav he hsp hpos hlen, c.vehicle_speedDelta M.agg M.linear]
  have := mul_le_mul_of_nonneg_left (div_le_div_of_nonneg_left (le_of_lt hlen) hpos hle)
    (c.timeCoef_nonneg M.nonneg su du tu)
  calc (c.distCoef du + c.timeCoef su du tu / ms) * er.dist
      = c.timeCoef su du tu * (er.dist / ms) + c.distCoef du * er.dist := by ring
    _ ≤ c.timeCoef su du tu * (er.dist / sp) + c.distCoef du * er.dist := add_le_add_left this _

theorem Config.SpeedMetric.scaled {c : Config α} {su : SpeedUnit} {du : DistanceUnit}
    {tu : TimeUnit} {ms : α} {table : List α} {t : Nat} (M : c.SpeedMetric su du tu ms table t) :
    c.ScaledMetric (c.distCoef du + c.timeCoef su du tu / ms) where
  scale_nonneg := add_nonneg (c.distCoef_nonneg M.nonneg du)
    (div_nonneg (c.timeCoef_nonneg M.nonneg su du tu) (le_of_lt M.ms_pos))
  wf_nonneg := M.wf_nonneg
  wf_le_one := M.wf_le_one
  hOf_eq := c.hOf_speed M
  cost_ge := fun _ _ he => c.costOf_speed_ge M he
  len_nonneg := fun e er he => le_of_lt (M.edge e er he).1
  triangle := M.triangle

end

/-! ### Non-vacuity: `ConfigUniform.Example.exA` meets `DistanceMetric` -/

namespace ConfigUniform.Example

theorem exA_metric : exA.DistanceMetric .meters 3 where
  trav := rfl
  agg := rfl
  linear := by
    show ∀ i ∈ exA.cost.indices, (exA.cost.vr i).intercept = 0
    decide +kernel
  nonneg := by
    show ∀ i ∈ exA.cost.indices, 0 ≤ (exA.cost.vr i).slope ∧ 0 ≤ exA.cost.wt i
    decide +kernel
  surcharge := by
    intro i hi e
    simp only [exA, List.mem_singleton] at hi
    subst hi
    simp [CostModel.nr, exA, NetworkCostRate.traversalCost, zero_eq]
  wf_nonneg := by decide +kernel
  wf_le_one := by decide +kernel
  len_nonneg := exA.forall_edges (P := fun _ er => 0 ≤ er.dist) (by decide +kernel)
  gc_nonneg := exA.gcOf_nonneg (by decide +kernel)
  gc_target := by decide +kernel
  triangle := exA.forall_edges
    (P := fun e er => exA.okOf e = true →
      exA.gcOf (exA.inst.termV e) ≤ er.dist + exA.gcOf (exA.inst.keyV e))
    (by decide +kernel)

/-- `exS` with weight factor one and the great-circle table of `exA`: A* by travel time -/
def exSA : Config ℚ := { exS with gc := [3000, 2400, 500, 0, 0], wf := none }

theorem exSA_edgeLocal : exSA.EdgeLocal := ⟨adjConsistent_of_lists _ (by decide +kernel), rfl, rfl⟩

theorem exSA_run :
    SearchRoute.Example.routeEdgesOf (exSA.runVertex 0 (some 3) [0, 1, 2, 3]) = some [[0, 1, 2]] := by
  decide +kernel

theorem exSA_metric :
    exSA.SpeedMetric .kilometersPerHour .meters .seconds 72 [36, 36, 36, 36, 36, 36, 36, 18] 3 where
  trav := rfl
  agg := rfl
  linear := by
    show ∀ i ∈ exSA.cost.indices, (exSA.cost.vr i).intercept = 0
    decide +kernel
  nonneg := by
    show ∀ i ∈ exSA.cost.indices, 0 ≤ (exSA.cost.vr i).slope ∧ 0 ≤ exSA.cost.wt i
    decide +kernel
  surcharge := by
    intro i hi e
    simp only [exSA, exS, List.mem_cons, List.not_mem_nil, or_false] at hi
    rcases hi with rfl | rfl <;>
      simp [CostModel.nr, exSA, exS, NetworkCostRate.traversalCost, zero_eq]
  wf_nonneg := by decide +kernel
  wf_le_one := by decide +kernel
  edge := exSA.forall_edges
    (P := fun e er => 0 < er.dist ∧
      ∃ sp ∈ ([36, 36, 36, 36, 36, 36, 36, 18] : List ℚ)[e]?, 0 < sp ∧ sp ≤ 72)
    (by decide +kernel)
  ms_pos := by norm_num
  gc_nonneg := exSA.gcOf_nonneg (by decide +kernel)
  gc_target := by decide +kernel
  triangle := exSA.forall_edges
    (P := fun e er => exSA.okOf e = true →
      exSA.gcOf (exSA.inst.termV e) ≤ er.dist + exSA.gcOf (exSA.inst.keyV e))
    (by decide +kernel)

/-- the estimate of `exSA` is not the zero function -/
theorem exSA_h0 : exSA.hOf 0 ≠ 0 := by decide +kernel

end ConfigUniform.Example

end Compass
