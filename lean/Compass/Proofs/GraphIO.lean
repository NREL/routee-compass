/-
Lemmas about `Compass.Model.GraphIO`.  The `Vertex` visitor: with exactly one `vertex_id`, `x`
and `y` entry, each parseable, the visitor returns the listed vertex whatever the order of the entries
and whatever other entries stand between them; without one of the three it fails.  `get_config_path` inverted.
-/
import Compass.Model.GraphIO

namespace Compass

section
variable {α : Type}

theorem x_ne_vertex_id : ("x" : String) ≠ "vertex_id" := by simp
theorem y_ne_vertex_id : ("y" : String) ≠ "vertex_id" := by simp
theorem y_ne_x : ("y" : String) ≠ "x" := by simp

/-- exactly one entry of `es` carries the key `k`, and its cell parses to `v` -/
abbrev OneColumn {β : Type} (es : List (String × Cell α)) (k : String) (parse : Cell α → Option β) (v : β) : Prop :=
  ∃ a c b, es = a ++ (k, c) :: b ∧ parse c = some v ∧ (∀ e ∈ a, e.1 ≠ k) ∧ ∀ e ∈ b, e.1 ≠ k

/-- `OneColumn` of a list with a head: the head is the column and the tail has none, or the head is another column and
the tail has the one -/
theorem oneColumn_cons {β : Type} {k k' : String} {c : Cell α} {r : List (String × Cell α)}
    {parse : Cell α → Option β} {v : β} :
    OneColumn ((k', c) :: r) k parse v ↔
      (k' = k ∧ parse c = some v ∧ ∀ e ∈ r, e.1 ≠ k) ∨ (k' ≠ k ∧ OneColumn r k parse v) := by
  constructor
  · rintro ⟨a, c', b, he, hp, ha, hb⟩
    cases a with
    | nil => cases he; exact .inl ⟨rfl, hp, hb⟩
    | cons e0 a' =>
      cases he
      exact .inr ⟨ha _ List.mem_cons_self, a', c', b, rfl, hp, fun e hm => ha e (List.mem_cons_of_mem _ hm), hb⟩
  · rintro (⟨rfl, hp, hb⟩ | ⟨hne, a, c', b, rfl, hp, ha, hb⟩)
    · exact ⟨[], c, r, rfl, hp, fun _ h => (nomatch h), hb⟩
    · exact ⟨(k', c) :: a, c', b, rfl, hp, fun e hm => (List.mem_cons.1 hm).elim (fun h => h ▸ hne) (ha e), hb⟩

/-- the state of one of the three values while the visitor walks the entries `es`: either it has been
stored already and no further entry carries its key, or it has not and exactly one entry does, with a
cell that parses to `v` -/
def Slot {β : Type} (es : List (String × Cell α)) (k : String) (cur : Option β)
    (parse : Cell α → Option β) (v : β) : Prop :=
  (cur = some v ∧ ∀ e ∈ es, e.1 ≠ k) ∨
  (cur = none ∧ ∃ a c b, es = a ++ (k, c) :: b ∧ parse c = some v ∧ (∀ e ∈ a, e.1 ≠ k) ∧ ∀ e ∈ b, e.1 ≠ k)

/-- a slot whose value is still to come -/
theorem Slot.pending {β : Type} {es : List (String × Cell α)} {k : String} {parse : Cell α → Option β} {v : β}
    (h : OneColumn es k parse v) : Slot es k none parse v := Or.inr ⟨rfl, h⟩

theorem Slot.nil {β : Type} {k : String} {cur : Option β} {parse : Cell α → Option β} {v : β}
    (h : Slot ([] : List (String × Cell α)) k cur parse v) : cur = some v := by
  rcases h with h | ⟨_, a, c, b, he, _⟩
  · exact h.1
  · exact absurd he (by simp)

theorem Slot.head_eq {β : Type} {k : String} {c : Cell α} {r : List (String × Cell α)} {cur : Option β}
    {parse : Cell α → Option β} {v : β} (h : Slot ((k, c) :: r) k cur parse v) :
    parse c = some v ∧ ∀ e ∈ r, e.1 ≠ k := by
  rcases h with h | ⟨_, h⟩
  · exact absurd rfl (h.2 (k, c) List.mem_cons_self)
  · rcases oneColumn_cons.1 h with h | h
    · exact h.2
    · exact absurd rfl h.1

theorem Slot.head_ne {β : Type} {k k' : String} {c : Cell α} {r : List (String × Cell α)} {cur : Option β}
    {parse : Cell α → Option β} {v : β} (hne : k' ≠ k) (h : Slot ((k', c) :: r) k cur parse v) :
    Slot r k cur parse v := by
  rcases h with h | ⟨hc, h⟩
  · exact Or.inl ⟨h.1, fun e he => h.2 e (List.mem_cons_of_mem _ he)⟩
  · exact Or.inr ⟨hc, ((oneColumn_cons.1 h).resolve_left fun h' => hne h'.1).2⟩

/-- a slot whose value has just been stored -/
theorem Slot.filled {β : Type} {k : String} {r : List (String × Cell α)} {parse : Cell α → Option β} {v : β}
    (h : ∀ e ∈ r, e.1 ≠ k) : Slot r k (some v) parse v := Or.inl ⟨rfl, h⟩

theorem Slot.eq_of_isSome {β : Type} {es : List (String × Cell α)} {k : String} {cur : Option β}
    {parse : Cell α → Option β} {v : β} (h : Slot es k cur parse v) (hs : cur.isSome) : cur = some v := by
  rcases h with h | h
  · exact h.1
  · rw [h.1] at hs; exact absurd hs (by simp)

theorem VisitState.complete?_eq_none {st : VisitState α}
    (h : ¬ (st.id.isSome ∧ st.x.isSome ∧ st.y.isSome)) : st.complete? = none := by
  unfold VisitState.complete?
  cases hi : st.id with
  | none => rfl
  | some i =>
    cases hx : st.x with
    | none => rfl
    | some x =>
      cases hy : st.y with
      | none => rfl
      | some y => exact absurd ⟨by rw [hi]; rfl, by rw [hx]; rfl, by rw [hy]; rfl⟩ h

theorem VisitState.complete?_eq_some {st : VisitState α} {i : Nat} {x y : α}
    (hi : st.id = some i) (hx : st.x = some x) (hy : st.y = some y) :
    st.complete? = some { vertexId := i, x := x, y := y } := by
  unfold VisitState.complete?
  rw [hi, hx, hy]

/-- the state still lacks the value of key `k`, one of the three the visitor waits for -/
def VisitState.lacks (st : VisitState α) (k : String) : Prop :=
  k = "vertex_id" ∧ st.id = none ∨ k = "x" ∧ st.x = none ∨ k = "y" ∧ st.y = none

theorem VisitState.complete?_eq_none_of_lacks {st : VisitState α} {k : String} (h : st.lacks k) :
    st.complete? = none := by
  apply VisitState.complete?_eq_none
  rcases h with ⟨_, h0⟩ | ⟨_, h0⟩ | ⟨_, h0⟩
  · exact fun hc => by rw [h0] at hc; cases hc.1
  · exact fun hc => by rw [h0] at hc; cases hc.2.1
  · exact fun hc => by rw [h0] at hc; cases hc.2.2

/-- the four ways `visitStore` succeeds: one of the three keys with a cell that parses, stored in its place; or
another key, and nothing changes -/
theorem visitStore_ok_cases {st st' : VisitState α} {k : String} {c : Cell α} (h : visitStore st k c = .ok st') :
    (k = "vertex_id" ∧ ∃ i, c.asUsize = some i ∧ st' = { st with id := some i }) ∨
    (k = "x" ∧ ∃ v, c.asF32 = some v ∧ st' = { st with x := some v }) ∨
    (k = "y" ∧ ∃ v, c.asF32 = some v ∧ st' = { st with y := some v }) ∨
    (k ≠ "vertex_id" ∧ k ≠ "x" ∧ k ≠ "y" ∧ st' = st) := by
  unfold visitStore at h
  split at h
  · next hk =>
    cases hc : c.asUsize with
    | none => rw [hc] at h; cases h
    | some i => rw [hc] at h; cases h; exact .inl ⟨hk, i, rfl, rfl⟩
  · next h1 =>
    split at h
    · next hk =>
      cases hc : c.asF32 with
      | none => rw [hc] at h; cases h
      | some v => rw [hc] at h; cases h; exact .inr (.inl ⟨hk, v, rfl, rfl⟩)
    · next h2 =>
      split at h
      · next hk =>
        cases hc : c.asF32 with
        | none => rw [hc] at h; cases h
        | some v => rw [hc] at h; cases h; exact .inr (.inr (.inl ⟨hk, v, rfl, rfl⟩))
      · next h3 => cases h; exact .inr (.inr (.inr ⟨h1, h2, h3, rfl⟩))

/-- storing an entry touches only the value its key names: under another key, what was lacking still is -/
theorem visitStore_keeps_lacks {st st' : VisitState α} {k k' : String} {c : Cell α}
    (h : visitStore st k' c = .ok st') (hne : k' ≠ k) (hl : st.lacks k) : st'.lacks k := by
  rcases visitStore_ok_cases h with ⟨hk, _, _, rfl⟩ | ⟨hk, _, _, rfl⟩ | ⟨hk, _, _, rfl⟩ | ⟨_, _, _, rfl⟩
  · exact hl.imp (fun h0 => absurd (hk.trans h0.1.symm) hne) id
  · exact hl.imp id (Or.imp (fun h0 => absurd (hk.trans h0.1.symm) hne) id)
  · exact hl.imp id (Or.imp id fun h0 => absurd (hk.trans h0.1.symm) hne)
  · exact hl

/-- the visitor loop, from any state that is not yet complete -/
theorem visitEntries_slots (es : List (String × Cell α)) (st : VisitState α) (i : Nat) (x y : α)
    (hi : Slot es "vertex_id" st.id Cell.asUsize i) (hx : Slot es "x" st.x Cell.asF32 x)
    (hy : Slot es "y" st.y Cell.asF32 y)
    (hinc : ¬ (st.id.isSome ∧ st.x.isSome ∧ st.y.isSome)) :
    ∃ rest, visitEntries (es.map some) st = .ok ({ vertexId := i, x := x, y := y }, rest) := by
  induction es generalizing st with
  | nil =>
    exact absurd ⟨by rw [hi.nil]; rfl, by rw [hx.nil]; rfl, by rw [hy.nil]; rfl⟩ hinc
  | cons e r ih =>
    obtain ⟨k, c⟩ := e
    simp only [List.map_cons, visitEntries]
    -- the step, for whichever state `st'` the entry leads to
    have step : ∀ st' : VisitState α, Slot r "vertex_id" st'.id Cell.asUsize i → Slot r "x" st'.x Cell.asF32 x →
        Slot r "y" st'.y Cell.asF32 y →
        ∃ rest, (match st'.complete? with
          | some v => Except.ok (v, r.map some)
          | none => visitEntries (r.map some) st') = .ok ({ vertexId := i, x := x, y := y }, rest) := by
      intro st' si sx sy
      by_cases hc : st'.id.isSome ∧ st'.x.isSome ∧ st'.y.isSome
      · rw [VisitState.complete?_eq_some (si.eq_of_isSome hc.1) (sx.eq_of_isSome hc.2.1) (sy.eq_of_isSome hc.2.2)]
        exact ⟨_, rfl⟩
      · rw [VisitState.complete?_eq_none hc]
        exact ih st' si sx sy hc
    by_cases k1 : k = "vertex_id"
    · subst k1
      obtain ⟨hp, hr⟩ := hi.head_eq
      simp only [visitStore, if_true, hp]
      exact step { st with id := some i } (Slot.filled hr) (hx.head_ne x_ne_vertex_id.symm) (hy.head_ne y_ne_vertex_id.symm)
    · by_cases k2 : k = "x"
      · subst k2
        obtain ⟨hp, hr⟩ := hx.head_eq
        simp only [visitStore, x_ne_vertex_id, if_false, if_true, hp]
        exact step { st with x := some x } (hi.head_ne x_ne_vertex_id) (Slot.filled hr) (hy.head_ne y_ne_x.symm)
      · by_cases k3 : k = "y"
        · subst k3
          obtain ⟨hp, hr⟩ := hy.head_eq
          simp only [visitStore, y_ne_vertex_id, y_ne_x, if_false, if_true, hp]
          exact step { st with y := some y } (hi.head_ne y_ne_vertex_id) (hx.head_ne y_ne_x) (Slot.filled hr)
        · -- a bystander column: the state is unchanged
          simp only [visitStore, k1, k2, k3, if_false]
          exact step st (hi.head_ne k1) (hx.head_ne k2) (hy.head_ne k3)

/-- a row without one of the three columns is rejected, whatever else it holds -/
theorem visitEntries_missing (es : List (String × Cell α)) (st : VisitState α) (k : String) (hk : st.lacks k)
    (hno : ∀ e ∈ es, e.1 ≠ k) : ∀ v rest, visitEntries (es.map some) st ≠ .ok (v, rest) := by
  induction es generalizing st with
  | nil => intro v rest h; simp [visitEntries] at h
  | cons e r ih =>
    obtain ⟨k', c⟩ := e
    intro v rest h
    simp only [List.map_cons, visitEntries] at h
    cases hs : visitStore st k' c with
    | error x => simp [hs] at h
    | ok st' =>
      have keep := visitStore_keeps_lacks hs (hno (k', c) (by simp)) hk
      simp only [hs, VisitState.complete?_eq_none_of_lacks keep] at h
      exact ih st' keep (fun e he => hno e (by simp [he])) v rest h

end

/-! ### `ConfigJsonExtensions` -/

theorem getConfigPath_ok_iff (params : Json) (key parent : String) (isFile : Bool) (p : String) :
    getConfigPath params key parent isFile = .ok p ↔
      isFile = true ∧ (params.get? key).bind Json.asStr? = some p := by
  unfold getConfigPath getConfigString
  cases params.get? key with
  | none => simp
  | some v =>
    cases hs : v.asStr? with
    | none => simp [hs]
    | some s => cases isFile <;> simp [hs]

end Compass
