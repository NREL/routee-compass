/-
Proofs for C18 (strongly connected components, `Model/Scc.lean`).

The correctness argument is Kosaraju's, on the recursive formulation of the searches: reachability that avoids a
set (`RA`) states what one search does (`SpecN`: white paths plus a finishing-order clause); `dfsG` meets it on EVERY
input, never running out of fuel and failing only at an edge id without a record (`Searches`, `dfsG_searches`); on a
well-formed graph (`Graph.WF`, decided by `Graph.wfb`) no record is missing and the walked relation is `Graph.Edge` or
its converse; the first pass leaves a stack with the order property (`StackOk`), the second pass keeps `Inv2`, and
`allScc_good` concludes.  The frame-list searches the code runs compute what the recursive ones compute within their
budget of turns (`unwind`, `allSccIter_eq`).  At the ends: the selection loop `largestOf`, the executable checker
`isSccPartition` of the specification `IsSccPartition`, and that the graph value `ofEdges` builds is well formed.
-/
import Compass.Model.Scc

namespace Compass
namespace Scc

/-! ### `largestOf` -/

/-- one turn of the selection loop: strict `>` keeps the earlier of two components of equal size -/
def larger (best c : List Nat) : List Nat := if c.length > best.length then c else best

theorem largestOf_eq_foldl (cs : List (List Nat)) : largestOf cs = cs.foldl larger [] := rfl

theorem foldl_larger (cs : List (List Nat)) (best : List Nat) :
    (cs.foldl larger best = best ∨ cs.foldl larger best ∈ cs) ∧ best.length ≤ (cs.foldl larger best).length ∧
      ∀ c ∈ cs, c.length ≤ (cs.foldl larger best).length := by
  induction cs generalizing best with
  | nil => exact ⟨Or.inl rfl, Nat.le_refl _, fun c hc => nomatch hc⟩
  | cons a cs ih =>
    rw [List.foldl_cons]
    obtain ⟨hm, h1, h2⟩ := ih (larger best a)
    have hb : best.length ≤ (larger best a).length ∧ a.length ≤ (larger best a).length := by
      unfold larger
      split
      · next h => exact ⟨Nat.le_of_lt h, Nat.le_refl _⟩
      · next h => exact ⟨Nat.le_refl _, Nat.le_of_not_lt h⟩
    refine ⟨?_, Nat.le_trans hb.1 h1, fun c hc => (List.mem_cons.1 hc).elim (fun e => e.symm ▸ Nat.le_trans hb.2 h1) (h2 c)⟩
    rcases hm with hm | hm
    · rw [hm]
      unfold larger
      split
      · exact Or.inr List.mem_cons_self
      · exact Or.inl rfl
    · exact Or.inr (List.mem_cons_of_mem _ hm)

theorem largestOf_max (cs : List (List Nat)) : ∀ c ∈ cs, c.length ≤ (largestOf cs).length :=
  (foldl_larger cs []).2.2

theorem largestOf_mem (cs : List (List Nat)) (h : ∃ c ∈ cs, c ≠ []) : largestOf cs ∈ cs := by
  rcases (foldl_larger cs []).1 with h1 | h1
  · obtain ⟨c, hc, hne⟩ := h
    have := largestOf_max cs c hc
    rw [largestOf_eq_foldl, h1] at this
    exact absurd (List.eq_nil_of_length_eq_zero (Nat.le_zero.1 this)) hne
  · exact h1

theorem foldl_larger_keep (l : List (List Nat)) (best : List Nat) (h : ∀ a ∈ l, a.length ≤ best.length) :
    l.foldl larger best = best := by
  induction l with
  | nil => rfl
  | cons a l ih =>
    rw [List.foldl_cons, larger, if_neg (Nat.not_lt.2 (h a List.mem_cons_self))]
    exact ih fun b hb => h b (List.mem_cons_of_mem _ hb)

/-- ties: the selection returns the *first* component of maximal size -/
theorem largestOf_first (pre suf : List (List Nat)) (c : List Nat) (hc : c ≠ [])
    (hpre : ∀ a ∈ pre, a.length < c.length) (hsuf : ∀ a ∈ suf, a.length ≤ c.length) :
    largestOf (pre ++ c :: suf) = c := by
  rw [largestOf_eq_foldl, List.foldl_append, List.foldl_cons]
  have hlt : (pre.foldl larger []).length < c.length :=
    (foldl_larger pre []).1.elim (fun e => e.symm ▸ List.length_pos_iff.2 hc) (hpre _)
  rw [larger, if_pos hlt]
  exact foldl_larger_keep suf c hsuf

/-! ### reachability that avoids a set

`RA E A x y`: there is a walk `x → … → y` along `E` none of whose vertices (end points included)
satisfies `A`. -/

inductive RA (E : Nat → Nat → Prop) (A : Nat → Prop) : Nat → Nat → Prop
  | refl {x : Nat} : ¬ A x → RA E A x x
  | step {x w y : Nat} : ¬ A x → E x w → RA E A w y → RA E A x y

namespace RA
variable {E : Nat → Nat → Prop} {A B : Nat → Prop} {x y z : Nat}

theorem src_not (h : RA E A x y) : ¬ A x := by
  cases h <;> assumption

theorem dst_not (h : RA E A x y) : ¬ A y := by
  induction h with
  | refl h => exact h
  | step _ _ _ ih => exact ih

theorem trans (h1 : RA E A x y) (h2 : RA E A y z) : RA E A x z := by
  induction h1 with
  | refl _ => exact h2
  | step hx he _ ih => exact step hx he (ih h2)

theorem mono (hAB : ∀ v, B v → A v) (h : RA E A x y) : RA E B x y := by
  induction h with
  | refl hx => exact refl (fun hb => hx (hAB _ hb))
  | step hx he _ ih => exact step (fun hb => hx (hAB _ hb)) he ih

/-- a walk avoiding `A` either avoids `B` as well or passes through a `B`-vertex -/
theorem split (B : Nat → Prop) [DecidablePred B] (h : RA E A x y) :
    RA E (fun v => A v ∨ B v) x y ∨ ∃ p, B p ∧ RA E A x p ∧ RA E A p y := by
  induction h with
  | @refl x hx =>
    by_cases hb : B x
    · exact Or.inr ⟨x, hb, refl hx, refl hx⟩
    · exact Or.inl (refl (by simp [hx, hb]))
  | @step x w y hx he hwy ih =>
    by_cases hb : B x
    · exact Or.inr ⟨x, hb, refl hx, step hx he hwy⟩
    · rcases ih with h1 | ⟨p, hp, h1, h2⟩
      · exact Or.inl (step (by simp [hx, hb]) he h1)
      · exact Or.inr ⟨p, hp, step hx he h1, h2⟩

/-- the part of a walk after its last visit of `v` -/
theorem last_visit (v : Nat) (h : RA E A x y) :
    RA E (fun u => A u ∨ u = v) x y ∨ y = v ∨ ∃ w, E v w ∧ RA E (fun u => A u ∨ u = v) w y := by
  induction h with
  | @refl x hx =>
    by_cases hv : x = v
    · exact Or.inr (Or.inl hv)
    · exact Or.inl (refl (by simp [hx, hv]))
  | @step x w y hx he hwy ih =>
    rcases ih with h1 | h1
    · by_cases hv : x = v
      · subst hv; exact Or.inr (Or.inr ⟨w, he, h1⟩)
      · exact Or.inl (step (by simp [hx, hv]) he h1)
    · exact Or.inr h1

theorem from_root (v : Nat) (h : RA E A v y) :
    y = v ∨ ∃ w, E v w ∧ RA E (fun u => A u ∨ u = v) w y :=
  (last_visit v h).resolve_left fun h1 => h1.src_not (Or.inr rfl)

theorem flip (h : RA E A x y) : RA (fun a b => E b a) A y x := by
  induction h with
  | refl hx => exact refl hx
  | @step x w y hx he _ ih => exact ih.trans (step (dst_not ih) he (refl hx))

/-- a walk avoiding `A` avoids `B` instead as soon as no vertex it passes (`p` with `x ⇝ p ⇝ y`, both avoiding `A`)
is in `B` -/
theorem avoid (h : RA E A x y) (hB : ∀ p, RA E A x p → RA E A p y → ¬ B p) : RA E B x y := by
  induction h with
  | refl hx => exact refl (hB _ (refl hx) (refl hx))
  | @step x w y hx he hwy ih =>
    refine step (hB x (refl hx) (step hx he hwy)) he (ih ?_)
    intro p hwp hpy
    exact hB p (step hx he hwp) hpy

theorem preserves {P : Nat → Prop} (hP : ∀ a b, E a b → P a → P b) (h : RA E A x y) (hx : P x) : P y := by
  induction h with
  | refl _ => exact hx
  | step _ he _ ih => exact ih (hP _ _ he hx)

theorem bounded {n : Nat} (hn : ∀ a b, E a b → b < n) (h : RA E A x y) (hx : x < n) : y < n :=
  h.preserves (P := (· < n)) (fun a b he _ => hn a b he) hx

theorem congr (hAB : ∀ v, A v ↔ B v) : RA E A x y ↔ RA E B x y :=
  ⟨mono (fun v => (hAB v).2), mono (fun v => (hAB v).1)⟩

end RA

/-! ### the specification of a depth-first search (white-path theorem + finishing order)

`SpecN E ws A new`: started from the roots `ws` (in that order) with the vertices in `A` already visited,
the search pushes the block `new` (last finished first) onto the stack: exactly the vertices reachable
from a root avoiding `A`, each once, and for every pushed `x` and every `y` it reaches avoiding `A`, some
vertex mutually reachable with `x` lies at or above `y` in the block. -/

structure SpecN (E : Nat → Nat → Prop) (ws : List Nat) (A : Nat → Prop) (new : List Nat) : Prop where
  nodup : new.Nodup
  reach : ∀ y, y ∈ new ↔ ∃ w ∈ ws, RA E A w y
  order : ∀ x ∈ new, ∀ y, RA E A x y →
    ∃ z ∈ new, RA E A z x ∧ RA E A x z ∧ new.idxOf z ≤ new.idxOf y

namespace SpecN
variable {E : Nat → Nat → Prop} {A : Nat → Prop} {ws new new1 new2 : List Nat} {v w x y : Nat}

theorem fresh (h : SpecN E ws A new) (hx : x ∈ new) : ¬ A x := by
  obtain ⟨w, _, hw⟩ := (h.reach x).1 hx
  exact hw.dst_not

theorem closed (h : SpecN E ws A new) (hx : x ∈ new) (hxy : RA E A x y) : y ∈ new := by
  obtain ⟨w, hw, hwx⟩ := (h.reach x).1 hx
  exact (h.reach y).2 ⟨w, hw, hwx.trans hxy⟩

theorem nil : SpecN E [] A [] := ⟨List.nodup_nil, by simp, by simp⟩

theorem visited (hv : A v) : SpecN E [v] A [] := by
  refine ⟨List.nodup_nil, ?_, by simp⟩
  intro y
  simp only [List.not_mem_nil, List.mem_singleton, exists_eq_left, false_iff]
  intro h
  exact h.src_not hv

/-- two consecutive searches -/
theorem append (h1 : SpecN E [w] A new1) (h2 : SpecN E ws (fun v => A v ∨ v ∈ new1) new2) :
    SpecN E (w :: ws) A (new2 ++ new1) := by
  have hdisj : ∀ a, a ∈ new2 → a ∉ new1 := fun a ha hb => h2.fresh ha (Or.inr hb)
  have hmono : ∀ {a b}, RA E (fun v => A v ∨ v ∈ new1) a b → RA E A a b :=
    fun h => h.mono (fun v hv => Or.inl hv)
  refine ⟨?_, ?_, ?_⟩
  · rw [List.nodup_append]
    exact ⟨h2.nodup, h1.nodup, fun a ha b hb hab => hdisj a ha (hab ▸ hb)⟩
  · intro y
    constructor
    · intro hy
      rcases List.mem_append.1 hy with hy | hy
      · obtain ⟨w', hw', hr⟩ := (h2.reach y).1 hy
        exact ⟨w', List.mem_cons_of_mem _ hw', hmono hr⟩
      · obtain ⟨w', hw', hr⟩ := (h1.reach y).1 hy
        exact ⟨w', List.mem_cons.2 (Or.inl (List.mem_singleton.1 hw')), hr⟩
    · rintro ⟨w', hw', hr⟩
      rcases List.mem_cons.1 hw' with rfl | hw'
      · exact List.mem_append_right _ ((h1.reach y).2 ⟨w', List.mem_cons_self, hr⟩)
      · rcases hr.split (fun v => v ∈ new1) with hr' | ⟨p, hp, _, hpy⟩
        · exact List.mem_append_left _ ((h2.reach y).2 ⟨w', hw', hr'⟩)
        · exact List.mem_append_right _ (h1.closed hp hpy)
  · -- the order clause.  For `x` in the later block `new2`: a walk from `x` that stays clear of `new1` is a walk of the
    -- second search, whose witness serves; one that enters `new1` ends in `new1` (closed), which lies below all of
    -- `new2`, so `x` itself is the witness.  For `x` in `new1` everything it reaches is in `new1`: shift the indices.
    intro x hx y hxy
    rcases List.mem_append.1 hx with hx2 | hx1
    · rcases hxy.split (fun v => v ∈ new1) with hr' | ⟨p, hp, _, hpy⟩
      · obtain ⟨z, hz, hzx, hxz, hidx⟩ := h2.order x hx2 y hr'
        have hy2 : y ∈ new2 := h2.closed hx2 hr'
        refine ⟨z, List.mem_append_left _ hz, hmono hzx, hmono hxz, ?_⟩
        rw [List.idxOf_append, List.idxOf_append, if_pos hz, if_pos hy2]
        exact hidx
      · have hy1 : y ∈ new1 := h1.closed hp hpy
        have hy2 : y ∉ new2 := fun h => hdisj y h hy1
        refine ⟨x, hx, RA.refl hxy.src_not, RA.refl hxy.src_not, ?_⟩
        rw [List.idxOf_append, List.idxOf_append, if_pos hx2, if_neg hy2]
        exact Nat.le_trans (Nat.le_of_lt (List.idxOf_lt_length_of_mem hx2)) (Nat.le_add_left _ _)
    · obtain ⟨z, hz, hzx, hxz, hidx⟩ := h1.order x hx1 y hxy
      have hy1 : y ∈ new1 := h1.closed hx1 hxy
      have hy2 : y ∉ new2 := fun h => hdisj y h hy1
      have hz2 : z ∉ new2 := fun h => hdisj z h hz
      refine ⟨z, List.mem_append_right _ hz, hzx, hxz, ?_⟩
      rw [List.idxOf_append, List.idxOf_append, if_neg hz2, if_neg hy2]
      exact Nat.add_le_add_right hidx _

/-- a search from an unvisited root `v`: mark it, search its successors, push it -/
theorem root (hv : ¬ A v) (hws : ∀ w, w ∈ ws ↔ E v w) (h : SpecN E ws (fun u => A u ∨ u = v) new) :
    SpecN E [v] A (v :: new) := by
  have hvn : v ∉ new := fun hm => h.fresh hm (Or.inr rfl)
  have hmono : ∀ {a b}, RA E (fun u => A u ∨ u = v) a b → RA E A a b :=
    fun h => h.mono (fun v hv => Or.inl hv)
  have hreach : ∀ y, y ∈ v :: new ↔ RA E A v y := by
    intro y
    constructor
    · intro hy
      rcases List.mem_cons.1 hy with rfl | hy
      · exact RA.refl hv
      · obtain ⟨w, hw, hr⟩ := (h.reach y).1 hy
        exact RA.step hv ((hws w).1 hw) (hmono hr)
    · intro hr
      rcases hr.from_root with rfl | ⟨w, hw, hr'⟩
      · exact List.mem_cons_self
      · exact List.mem_cons_of_mem _ ((h.reach y).2 ⟨w, (hws w).2 hw, hr'⟩)
  refine ⟨List.nodup_cons.2 ⟨hvn, h.nodup⟩, ?_, ?_⟩
  · intro y
    simp only [List.mem_singleton, exists_eq_left]
    exact hreach y
  · -- the finishing order survives pushing the root: a walk from `x` that avoids `v` is a walk of the inner search,
    -- whose witness serves; one that meets `v` brings `x` back to `v`, and `v` itself, now on top, is the witness
    intro x hx y hxy
    rcases hxy.split (fun u => u = v) with hr' | ⟨p, hp, hxp, _⟩
    · have hxn : x ∈ new := (List.mem_cons.1 hx).resolve_left fun e => hr'.src_not (Or.inr e)
      obtain ⟨z, hz, hzx, hxz, hidx⟩ := h.order x hxn y hr'
      have hyn : y ∈ new := h.closed hxn hr'
      have hzne : v ≠ z := fun h => hvn (h ▸ hz)
      have hyne : v ≠ y := fun h => hvn (h ▸ hyn)
      refine ⟨z, List.mem_cons_of_mem _ hz, hmono hzx, hmono hxz, ?_⟩
      rw [List.idxOf_cons, List.idxOf_cons, beq_eq_false_iff_ne.2 hzne, beq_eq_false_iff_ne.2 hyne]
      exact Nat.succ_le_succ hidx
    · subst hp
      exact ⟨p, List.mem_cons_self, (hreach x).1 hx, hxp, by rw [List.idxOf_cons_self]; exact Nat.zero_le _⟩

theorem congr {B : Nat → Prop} (hAB : ∀ v, A v ↔ B v) (h : SpecN E ws A new) : SpecN E ws B new := by
  refine ⟨h.nodup, fun y => ?_, fun x hx y hxy => ?_⟩
  · rw [h.reach y]
    exact ⟨fun ⟨w, hw, hr⟩ => ⟨w, hw, (RA.congr hAB).1 hr⟩, fun ⟨w, hw, hr⟩ => ⟨w, hw, (RA.congr hAB).2 hr⟩⟩
  · obtain ⟨z, hz, h1, h2, h3⟩ := h.order x hx y ((RA.congr hAB).2 hxy)
    exact ⟨z, hz, (RA.congr hAB).1 h1, (RA.congr hAB).1 h2, h3⟩

end SpecN

/-! ### one step of the searches

The step equations of `forEach`, `dfsG`, `iterLoop`, `dfsIter` and `pass2`. -/

section Steps
variable {inc : Nat → List Nat} {far : Nat → Option Nat} {rec : Nat → St → Except Err St}

theorem forEach_cons_none {e : Nat} (es : List Nat) (s : St) (hw : far e = none) :
    forEach rec far (e :: es) s = .error .edgeNotFound := by
  simp only [forEach, hw]

theorem forEach_cons_error {e w : Nat} {s : St} {x : Err} (es : List Nat) (hw : far e = some w)
    (hr : rec w s = .error x) : forEach rec far (e :: es) s = .error x := by
  simp only [forEach, hw, hr]

theorem forEach_cons_ok {e w : Nat} {s s' : St} (es : List Nat) (hw : far e = some w) (hr : rec w s = .ok s') :
    forEach rec far (e :: es) s = forEach rec far es s' := by
  simp only [forEach, hw, hr]

theorem dfsG_visited (n w : Nat) {vis : List Nat} (st : List Nat) (h : w ∈ vis) :
    dfsG inc far n w (vis, st) = .ok (vis, st) := by
  cases n <;> simp only [dfsG, List.contains_iff_mem.2 h, if_true]

theorem dfsG_zero {v : Nat} {vis : List Nat} (st : List Nat) (h : v ∉ vis) :
    dfsG inc far 0 v (vis, st) = .error .diverges := by
  simp only [dfsG, List.contains_eq_mem, decide_eq_false h, Bool.false_eq_true, if_false]

theorem dfsG_succ_error {n v : Nat} {vis st : List Nat} {x : Err} (h : v ∉ vis)
    (hr : forEach (dfsG inc far n) far (inc v) (v :: vis, st) = .error x) :
    dfsG inc far (n + 1) v (vis, st) = .error x := by
  simp only [dfsG, List.contains_eq_mem, decide_eq_false h, Bool.false_eq_true, if_false, hr]

theorem dfsG_succ_ok {n v : Nat} {vis st vis' st' : List Nat} (h : v ∉ vis)
    (hr : forEach (dfsG inc far n) far (inc v) (v :: vis, st) = .ok (vis', st')) :
    dfsG inc far (n + 1) v (vis, st) = .ok (vis', v :: st') := by
  simp only [dfsG, List.contains_eq_mem, decide_eq_false h, Bool.false_eq_true, if_false, hr]

theorem iterLoop_nil (f : Nat) (s : St) : iterLoop inc far f [] s = .ok s := by
  cases f <;> rfl

theorem iterLoop_missing {e : Nat} (f v : Nat) (es : List Nat) (fr : List Frame) (vis st : List Nat)
    (hw : far e = none) : iterLoop inc far (f + 1) ((v, e :: es) :: fr) (vis, st) = .error .edgeNotFound := by
  simp only [iterLoop, hw]

theorem iterLoop_visited {e w : Nat} (f v : Nat) (es : List Nat) (fr : List Frame) {vis : List Nat} (st : List Nat)
    (hw : far e = some w) (hvis : w ∈ vis) :
    iterLoop inc far (f + 1) ((v, e :: es) :: fr) (vis, st) = iterLoop inc far f ((v, es) :: fr) (vis, st) := by
  simp only [iterLoop, hw, List.contains_iff_mem.2 hvis, if_true]

theorem iterLoop_new {e w : Nat} (f v : Nat) (es : List Nat) (fr : List Frame) {vis : List Nat} (st : List Nat)
    (hw : far e = some w) (hvis : w ∉ vis) :
    iterLoop inc far (f + 1) ((v, e :: es) :: fr) (vis, st) =
      iterLoop inc far f ((w, inc w) :: (v, es) :: fr) (w :: vis, st) := by
  simp only [iterLoop, hw, List.contains_eq_mem, decide_eq_false hvis, Bool.false_eq_true, if_false]

theorem dfsIter_visited (f : Nat) {v : Nat} {vis : List Nat} (st : List Nat) (h : v ∈ vis) :
    dfsIter inc far f v (vis, st) = .ok (vis, st) := by
  rw [dfsIter, List.contains_iff_mem.2 h, if_pos rfl]

theorem dfsIter_new (f : Nat) {v : Nat} {vis : List Nat} (st : List Nat) (h : v ∉ vis) :
    dfsIter inc far f v (vis, st) = iterLoop inc far f [(v, inc v)] (v :: vis, st) := by
  rw [dfsIter, List.contains_eq_mem, decide_eq_false h, if_neg Bool.false_ne_true]

theorem pass2_visited (g : Graph) {v : Nat} (st : List Nat) {vis : List Nat} (acc : List (List Nat)) (h : v ∈ vis) :
    pass2 g (v :: st) vis acc = pass2 g st vis acc := by
  rw [pass2, List.contains_iff_mem.2 h, if_pos rfl]

theorem pass2_new (g : Graph) {v : Nat} (st : List Nat) {vis vis' comp : List Nat} (acc : List (List Nat))
    (h : v ∉ vis) (hr : rdfs g g.fuel v (vis, []) = .ok (vis', comp)) :
    pass2 g (v :: st) vis acc = pass2 g st vis' (comp.reverse :: acc) := by
  rw [pass2, List.contains_eq_mem, decide_eq_false h, if_neg Bool.false_ne_true, hr]

theorem pass2_error (g : Graph) {v : Nat} (st : List Nat) {vis : List Nat} (acc : List (List Nat)) {x : Err}
    (h : v ∉ vis) (hr : rdfs g g.fuel v (vis, []) = .error x) : pass2 g (v :: st) vis acc = .error x := by
  rw [pass2, List.contains_eq_mem, decide_eq_false h, if_neg Bool.false_ne_true, hr]

end Steps

/-! ### the executable DFS meets the specification on every input, and the fuel suffices -/

/-- what the members of `U` not yet visited still weigh: the sum of `wt u` over the `u ∈ U` outside `vis`.
Both budgets of the model are bounded through it: weight 1 (`cnt`) counts the vertices the recursion can still
descend into; weight `(inc u).length + 1` counts the loop turns the frame of `u` will take (one per incident edge,
one to pop it), see `iterLoop_eq_unwind`. -/
def owed (wt : Nat → Nat) (U vis : List Nat) : Nat := ((U.filter fun u => !vis.contains u).map wt).sum

theorem owed_cons (wt : Nat → Nat) (a : Nat) (U vis : List Nat) :
    owed wt (a :: U) vis = (if a ∈ vis then 0 else wt a) + owed wt U vis := by
  unfold owed
  rw [List.filter_cons]
  by_cases h : a ∈ vis
  · rw [if_pos h, List.contains_iff_mem.2 h, Bool.not_true, if_neg Bool.false_ne_true, Nat.zero_add]
  · rw [if_neg h, List.contains_eq_mem, decide_eq_false h, Bool.not_false, if_pos rfl, List.map_cons, List.sum_cons]

theorem owed_mono (wt : Nat → Nat) {U vis vis' : List Nat} (h : ∀ x, x ∈ vis → x ∈ vis') :
    owed wt U vis' ≤ owed wt U vis := by
  induction U with
  | nil => exact Nat.le_refl _
  | cons a U ih =>
    rw [owed_cons, owed_cons]
    by_cases ha : a ∈ vis
    · rw [if_pos ha, if_pos (h a ha)]; exact Nat.add_le_add_left ih _
    · rw [if_neg ha]
      split
      · exact Nat.le_trans (Nat.le_of_eq (Nat.zero_add _)) (Nat.le_trans ih (Nat.le_add_left _ _))
      · exact Nat.add_le_add_left ih _

/-- visiting a member of `U` for the first time pays off its weight -/
theorem owed_visit (wt : Nat → Nat) {U vis : List Nat} {w : Nat} (hw : w ∈ U) (hvis : w ∉ vis) :
    owed wt U (w :: vis) + wt w ≤ owed wt U vis := by
  induction U with
  | nil => cases hw
  | cons a U ih =>
    rw [owed_cons, owed_cons]
    by_cases haw : a = w
    · subst haw
      rw [if_pos List.mem_cons_self, if_neg hvis, Nat.zero_add, Nat.add_comm]
      exact Nat.add_le_add_left (owed_mono wt fun x hx => List.mem_cons_of_mem _ hx) _
    · have hw' : w ∈ U := (List.mem_cons.1 hw).resolve_left (Ne.symm haw)
      rw [Nat.add_assoc]
      by_cases hav : a ∈ vis
      · rw [if_pos hav, if_pos (List.mem_cons_of_mem _ hav)]; exact Nat.add_le_add_left (ih hw') _
      · rw [if_neg hav, if_neg fun h => hav ((List.mem_cons.1 h).resolve_left haw)]
        exact Nat.add_le_add_left (ih hw') _

theorem owed_nil (wt : Nat → Nat) (U : List Nat) : owed wt U [] = (U.map wt).sum := by
  unfold owed
  rw [List.filter_eq_self (p := fun u => ![].contains u) |>.2 fun _ _ => rfl]

theorem owed_le (wt : Nat → Nat) (U vis : List Nat) : owed wt U vis ≤ (U.map wt).sum :=
  owed_nil wt U ▸ owed_mono wt fun _ hx => nomatch hx

/-- number of members of `U` not yet visited -/
def cnt (U vis : List Nat) : Nat := owed (fun _ => 1) U vis

theorem cnt_mono {U vis vis' : List Nat} (h : ∀ x, x ∈ vis → x ∈ vis') : cnt U vis' ≤ cnt U vis :=
  owed_mono _ h

theorem cnt_cons_lt {U vis : List Nat} {v : Nat} (hv : v ∈ U) (hvis : v ∉ vis) : cnt U (v :: vis) < cnt U vis :=
  owed_visit (fun _ => 1) hv hvis

theorem cnt_le (U vis : List Nat) : cnt U vis ≤ U.length := by
  refine Nat.le_trans (owed_le _ U vis) (Nat.le_of_eq ?_)
  rw [List.map_const', List.sum_replicate_nat, Nat.mul_one]

/-- the edge relation a search with the accessors `inc`/`far` walks -/
def Succ (inc : Nat → List Nat) (far : Nat → Option Nat) (v w : Nat) : Prop := ∃ e ∈ inc v, far e = some w

/-- the outcome `r` of a search from the roots `ws`, started with `vis` visited and `st` on the stack, is a result: the
block `new` it pushed is the `SpecN` block, and exactly that block was added to the visited set -/
abbrev Returns (E : Nat → Nat → Prop) (ws vis st : List Nat) (r : Except Err St) : Prop :=
  ∃ new vis', r = .ok (vis', new ++ st) ∧ (∀ x, x ∈ vis' ↔ (x ∈ vis ∨ x ∈ new)) ∧ SpecN E ws (fun u => u ∈ vis) new

/-- some slot names an edge id without a record -/
abbrev NoRecord (inc : Nat → List Nat) (far : Nat → Option Nat) : Prop := ∃ u, ∃ e ∈ inc u, far e = none

/-- what a search procedure does from a start vertex in `U` with at most `fuel` members of `U` unvisited: it returns
the block of the white-path specification, or it stops at an edge id without a record.  Never `diverges`. -/
def Searches (inc : Nat → List Nat) (far : Nat → Option Nat) (U : List Nat) (fuel : Nat)
    (rec : Nat → St → Except Err St) : Prop :=
  ∀ v vis st, v ∈ U → cnt U vis ≤ fuel →
    Returns (Succ inc far) [v] vis st (rec v (vis, st)) ∨ (rec v (vis, st) = .error .edgeNotFound ∧ NoRecord inc far)

section
variable {inc : Nat → List Nat} {far far' : Nat → Option Nat} {U : List Nat} {fuel : Nat}
  {rec : Nat → St → Except Err St}

/-- the edge loop over a procedure that searches.  The loop reads its far ends through its own accessor `far'`: the
searches use it with `far' = far` (the incident edges of a vertex), the first pass with `far' = some` (its list holds
vertex ids, not edge ids).  Hence two causes of `EdgeNotFound`: an `x` of the list without a far end, or a record
missing inside one of the calls. -/
theorem forEach_searches (hrec : Searches inc far U fuel rec) :
    ∀ xs vis st, (∀ x ∈ xs, ∀ w, far' x = some w → w ∈ U) → cnt U vis ≤ fuel →
      Returns (Succ inc far) (xs.filterMap far') vis st (forEach rec far' xs (vis, st)) ∨
      (forEach rec far' xs (vis, st) = .error .edgeNotFound ∧ ((∃ x ∈ xs, far' x = none) ∨ NoRecord inc far)) := by
  intro xs
  induction xs with
  | nil => intro vis st _ _; exact .inl ⟨[], vis, rfl, fun x => (or_iff_left List.not_mem_nil).symm, SpecN.nil⟩
  | cons e es ih =>
    intro vis st hxs hfuel
    cases hw : far' e with
    | none => exact .inr ⟨forEach_cons_none es _ hw, .inl ⟨e, List.mem_cons_self, hw⟩⟩
    | some w =>
      rcases hrec w vis st (hxs e List.mem_cons_self w hw) hfuel with ⟨new1, vis1, hr1, hext1, hs1⟩ | ⟨hr1, hm⟩
      · have hfuel1 : cnt U vis1 ≤ fuel := Nat.le_trans (cnt_mono fun x hx => (hext1 x).2 (Or.inl hx)) hfuel
        rcases ih vis1 (new1 ++ st) (fun x hx => hxs x (List.mem_cons_of_mem _ hx)) hfuel1 with
          ⟨new2, vis2, hr2, hext2, hs2⟩ | ⟨hr2, hm⟩
        · refine .inl ⟨new2 ++ new1, vis2, ?_, fun x => ?_, ?_⟩
          · rw [forEach_cons_ok es hw hr1, hr2, List.append_assoc]
          · rw [hext2 x, hext1 x, List.mem_append, or_assoc, or_comm (a := x ∈ new1)]
          · rw [List.filterMap_cons, hw]
            exact SpecN.append hs1 (hs2.congr fun v => hext1 v)
        · exact .inr ⟨(forEach_cons_ok es hw hr1).trans hr2,
            hm.imp_left fun ⟨x, hx, h⟩ => ⟨x, List.mem_cons_of_mem _ hx, h⟩⟩
      · exact .inr ⟨forEach_cons_error es hw hr1, .inr hm⟩

/-- the recursive search on EVERY input: the fuel bounds the number of unvisited members of `U`, which strictly
decreases along the recursion.  `U` holds every vertex id `far` can produce. -/
theorem dfsG_searches (hU : ∀ e w, far e = some w → w ∈ U) : ∀ fuel, Searches inc far U fuel (dfsG inc far fuel) := by
  have visited : ∀ fuel v vis st, v ∈ vis → Returns (Succ inc far) [v] vis st (dfsG inc far fuel v (vis, st)) :=
    fun fuel v vis st hvis =>
    ⟨[], vis, dfsG_visited fuel v st hvis, fun x => (or_iff_left List.not_mem_nil).symm, SpecN.visited hvis⟩
  intro fuel
  induction fuel with
  | zero =>
    intro v vis st hv hfuel
    by_cases hvis : v ∈ vis
    · exact .inl (visited 0 v vis st hvis)
    · exact absurd (Nat.lt_of_lt_of_le (cnt_cons_lt hv hvis) hfuel) (Nat.not_lt_zero _)
  | succ fuel ih =>
    intro v vis st hv hfuel
    by_cases hvis : v ∈ vis
    · exact .inl (visited _ v vis st hvis)
    · rcases forEach_searches ih (inc v) (v :: vis) st (fun x _ => hU x)
          (Nat.le_of_lt_succ (Nat.lt_of_lt_of_le (cnt_cons_lt hv hvis) hfuel)) with
        ⟨new, vis', hr, hext, hs⟩ | ⟨hr, hm⟩
      · refine .inl ⟨v :: new, vis', dfsG_succ_ok hvis hr, fun x => ?_, ?_⟩
        · rw [hext x, List.mem_cons, List.mem_cons, or_comm (a := x = v), or_assoc]
        · -- `Succ inc far v w` is, unfolded, the right side of `List.mem_filterMap`: the successors are the far ends
          exact SpecN.root hvis (fun w => List.mem_filterMap) (hs.congr fun u => List.mem_cons.trans or_comm)
      · exact .inr ⟨dfsG_succ_error hvis hr, hm.elim (fun ⟨x, hx, h⟩ => ⟨v, x, hx, h⟩) id⟩

end

theorem Searches.ne_diverges {inc : Nat → List Nat} {far : Nat → Option Nat} {U : List Nat} {fuel : Nat}
    {rec : Nat → St → Except Err St} (h : Searches inc far U fuel rec) {v : Nat} (vis st : List Nat) (hv : v ∈ U)
    (hf : cnt U vis ≤ fuel) : rec v (vis, st) ≠ .error .diverges := by
  rcases h v vis st hv hf with ⟨_, _, hr, _⟩ | ⟨hr, _⟩
  · rw [hr]; exact fun h => by cases h
  · rw [hr]; exact fun h => by cases h

/-! ### graphs: edges, reachability, well-formedness -/

/-- there is an edge record with source `u` and destination `v` -/
def Graph.Edge (g : Graph) (u v : Nat) : Prop := ∃ e : Nat, g.edges[e]? = some (u, v)

/-- `v` can be reached from `u` along directed edges (every vertex reaches itself) -/
inductive Graph.Reach (g : Graph) : Nat → Nat → Prop
  | refl (u : Nat) : Graph.Reach g u u
  | step {u w v : Nat} : g.Edge u w → Graph.Reach g w v → Graph.Reach g u v

theorem reach_iff_RA (g : Graph) (u v : Nat) : g.Reach u v ↔ RA g.Edge (fun _ => False) u v := by
  constructor
  · intro h
    induction h with
    | refl u => exact RA.refl (fun h => h)
    | step he _ ih => exact RA.step (fun h => h) he ih
  · intro h
    induction h with
    | refl _ => exact Graph.Reach.refl _
    | step _ he _ ih => exact Graph.Reach.step he ih

theorem Graph.Reach.trans {g : Graph} {u v w : Nat} (h1 : g.Reach u v) (h2 : g.Reach v w) : g.Reach u w :=
  (reach_iff_RA g u w).2 (((reach_iff_RA g u v).1 h1).trans ((reach_iff_RA g v w).1 h2))

/-- the facts packed in `Graph.wfb` -/
structure Graph.WF (g : Graph) : Prop where
  range : ∀ (e s d : Nat), g.edges[e]? = some (s, d) → s < g.n ∧ d < g.n
  out_src : ∀ (v e : Nat), e ∈ g.outEdges v → g.srcOf e = some v
  in_dst : ∀ (v e : Nat), e ∈ g.inEdges v → g.dstOf e = some v
  listed : ∀ (e s d : Nat), g.edges[e]? = some (s, d) → e ∈ g.outEdges s ∧ e ∈ g.inEdges d

/-- a vertex without a slot has no edges: `Graph.outEdges`, `Graph.inEdges` beyond their table -/
theorem slot_of_size_le {a : Array (List Nat)} {v : Nat} (h : a.size ≤ v) : (a[v]?).getD [] = [] := by
  rw [Array.getElem?_eq_none h]
  rfl

theorem Graph.wfb_iff (g : Graph) : g.wfb = true ↔ g.WF := by
  simp only [Graph.wfb, Bool.and_eq_true, beq_iff_eq, List.all_eq_true, decide_eq_true_eq, List.mem_range]
  constructor
  · rintro ⟨⟨⟨h3, h4⟩, h5⟩, h6⟩
    refine ⟨fun e s d he => h3 _ (Array.mem_toList_iff.2 (Array.mem_of_getElem? he)), fun v e he => ?_,
      fun v e he => ?_, fun e s d he => ?_⟩
    · by_cases hv : v < g.adj.size
      · exact h4 v hv e he
      · rw [Graph.outEdges, slot_of_size_le (Nat.le_of_not_lt hv)] at he; cases he
    · by_cases hv : v < g.rev.size
      · exact h5 v hv e he
      · rw [Graph.inEdges, slot_of_size_le (Nat.le_of_not_lt hv)] at he; cases he
    · have := h6 e (Array.getElem?_eq_some_iff.1 he).1
      rw [he] at this
      exact ⟨List.contains_iff_mem.1 (Bool.and_eq_true_iff.1 this).1,
        List.contains_iff_mem.1 (Bool.and_eq_true_iff.1 this).2⟩
  · intro h
    refine ⟨⟨⟨fun p hp => ?_, fun v _ e he => h.out_src v e he⟩, fun v _ e he => h.in_dst v e he⟩,
      fun e he => ?_⟩
    · obtain ⟨e, he⟩ := Array.getElem?_of_mem (Array.mem_toList_iff.1 hp)
      exact h.range e p.1 p.2 he
    · rw [Array.getElem?_eq_getElem he]
      obtain ⟨h1, h2⟩ := h.listed e _ _ (Array.getElem?_eq_getElem he)
      exact Bool.and_eq_true_iff.2 ⟨List.contains_iff_mem.2 h1, List.contains_iff_mem.2 h2⟩

theorem Graph.srcOf_eq_some {g : Graph} {e v : Nat} : g.srcOf e = some v ↔ ∃ d, g.edges[e]? = some (v, d) := by
  unfold Graph.srcOf
  cases g.edges[e]? with
  | none => exact ⟨fun h => (by cases h), fun ⟨_, h⟩ => (by cases h)⟩
  | some p => exact ⟨fun h => ⟨p.2, by cases h; rfl⟩, fun ⟨d, h⟩ => by cases h; rfl⟩

theorem Graph.dstOf_eq_some {g : Graph} {e w : Nat} : g.dstOf e = some w ↔ ∃ s, g.edges[e]? = some (s, w) := by
  unfold Graph.dstOf
  cases g.edges[e]? with
  | none => exact ⟨fun h => (by cases h), fun ⟨_, h⟩ => (by cases h)⟩
  | some p => exact ⟨fun h => ⟨p.1, by cases h; rfl⟩, fun ⟨d, h⟩ => by cases h; rfl⟩

theorem dstOf_mem_universe (g : Graph) (e w : Nat) (h : g.dstOf e = some w) : w ∈ g.universe := by
  obtain ⟨s, hp⟩ := Graph.dstOf_eq_some.1 h
  exact List.mem_append_right _
    (List.mem_map.2 ⟨(s, w), Array.mem_toList_iff.2 (Array.mem_of_getElem? hp), rfl⟩)

theorem srcOf_mem_universe (g : Graph) (e w : Nat) (h : g.srcOf e = some w) : w ∈ g.universe := by
  obtain ⟨d, hp⟩ := Graph.srcOf_eq_some.1 h
  exact List.mem_append_left _ (List.mem_append_right _
    (List.mem_map.2 ⟨(w, d), Array.mem_toList_iff.2 (Array.mem_of_getElem? hp), rfl⟩))

theorem range_subset_universe {g : Graph} {x : Nat} (hx : x ∈ List.range g.n) : x ∈ g.universe :=
  List.mem_append_left _ (List.mem_append_left _ hx)

theorem cnt_universe_le_fuel (g : Graph) (vis : List Nat) : cnt g.universe vis ≤ g.fuel := by
  refine Nat.le_trans (cnt_le _ vis) (Nat.le_of_eq ?_)
  simp only [Graph.universe, Graph.fuel, List.length_append, List.length_range, List.length_map, Array.length_toList]
  rw [Nat.two_mul, Nat.add_assoc]

theorem dfs_searches (g : Graph) : Searches g.outEdges g.dstOf g.universe g.fuel (dfs g g.fuel) :=
  dfsG_searches (dstOf_mem_universe g) g.fuel

theorem rdfs_searches (g : Graph) : Searches g.inEdges g.srcOf g.universe g.fuel (rdfs g g.fuel) :=
  dfsG_searches (srcOf_mem_universe g) g.fuel

namespace Graph.WF
variable {g : Graph}

theorem edge_lt (h : g.WF) {u v : Nat} (he : g.Edge u v) : u < g.n ∧ v < g.n := by
  obtain ⟨e, he⟩ := he
  exact h.range e u v he

theorem reach_lt (h : g.WF) {u v : Nat} (hr : g.Reach u v) (hu : u < g.n) : v < g.n :=
  ((reach_iff_RA g u v).1 hr).bounded (fun _ _ he => (h.edge_lt he).2) hu

/-- on a well-formed graph the forward search walks the edge relation: a record `(v, w)` is named by the slot of `v`,
and an id in the slot of `v` has a record with source `v` -/
theorem succ_out (h : g.WF) : Succ g.outEdges g.dstOf = g.Edge := by
  funext v w
  refine propext ⟨fun ⟨e, he, hd⟩ => ?_, fun ⟨e, he⟩ => ⟨e, (h.listed e v w he).1, Graph.dstOf_eq_some.2 ⟨v, he⟩⟩⟩
  obtain ⟨d, h1⟩ := Graph.srcOf_eq_some.1 (h.out_src v e he)
  obtain ⟨s, h2⟩ := Graph.dstOf_eq_some.1 hd
  rw [h1] at h2
  cases h2
  exact ⟨e, h1⟩

/-- and the backward search walks its converse -/
theorem succ_in (h : g.WF) : Succ g.inEdges g.srcOf = fun a b => g.Edge b a := by
  funext v w
  refine propext ⟨fun ⟨e, he, hd⟩ => ?_, fun ⟨e, he⟩ => ⟨e, (h.listed e w v he).2, Graph.srcOf_eq_some.2 ⟨v, he⟩⟩⟩
  obtain ⟨s, h1⟩ := Graph.dstOf_eq_some.1 (h.in_dst v e he)
  obtain ⟨d, h2⟩ := Graph.srcOf_eq_some.1 hd
  rw [h1] at h2
  cases h2
  exact ⟨e, h1⟩

/-- every edge id a slot names has a record (its source is read from it), so no search stops with `EdgeNotFound` -/
theorem out_recorded (h : g.WF) : ¬ NoRecord g.outEdges g.dstOf := by
  rintro ⟨u, e, he, hn⟩
  obtain ⟨d, h1⟩ := Graph.srcOf_eq_some.1 (h.out_src u e he)
  rw [Graph.dstOf_eq_some.2 ⟨u, h1⟩] at hn
  cases hn

theorem in_recorded (h : g.WF) : ¬ NoRecord g.inEdges g.srcOf := by
  rintro ⟨u, e, he, hn⟩
  obtain ⟨s, h1⟩ := Graph.dstOf_eq_some.1 (h.in_dst u e he)
  rw [Graph.srcOf_eq_some.2 ⟨u, h1⟩] at hn
  cases hn

/-- forward search on a well-formed graph: no edge record is missing, so it returns, with the block of the
specification along the edges -/
theorem dfs_ok (h : g.WF) {v : Nat} (hv : v < g.n) (vis st : List Nat) :
    Returns g.Edge [v] vis st (dfs g g.fuel v (vis, st)) :=
  h.succ_out ▸ (dfs_searches g v vis st (range_subset_universe (List.mem_range.2 hv))
    (cnt_universe_le_fuel g vis)).resolve_right fun hm => h.out_recorded hm.2

/-- backward search: the same along the reversed edges -/
theorem rdfs_ok (h : g.WF) {v : Nat} (hv : v < g.n) (vis st : List Nat) :
    Returns (fun a b => g.Edge b a) [v] vis st (rdfs g g.fuel v (vis, st)) :=
  h.succ_in ▸ (rdfs_searches g v vis st (range_subset_universe (List.mem_range.2 hv))
    (cnt_universe_le_fuel g vis)).resolve_right fun hm => h.in_recorded hm.2

end Graph.WF

/-! ### first pass: the stack after `for vertex_id in graph.vertex_ids()` -/

/-- what the second pass needs to know about the stack `S` left by the first pass (head = top) -/
structure StackOk (g : Graph) (S : List Nat) : Prop where
  mem : ∀ y, y ∈ S ↔ y < g.n
  order : ∀ x ∈ S, ∀ y, g.Reach x y →
    ∃ z ∈ S, g.Reach z x ∧ g.Reach x z ∧ S.idxOf z ≤ S.idxOf y

/-- the first pass on every graph value: it stops at an edge id without a record, or leaves the block of the
searches from `0 .. n-1` -/
theorem pass1_run (g : Graph) :
    (∃ vis S, pass1 g = .ok (vis, S) ∧ SpecN (Succ g.outEdges g.dstOf) (List.range g.n) (fun _ => False) S) ∨
    (pass1 g = .error .edgeNotFound ∧ NoRecord g.outEdges g.dstOf) := by
  rcases forEach_searches (dfs_searches g) (far' := some) (List.range g.n) [] []
      (fun x hx w hw => Option.some.inj hw ▸ range_subset_universe hx) (cnt_universe_le_fuel g []) with
    ⟨new, vis', hr, _, hs⟩ | ⟨hr, hm⟩
  · refine .inl ⟨vis', new, by rw [pass1, hr, List.append_nil], ?_⟩
    rw [List.filterMap_some] at hs
    exact hs.congr fun v => iff_of_false List.not_mem_nil id
  · exact .inr ⟨hr, hm.resolve_left fun ⟨_, _, hn⟩ => nomatch hn⟩

theorem pass1_spec {g : Graph} (h : g.WF) : ∃ vis S, pass1 g = .ok (vis, S) ∧ StackOk g S := by
  obtain ⟨vis, S, hr, hs⟩ := (pass1_run g).resolve_right fun hm => h.out_recorded hm.2
  rw [h.succ_out] at hs
  refine ⟨vis, S, hr, fun y => ?_, fun x hx y hxy => ?_⟩
  · rw [hs.reach y]
    constructor
    · rintro ⟨w, hw, hr⟩
      exact h.reach_lt ((reach_iff_RA g w y).2 hr) (List.mem_range.1 hw)
    · intro hy
      exact ⟨y, List.mem_range.2 hy, RA.refl (fun h => h)⟩
  · obtain ⟨z, hz, h1, h2, h3⟩ := hs.order x hx y ((reach_iff_RA g x y).1 hxy)
    exact ⟨z, hz, (reach_iff_RA g z x).2 h1, (reach_iff_RA g x z).2 h2, h3⟩

/-! ### second pass -/

/-- `c` is a mutual-reachability class, listed without repetition -/
def IsClass (g : Graph) (c : List Nat) : Prop :=
  c ≠ [] ∧ c.Nodup ∧ ∀ u ∈ c, ∀ v, v ∈ c ↔ (g.Reach u v ∧ g.Reach v u)

/-- `cs` is the partition of the vertices `0 .. n-1` into mutual-reachability classes -/
structure IsSccPartition (g : Graph) (cs : List (List Nat)) : Prop where
  /-- no empty block -/
  nonempty : ∀ c ∈ cs, c ≠ []
  /-- no vertex occurs twice, neither inside a block nor in two blocks -/
  nodup : cs.flatten.Nodup
  /-- the blocks hold exactly the vertices of the graph -/
  cover : ∀ v, v ∈ cs.flatten ↔ v < g.n
  /-- a block holds exactly the vertices mutually reachable with any of its members -/
  classes : ∀ c ∈ cs, ∀ u ∈ c, ∀ v, v ∈ c ↔ (g.Reach u v ∧ g.Reach v u)

/-- `cs` lists the mutual-reachability classes of the vertices `0 .. n-1`, each once: the form the loop invariant
`Inv2` ends in (blocks pairwise disjoint); `IsSccPartition` says the same of the concatenation and is what the
theorems of C18 state (`Good.isSccPartition`) -/
structure Good (g : Graph) (cs : List (List Nat)) : Prop where
  classes : ∀ c ∈ cs, IsClass g c
  disjoint : cs.Pairwise (fun a b => ∀ x, x ∈ a → x ∉ b)
  cover : ∀ x, (∃ c ∈ cs, x ∈ c) ↔ x < g.n

/-- the top of what is left of the stack is a vertex -/
theorem StackOk.top_lt {g : Graph} {S st vis : List Nat} {v : Nat} (hS : StackOk g S)
    (hsuf : ∃ popped, S = popped ++ v :: st ∧ ∀ z ∈ popped, z ∈ vis) : v < g.n :=
  let ⟨_, hSeq, _⟩ := hsuf
  (hS.mem v).1 (hSeq ▸ List.mem_append_right _ List.mem_cons_self)

/-- one vertex is popped: it joins the popped part, which stays inside a visited set that has only grown -/
theorem suffix_pop {S st vis vis' : List Nat} {v : Nat} (hsuf : ∃ popped, S = popped ++ v :: st ∧ ∀ z ∈ popped, z ∈ vis)
    (hsub : ∀ z ∈ vis, z ∈ vis') (hv : v ∈ vis') : ∃ popped, S = popped ++ st ∧ ∀ z ∈ popped, z ∈ vis' := by
  obtain ⟨popped, hSeq, hpop⟩ := hsuf
  refine ⟨popped ++ [v], by rw [hSeq, List.append_assoc]; rfl, fun z hz => ?_⟩
  rcases List.mem_append.1 hz with hz | hz
  · exact hsub z (hpop z hz)
  · rw [List.mem_singleton.1 hz]; exact hv

/-- loop invariant of the second pass: `st` is what is left of the stack `S`, `vis` the visited set,
`acc` the components found so far -/
structure Inv2 (g : Graph) (S st vis : List Nat) (acc : List (List Nat)) : Prop where
  suffix : ∃ popped, S = popped ++ st ∧ ∀ z ∈ popped, z ∈ vis
  predc : ∀ x y, g.Edge x y → y ∈ vis → x ∈ vis
  union : ∀ x, x ∈ vis ↔ ∃ c ∈ acc, x ∈ c
  classes : ∀ c ∈ acc, IsClass g c
  disjoint : acc.Pairwise (fun a b => ∀ x, x ∈ a → x ∉ b)
  lt : ∀ x ∈ vis, x < g.n

theorem predc_reach {g : Graph} {vis : List Nat} (hp : ∀ x y, g.Edge x y → y ∈ vis → x ∈ vis)
    {x y : Nat} (h : g.Reach x y) (hy : y ∈ vis) : x ∈ vis :=
  ((reach_iff_RA g x y).1 h).flip.preserves (P := (· ∈ vis)) (fun a b he => hp b a he) hy

/-- what lies at or above `v` in `popped ++ v :: st` is in `popped` or is `v` -/
theorem mem_or_eq_of_idxOf_le {popped st : List Nat} {v z : Nat}
    (h : (popped ++ v :: st).idxOf z ≤ (popped ++ v :: st).idxOf v) : z ∈ popped ∨ z = v := by
  by_cases hzp : z ∈ popped
  · exact .inl hzp
  · have hv : (popped ++ v :: st).idxOf v ≤ popped.length := by
      rw [List.idxOf_append]
      split
      · next hm => exact Nat.le_of_lt (List.idxOf_lt_length_of_mem hm)
      · rw [List.idxOf_cons_self, Nat.zero_add]; exact Nat.le_refl _
    replace h := Nat.le_trans h hv
    rw [List.idxOf_append, if_neg hzp, List.idxOf_cons] at h
    by_cases hzv : v = z
    · exact .inr hzv.symm
    · rw [beq_eq_false_iff_ne.2 hzv] at h
      exact absurd (Nat.le_of_add_le_add_right (Nat.le_trans h (Nat.le_of_eq (Nat.zero_add _).symm))) (Nat.not_succ_le_zero _)

/-- the component collected by the reverse search from the top-most unvisited vertex `v` is its class.
`⊆`: `y` in the block reaches `v` avoiding `vis`; by the order property of the stack some `z` mutually reachable
with `y` lies at or above `v`; were `z` among the popped vertices it would be visited, and so would `y`, `vis` being
closed under predecessors — hence `z = v`.  `⊇`: a walk `y ⇝ v` cannot touch `vis`, or `v` itself would be visited. -/
theorem component_is_class {g : Graph} (h : g.WF) {S st vis C : List Nat} {v : Nat}
    (hS : StackOk g S) (hsuf : ∃ popped, S = popped ++ v :: st ∧ ∀ z ∈ popped, z ∈ vis)
    (hp : ∀ x y, g.Edge x y → y ∈ vis → x ∈ vis) (hv : v ∉ vis)
    (hC : SpecN (fun a b => g.Edge b a) [v] (fun u => u ∈ vis) C) :
    ∀ y, y ∈ C ↔ (g.Reach v y ∧ g.Reach y v) := by
  have hvn : v < g.n := hS.top_lt hsuf
  obtain ⟨popped, hSeq, hpop⟩ := hsuf
  intro y
  rw [hC.reach y]
  simp only [List.mem_singleton, exists_eq_left]
  constructor
  · intro hr
    have hyv : RA g.Edge (fun u => u ∈ vis) y v := hr.flip
    have hRyv : g.Reach y v := (reach_iff_RA g y v).2 (hyv.mono (fun _ hf => hf.elim))
    have hyn : y < g.n := RA.bounded (E := fun a b => g.Edge b a) (fun a b he => (h.edge_lt he).1) hr hvn
    obtain ⟨z, _, hzy, hyz, hidx⟩ := hS.order y ((hS.mem y).2 hyn) v hRyv
    rcases mem_or_eq_of_idxOf_le (hSeq ▸ hidx) with hzp | rfl
    · exact absurd (predc_reach hp hyz (hpop z hzp)) hyv.src_not
    · exact ⟨hzy, hRyv⟩
  · rintro ⟨hvy, hyv⟩
    have : RA g.Edge (fun u => u ∈ vis) y v := by
      apply ((reach_iff_RA g y v).1 hyv).avoid
      intro p hyp _ hpvis
      have hvp : g.Reach v p := hvy.trans ((reach_iff_RA g y p).2 hyp)
      exact hv (predc_reach hp hvp hpvis)
    exact this.flip

/-- the vertices mutually reachable with `v`, listed without repetition (in either order), are a class -/
theorem IsClass.of_root {g : Graph} {C : List Nat} {v : Nat} (hnd : C.Nodup)
    (h : ∀ y, y ∈ C ↔ (g.Reach v y ∧ g.Reach y v)) : IsClass g C.reverse := by
  refine ⟨fun hnil => ?_, List.pairwise_reverse.2 (hnd.imp (fun h => h.symm)), fun u hu w => ?_⟩
  · have : v ∈ C.reverse := List.mem_reverse.2 ((h v).2 ⟨.refl v, .refl v⟩)
    rw [hnil] at this
    cases this
  · rw [List.mem_reverse] at hu ⊢
    obtain ⟨hvu, huv⟩ := (h u).1 hu
    rw [h w]
    exact ⟨fun ⟨hvw, hwv⟩ => ⟨huv.trans hvw, hwv.trans hvu⟩, fun ⟨huw, hwu⟩ => ⟨hvu.trans huw, hwu.trans huv⟩⟩

namespace Inv2
variable {g : Graph} {S st vis : List Nat} {acc : List (List Nat)} {v : Nat}

theorem init (g : Graph) (S : List Nat) : Inv2 g S S [] [] where
  suffix := ⟨[], rfl, fun _ hz => nomatch hz⟩
  predc := fun _ _ _ hy => nomatch hy
  union := fun _ => ⟨fun hx => (nomatch hx), fun ⟨_, hc, _⟩ => (nomatch hc)⟩
  classes := fun _ hc => nomatch hc
  disjoint := List.Pairwise.nil
  lt := fun _ hx => nomatch hx

/-- the popped vertex was visited already: nothing changes -/
theorem skip (hI : Inv2 g S (v :: st) vis acc) (hvis : v ∈ vis) : Inv2 g S st vis acc :=
  { hI with suffix := suffix_pop hI.suffix (fun _ hz => hz) hvis }

/-- the popped vertex is new: the block `C` of the reverse search from it is emitted -/
theorem emit (h : g.WF) (hS : StackOk g S) (hI : Inv2 g S (v :: st) vis acc) (hvis : v ∉ vis) {C vis' : List Nat}
    (hext : ∀ x, x ∈ vis' ↔ (x ∈ vis ∨ x ∈ C)) (hC : SpecN (fun a b => g.Edge b a) [v] (fun u => u ∈ vis) C) :
    Inv2 g S st vis' (C.reverse :: acc) := by
  have hclass := component_is_class h hS hI.suffix hI.predc hvis hC
  have hvC : v ∈ C := (hclass v).2 ⟨Graph.Reach.refl v, Graph.Reach.refl v⟩
  refine {
    suffix := suffix_pop hI.suffix (fun z hz => (hext z).2 (Or.inl hz)) ((hext v).2 (Or.inr hvC))
    predc := ?predc
    union := ?union
    classes := ?classes
    disjoint := ?disjoint
    lt := ?lt }
  case predc =>
    -- a new predecessor of a block member reaches `v` backwards, so it is in the block: `hC.closed`
    intro x y he hy
    rcases (hext y).1 hy with hy | hy
    · exact (hext x).2 (Or.inl (hI.predc x y he hy))
    · by_cases hx : x ∈ vis
      · exact (hext x).2 (Or.inl hx)
      · exact (hext x).2 (Or.inr (hC.closed hy (RA.step (hC.fresh hy) he (RA.refl hx))))
  case union =>
    intro x
    rw [hext x, hI.union x]
    simp only [List.mem_cons, exists_eq_or_imp, List.mem_reverse]
    exact Or.comm
  case classes =>
    intro c hc
    rcases List.mem_cons.1 hc with rfl | hc
    · exact IsClass.of_root hC.nodup hclass
    · exact hI.classes c hc
  case disjoint =>
    rw [List.pairwise_cons]
    refine ⟨fun c hc x hx hxc => ?_, hI.disjoint⟩
    rw [List.mem_reverse] at hx
    exact hC.fresh hx ((hI.union x).2 ⟨c, hc, hxc⟩)
  case lt =>
    intro x hx
    rcases (hext x).1 hx with hx | hx
    · exact hI.lt x hx
    · exact h.reach_lt ((hclass x).1 hx).1 (hS.top_lt hI.suffix)

/-- the stack is used up: the blocks found are the classes of all vertices -/
theorem good (hS : StackOk g S) (hI : Inv2 g S [] vis acc) : Good g acc.reverse := by
  refine ⟨fun c hc => hI.classes c (List.mem_reverse.1 hc), ?_, fun x => ?_⟩
  · rw [List.pairwise_reverse]
    exact hI.disjoint.imp (fun {a b} hab x hxb hxa => hab x hxa hxb)
  · obtain ⟨popped, hSeq, hpop⟩ := hI.suffix
    constructor
    · rintro ⟨c, hc, hx⟩
      exact hI.lt x ((hI.union x).2 ⟨c, List.mem_reverse.1 hc, hx⟩)
    · intro hx
      have hxS : x ∈ S := (hS.mem x).2 hx
      rw [hSeq, List.append_nil] at hxS
      obtain ⟨c, hc, hxc⟩ := (hI.union x).1 (hpop x hxS)
      exact ⟨c, List.mem_reverse.2 hc, hxc⟩

end Inv2

theorem pass2_spec {g : Graph} (h : g.WF) {S : List Nat} (hS : StackOk g S) :
    ∀ st vis acc, Inv2 g S st vis acc → ∃ cs, pass2 g st vis acc = .ok cs ∧ Good g cs := by
  intro st
  induction st with
  | nil => intro vis acc hI; exact ⟨acc.reverse, rfl, hI.good hS⟩
  | cons v st ih =>
    intro vis acc hI
    by_cases hvis : v ∈ vis
    · obtain ⟨cs, hcs, hgood⟩ := ih vis acc (hI.skip hvis)
      exact ⟨cs, (pass2_visited g st acc hvis).trans hcs, hgood⟩
    · obtain ⟨C, vis', hr, hext, hC⟩ := h.rdfs_ok (hS.top_lt hI.suffix) vis []
      rw [List.append_nil] at hr
      obtain ⟨cs, hcs, hgood⟩ := ih vis' (C.reverse :: acc) (hI.emit h hS hvis hext hC)
      exact ⟨cs, (pass2_new g st acc hvis hr).trans hcs, hgood⟩

/-! ### both passes: the result -/

/-- Kosaraju's algorithm as written in `scc.rs` is correct on every well-formed graph: it returns (no error,
fuel not exhausted) the list of mutual-reachability classes -/
theorem allScc_good {g : Graph} (h : g.WF) : ∃ cs, allScc g = .ok cs ∧ Good g cs := by
  obtain ⟨vis, S, h1, hS⟩ := pass1_spec h
  obtain ⟨cs, h2, hgood⟩ := pass2_spec h hS S [] [] (Inv2.init g S)
  exact ⟨cs, by simp [allScc, h1, h2], hgood⟩

/-! ### the graph value `ofEdges` builds is well formed -/

theorem ofEdges_edge (n : Nat) (es : List (Nat × Nat)) (u v : Nat) :
    (Graph.ofEdges n es).Edge u v ↔ (u, v) ∈ es := by
  unfold Graph.Edge Graph.ofEdges
  simp only [List.getElem?_toArray]
  exact (List.mem_iff_getElem? (a := (u, v)) (l := es)).symm

/-- slot `v` of a table built by `ofEdges`: the positions of the records whose `key` is `v` -/
theorem slot_mem (n : Nat) (es : List (Nat × Nat)) (key : Nat × Nat → Nat) (v e : Nat) :
    e ∈ ((((List.range n).map fun v =>
      (List.range es.length).filter fun e => (es[e]?).map key == some v).toArray)[v]?).getD [] ↔
      v < n ∧ (es[e]?).map key = some v := by
  rw [List.getElem?_toArray, List.getElem?_map]
  by_cases hv : v < n
  · rw [List.getElem?_range hv, Option.map_some, Option.getD_some, List.mem_filter, beq_iff_eq, List.mem_range]
    refine ⟨fun h => ⟨hv, h.2⟩, fun h => ⟨?_, h.2⟩⟩
    cases he : es[e]? with
    | none => rw [he] at h; cases h.2
    | some p => exact (List.getElem?_eq_some_iff.1 he).1
  · rw [List.getElem?_eq_none (by rw [List.length_range]; exact Nat.le_of_not_lt hv)]
    exact ⟨fun h => (by cases h), fun h => absurd h.1 hv⟩

theorem ofEdges_wf (n : Nat) (es : List (Nat × Nat)) (h : ∀ p ∈ es, p.1 < n ∧ p.2 < n) :
    (Graph.ofEdges n es).WF := by
  have hget : ∀ e, (Graph.ofEdges n es).edges[e]? = es[e]? := fun e => List.getElem?_toArray
  refine {
    range := fun e s d he => ?range
    out_src := fun v e he => ?out_src
    in_dst := fun v e he => ?in_dst
    listed := fun e s d he => ?listed }
  case range =>
    rw [hget] at he
    exact h (s, d) (List.mem_of_getElem? he)
  case out_src =>
    rw [Graph.srcOf, hget]
    exact ((slot_mem n es (·.1) v e).1 he).2
  case in_dst =>
    rw [Graph.dstOf, hget]
    exact ((slot_mem n es (·.2) v e).1 he).2
  case listed =>
    rw [hget] at he
    obtain ⟨hs, hd⟩ := h (s, d) (List.mem_of_getElem? he)
    exact ⟨(slot_mem n es (·.1) s e).2 ⟨hs, by rw [he]; rfl⟩, (slot_mem n es (·.2) d e).2 ⟨hd, by rw [he]; rfl⟩⟩

theorem ofEdges_wfb (n : Nat) (es : List (Nat × Nat)) (h : ∀ p ∈ es, p.1 < n ∧ p.2 < n) :
    (Graph.ofEdges n es).wfb = true :=
  (Graph.wfb_iff _).2 (ofEdges_wf n es h)

/-! ### the fuel is never exhausted, on any `Graph` value (well formed or not)

The recursion only ever meets vertex ids from the finite universe `U` = `0 .. n-1` plus the end points of
the edge records; every recursive call on an unvisited vertex visits one more member of `U` (`dfsG_searches`). -/

/-- the first pass does not run out of fuel, and leaves a stack of members of the universe (what the second pass
needs of it on graphs that are not well formed) -/
theorem pass1_term (g : Graph) :
    pass1 g ≠ .error .diverges ∧ ∀ vis st, pass1 g = .ok (vis, st) → ∀ x ∈ st, x ∈ g.universe := by
  rcases pass1_run g with ⟨vis', S, hp, hs⟩ | ⟨hp, _⟩
  · refine ⟨fun h => (by cases hp.symm.trans h), fun vis st h x hx => ?_⟩
    cases hp.symm.trans h
    obtain ⟨w, hw, hwx⟩ := (hs.reach x).1 hx
    exact hwx.preserves (fun a b ⟨e, he, hb⟩ _ => dstOf_mem_universe g e b hb) (range_subset_universe hw)
  · exact ⟨fun h => (by cases hp.symm.trans h), fun vis st h => (by cases hp.symm.trans h)⟩

theorem pass2_term (g : Graph) :
    ∀ st vis acc, (∀ x ∈ st, x ∈ g.universe) → pass2 g st vis acc ≠ .error .diverges := by
  intro st
  induction st with
  | nil => intro vis acc _ h; cases h
  | cons v st ih =>
    intro vis acc hst
    have hst' : ∀ x ∈ st, x ∈ g.universe := fun x hx => hst x (List.mem_cons_of_mem _ hx)
    by_cases hvis : v ∈ vis
    · rw [pass2_visited g st acc hvis]
      exact ih vis acc hst'
    · have hnd := (rdfs_searches g).ne_diverges vis [] (hst v List.mem_cons_self) (cnt_universe_le_fuel g vis)
      cases hr : rdfs g g.fuel v (vis, []) with
      | error x =>
        rw [pass2_error g st acc hvis hr]
        exact fun h => hnd (hr.trans (congrArg Except.error (Except.error.inj h)))
      | ok s1 =>
        rw [pass2_new g st acc hvis hr]
        exact ih s1.1 (s1.2.reverse :: acc) hst'

theorem largestScc_ok {g : Graph} {cs : List (List Nat)} (h : allScc g = .ok cs) :
    largestScc g = .ok (largestOf cs) := by
  rw [largestScc, h]

theorem largestScc_error {g : Graph} {x : Err} (h : allScc g = .error x) : largestScc g = .error x := by
  rw [largestScc, h]

theorem allScc_ne_diverges (g : Graph) : allScc g ≠ .error .diverges := by
  obtain ⟨hnd, hst⟩ := pass1_term g
  unfold allScc
  cases hr : pass1 g with
  | error x => exact fun h => hnd (hr.trans (congrArg Except.error (Except.error.inj h)))
  | ok s1 => exact pass2_term g s1.2 [] [] (hst s1.1 s1.2 hr)

/-! ### the frame-list searches compute what the recursive ones compute

The list of frames is the continuation of the recursive search (`unwind`); `iterLoop_eq_unwind` is an induction
over the turns of the loop itself.  The recursion depth never matters once it covers the unvisited vertices
(`dfsG_succ_eq`), so one depth serves every frame. -/

section Iter
variable {inc : Nat → List Nat} {far : Nat → Option Nat} {U : List Nat}

/-- what is left to do of the recursive search when the loop holds the frames `fr`: finish the edge loop of the top
frame, push its vertex, go on with the frame below -/
def unwind (inc : Nat → List Nat) (far : Nat → Option Nat) (n : Nat) : List Frame → St → Except Err St
  | [], s => .ok s
  | (v, es) :: fr, s =>
    match forEach (dfsG inc far n) far es s with
    | .error x => .error x
    | .ok (vis, st) => unwind inc far n fr (vis, v :: st)

/-- a second procedure that agrees with the first wherever the first does not run out of fuel agrees with it under the
edge loop, unless the loop runs out of fuel -/
theorem forEach_congr_of_ne_diverges {rec1 rec2 : Nat → St → Except Err St} {far : Nat → Option Nat} :
    ∀ xs s, (∀ x ∈ xs, ∀ w, far x = some w → ∀ s, rec1 w s ≠ .error .diverges → rec2 w s = rec1 w s) →
      forEach rec1 far xs s ≠ .error .diverges → forEach rec2 far xs s = forEach rec1 far xs s := by
  intro xs
  induction xs with
  | nil => intro s _ _; rfl
  | cons e es ih =>
    intro s h hnd
    cases hw : far e with
    | none => rw [forEach_cons_none es s hw, forEach_cons_none es s hw]
    | some w =>
      cases hr : rec1 w s with
      | error x =>
        rw [forEach_cons_error es hw hr] at hnd ⊢
        exact forEach_cons_error es hw ((h e List.mem_cons_self w hw s (hr ▸ hnd)).trans hr)
      | ok s' =>
        rw [forEach_cons_ok es hw hr] at hnd ⊢
        rw [forEach_cons_ok es hw ((h e List.mem_cons_self w hw s (hr ▸ fun h => nomatch h)).trans hr)]
        exact ih s' (fun x hx => h x (List.mem_cons_of_mem _ hx)) hnd

/-- one more unit of depth changes no call that did not run out of depth -/
theorem dfsG_succ_eq : ∀ n v vis st, dfsG inc far n v (vis, st) ≠ .error .diverges →
    dfsG inc far (n + 1) v (vis, st) = dfsG inc far n v (vis, st) := by
  intro n
  induction n with
  | zero =>
    intro v vis st hnd
    by_cases hvis : v ∈ vis
    · rw [dfsG_visited _ v st hvis, dfsG_visited _ v st hvis]
    · exact absurd (dfsG_zero st hvis) hnd
  | succ n ih =>
    intro v vis st hnd
    by_cases hvis : v ∈ vis
    · rw [dfsG_visited _ v st hvis, dfsG_visited _ v st hvis]
    · have hloop : forEach (dfsG inc far n) far (inc v) (v :: vis, st) ≠ .error .diverges :=
        fun h => hnd (dfsG_succ_error hvis h)
      have := forEach_congr_of_ne_diverges (inc v) (v :: vis, st) (fun _ _ w _ s => ih w s.1 s.2) hloop
      cases hr : forEach (dfsG inc far n) far (inc v) (v :: vis, st) with
      | error x => rw [dfsG_succ_error hvis hr, dfsG_succ_error hvis (this.trans hr)]
      | ok s' => rw [dfsG_succ_ok hvis hr, dfsG_succ_ok hvis (this.trans hr)]

theorem unwind_missing {e : Nat} (n v : Nat) (es : List Nat) (fr : List Frame) (s : St) (hw : far e = none) :
    unwind inc far n ((v, e :: es) :: fr) s = .error .edgeNotFound := by
  rw [unwind, forEach_cons_none es s hw]

/-- the next edge of the top frame is a call of the recursive search -/
theorem unwind_edge {e w : Nat} (n v : Nat) (es : List Nat) (fr : List Frame) (s : St) (hw : far e = some w) :
    unwind inc far n ((v, e :: es) :: fr) s =
      match dfsG inc far n w s with
      | .error x => .error x
      | .ok s' => unwind inc far n ((v, es) :: fr) s' := by
  cases hr : dfsG inc far n w s with
  | error x => rw [unwind, forEach_cons_error es hw hr]
  | ok s' => rw [unwind, forEach_cons_ok es hw hr]; rfl

/-- a frame just opened for an unvisited vertex is a call one level up -/
theorem unwind_open {w : Nat} (n : Nat) (fr : List Frame) {vis : List Nat} (st : List Nat) (hvis : w ∉ vis) :
    unwind inc far n ((w, inc w) :: fr) (w :: vis, st) =
      match dfsG inc far (n + 1) w (vis, st) with
      | .error x => .error x
      | .ok s' => unwind inc far n fr s' := by
  cases hr : forEach (dfsG inc far n) far (inc w) (w :: vis, st) with
  | error x => rw [unwind, hr, dfsG_succ_error hvis hr]
  | ok s' => obtain ⟨vis', st'⟩ := s'; rw [unwind, hr, dfsG_succ_ok hvis hr]

/-- turns still owed to the members of `U` not yet visited: one per incident edge, one to pop the frame -/
abbrev turnsOwed (inc : Nat → List Nat) (U vis : List Nat) : Nat := owed (fun u => (inc u).length + 1) U vis

/-- turns still owed to the frames -/
def frameTurns (fr : List Frame) : Nat := (fr.map (fun p => p.2.length + 1)).sum

theorem frameTurns_cons (v : Nat) (es : List Nat) (fr : List Frame) :
    frameTurns ((v, es) :: fr) = es.length + 1 + frameTurns fr := rfl

/-- within its budget of turns the loop computes what is left of the recursive search.  `U` must hold the far end of
EVERY edge id, not only of the incident edges of some vertex: the frames are arbitrary. -/
theorem iterLoop_eq_unwind (hU : ∀ e w, far e = some w → w ∈ U) (n : Nat) :
    ∀ f fr vis st, cnt U vis ≤ n → turnsOwed inc U vis + frameTurns fr ≤ f →
      iterLoop inc far f fr (vis, st) = unwind inc far n fr (vis, st) := by
  intro f
  induction f with
  | zero =>
    intro fr vis st _ h
    cases fr with
    | nil => rfl
    | cons a fr =>
      rw [frameTurns_cons, Nat.add_right_comm _ 1, ← Nat.add_assoc] at h
      exact absurd h (Nat.not_succ_le_zero _)
  | succ f ih =>
    intro fr vis st hc h
    cases fr with
    | nil => rfl
    | cons a fr =>
      obtain ⟨v, es⟩ := a
      -- the top frame pays for this turn
      have h' : turnsOwed inc U vis + (es.length + frameTurns fr) ≤ f := by
        rw [frameTurns_cons, Nat.add_right_comm _ 1, ← Nat.add_assoc] at h
        exact Nat.le_of_succ_le_succ h
      cases es with
      | nil =>
        rw [List.length_nil, Nat.zero_add] at h'
        exact ih fr vis (v :: st) hc h'
      | cons e es =>
        rw [List.length_cons] at h'
        cases hw : far e with
        | none => rw [iterLoop_missing _ v es fr vis st hw, unwind_missing n v es fr _ hw]
        | some w =>
          rw [unwind_edge n v es fr _ hw]
          by_cases hvis : w ∈ vis
          · rw [iterLoop_visited _ v es fr st hw hvis, ih ((v, es) :: fr) vis st hc h', dfsG_visited n w st hvis]
          · -- a new vertex: the loop opens a frame, the recursion makes a call; the weight of `w` pays for the turns
            -- of its frame, and the call needs no more depth than the unvisited vertices
            have hwU := hU e w hw
            have hbud : turnsOwed inc U (w :: vis) + frameTurns ((w, inc w) :: (v, es) :: fr) ≤ f := by
              refine Nat.le_trans ?_ h'
              rw [frameTurns_cons, frameTurns_cons, ← Nat.add_assoc]
              exact Nat.add_le_add_right (owed_visit _ hwU hvis) _
            rw [iterLoop_new _ v es fr st hw hvis,
              ih _ (w :: vis) st (Nat.le_trans (cnt_mono fun x hx => List.mem_cons_of_mem _ hx) hc) hbud,
              unwind_open n _ st hvis,
              dfsG_succ_eq n w vis st ((dfsG_searches hU n).ne_diverges vis st hwU hc)]

/-- the frame-list search returns what the recursive search returns, given its budget of turns and enough depth -/
theorem dfsIter_eq (hU : ∀ e w, far e = some w → w ∈ U) (n T v : Nat) (vis st : List Nat)
    (hv : v ∈ U) (hn : cnt U vis ≤ n) (hT : (U.map (fun u => (inc u).length + 1)).sum ≤ T) :
    dfsIter inc far T v (vis, st) = dfsG inc far n v (vis, st) := by
  by_cases hvis : v ∈ vis
  · rw [dfsG_visited n v st hvis, dfsIter_visited T st hvis]
  · have hbud : turnsOwed inc U (v :: vis) + frameTurns [(v, inc v)] ≤ T := by
      have h1 : turnsOwed inc U (v :: vis) + _ ≤ turnsOwed inc U vis := owed_visit _ hv hvis
      have h2 : turnsOwed inc U vis ≤ _ := owed_le _ U vis
      rw [frameTurns_cons]
      exact Nat.le_trans (Nat.le_trans (Nat.le_of_eq (Nat.add_assoc _ _ _).symm) (Nat.le_trans h1 h2)) hT
    rw [dfsIter_new T st hvis,
      iterLoop_eq_unwind hU n T _ (v :: vis) st (Nat.le_trans (cnt_mono fun x hx => List.mem_cons_of_mem _ hx) hn) hbud,
      unwind_open n [] st hvis,
      dfsG_succ_eq n v vis st ((dfsG_searches hU n).ne_diverges vis st hv hn)]
    cases dfsG inc far n v (vis, st) <;> rfl

end Iter

/-! #### the two passes over the frame-list searches are the two passes over the recursive ones -/

theorem sum_map_le {β : Type} (f h : β → Nat) (l : List β) (hle : ∀ x, f x ≤ h x) :
    (l.map f).sum ≤ (l.map h).sum := by
  induction l with
  | nil => exact Nat.le_refl _
  | cons a l ih =>
    rw [List.map_cons, List.map_cons, List.sum_cons, List.sum_cons]
    exact Nat.add_le_add (hle a) ih

theorem dfsI_eq (g : Graph) (v : Nat) (hv : v ∈ g.universe) (vis st : List Nat) :
    dfsI g v (vis, st) = dfs g g.fuel v (vis, st) :=
  dfsIter_eq (fun e w hw => dstOf_mem_universe g e w hw) g.fuel g.turns v vis st hv (cnt_universe_le_fuel g vis)
    (sum_map_le _ _ _ fun _ => Nat.succ_le_succ (Nat.le_add_right _ _))

theorem rdfsI_eq (g : Graph) (v : Nat) (hv : v ∈ g.universe) (vis st : List Nat) :
    rdfsI g v (vis, st) = rdfs g g.fuel v (vis, st) :=
  dfsIter_eq (fun e w hw => srcOf_mem_universe g e w hw) g.fuel g.turns v vis st hv (cnt_universe_le_fuel g vis)
    (sum_map_le _ _ _ fun _ => Nat.succ_le_succ (Nat.le_add_left _ _))

theorem pass1T_eq (g : Graph) : pass1T g g.turns = pass1 g :=
  forEach_congr_of_ne_diverges _ _
    (fun _ hx _ hw s _ => dfsI_eq g _ (Option.some.inj hw ▸ range_subset_universe hx) s.1 s.2) (pass1_term g).1

theorem pass2T_eq (g : Graph) :
    ∀ st vis acc, (∀ x ∈ st, x ∈ g.universe) → pass2T g g.turns st vis acc = pass2 g st vis acc := by
  intro st
  induction st with
  | nil => intro vis acc _; rfl
  | cons v st ih =>
    intro vis acc hst
    have hst' : ∀ x ∈ st, x ∈ g.universe := fun x hx => hst x (List.mem_cons_of_mem _ hx)
    by_cases hvis : v ∈ vis
    · simp only [pass2T, pass2, List.contains_iff_mem.2 hvis, if_true]
      exact ih vis acc hst'
    · have hc : vis.contains v = false := by simpa using hvis
      have hcall : rdfsT g g.turns v (vis, []) = rdfs g g.fuel v (vis, []) :=
        rdfsI_eq g v (hst v List.mem_cons_self) vis []
      simp only [pass2T, pass2, hc, Bool.false_eq_true, if_false, hcall]
      cases rdfs g g.fuel v (vis, []) with
      | error x => rfl
      | ok s1 =>
        obtain ⟨vis1, comp⟩ := s1
        exact ih vis1 (comp.reverse :: acc) hst'

/-- the model of the code as it is (frame lists) and the recursive model agree on every `Graph` value -/
theorem allSccIter_eq (g : Graph) : allSccIter g = allScc g := by
  unfold allSccIter allScc
  simp only
  rw [pass1T_eq]
  cases hr : pass1 g with
  | error x => rfl
  | ok s1 => exact pass2T_eq g s1.2 [] [] ((pass1_term g).2 s1.1 s1.2 hr)

theorem largestSccIter_eq (g : Graph) : largestSccIter g = largestScc g := by
  unfold largestSccIter largestScc
  rw [allSccIter_eq]

/-! ### `Good` gives the specification `IsSccPartition`, and the executable checker decides it -/

/-- in a repetition-free concatenation a vertex lies in one block only -/
theorem unique_block (cs : List (List Nat)) (hnd : cs.flatten.Nodup) {c c' : List Nat} {v : Nat}
    (hc : c ∈ cs) (hc' : c' ∈ cs) (hv : v ∈ c) (hv' : v ∈ c') : c' = c := by
  induction cs with
  | nil => exact absurd hc List.not_mem_nil
  | cons a cs ih =>
    rw [List.flatten_cons, List.nodup_append] at hnd
    rcases List.mem_cons.1 hc with rfl | hc1 <;> rcases List.mem_cons.1 hc' with rfl | hc1'
    · rfl
    · exact absurd rfl (hnd.2.2 v hv v (List.mem_flatten.2 ⟨c', hc1', hv'⟩))
    · exact absurd rfl (hnd.2.2 v hv' v (List.mem_flatten.2 ⟨c, hc1, hv⟩))
    · exact ih hnd.2.1 hc1 hc1'

theorem Good.isSccPartition {g : Graph} {cs : List (List Nat)} (h : Good g cs) : IsSccPartition g cs := by
  refine ⟨fun c hc => (h.classes c hc).1, ?_, ?_, fun c hc => (h.classes c hc).2.2⟩
  · exact List.pairwise_flatten.2 ⟨fun c hc => (h.classes c hc).2.1,
      h.disjoint.imp fun {a b} (hab : ∀ x, x ∈ a → x ∉ b) x hx y hy (hxy : x = y) => hab x hx (hxy ▸ hy)⟩
  · intro v
    rw [List.mem_flatten]
    exact h.cover v

theorem IsSccPartition.exists_nonempty {g : Graph} {cs : List (List Nat)} (p : IsSccPartition g cs) (hn : 0 < g.n) :
    ∃ c ∈ cs, c ≠ [] := by
  obtain ⟨c, hc, _⟩ := List.mem_flatten.1 ((p.cover 0).2 hn)
  exact ⟨c, hc, p.nonempty c hc⟩

theorem mem_reachFrom {g : Graph} (h : g.WF) {v : Nat} (hv : v < g.n) (w : Nat) :
    w ∈ reachFrom g v ↔ g.Reach v w := by
  obtain ⟨new, vis', hr, _, hs⟩ := h.dfs_ok hv [] []
  have : reachFrom g v = new := by simp [reachFrom, hr]
  rw [this, hs.reach w, reach_iff_RA]
  simp only [List.mem_singleton, exists_eq_left]
  exact RA.congr (fun v => by simp)

theorem reachTable_get {g : Graph} {u : Nat} (hu : u < g.n) :
    ((reachTable g)[u]?).getD [] = reachFrom g u := by
  simp [reachTable, hu]

theorem mutualIn_iff {g : Graph} (h : g.WF) {u v : Nat} (hu : u < g.n) (hv : v < g.n) :
    mutualIn (reachTable g) u v = true ↔ (g.Reach u v ∧ g.Reach v u) := by
  unfold mutualIn
  rw [reachTable_get hu, reachTable_get hv, Bool.and_eq_true, List.contains_iff_mem,
    List.contains_iff_mem, mem_reachFrom h hu, mem_reachFrom h hv]

theorem isSccPartition_iff {g : Graph} (h : g.WF) (cs : List (List Nat)) :
    isSccPartition g cs = true ↔ IsSccPartition g cs := by
  unfold isSccPartition
  simp only [Bool.and_eq_true, List.all_eq_true, decide_eq_true_eq, List.mem_range,
    List.contains_iff_mem, Bool.not_eq_true', List.isEmpty_eq_false_iff, beq_iff_eq]
  constructor
  · -- the checker's conjuncts: b1 no empty block, b2 no repetition, b3 every vertex listed, b4 nothing out of range,
    -- b5 membership in a block = mutual reachability according to the table (asked for vertices `< n` only)
    rintro ⟨⟨⟨⟨b1, b2⟩, b3⟩, b4⟩, b5⟩
    refine ⟨b1, b2, fun v => ⟨b4 v, b3 v⟩, ?_⟩
    intro c hc u hu v
    have hun : u < g.n := b4 u (List.mem_flatten.2 ⟨c, hc, hu⟩)
    by_cases hv : v < g.n
    · rw [← mutualIn_iff h hun hv, ← b5 c hc u hu v hv, List.contains_iff_mem]
    · constructor
      · intro hvc
        exact absurd (b4 v (List.mem_flatten.2 ⟨c, hc, hvc⟩)) hv
      · rintro ⟨huv, _⟩
        exact absurd (h.reach_lt huv hun) hv
  · intro hp
    refine ⟨⟨⟨⟨hp.nonempty, hp.nodup⟩, fun v hv => (hp.cover v).2 hv⟩, fun v hv => (hp.cover v).1 hv⟩, ?_⟩
    intro c hc u hu v hv
    have hun : u < g.n := (hp.cover u).1 (List.mem_flatten.2 ⟨c, hc, hu⟩)
    rw [Bool.eq_iff_iff, mutualIn_iff h hun hv, List.contains_iff_mem]
    exact hp.classes c hc u hu v

end Scc
end Compass
