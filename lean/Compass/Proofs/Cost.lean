/-
The cost model (`Model/Cost.lean`) over any linearly ordered field: the specification-side definitions the C07
statements are written in, and the lemmas about the model that C07 and the search proofs share.

Every part of every cost is a `CostModel.part X`: per-feature factors `X i`, each times its weight (`rate · weight`,
as `cost_ops.rs` multiplies; `part_sum` is where it becomes the `weight · rate` of C07's sum formulas), aggregated.
`traversal_cost`, `access_cost` and `cost_estimate` are one function of a `CostQuery`: `total_eq_some_iff` says where it
answers (`InRange` / `InRangeV`: every feature index inside the vectors read) and what (`value`: the vehicle part plus
`netPart`, the surcharges of the edge or of the turn), and what holds of all three is proved once over the query.
`dropTurns` and `turnSurcharge` state what `EdgeTraversal::total_cost()` leaves out.
-/
import Compass.Proofs.Num
import Compass.Model.Cost
import Mathlib.Algebra.BigOperators.Group.List.Basic
import Mathlib.Algebra.Order.BigOperators.Group.List

namespace Compass

set_option linter.unusedSectionVars false

/-! ### `allSome` (the first `Err` of the iterator wins) -/

theorem allSome_cons_some {β : Type} (x : β) (r : List (Option β)) :
    allSome (some x :: r) = (allSome r).map (x :: ·) := by
  rw [allSome]; cases allSome r <;> rfl

theorem allSome_eq_none_iff {β : Type} (l : List (Option β)) : allSome l = none ↔ none ∈ l := by
  induction l with
  | nil => simp [allSome]
  | cons a l ih =>
    cases a with
    | none => simp [allSome]
    | some x => simp [allSome_cons_some, ih]

theorem allSome_map_some {ι β : Type} (l : List ι) (f : ι → Option β) (g : ι → β)
    (h : ∀ i ∈ l, f i = some (g i)) : allSome (l.map f) = some (l.map g) := by
  induction l with
  | nil => rfl
  | cons a l ih =>
    rw [List.map_cons, h a List.mem_cons_self, allSome_cons_some,
      ih fun i hi => h i (List.mem_cons_of_mem a hi)]
    rfl

section
variable {α : Type} [Field α] [LinearOrder α] [IsStrictOrderedRing α] [Lit α] [LawfulLit α]

/-! ### the floor and the clip -/

theorem minCost_pos : (0 : α) < minCost := by
  rw [minCost, LawfulLit.lit_eq]
  exact div_pos (Nat.cast_pos.mpr (by decide)) (Nat.cast_pos.mpr (by decide))

theorem enforceStrictlyPositive_eq (c : α) :
    enforceStrictlyPositive c = if c ≤ 0 then minCost else c := by
  rw [enforceStrictlyPositive, zero_eq]

theorem enforceStrictlyPositive_of_pos {c : α} (h : 0 < c) : enforceStrictlyPositive c = c := by
  rw [enforceStrictlyPositive_eq, if_neg (not_le.mpr h)]

theorem enforceStrictlyPositive_of_nonpos {c : α} (h : c ≤ 0) : enforceStrictlyPositive c = minCost := by
  rw [enforceStrictlyPositive_eq, if_pos h]

theorem enforceStrictlyPositive_pos (c : α) : 0 < enforceStrictlyPositive c := by
  rw [enforceStrictlyPositive_eq]
  split
  · exact minCost_pos
  · exact not_le.mp ‹_›

theorem enforceNonNegative_eq (c : α) : enforceNonNegative c = max c 0 := by
  rw [enforceNonNegative, zero_eq]
  split
  · rw [max_eq_right (le_of_lt ‹_›)]
  · rw [max_eq_left (not_lt.mp ‹_›)]

theorem enforceNonNegative_nonneg (c : α) : 0 ≤ enforceNonNegative c := by
  rw [enforceNonNegative_eq]; exact le_max_right _ _

/-! ### aggregation -/

theorem agg_sum (l : List α) : CostAggregation.sum.agg l = l.sum := by
  simp [CostAggregation.agg, List.sum_eq_foldl]

theorem agg_mul (l : List α) : CostAggregation.mul.agg l = if l = [] then 0 else l.prod := by
  cases l with
  | nil => simp [CostAggregation.agg]
  | cons a l => simp [CostAggregation.agg, List.prod_eq_foldl]

/-- Mathlib's `List.prod_eq_zero`, whose module is not among the imports -/
theorem list_prod_eq_zero (l : List α) (h : (0 : α) ∈ l) : l.prod = 0 := by
  induction l with
  | nil => simp at h
  | cons a l ih =>
    rcases List.mem_cons.mp h with h | h
    · simp [← h]
    · simp [ih h]

theorem aggIter_eq_none_iff (a : CostAggregation) (items : List (Option α)) :
    a.aggIter items = none ↔ none ∈ items := by
  rw [← allSome_eq_none_iff]
  unfold CostAggregation.aggIter
  cases allSome items <;> simp

theorem aggIter_map_some {ι : Type} (a : CostAggregation) (l : List ι) (f : ι → Option α) (g : ι → α)
    (h : ∀ i ∈ l, f i = some (g i)) : a.aggIter (l.map f) = some (a.agg (l.map g)) := by
  rw [CostAggregation.aggIter, allSome_map_some l f g h]

theorem aggIter_map_isSome_iff {ι : Type} (a : CostAggregation) (l : List ι) (f : ι → Option α) :
    (a.aggIter (l.map f)).isSome ↔ ∀ i ∈ l, (f i).isSome := by
  rw [Option.isSome_iff_ne_none, Ne, aggIter_eq_none_iff, List.mem_map]
  constructor
  · intro h i hi
    exact Option.isSome_iff_ne_none.mpr fun hn => h ⟨i, hi, hn⟩
  · rintro h ⟨i, hi, hn⟩
    exact absurd (h i hi) (by rw [hn]; exact Bool.false_ne_true)

/-! ### vehicle rates: a combined rate is the left-to-right composition; every rate is affine -/

theorem VehicleCostRate.mapValueList_eq_foldl (rs : List (VehicleCostRate α)) (x : α) :
    VehicleCostRate.mapValueList rs x = rs.foldl (fun acc r => r.mapValue acc) x := by
  induction rs generalizing x with
  | nil => simp [VehicleCostRate.mapValueList]
  | cons r rs ih => simp [VehicleCostRate.mapValueList, ih]

mutual
/-- coefficient of the affine map a rate denotes -/
def VehicleCostRate.slope : VehicleCostRate α → α
  | .zero => 0
  | .raw => 1
  | .factor f => f
  | .offset _ => 1
  | .combined rs => VehicleCostRate.slopeList rs
def VehicleCostRate.slopeList : List (VehicleCostRate α) → α
  | [] => 1
  | r :: rs => r.slope * VehicleCostRate.slopeList rs
end

mutual
/-- constant term of the affine map a rate denotes -/
def VehicleCostRate.intercept : VehicleCostRate α → α
  | .zero => 0
  | .raw => 0
  | .factor _ => 0
  | .offset o => o
  | .combined rs => VehicleCostRate.interceptList rs
def VehicleCostRate.interceptList : List (VehicleCostRate α) → α
  | [] => 0
  | r :: rs => r.intercept * VehicleCostRate.slopeList rs + VehicleCostRate.interceptList rs
end

mutual
theorem VehicleCostRate.mapValue_affine :
    ∀ (r : VehicleCostRate α) (x : α), r.mapValue x = r.slope * x + r.intercept
  | .zero, x => by simp [VehicleCostRate.mapValue, VehicleCostRate.slope, VehicleCostRate.intercept]
  | .raw, x => by simp [VehicleCostRate.mapValue, VehicleCostRate.slope, VehicleCostRate.intercept]
  | .factor f, x => by
    simp [VehicleCostRate.mapValue, VehicleCostRate.slope, VehicleCostRate.intercept, mul_comm]
  | .offset o, x => by simp [VehicleCostRate.mapValue, VehicleCostRate.slope, VehicleCostRate.intercept]
  | .combined rs, x => by
    simp only [VehicleCostRate.mapValue, VehicleCostRate.slope, VehicleCostRate.intercept]
    exact VehicleCostRate.mapValueList_affine rs x
theorem VehicleCostRate.mapValueList_affine :
    ∀ (rs : List (VehicleCostRate α)) (x : α),
      VehicleCostRate.mapValueList rs x
        = VehicleCostRate.slopeList rs * x + VehicleCostRate.interceptList rs
  | [], x => by simp [VehicleCostRate.mapValueList, VehicleCostRate.slopeList, VehicleCostRate.interceptList]
  | r :: rs, x => by
    simp only [VehicleCostRate.mapValueList, VehicleCostRate.slopeList, VehicleCostRate.interceptList]
    rw [VehicleCostRate.mapValueList_affine rs, VehicleCostRate.mapValue_affine r]
    ring
end

/-! ### network rates: a combined rate is the sum of its parts; lookups -/

theorem NetworkCostRate.traversalCostList_eq (rs : List (NetworkCostRate α)) (e : Nat) (acc : α) :
    NetworkCostRate.traversalCostList rs e acc = acc + (rs.map fun r => r.traversalCost e).sum := by
  induction rs generalizing acc with
  | nil => simp [NetworkCostRate.traversalCostList]
  | cons r rs ih => simp [NetworkCostRate.traversalCostList, ih, add_assoc]

theorem NetworkCostRate.accessCostList_eq (rs : List (NetworkCostRate α)) (p n : Nat) (acc : α) :
    NetworkCostRate.accessCostList rs p n acc = acc + (rs.map fun r => r.accessCost p n).sum := by
  induction rs generalizing acc with
  | nil => simp [NetworkCostRate.accessCostList]
  | cons r rs ih => simp [NetworkCostRate.accessCostList, ih, add_assoc]

/-- the test `lookup2` runs on an entry, component by component, is equality of the key -/
theorem lookup2_test_iff_key_eq {β : Type} (p : (Nat × Nat) × β) (k : Nat × Nat) :
    (p.1.1 == k.1 && p.1.2 == k.2) = true ↔ p.1 = k := by
  rw [Bool.and_eq_true, beq_iff_eq, beq_iff_eq, Prod.ext_iff]

/-! ### total accessors (defaults are irrelevant wherever the model returns a cost) -/

/-- weight of state index `i` -/
def CostModel.wt (m : CostModel α) (i : Nat) : α := m.weights.getD i 0
/-- vehicle rate of state index `i` -/
def CostModel.vr (m : CostModel α) (i : Nat) : VehicleCostRate α := m.vehicleRates.getD i .zero
/-- network rate of state index `i` -/
def CostModel.nr (m : CostModel α) (i : Nat) : NetworkCostRate α := m.networkRates.getD i .zero
/-- change of state variable `i` over the edge -/
def stateDelta (prev next : List α) (i : Nat) : α := next.getD i 0 - prev.getD i 0

/-- every index the vehicle-cost loop touches is inside the four vectors it reads -/
def CostModel.InRangeV (m : CostModel α) (prev next : List α) : Prop :=
  ∀ i ∈ m.indices, i < prev.length ∧ i < next.length ∧ i < m.vehicleRates.length ∧ i < m.weights.length

/-- every index is inside all five vectors -/
def CostModel.InRange (m : CostModel α) (prev next : List α) : Prop :=
  ∀ i ∈ m.indices, i < prev.length ∧ i < next.length ∧ i < m.vehicleRates.length ∧ i < m.weights.length
    ∧ i < m.networkRates.length

theorem CostModel.InRangeV.prev_lt {m : CostModel α} {prev next : List α} (h : m.InRangeV prev next) {i : Nat}
    (hi : i ∈ m.indices) : i < prev.length := (h i hi).1
theorem CostModel.InRangeV.next_lt {m : CostModel α} {prev next : List α} (h : m.InRangeV prev next) {i : Nat}
    (hi : i ∈ m.indices) : i < next.length := (h i hi).2.1
theorem CostModel.InRangeV.vehicleRates_lt {m : CostModel α} {prev next : List α} (h : m.InRangeV prev next) {i : Nat}
    (hi : i ∈ m.indices) : i < m.vehicleRates.length := (h i hi).2.2.1
theorem CostModel.InRangeV.weights_lt {m : CostModel α} {prev next : List α} (h : m.InRangeV prev next) {i : Nat}
    (hi : i ∈ m.indices) : i < m.weights.length := (h i hi).2.2.2

theorem CostModel.InRange.toV {m : CostModel α} {prev next : List α} (h : m.InRange prev next) :
    m.InRangeV prev next := fun i hi => ⟨(h i hi).1, (h i hi).2.1, (h i hi).2.2.1, (h i hi).2.2.2.1⟩
theorem CostModel.InRange.networkRates_lt {m : CostModel α} {prev next : List α} (h : m.InRange prev next) {i : Nat}
    (hi : i ∈ m.indices) : i < m.networkRates.length := (h i hi).2.2.2.2
theorem CostModel.InRange.ofV {m : CostModel α} {prev next : List α} (h : m.InRangeV prev next)
    (hn : ∀ i ∈ m.indices, i < m.networkRates.length) : m.InRange prev next :=
  fun i hi => ⟨h.prev_lt hi, h.next_lt hi, h.vehicleRates_lt hi, h.weights_lt hi, hn i hi⟩

/-! ### the three per-feature items -/

theorem getElem?_eq_some_getD {β : Type} (l : List β) (i : Nat) (d : β) (h : i < l.length) :
    l[i]? = some (l.getD i d) := by
  rw [List.getD_eq_getElem?_getD, List.getElem?_eq_getElem h]; rfl

theorem CostModel.vehicleTerm_isSome_iff (m : CostModel α) (prev next : List α) (i : Nat) :
    (m.vehicleTerm prev next i).isSome ↔
      (i < prev.length ∧ i < next.length ∧ i < m.vehicleRates.length ∧ i < m.weights.length) := by
  unfold CostModel.vehicleTerm
  split
  · rename_i hp hn hr hw
    exact iff_of_true rfl ⟨(List.getElem_of_getElem? hp).1, (List.getElem_of_getElem? hn).1,
      (List.getElem_of_getElem? hr).1, (List.getElem_of_getElem? hw).1⟩
  · rename_i hnone
    exact iff_of_false Bool.false_ne_true fun h => hnone _ _ _ _ (List.getElem?_eq_getElem h.1)
      (List.getElem?_eq_getElem h.2.1) (List.getElem?_eq_getElem h.2.2.1) (List.getElem?_eq_getElem h.2.2.2)

theorem CostModel.vehicleTerm_eq (m : CostModel α) (prev next : List α) (i : Nat)
    (h : i < prev.length ∧ i < next.length ∧ i < m.vehicleRates.length ∧ i < m.weights.length) :
    m.vehicleTerm prev next i = some ((m.vr i).mapValue (stateDelta prev next i) * m.wt i) := by
  unfold CostModel.vehicleTerm
  rw [getElem?_eq_some_getD prev i 0 h.1, getElem?_eq_some_getD next i 0 h.2.1,
    getElem?_eq_some_getD m.vehicleRates i .zero h.2.2.1, getElem?_eq_some_getD m.weights i 0 h.2.2.2]
  rfl

theorem CostModel.networkTraversalTerm_isSome_iff (m : CostModel α) (prev next : List α) (e i : Nat) :
    (m.networkTraversalTerm prev next e i).isSome ↔
      (i < prev.length ∧ i < next.length ∧ i < m.weights.length ∧ i < m.networkRates.length) := by
  unfold CostModel.networkTraversalTerm
  split
  · rename_i hp hn hw hr
    exact iff_of_true rfl ⟨(List.getElem_of_getElem? hp).1, (List.getElem_of_getElem? hn).1,
      (List.getElem_of_getElem? hw).1, (List.getElem_of_getElem? hr).1⟩
  · rename_i hnone
    exact iff_of_false Bool.false_ne_true fun h => hnone _ _ _ _ (List.getElem?_eq_getElem h.1)
      (List.getElem?_eq_getElem h.2.1) (List.getElem?_eq_getElem h.2.2.1) (List.getElem?_eq_getElem h.2.2.2)

theorem CostModel.networkTraversalTerm_eq (m : CostModel α) (prev next : List α) (e i : Nat)
    (h : i < prev.length ∧ i < next.length ∧ i < m.weights.length ∧ i < m.networkRates.length) :
    m.networkTraversalTerm prev next e i = some ((m.nr i).traversalCost e * m.wt i) := by
  unfold CostModel.networkTraversalTerm
  rw [getElem?_eq_some_getD prev i 0 h.1, getElem?_eq_some_getD next i 0 h.2.1,
    getElem?_eq_some_getD m.networkRates i .zero h.2.2.2, getElem?_eq_some_getD m.weights i 0 h.2.2.1]
  rfl

theorem CostModel.networkAccessTerm_isSome_iff (m : CostModel α) (prev next : List α) (pe ne i : Nat) :
    (m.networkAccessTerm prev next pe ne i).isSome ↔
      (i < m.networkRates.length → i < prev.length ∧ i < next.length) := by
  unfold CostModel.networkAccessTerm
  split
  · rename_i hr
    exact iff_of_true rfl fun h => absurd h (not_lt.mpr (List.getElem?_eq_none_iff.mp hr))
  · rename_i hr
    have hr := (List.getElem_of_getElem? hr).1
    split
    · rename_i hp hn
      exact iff_of_true rfl fun _ => ⟨(List.getElem_of_getElem? hp).1, (List.getElem_of_getElem? hn).1⟩
    · rename_i hnone
      exact iff_of_false Bool.false_ne_true fun h =>
        hnone _ _ (List.getElem?_eq_getElem (h hr).1) (List.getElem?_eq_getElem (h hr).2)

/-- inside the state vectors and the weights the access item is `lookup × weight`: a feature without
network rate has the rate `Zero` and contributes `0`; the "missing weight ⇒ coefficient 1" branch is
not taken -/
theorem CostModel.networkAccessTerm_eq (m : CostModel α) (prev next : List α) (pe ne i : Nat)
    (h : i < prev.length ∧ i < next.length ∧ i < m.weights.length) :
    m.networkAccessTerm prev next pe ne i = some ((m.nr i).accessCost pe ne * m.wt i) := by
  unfold CostModel.networkAccessTerm CostModel.nr
  rw [List.getD_eq_getElem?_getD]
  cases m.networkRates[i]? with
  | none => simp [NetworkCostRate.accessCost]
  | some r =>
    rw [getElem?_eq_some_getD prev i 0 h.1, getElem?_eq_some_getD next i 0 h.2.1,
      getElem?_eq_some_getD m.weights i 0 h.2.2]
    rfl

/-! ### one aggregated part -/

/-- an aggregated part of a cost: the per-feature factors `X i`, each times its weight, aggregated -/
def CostModel.part (m : CostModel α) (X : Nat → α) : α := m.agg.agg (m.indices.map fun i => X i * m.wt i)

theorem CostModel.part_sum (m : CostModel α) (hs : m.agg = .sum) (X : Nat → α) :
    m.part X = (m.indices.map fun i => m.wt i * X i).sum := by
  rw [CostModel.part, hs, agg_sum]
  exact congrArg List.sum (List.map_congr_left fun i _ => mul_comm _ _)

theorem CostModel.part_mul (m : CostModel α) (hm : m.agg = .mul) (X : Nat → α) :
    m.part X = if m.indices = [] then 0 else (m.indices.map fun i => X i * m.wt i).prod := by
  rw [CostModel.part, hm, agg_mul]
  exact if_congr List.map_eq_nil_iff rfl rfl

/-- under either aggregation: the sum of zeros, the product of zeros, or the `0` of no feature -/
theorem CostModel.part_zero (m : CostModel α) : (m.part fun _ => 0) = 0 := by
  unfold CostModel.part
  cases m.agg with
  | sum => rw [agg_sum]; simp
  | mul =>
    rw [agg_mul]
    split
    · rfl
    · rename_i h
      cases hi : m.indices with
      | nil => simp [hi] at h
      | cons a l => simp

theorem CostModel.part_congr {m m' : CostModel α} {X X' : Nat → α} (ha : m'.agg = m.agg)
    (hi : m'.indices = m.indices) (h : ∀ i ∈ m.indices, X' i * m'.wt i = X i * m.wt i) :
    m'.part X' = m.part X := by
  rw [CostModel.part, CostModel.part, ha, hi]
  exact congrArg _ (List.map_congr_left h)

/-! ### the three aggregated parts -/

/-- per-feature per-edge surcharges `lookupᵢ(e) · wᵢ` (aggregated: `m.part fun i => (m.nr i).traversalCost e`) -/
def CostModel.traversalTerms (m : CostModel α) (e : Nat) : List α :=
  m.indices.map fun i => (m.nr i).traversalCost e * m.wt i

theorem CostModel.vehicleCosts_isSome_iff (m : CostModel α) (prev next : List α) :
    (m.vehicleCosts prev next).isSome ↔ m.InRangeV prev next := by
  unfold CostModel.vehicleCosts CostModel.InRangeV
  rw [aggIter_map_isSome_iff]
  simp only [CostModel.vehicleTerm_isSome_iff]

theorem CostModel.vehicleCosts_eq (m : CostModel α) (prev next : List α) (h : m.InRangeV prev next) :
    m.vehicleCosts prev next = some (m.part fun i => (m.vr i).mapValue (stateDelta prev next i)) :=
  aggIter_map_some _ _ _ _ (fun i hi => m.vehicleTerm_eq prev next i (h i hi))

theorem CostModel.vehicleCosts_eq_some_iff (m : CostModel α) (prev next : List α) (v : α) :
    m.vehicleCosts prev next = some v
      ↔ m.InRangeV prev next ∧ v = m.part fun i => (m.vr i).mapValue (stateDelta prev next i) := by
  constructor
  · intro h
    have hr := (m.vehicleCosts_isSome_iff prev next).mp (Option.isSome_of_eq_some h)
    exact ⟨hr, Option.some.inj (h.symm.trans (m.vehicleCosts_eq prev next hr))⟩
  · rintro ⟨hr, rfl⟩
    exact m.vehicleCosts_eq prev next hr

theorem CostModel.networkTraversalCosts_isSome_iff (m : CostModel α) (prev next : List α) (e : Nat) :
    (m.networkTraversalCosts prev next e).isSome ↔
      ∀ i ∈ m.indices, i < prev.length ∧ i < next.length ∧ i < m.weights.length ∧ i < m.networkRates.length := by
  unfold CostModel.networkTraversalCosts
  rw [aggIter_map_isSome_iff]
  simp only [CostModel.networkTraversalTerm_isSome_iff]

theorem CostModel.networkTraversalCosts_eq (m : CostModel α) (prev next : List α) (e : Nat)
    (h : m.InRange prev next) :
    m.networkTraversalCosts prev next e = some (m.part fun i => (m.nr i).traversalCost e) :=
  aggIter_map_some _ _ _ _ (fun i hi => m.networkTraversalTerm_eq prev next e i
    ⟨h.toV.prev_lt hi, h.toV.next_lt hi, h.toV.weights_lt hi, h.networkRates_lt hi⟩)

theorem CostModel.networkAccessCosts_isSome_iff (m : CostModel α) (prev next : List α) (pe ne : Nat) :
    (m.networkAccessCosts prev next pe ne).isSome ↔
      ∀ i ∈ m.indices, i < m.networkRates.length → i < prev.length ∧ i < next.length := by
  unfold CostModel.networkAccessCosts
  rw [aggIter_map_isSome_iff]
  simp only [CostModel.networkAccessTerm_isSome_iff]

theorem CostModel.networkAccessCosts_eq (m : CostModel α) (prev next : List α) (pe ne : Nat)
    (h : m.InRangeV prev next) :
    m.networkAccessCosts prev next pe ne = some (m.part fun i => (m.nr i).accessCost pe ne) :=
  aggIter_map_some _ _ _ _ (fun i hi => m.networkAccessTerm_eq prev next pe ne i
    ⟨h.prev_lt hi, h.next_lt hi, h.weights_lt hi⟩)

/-! ### the three values the cost model computes, as one function of what is asked -/

/-- what the search asks of the cost model: the cost of an edge, of a turn, or the estimate -/
inductive CostQuery where
  | traversal (e : Nat)
  | access (pe ne : Nat)
  | estimate

/-- the value before the floor / the clip -/
def CostModel.total (m : CostModel α) : CostQuery → List α → List α → Option α
  | .traversal e => m.traversalTotal e
  | .access pe ne => m.accessTotal pe ne
  | .estimate => m.vehicleCosts

/-- `traversal_cost`, `access_cost`, `cost_estimate` -/
def CostModel.charged (m : CostModel α) : CostQuery → List α → List α → Option α
  | .traversal e => m.traversalCost e
  | .access pe ne => m.accessCost pe ne
  | .estimate => m.costEstimate

/-- the floor for the two charged costs, the clip for the estimate -/
def CostQuery.clip : CostQuery → α → α
  | .traversal _ => enforceStrictlyPositive
  | .access _ _ => enforceStrictlyPositive
  | .estimate => enforceNonNegative

/-- where the value exists: the edge cost reads the network rates at every index, the other two do not -/
def CostModel.Dom (m : CostModel α) : CostQuery → List α → List α → Prop
  | .traversal _ => m.InRange
  | .access _ _ => m.InRangeV
  | .estimate => m.InRangeV

/-- what a network rate adds to what is asked: the surcharge of the edge, of the turn, nothing -/
def NetworkCostRate.queryCost (r : NetworkCostRate α) : CostQuery → α
  | .traversal e => r.traversalCost e
  | .access pe ne => r.accessCost pe ne
  | .estimate => 0

/-- the network part of what is asked, a part like the vehicle part -/
def CostModel.netPart (m : CostModel α) (q : CostQuery) : α := m.part fun i => (m.nr i).queryCost q

theorem CostModel.netPart_estimate (m : CostModel α) : m.netPart .estimate = 0 := m.part_zero

/-- the value in closed form: the vehicle part plus the network part -/
def CostModel.value (m : CostModel α) (q : CostQuery) (prev next : List α) : α :=
  m.part (fun i => (m.vr i).mapValue (stateDelta prev next i)) + m.netPart q


theorem CostModel.charged_eq (m : CostModel α) (q : CostQuery) (prev next : List α) :
    m.charged q prev next = (m.total q prev next).map q.clip := by
  -- each of the three functions is written as the `match` that `Option.map` is
  cases q <;> rfl

theorem CostModel.charged_eq_some_iff (m : CostModel α) (q : CostQuery) (prev next : List α) (c : α) :
    m.charged q prev next = some c ↔ ∃ s, m.total q prev next = some s ∧ q.clip s = c := by
  rw [m.charged_eq, Option.map_eq_some_iff]

/-- `traversal_cost` and `access_cost` add two optional parts -/
theorem add_match_eq_some_iff {a b : Option α} {s : α} :
    (match a, b with | some v, some n => some (v + n) | _, _ => none) = some s
      ↔ ∃ v n, a = some v ∧ b = some n ∧ s = v + n := by
  cases a <;> cases b <;> simp [eq_comm]

/-- the one characterisation: a value exists exactly inside the ranges, and is vehicle part + network part -/
theorem CostModel.total_eq_some_iff (m : CostModel α) (q : CostQuery) (prev next : List α) (s : α) :
    m.total q prev next = some s ↔ m.Dom q prev next ∧ s = m.value q prev next := by
  cases q with
  | traversal e =>
    refine add_match_eq_some_iff.trans ⟨?_, ?_⟩
    · rintro ⟨v, n, h1, h2, rfl⟩
      obtain ⟨hV, rfl⟩ := (m.vehicleCosts_eq_some_iff prev next v).mp h1
      have hn := (m.networkTraversalCosts_isSome_iff prev next e).mp (Option.isSome_of_eq_some h2)
      have hr := CostModel.InRange.ofV hV fun i hi => (hn i hi).2.2.2
      cases (m.networkTraversalCosts_eq prev next e hr).symm.trans h2
      exact ⟨hr, rfl⟩
    · rintro ⟨hr, rfl⟩
      exact ⟨_, _, m.vehicleCosts_eq prev next hr.toV, m.networkTraversalCosts_eq prev next e hr, rfl⟩
  | access pe ne =>
    refine add_match_eq_some_iff.trans ⟨?_, ?_⟩
    · rintro ⟨v, n, h1, h2, rfl⟩
      obtain ⟨hr, rfl⟩ := (m.vehicleCosts_eq_some_iff prev next v).mp h1
      cases (m.networkAccessCosts_eq prev next pe ne hr).symm.trans h2
      exact ⟨hr, rfl⟩
    · rintro ⟨hr, rfl⟩
      exact ⟨_, _, m.vehicleCosts_eq prev next hr, m.networkAccessCosts_eq prev next pe ne hr, rfl⟩
  | estimate =>
    rw [CostModel.value, m.netPart_estimate, add_zero]
    exact m.vehicleCosts_eq_some_iff prev next s

theorem CostModel.charged_isSome_iff (m : CostModel α) (q : CostQuery) (prev next : List α) :
    (m.charged q prev next).isSome ↔ m.Dom q prev next := by
  rw [m.charged_eq, Option.isSome_map, Option.isSome_iff_exists]
  exact ⟨fun ⟨s, h⟩ => ((m.total_eq_some_iff q prev next s).mp h).1,
    fun h => ⟨_, (m.total_eq_some_iff q prev next _).mpr ⟨h, rfl⟩⟩⟩

theorem CostModel.charged_of_dom (m : CostModel α) (q : CostQuery) {prev next : List α} (h : m.Dom q prev next) :
    m.charged q prev next = some (q.clip (m.value q prev next)) :=
  (m.charged_eq_some_iff q prev next _).mpr ⟨_, (m.total_eq_some_iff q prev next _).mpr ⟨h, rfl⟩, rfl⟩

theorem CostModel.charged_pos {m : CostModel α} {q : CostQuery} {prev next : List α} {c : α}
    (hq : q.clip = enforceStrictlyPositive (α := α)) (h : m.charged q prev next = some c) : 0 < c := by
  obtain ⟨s, -, rfl⟩ := (m.charged_eq_some_iff q prev next c).mp h
  rw [hq]
  exact enforceStrictlyPositive_pos s

theorem CostModel.traversalCost_pos (m : CostModel α) (e : Nat) (p n : List α) (t : α)
    (h : m.traversalCost e p n = some t) : 0 < t :=
  CostModel.charged_pos (q := .traversal e) rfl h

theorem CostModel.accessCost_pos (m : CostModel α) (pe ne : Nat) (p n : List α) (t : α)
    (h : m.accessCost pe ne p n = some t) : 0 < t :=
  CostModel.charged_pos (q := .access pe ne) rfl h

/-- a charged cost is its total when that is positive, the floor otherwise; so it is *not* always at least the
floor (`C07.charged_below_floor_witness`) -/
theorem CostModel.charged_eq_value_or_floor {m : CostModel α} {q : CostQuery} {prev next : List α} {c : α}
    (hq : q.clip = enforceStrictlyPositive (α := α)) (h : m.charged q prev next = some c) :
    (0 < m.value q prev next → c = m.value q prev next) ∧ (m.value q prev next ≤ 0 → c = minCost) := by
  obtain ⟨s, hs, rfl⟩ := (m.charged_eq_some_iff q prev next c).mp h
  rw [((m.total_eq_some_iff q prev next s).mp hs).2.symm, hq]
  exact ⟨enforceStrictlyPositive_of_pos, enforceStrictlyPositive_of_nonpos⟩

/-- the result depends on model and states only through the ranges and the value -/
theorem CostModel.charged_congr {m m' : CostModel α} {prev next prev' next' : List α} (q : CostQuery)
    (hr : m'.Dom q prev' next' ↔ m.Dom q prev next) (hv : m'.value q prev' next' = m.value q prev next) :
    m'.charged q prev' next' = m.charged q prev next := by
  rw [m.charged_eq, m'.charged_eq]
  refine congrArg _ (Option.ext fun s => ?_)
  rw [m.total_eq_some_iff, m'.total_eq_some_iff, hr, hv]

theorem CostModel.InRange.toDom {m : CostModel α} {prev next : List α} (h : m.InRange prev next) (q : CostQuery) :
    m.Dom q prev next := by
  cases q with
  | traversal e => exact h
  | access pe ne => exact h.toV
  | estimate => exact h.toV

theorem CostModel.Dom.toV {m : CostModel α} {prev next : List α} {q : CostQuery} (h : m.Dom q prev next) :
    m.InRangeV prev next := by
  cases q with
  | traversal e => exact CostModel.InRange.toV h
  | access pe ne => exact h
  | estimate => exact h

/-- the ranges depend on model and states through the indices and the lengths of the vectors only -/
theorem CostModel.Dom_congr {m m' : CostModel α} {prev next prev' next' : List α} (q : CostQuery)
    (hi : m'.indices = m.indices) (hp : prev'.length = prev.length) (hn : next'.length = next.length)
    (hv : m'.vehicleRates.length = m.vehicleRates.length) (hw : m'.weights.length = m.weights.length)
    (hr : m'.networkRates.length = m.networkRates.length) : m'.Dom q prev' next' ↔ m.Dom q prev next := by
  cases q with
  | traversal e => simp only [CostModel.Dom, CostModel.InRange, hi, hp, hn, hv, hw, hr]
  | access pe ne => simp only [CostModel.Dom, CostModel.InRangeV, hi, hp, hn, hv, hw]
  | estimate => simp only [CostModel.Dom, CostModel.InRangeV, hi, hp, hn, hv, hw]

/-! ### `CostModel::new` -/

theorem CostModel.new_eq_none_iff (feats : List (FeatureConfig α)) (agg : CostAggregation) :
    CostModel.new feats agg = none ↔ (feats.map FeatureConfig.weight).sum = 0 := by
  unfold CostModel.new
  simp only [zero_eq, ← List.sum_eq_foldl, ← le_antisymm_iff]
  split
  · exact iff_of_true rfl ‹_›
  · exact iff_of_false (Option.some_ne_none _) ‹_›

theorem CostModel.new_eq_some (feats : List (FeatureConfig α)) (agg : CostAggregation)
    (m : CostModel α) (h : CostModel.new feats agg = some m) :
    m.indices = List.range feats.length ∧ m.weights = feats.map FeatureConfig.weight ∧
      m.vehicleRates = feats.map FeatureConfig.vehicleRate ∧
      m.networkRates = feats.map FeatureConfig.networkRate ∧ m.agg = agg := by
  unfold CostModel.new at h
  simp only at h
  split at h
  · cases h
  · cases h
    simp

/-- a cost model built by `CostModel::new` answers on every pair of state vectors that are at least as
long as the state model — and its weights do not sum to zero -/
theorem CostModel.new_returns (feats : List (FeatureConfig α)) (agg : CostAggregation) (m : CostModel α)
    (hm : CostModel.new feats agg = some m) (e pe ne : Nat) (prev next : List α)
    (h1 : feats.length ≤ prev.length) (h2 : feats.length ≤ next.length) :
    (m.traversalCost e prev next).isSome ∧ (m.accessCost pe ne prev next).isSome
      ∧ (m.costEstimate prev next).isSome ∧ m.weights.sum ≠ 0 := by
  obtain ⟨hi, hw, hv, hn, _⟩ := CostModel.new_eq_some feats agg m hm
  have hr : m.InRange prev next := fun i h => by
    have hlt : i < feats.length := List.mem_range.mp (hi ▸ h)
    rw [hw, hv, hn, List.length_map, List.length_map, List.length_map]
    exact ⟨lt_of_lt_of_le hlt h1, lt_of_lt_of_le hlt h2, hlt, hlt, hlt⟩
  refine ⟨(m.charged_isSome_iff (.traversal e) prev next).mpr hr, (m.charged_isSome_iff (.access pe ne) prev next).mpr hr.toV,
    (m.charged_isSome_iff .estimate prev next).mpr hr.toV, fun h0 => ?_⟩
  rw [hw, ← CostModel.new_eq_none_iff feats agg, hm] at h0
  cases h0

/-- in a cost model built by `CostModel::new`, feature `i` carries what the three mappings hold for its
name, an absent name standing for weight `0` / rate `Zero` -/
theorem CostModel.new_accessors (feats : List (FeatureConfig α)) (agg : CostAggregation) (m : CostModel α)
    (hm : CostModel.new feats agg = some m) (i : Nat) (hi : i < feats.length) :
    m.wt i = feats[i].weight ∧ m.vr i = feats[i].vehicleRate ∧ m.nr i = feats[i].networkRate := by
  obtain ⟨_, hw, hv, hn, _⟩ := CostModel.new_eq_some feats agg m hm
  have hget : ∀ {β : Type} (f : FeatureConfig α → β) (d : β), (feats.map f).getD i d = f feats[i] := fun f d => by
    rw [List.getD_eq_getElem?_getD, List.getElem?_map, List.getElem?_eq_getElem hi]; rfl
  exact ⟨by rw [CostModel.wt, hw, hget], by rw [CostModel.vr, hv, hget], by rw [CostModel.nr, hn, hget]⟩

/-! ### sum aggregation; the weights enter linearly -/

/-- `Σᵢ Xᵢ · wᵢ` is linear in the weight vector `w` (read by `getD`, combined by `zipWith`) -/
theorem CostModel.part_linear_in_weights (m : CostModel α) (hs : m.agg = .sum) (X : Nat → α) (w1 w2 : List α)
    (a b : α) (h1 : ∀ i ∈ m.indices, i < w1.length) (h2 : ∀ i ∈ m.indices, i < w2.length) :
    CostModel.part { m with weights := List.zipWith (fun x y => a * x + b * y) w1 w2 } X
      = a * CostModel.part { m with weights := w1 } X + b * CostModel.part { m with weights := w2 } X := by
  unfold CostModel.part CostModel.wt
  simp only [hs, agg_sum]
  generalize m.indices = l at h1 h2
  induction l with
  | nil => simp only [List.map_nil, List.sum_nil, mul_zero, add_zero]
  | cons i l ih =>
    have hi : (List.zipWith (fun x y => a * x + b * y) w1 w2).getD i 0 = a * w1.getD i 0 + b * w2.getD i 0 := by
      rw [List.getD_eq_getElem?_getD, List.getD_eq_getElem?_getD, List.getD_eq_getElem?_getD,
        List.getElem?_zipWith, List.getElem?_eq_getElem (h1 i List.mem_cons_self),
        List.getElem?_eq_getElem (h2 i List.mem_cons_self)]
      rfl
    rw [List.map_cons, List.sum_cons, List.map_cons, List.sum_cons, List.map_cons, List.sum_cons, hi,
      ih (fun j hj => h1 j (List.mem_cons_of_mem i hj)) (fun j hj => h2 j (List.mem_cons_of_mem i hj))]
    ring

/-- under sum aggregation each of the three pre-floor values is a linear function of the weight vector -/
theorem CostModel.total_linear_in_weights (m : CostModel α) (hs : m.agg = .sum) (w1 w2 : List α)
    (hl : w1.length = w2.length) (a b : α) (q : CostQuery) (prev next : List α) (s1 s2 : α)
    (h1 : CostModel.total { m with weights := w1 } q prev next = some s1)
    (h2 : CostModel.total { m with weights := w2 } q prev next = some s2) :
    CostModel.total { m with weights := List.zipWith (fun x y => a * x + b * y) w1 w2 } q prev next
      = some (a * s1 + b * s2) := by
  rw [CostModel.total_eq_some_iff] at h1 h2 ⊢
  obtain ⟨r1, rfl⟩ := h1
  obtain ⟨r2, rfl⟩ := h2
  have hlen : (List.zipWith (fun x y => a * x + b * y) w1 w2).length = w1.length := by
    rw [List.length_zipWith, ← hl, min_self]
  have hp := fun X => m.part_linear_in_weights hs X w1 w2 a b (fun i hi => r1.toV.weights_lt hi)
    (fun i hi => r2.toV.weights_lt hi)
  refine ⟨(CostModel.Dom_congr (m := { m with weights := w1 })
    (m' := { m with weights := List.zipWith (fun x y => a * x + b * y) w1 w2 }) q rfl rfl rfl rfl hlen rfl).mpr r1, ?_⟩
  -- the rates do not depend on the weights, so the three models have the same factors `X`
  simp only [CostModel.value, CostModel.netPart]
  rw [hp, hp, mul_add, mul_add, add_add_add_comm]
  rfl

/-- under sum aggregation a zero-weight feature can be dropped from a part -/
theorem CostModel.part_drop_zero_weight (m : CostModel α) (hs : m.agg = .sum) (k : Nat) (hk : m.wt k = 0) (X : Nat → α) :
    CostModel.part { m with indices := m.indices.filter (fun j => j != k) } X = m.part X := by
  show m.agg.agg ((m.indices.filter (fun j => j != k)).map fun i => X i * m.wt i)
    = m.agg.agg (m.indices.map fun i => X i * m.wt i)
  rw [hs, agg_sum, agg_sum]
  induction m.indices with
  | nil => rfl
  | cons j l ih =>
    rw [List.filter_cons]
    split
    · simp only [List.map_cons, List.sum_cons, ih]
    · rename_i hj
      have : j = k := by simpa using hj
      simp only [List.map_cons, List.sum_cons, ih, this, hk, mul_zero, zero_add]

/-- under mul aggregation a zero-weight feature annihilates a part -/
theorem CostModel.part_mul_zero_weight (m : CostModel α) (hm : m.agg = .mul) {k : Nat} (hk : k ∈ m.indices)
    (h0 : m.wt k = 0) (X : Nat → α) : m.part X = 0 := by
  rw [m.part_mul hm, if_neg (List.ne_nil_of_mem hk)]
  exact list_prod_eq_zero _ (List.mem_map.mpr ⟨k, hk, by rw [h0, mul_zero]⟩)

/-! ### per-turn tables and the charged edge total -/

mutual
/-- the network rate with every edge-pair (per-turn) table removed -/
def NetworkCostRate.dropTurn : NetworkCostRate α → NetworkCostRate α
  | .zero => .zero
  | .edgeLookup t => .edgeLookup t
  | .edgeEdgeLookup _ => .zero
  | .combined rs => .combined (NetworkCostRate.dropTurnList rs)
def NetworkCostRate.dropTurnList : List (NetworkCostRate α) → List (NetworkCostRate α)
  | [] => []
  | r :: rs => r.dropTurn :: NetworkCostRate.dropTurnList rs
end

mutual
theorem NetworkCostRate.traversalCost_dropTurn :
    ∀ (r : NetworkCostRate α) (e : Nat), r.dropTurn.traversalCost e = r.traversalCost e
  | .zero, e => by simp [NetworkCostRate.dropTurn]
  | .edgeLookup t, e => by simp [NetworkCostRate.dropTurn]
  | .edgeEdgeLookup t, e => by simp [NetworkCostRate.dropTurn, NetworkCostRate.traversalCost]
  | .combined rs, e => by
    simp only [NetworkCostRate.dropTurn, NetworkCostRate.traversalCost]
    exact NetworkCostRate.traversalCostList_dropTurn rs e _
theorem NetworkCostRate.traversalCostList_dropTurn :
    ∀ (rs : List (NetworkCostRate α)) (e : Nat) (acc : α),
      NetworkCostRate.traversalCostList (NetworkCostRate.dropTurnList rs) e acc
        = NetworkCostRate.traversalCostList rs e acc
  | [], e, acc => by simp [NetworkCostRate.dropTurnList]
  | r :: rs, e, acc => by
    simp only [NetworkCostRate.dropTurnList, NetworkCostRate.traversalCostList]
    rw [NetworkCostRate.traversalCost_dropTurn r e, NetworkCostRate.traversalCostList_dropTurn rs e]
end

/-- the cost model with every per-turn table removed from its network rates -/
def CostModel.dropTurns (m : CostModel α) : CostModel α :=
  { m with networkRates := m.networkRates.map NetworkCostRate.dropTurn }

theorem CostModel.traversalCost_dropTurns (m : CostModel α) (e : Nat) (prev next : List α) :
    m.dropTurns.traversalCost e prev next = m.traversalCost e prev next := by
  have hnr : ∀ i, m.dropTurns.nr i = (m.nr i).dropTurn := fun i => by
    unfold CostModel.nr CostModel.dropTurns
    rw [List.getD_eq_getElem?_getD, List.getD_eq_getElem?_getD, List.getElem?_map]
    cases m.networkRates[i]? <;> rfl
  -- `dropTurns` touches the network rates only, and leaves what they charge per edge
  refine CostModel.charged_congr (.traversal e) (CostModel.Dom_congr _ rfl rfl rfl rfl rfl (List.length_map _))
    (congrArg₂ (· + ·) (CostModel.part_congr rfl rfl fun _ _ => rfl) (CostModel.part_congr rfl rfl fun i _ => ?_))
  rw [hnr]
  exact congrArg (· * _) ((m.nr i).traversalCost_dropTurn e)

/-- the per-turn surcharge the configuration prescribes for the record's edge pair, weighted: `0`
without neighbouring edge -/
def turnSurcharge (m : CostModel α) (pair : Option (Nat × Nat)) : α :=
  match pair with
  | none => 0
  | some (pe, ne) => (m.indices.map fun i => m.wt i * (m.nr i).accessCost pe ne).sum

/-- under sum aggregation it is the network part of `access_cost` for the pair -/
theorem turnSurcharge_some (m : CostModel α) (hs : m.agg = .sum) (pe ne : Nat) :
    turnSurcharge m (some (pe, ne)) = m.part fun i => (m.nr i).accessCost pe ne :=
  (m.part_sum hs _).symm

/-- `CostModel.edgeTraversal` in closed form: a record exists when the access cost of the pair (if there is a pair)
and the traversal cost do; its access share is that access cost, its traversal share the rest of the traversal cost -/
theorem CostModel.edgeTraversal_eq (m : CostModel α) (trav : Nat) (pair : Option (Nat × Nat)) (prev accessed next : List α) :
    m.edgeTraversal trav pair prev accessed next
      = bif pair.all (fun pn => (m.accessCost pn.1 pn.2 prev accessed).isSome) then
          (m.traversalCost trav prev next).map fun t =>
            let acc := edgeAccessShare (pair.bind fun pn => m.accessCost pn.1 pn.2 prev accessed)
            (acc, t - acc)
        else none := by
  unfold CostModel.edgeTraversal
  cases pair with
  | none => cases m.traversalCost trav prev next <;> rfl
  | some pn =>
    obtain ⟨pe, ne⟩ := pn
    dsimp only [Option.all_some, Option.bind_some]
    cases m.accessCost pe ne prev accessed with
    | none => rfl
    | some a => cases m.traversalCost trav prev next <;> rfl

end

end Compass
