/-
Facts about `Model/Json.lean` alone, beyond `Proofs/AssocList.lean` (which imports no Mathlib): a JSON object as a
map under `insertKv` and `swapRemoveKv` (`Map::remove` under `preserve_order`) — lookup, key order, uniqueness of
the keys —; `strContains` is the substring test; what the compact serialization of a value contains; and the same
serialization on character lists (`compactChars`, equal to `toCompact` by `toList_toCompact`), which the kernel
evaluates without the UTF-8 codec of `String`.
-/
import Compass.Model.Json
import Compass.Proofs.AssocList
import Mathlib.Data.List.Infix
import Mathlib.Data.List.Perm.Basic

namespace Compass
namespace Json

/-! ### objects as association lists: lookup, insertion, the keys -/

theorem lookup_reverse_eq_none (l : List (String × Json)) (k : String) (h : k ∉ l.map (·.1)) :
    lookup l.reverse k = none := by
  rw [Json.lookup_eq_none_iff, List.map_reverse, List.mem_reverse]; exact h

/-- `Map::insert` and the key order: an existing key keeps its place, a new key goes last -/
theorem keys_insertKv (kvs : List (String × Json)) (k : String) (v : Json) :
    (insertKv kvs k v).map (·.1)
      = if k ∈ kvs.map (·.1) then kvs.map (·.1) else kvs.map (·.1) ++ [k] := by
  unfold insertKv
  by_cases hany : (kvs.any fun p => p.1 == k) = true
  · have hm : k ∈ kvs.map (·.1) := by
      obtain ⟨p, hp, hpk⟩ := List.any_eq_true.mp hany
      exact List.mem_map.mpr ⟨p, hp, by simpa using hpk⟩
    simp only [hany, if_true, hm, List.map_map]
    apply List.map_congr_left
    intro p _
    by_cases h : p.1 = k <;> simp [h]
  · have hm : k ∉ kvs.map (·.1) := by
      intro hm
      obtain ⟨p, hp, rfl⟩ := List.mem_map.mp hm
      exact hany (List.any_eq_true.mpr ⟨p, hp, by simp⟩)
    simp [hany, hm]

theorem nodup_keys_insertKv (kvs : List (String × Json)) (k : String) (v : Json)
    (h : (kvs.map (·.1)).Nodup) : ((insertKv kvs k v).map (·.1)).Nodup := by
  rw [keys_insertKv]
  by_cases hk : k ∈ kvs.map (·.1)
  · simpa [hk] using h
  · simp only [hk, if_false]
    exact List.nodup_append.mpr ⟨h, by simp, by
      intro a ha b hb; simp at hb; subst hb; exact fun e => hk (e ▸ ha)⟩

theorem lookup_eq_some_iff_mem (l : List (String × Json)) (hn : (l.map (·.1)).Nodup) (k : String)
    (v : Json) : lookup l k = some v ↔ (k, v) ∈ l := by
  induction l with
  | nil => simp [lookup]
  | cons a l ih =>
    obtain ⟨a, x⟩ := a
    simp only [List.map_cons, List.nodup_cons] at hn
    rw [Json.lookup_cons]
    by_cases h : a = k
    · subst h
      simp only [if_true, Option.some.injEq, List.mem_cons, Prod.mk.injEq, true_and]
      constructor
      · intro e; exact Or.inl e.symm
      · rintro (e | hm)
        · exact e.symm
        · exact absurd (List.mem_map.mpr ⟨(a, v), hm, rfl⟩) hn.1
    · have h' : ¬ k = a := fun e => h e.symm
      simp [h, h', ih hn.2]

theorem lookup_perm {l₁ l₂ : List (String × Json)} (hp : l₁.Perm l₂) (hn : (l₁.map (·.1)).Nodup)
    (k : String) : lookup l₁ k = lookup l₂ k := by
  have hn2 : (l₂.map (·.1)).Nodup := (hp.map _).nodup_iff.mp hn
  apply Option.ext
  intro v
  rw [lookup_eq_some_iff_mem l₁ hn, lookup_eq_some_iff_mem l₂ hn2, hp.mem_iff]

theorem lookup_filter_ne (kvs : List (String × Json)) (k k' : String) :
    lookup (kvs.filter (fun p => !(p.1 == k))) k' = if k' = k then none else lookup kvs k' := by
  induction kvs with
  | nil => simp [lookup]
  | cons a r ih =>
    obtain ⟨a, x⟩ := a
    by_cases ha : a = k
    · subst ha
      by_cases hk : k' = a
      · subst hk; simpa using ih
      · have hk' : ¬ a = k' := fun e => hk e.symm
        simp [Json.lookup_cons, hk, hk', ih]
    · have hb : (a == k) = false := by simpa using ha
      by_cases hk : k' = k
      · subst hk; simp [hb, Json.lookup_cons, ha, ih]
      · simp [hb, Json.lookup_cons, hk, ih]

theorem filter_ne_key_of_not_mem {l : List (String × Json)} {k : String} (h : k ∉ l.map (·.1)) :
    l.filter (fun p => !(p.1 == k)) = l := by
  rw [List.filter_eq_self]
  intro p hp
  have : ¬ p.1 = k := fun e => h (List.mem_map.mpr ⟨p, hp, e⟩)
  simpa using this

/-! ### `Map::remove` = `swap_remove` -/

theorem findIdx?_first (k : String) (x : Json) (a b : List (String × Json))
    (h : k ∉ a.map (·.1)) : List.findIdx? (fun p => p.1 == k) (a ++ (k, x) :: b) = some a.length := by
  induction a with
  | nil => simp [List.findIdx?_cons]
  | cons cy a ih =>
    have hb : (cy.1 == k) = false := by
      have : ¬ cy.1 = k := fun e => h (by simp [e])
      simpa using this
    simp [List.findIdx?_cons, hb, ih fun hm => h (by simp [hm])]

theorem swapRemoveKv_absent (kvs : List (String × Json)) (k : String) (h : k ∉ kvs.map (·.1)) :
    swapRemoveKv kvs k = kvs := by
  have : List.findIdx? (fun p => p.1 == k) kvs = none := by
    rw [List.findIdx?_eq_none_iff]
    intro p hp
    have : ¬ p.1 = k := fun e => h (List.mem_map.mpr ⟨p, hp, e⟩)
    simpa using this
  simp [swapRemoveKv, this]

/-- the removed key was the last entry: nothing moves -/
theorem swapRemoveKv_last (a : List (String × Json)) (k : String) (x : Json)
    (h : k ∉ a.map (·.1)) : swapRemoveKv (a ++ [(k, x)]) k = a := by
  simp [swapRemoveKv, findIdx?_first k x a [] h]

/-- otherwise the last entry takes the removed entry's slot -/
theorem swapRemoveKv_middle (a b : List (String × Json)) (k : String) (x : Json) (l : String × Json)
    (h : k ∉ a.map (·.1)) : swapRemoveKv (a ++ (k, x) :: (b ++ [l])) k = a ++ l :: b := by
  have e : a ++ (k, x) :: (b ++ [l]) = (a ++ (k, x) :: b) ++ [l] := by simp
  have hlen : ¬ (a.length + 1 = (a ++ (k, x) :: (b ++ [l])).length) := by simp
  simp only [swapRemoveKv, findIdx?_first k x a (b ++ [l]) h]
  -- `getLast?` / `dropLast` want the list as `_ ++ [l]`; the length test and `set` want it as it was
  rw [e, List.getLast?_concat, List.dropLast_concat]
  rw [← e]
  simp only [beq_iff_eq, hlen, if_false]
  rw [List.set_append_right _ _ (by simp)]
  simp

theorem swapRemoveKv_perm (kvs : List (String × Json)) (hn : (kvs.map (·.1)).Nodup) (k : String) :
    (swapRemoveKv kvs k).Perm (kvs.filter (fun p => !(p.1 == k))) := by
  by_cases hk : k ∈ kvs.map (·.1)
  · obtain ⟨p, hp, rfl⟩ := List.mem_map.mp hk
    obtain ⟨a, b, rfl⟩ := List.append_of_mem hp
    obtain ⟨k, x⟩ := p
    simp only [List.map_append, List.map_cons] at hn
    have hn' := List.nodup_append.mp hn
    have hka : k ∉ a.map (·.1) := fun h => hn'.2.2 k h k (by simp) rfl
    have hkb : k ∉ b.map (·.1) := (List.nodup_cons.mp hn'.2.1).1
    have hf : (a ++ (k, x) :: b).filter (fun p => !(p.1 == k)) = a ++ b := by
      simp [List.filter_append, filter_ne_key_of_not_mem hka, filter_ne_key_of_not_mem hkb]
    rw [hf]
    rcases List.eq_nil_or_concat b with rfl | ⟨b', l, rfl⟩
    · rw [swapRemoveKv_last a k x hka]; simp
    · simp only [List.concat_eq_append]
      rw [swapRemoveKv_middle a b' k x l hka]
      have h1 : (a ++ l :: b').Perm (l :: (a ++ b')) := List.perm_middle
      have h2 : (a ++ (b' ++ [l])).Perm (l :: (a ++ b')) := by
        rw [← List.append_assoc]; exact List.perm_append_singleton _ _
      exact h1.trans h2.symm
  · rw [swapRemoveKv_absent kvs k hk, filter_ne_key_of_not_mem hk]

theorem nodup_keys_swapRemoveKv (kvs : List (String × Json)) (hn : (kvs.map (·.1)).Nodup)
    (k : String) : ((swapRemoveKv kvs k).map (·.1)).Nodup := by
  rw [((swapRemoveKv_perm kvs hn k).map _).nodup_iff]
  exact (List.Sublist.map _ List.filter_sublist).nodup hn

/-- as a map, `remove` deletes the key and nothing else (object keys are unique) -/
theorem lookup_swapRemoveKv (kvs : List (String × Json)) (hn : (kvs.map (·.1)).Nodup)
    (k k' : String) : lookup (swapRemoveKv kvs k) k' = if k' = k then none else lookup kvs k' := by
  rw [lookup_perm (swapRemoveKv_perm kvs hn k) (nodup_keys_swapRemoveKv kvs hn k), lookup_filter_ne]

/-! ### `strContains` is the substring test; what a serialized value contains -/

theorem strContains_go_complete (p : List Char) : ∀ (a b : List Char) (fuel : Nat), a.length < fuel →
    strContains.go p (a ++ p ++ b) fuel = true
  | [], b, fuel + 1, _ => by
    have : p.isPrefixOf (p ++ b) = true := by
      rw [List.isPrefixOf_iff_prefix]; exact List.prefix_append p b
    unfold strContains.go
    simp [this]
  | c :: a, b, fuel + 1, h => by
    have ih := strContains_go_complete p a b fuel (by simpa using h)
    simp only [List.cons_append]
    unfold strContains.go
    split
    · rfl
    · simpa using ih

/-- the text test finds every occurrence -/
theorem strContains_of_infix (s pat : String) (h : pat.toList <:+: s.toList) :
    strContains s pat = true := by
  obtain ⟨a, b, hab⟩ := h
  have hl : a.length < s.length + 1 := by
    have := congrArg List.length hab
    simp only [List.length_append, String.length_toList] at this
    omega
  simp only [strContains, ← hab]
  exact strContains_go_complete _ a b _ hl

theorem strContains_go_sound (p : List Char) : ∀ (fuel : Nat) (cs : List Char),
    strContains.go p cs fuel = true → p <:+: cs
  | 0, _, h => by simp [strContains.go] at h
  | fuel + 1, cs, h => by
    unfold strContains.go at h
    by_cases hp : p.isPrefixOf cs = true
    · exact (List.isPrefixOf_iff_prefix.mp hp).isInfix
    · simp only [hp, Bool.false_eq_true, if_false] at h
      cases cs with
      | nil => simp at h
      | cons c r =>
        simp only at h
        exact (strContains_go_sound p fuel r h).trans (List.suffix_cons c r).isInfix

/-- `Json.strContains` is the substring test -/
theorem strContains_iff_infix (s pat : String) :
    strContains s pat = true ↔ pat.toList <:+: s.toList :=
  ⟨fun h => strContains_go_sound _ _ _ h, strContains_of_infix s pat⟩

theorem mem_intersperse {α : Type} (sep x : α) : ∀ (L : List α), x ∈ L → x ∈ L.intersperse sep
  | [a], h => by simpa using h
  | a :: b :: r, h => by
    rcases List.mem_cons.mp h with rfl | h
    · simp [List.intersperse]
    · have := mem_intersperse sep x (b :: r) h
      simp only [List.intersperse, List.mem_cons]
      exact Or.inr (Or.inr this)

theorem infix_intercalate (sep : String) (L : List String) (x : String) (h : x ∈ L) :
    x.toList <:+: (sep.intercalate L).toList := by
  rw [String.toList_intercalate, List.intercalate]
  exact List.infix_of_mem_flatten (mem_intersperse _ _ _ (List.mem_map.mpr ⟨x, h, rfl⟩))

theorem mem_toCompactKvs : ∀ (kvs : List (String × Json)) (k : String) (v : Json), (k, v) ∈ kvs →
    (escapeStr k ++ ":" ++ toCompact v) ∈ toCompactKvs kvs
  | (a, x) :: r, k, v, h => by
    rcases List.mem_cons.mp h with e | h
    · cases e; simp [toCompactKvs]
    · simp [toCompactKvs, mem_toCompactKvs r k v h]

theorem mem_toCompactList : ∀ (xs : List Json) (x : Json), x ∈ xs → toCompact x ∈ toCompactList xs
  | a :: r, x, h => by
    rcases List.mem_cons.mp h with e | h
    · cases e; simp [toCompactList]
    · simp [toCompactList, mem_toCompactList r x h]

/-- an item of a comma-separated, bracketed list is in its text -/
theorem infix_bracketed (l r : String) (L : List String) (x : String) (h : x ∈ L) :
    x.toList <:+: (l ++ ",".intercalate L ++ r).toList := by
  rw [String.toList_append, String.toList_append]
  exact (infix_intercalate "," L x h).trans (List.infix_append _ _ _)

theorem infix_obj_entry (kvs : List (String × Json)) (k : String) (v : Json) (h : (k, v) ∈ kvs) :
    (escapeStr k ++ ":" ++ toCompact v).toList <:+: (toCompact (.obj kvs)).toList := by
  rw [toCompact]
  exact infix_bracketed "{" "}" _ _ (mem_toCompactKvs kvs k v h)

theorem infix_obj_key (kvs : List (String × Json)) (k : String) (v : Json) (h : (k, v) ∈ kvs) :
    (escapeStr k).toList <:+: (toCompact (.obj kvs)).toList := by
  refine List.IsInfix.trans ?_ (infix_obj_entry kvs k v h)
  simp only [String.toList_append, List.append_assoc]
  exact (List.prefix_append _ _).isInfix

theorem infix_obj_val (kvs : List (String × Json)) (k : String) (v : Json) (h : (k, v) ∈ kvs) :
    (toCompact v).toList <:+: (toCompact (.obj kvs)).toList := by
  refine List.IsInfix.trans ?_ (infix_obj_entry kvs k v h)
  simp only [String.toList_append]
  exact (List.suffix_append _ _).isInfix

theorem infix_arr_elem (xs : List Json) (x : Json) (h : x ∈ xs) :
    (toCompact x).toList <:+: (toCompact (.arr xs)).toList := by
  rw [toCompact]
  exact infix_bracketed "[" "]" _ _ (mem_toCompactList xs x h)

/-! ### the compact serialization on character lists -/

def escapeChars (s : String) : List Char :=
  '"' :: (s.toList.flatMap fun c => (Json.escapeChar c).toList) ++ ['"']

mutual
def compactChars : Json → List Char
  | .null => ['n', 'u', 'l', 'l']
  | .bool true => ['t', 'r', 'u', 'e']
  | .bool false => ['f', 'a', 'l', 's', 'e']
  | .num l _ => l.toList
  | .str s => escapeChars s
  | .arr xs => '[' :: List.intercalate [','] (compactListChars xs) ++ [']']
  | .obj kvs => '{' :: List.intercalate [','] (compactKvsChars kvs) ++ ['}']
def compactListChars : List Json → List (List Char)
  | [] => []
  | x :: xs => compactChars x :: compactListChars xs
def compactKvsChars : List (String × Json) → List (List Char)
  | [] => []
  | (k, v) :: r => (escapeChars k ++ ':' :: compactChars v) :: compactKvsChars r
end

theorem toList_escapeStr (s : String) : (escapeStr s).toList = escapeChars s := by
  simp only [escapeStr, String.toList_append, String.toList_join, List.flatMap_map, escapeChars]
  rfl

mutual
theorem toList_toCompact : ∀ j : Json, (toCompact j).toList = compactChars j
  | .null => by decide +kernel
  | .bool true => by decide +kernel
  | .bool false => by decide +kernel
  | .num l _ => rfl
  | .str s => toList_escapeStr s
  | .arr xs => by
    simp only [toCompact, compactChars, String.toList_append, String.toList_intercalate,
      toList_toCompactList xs]
    rfl
  | .obj kvs => by
    simp only [toCompact, compactChars, String.toList_append, String.toList_intercalate,
      toList_toCompactKvs kvs]
    rfl
theorem toList_toCompactList : ∀ xs : List Json,
    (toCompactList xs).map String.toList = compactListChars xs
  | [] => rfl
  | x :: xs => by
    simp only [toCompactList, compactListChars, List.map_cons, toList_toCompact x,
      toList_toCompactList xs]
theorem toList_toCompactKvs : ∀ kvs : List (String × Json),
    (toCompactKvs kvs).map String.toList = compactKvsChars kvs
  | [] => rfl
  | (k, v) :: r => by
    simp only [toCompactKvs, compactKvsChars, List.map_cons, String.toList_append, toList_escapeStr,
      toList_toCompact v, toList_toCompactKvs r, List.append_assoc]
    rfl
end

end Json
end Compass
