/-
Association lists (lists of key–value pairs read by `List.find?` on the key), as the model uses them
for `HashMap`s and JSON objects: lookup in a list with unique keys, and insert-or-replace (`upsert`), one at a time
and folded over rows.
-/
import Compass.Model.Json

namespace Compass

theorem find?_eq_some_of_unique {γ : Type} {l : List γ} {q : γ → Bool} {x : γ} (hx : x ∈ l)
    (hq : q x = true) (hu : ∀ y ∈ l, q y = true → y = x) : l.find? q = some x := by
  cases h : l.find? q with
  | none => exact absurd hq (by simpa using List.find?_eq_none.mp h x hx)
  | some y => rw [hu y (List.mem_of_find?_eq_some h) (List.find?_some h)]

/-- a table of named values searched by name (the generated `ofName?` functions): once `u` is found
under its own name, it is found under exactly that name -/
theorem find?_name_iff {β : Type} {all : List β} {name : β → String} {u : β}
    (hu : all.find? (fun v => name v == name u) = some u) (s : String) :
    all.find? (fun v => name v == s) = some u ↔ s = name u :=
  ⟨fun h => (beq_iff_eq.mp (List.find?_some (p := fun v => name v == s) h)).symm, fun h => h ▸ hu⟩

theorem eq_of_key_eq {κ β : Type} {tbl : List (κ × β)} (hu : tbl.Pairwise (fun p q => p.1 ≠ q.1))
    {x y : κ × β} (hx : x ∈ tbl) (hy : y ∈ tbl) (h : y.1 = x.1) : y = x := by
  induction hu with
  | nil => cases hx
  | cons hp _ ih =>
    rcases List.mem_cons.mp hx with rfl | hx'
    · rcases List.mem_cons.mp hy with rfl | hy'
      · rfl
      · exact absurd h.symm (hp y hy')
    · rcases List.mem_cons.mp hy with rfl | hy'
      · exact absurd h (hp x hx')
      · exact ih hx' hy'

/-- replacing the entries of key `r.1` by `r` leaves every key where it is -/
theorem find?_key_map_replace {κ β : Type} [BEq κ] [LawfulBEq κ] (l : List (κ × β)) (r : κ × β) (k : κ) :
    (l.map fun p => if p.1 == r.1 then r else p).find? (fun p => p.1 == k)
      = (l.find? fun p => p.1 == k).map fun p => if p.1 == r.1 then r else p := by
  rw [List.find?_map]
  congr 2
  funext p
  show ((if p.1 == r.1 then r else p).1 == k) = (p.1 == k)
  split
  · rename_i h
    rw [eq_of_beq h]
  · rfl

/-- insert-or-replace on an association list: what `kvInsert`, `Json.insertKv` and the step of `collectTable` are,
each by `rfl` -/
def upsert {κ β : Type} [BEq κ] (l : List (κ × β)) (r : κ × β) : List (κ × β) :=
  if l.any (fun p => p.1 == r.1) then l.map (fun p => if p.1 == r.1 then r else p) else l ++ [r]

/-- afterwards key `r.1` holds `r` and every other key what it held -/
theorem find?_key_upsert {κ β : Type} [BEq κ] [LawfulBEq κ] (l : List (κ × β)) (r : κ × β) (k : κ) :
    (upsert l r).find? (fun p => p.1 == k) = if r.1 == k then some r else l.find? (fun p => p.1 == k) := by
  unfold upsert
  split
  · rename_i ha
    rw [find?_key_map_replace]
    cases hf : l.find? (fun p => p.1 == k) with
    | none =>
      obtain ⟨q, hq, hqr⟩ := List.any_eq_true.mp ha
      have hqk := List.find?_eq_none.mp hf q hq
      rw [if_neg fun hk => hqk (by rw [eq_of_beq hqr]; exact hk)]
      rfl
    | some q =>
      have hqk : (q.1 == k) = true := List.find?_some (p := fun p : κ × β => p.1 == k) hf
      rw [Option.map_some, apply_ite some, eq_of_beq hqk, BEq.comm]
  · rename_i ha
    rw [List.find?_append, List.find?_singleton]
    split
    · rename_i hk
      rw [List.find?_eq_none.mpr fun p hp hpk => ha (List.any_eq_true.mpr ⟨p, hp, by rw [eq_of_beq hk]; exact hpk⟩)]
      rfl
    · exact Option.or_none

theorem mem_of_mem_upsert {κ β : Type} [BEq κ] {l : List (κ × β)} {r p : κ × β} (h : p ∈ upsert l r) :
    p ∈ l ∨ p = r := by
  unfold upsert at h
  split at h
  · obtain ⟨q, hq, rfl⟩ := List.mem_map.mp h
    split
    · exact Or.inr rfl
    · exact Or.inl hq
  · rcases List.mem_append.mp h with h | h
    · exact Or.inl h
    · exact Or.inr (List.mem_singleton.mp h)

theorem upsert_of_not_mem {κ β : Type} [BEq κ] [LawfulBEq κ] (acc : List (κ × β)) (r : κ × β)
    (h : ∀ q ∈ acc, q.1 ≠ r.1) : upsert acc r = acc ++ [r] := by
  rw [upsert, if_neg]
  rw [List.any_eq_true]
  rintro ⟨q, hq, hqp⟩
  exact h q hq (eq_of_beq hqp)

/-- a fold of `upsert` adds nothing but the rows it is given … -/
theorem mem_foldl_upsert {κ β : Type} [BEq κ] (l acc : List (κ × β)) :
    ∀ p ∈ l.foldl upsert acc, p ∈ acc ∨ p ∈ l := by
  induction l generalizing acc with
  | nil => exact fun p hp => Or.inl hp
  | cons r rest ih =>
    intro p hp
    rcases ih _ p hp with h | h
    · rcases mem_of_mem_upsert h with h | rfl
      · exact Or.inl h
      · exact Or.inr List.mem_cons_self
    · exact Or.inr (List.mem_cons_of_mem r h)

/-- … a key finds its last row, else what it found before … -/
theorem find?_foldl_upsert {κ β : Type} [BEq κ] [LawfulBEq κ] (l acc : List (κ × β)) (k : κ) :
    (l.foldl upsert acc).find? (fun p => p.1 == k)
      = (l.reverse.find? (fun p => p.1 == k)).or (acc.find? (fun p => p.1 == k)) := by
  induction l generalizing acc with
  | nil => rfl
  | cons r rest ih =>
    rw [List.foldl_cons, ih, find?_key_upsert, List.reverse_cons, List.find?_append, List.find?_singleton,
      Option.or_assoc]
    split <;> rfl

/-- … and rows with pairwise different keys, none of them in the table yet, are appended in order -/
theorem foldl_upsert_of_nodup {κ β : Type} [BEq κ] [LawfulBEq κ] (l acc : List (κ × β)) (hl : (l.map Prod.fst).Nodup)
    (hd : ∀ p ∈ l, ∀ q ∈ acc, q.1 ≠ p.1) : l.foldl upsert acc = acc ++ l := by
  induction l generalizing acc with
  | nil => exact (List.append_nil acc).symm
  | cons p l ih =>
    rw [List.map_cons, List.nodup_cons] at hl
    rw [List.foldl_cons, upsert_of_not_mem acc p (hd p List.mem_cons_self), ih (acc ++ [p]) hl.2, List.append_assoc,
      List.singleton_append]
    intro p' hp' q hq
    rcases List.mem_append.mp hq with hq | hq
    · exact hd p' (List.mem_cons_of_mem p hp') q hq
    · rw [List.mem_singleton.mp hq]
      exact fun heq => hl.1 (List.mem_map.mpr ⟨p', hp', heq.symm⟩)

/-! ### JSON objects -/

namespace Json

theorem lookup_cons (a : String) (x : Json) (r : List (String × Json)) (k : String) :
    lookup ((a, x) :: r) k = if a = k then some x else lookup r k := by
  rw [lookup, List.find?_cons]
  by_cases h : a = k
  · rw [if_pos h, beq_iff_eq.2 h]
  · rw [if_neg h, beq_eq_false_iff_ne.2 h]; rfl

theorem lookup_append (l r : List (String × Json)) (k : String) :
    lookup (l ++ r) k = (lookup l k).or (lookup r k) := by
  rw [lookup, List.find?_append, lookup, lookup]
  cases l.find? (fun p => p.1 == k) <;> rfl

theorem lookup_eq_none_iff (l : List (String × Json)) (k : String) :
    lookup l k = none ↔ k ∉ l.map (·.1) := by
  rw [lookup]
  cases h : l.find? (fun p => p.1 == k) with
  | none =>
    refine iff_of_true rfl fun hm => ?_
    obtain ⟨p, hp, rfl⟩ := List.mem_map.mp hm
    exact List.find?_eq_none.mp h p hp (beq_self_eq_true _)
  | some q =>
    exact iff_of_false nofun fun hn =>
      hn (List.mem_map.mpr ⟨q, List.mem_of_find?_eq_some h, eq_of_beq (List.find?_some (p := fun p : String × Json => p.1 == k) h)⟩)

/-- `Map::insert` as a map: the key then holds the value, every other key what it held -/
theorem lookup_insertKv (kvs : List (String × Json)) (k : String) (v : Json) (k' : String) :
    lookup (insertKv kvs k v) k' = if k' = k then some v else lookup kvs k' := by
  rw [lookup, show insertKv kvs k v = upsert kvs (k, v) from rfl, find?_key_upsert, lookup]
  by_cases hk : k' = k
  · rw [if_pos hk, if_pos (beq_iff_eq.mpr hk.symm)]
  · rw [if_neg hk, if_neg fun h => hk (beq_iff_eq.mp h).symm]

theorem lookup_insertKv_same (kvs : List (String × Json)) (k : String) (v : Json) :
    lookup (insertKv kvs k v) k = some v := by
  rw [lookup_insertKv, if_pos rfl]

theorem lookup_insertKv_other (kvs : List (String × Json)) (k : String) (v : Json) (k' : String)
    (hk : k' ≠ k) : lookup (insertKv kvs k v) k' = lookup kvs k' := by
  rw [lookup_insertKv, if_neg hk]

end Json

end Compass
