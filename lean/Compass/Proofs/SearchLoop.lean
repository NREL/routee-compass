/-
The base of the search proofs: the case analyses of `relax`, of the `for` loop, of the loop body and
of `run_a_star` (`Model/Search.lean`), each made here and cited elsewhere.  (`SearchLimits.runLoop_take`,
an equation between two runs of the loop, is the one other case analysis of the loop body.)

* namespace `SearchLoop`: the few facts about `+` and `≤` of the number type the search proofs use;
  the facts about the queue (`pushIncrease_cases`, `mem_pushIncrease`, `popOk_spec`, `exists_popOk`);
  the maps after an insert (`upd_isSome`, `upd_eq_some`, `upd_keys`); the initial state (`initState_g`,
  `mem_initState_queue`);
  the improvement test in the order of `α` (`improves_some`, `improves_false`);
  `written` (the state an improving relaxation writes), `Relaxed` / `relax_relaxed` (the ways one
  `relax` ends), `relaxAll_establishes` (the induction over the `for` loop), `relaxAll_keeps` (an
  invariant of the `for` loop is a lemma about `written`), `ProducedFrom` / `relaxAll_written` (where a
  new tree entry comes from), `relaxAll_error` (where an error of the `for` loop comes from).
* namespace `SearchLimits` (the second half of this file, continued in `Proofs/SearchLimits.lean`; it
  is the namespace under which the statements of `Props/C10` speak of loop heads): `curOf`, `popped`,
  `Turn` (one complete turn of the loop), `Reach` (a chain of turns), `Halt` (the eight ways the loop
  stops at a head), `runLoop_step` (the one analysis of the loop body), `runLoop_reach` (every run is a
  `Reach` followed by a `Halt`), `Reach.invariant`, `Turn.keeps`; the counters along `Turn` and `Reach`;
  `Final` / `runLoop_ok_reach` (a run that returns, read at its last head); `startF`,
  `runAStar_unfold`, `runAStar_ok_iff`, `runAStar_source`, `runAStar_cases`, `runAStar_ok_cases` (the
  returning runs among them) for `run_a_star` around the loop; `PairInv`, `EntryFrom`,
  `runAStar_entryFrom` (every tree entry was accepted and traversed from a pair the loop read);
  `WrittenAt` / `Turn.written` (the turn that wrote an entry).

The files on the tree invariant, on label optimality, on the limits and on termination argue from
`runAStar_cases` / `runAStar_ok_cases` / `runLoop_reach`: an invariant is proved for the state
`written` by one relaxation, carried through the `for` loop (`relaxAll_keeps`) and over a `Turn` —
by `Turn.keeps` when it does not speak of the vertex being expanded (`TreeInv`, `QNodup`), with the
turn taken apart otherwise —, along `Reach` (`Reach.invariant`), and read at the `Halt` or the
`Final`.
-/
import Compass.Proofs.Num
import Compass.Model.Search
import Mathlib.Data.List.Nodup

namespace Compass

set_option linter.unusedSectionVars false

namespace SearchLoop

section
variable {α : Type} [Field α] [LinearOrder α] [IsStrictOrderedRing α] [Lit α] [LawfulLit α]

/-! ### Order facts

The steps of the label arithmetic: a positive edge cost moves a label strictly up; bounds add up
along a walk.  The first four are Mathlib's `add_le_add`, `lt_add_of_pos_right`,
`le_add_of_nonneg_right`, `add_pos_of_nonneg_of_pos`, restated for `α` so that the ordered-monoid
instance behind them is found once, here, and not at each of their uses. -/

theorem add_mono {a b c d : α} (h₁ : a ≤ b) (h₂ : c ≤ d) : a + c ≤ b + d := add_le_add h₁ h₂

theorem lt_add_pos (a : α) {c : α} (hc : 0 < c) : a < a + c := lt_add_of_pos_right a hc

theorem le_add_nonneg (a : α) {c : α} (hc : 0 ≤ c) : a ≤ a + c :=
  le_of_eq_of_le (add_zero a).symm (add_mono (le_refl a) hc)

theorem pos_add {a c : α} (ha : 0 ≤ a) (hc : 0 < c) : 0 < a + c :=
  lt_of_le_of_lt ha (lt_add_pos a hc)

/-- two bounds chained: the step of every telescoping argument along a walk -/
theorem le_add_of_le_add {x y z a b : α} (h₁ : y ≤ x + a) (h₂ : z ≤ y + b) : z ≤ x + (a + b) := by
  rw [← add_assoc]
  exact le_trans h₂ (add_mono h₁ (le_refl b))

end

-- the analysis of the queue, of `relax` and of the `for` loop compares numbers and adds them; it does
-- not use that the order is compatible with the ring
variable {α : Type} [Field α] [LinearOrder α] [Lit α] [LawfulLit α]

/-! ### The queue -/

/-- the three things `push_increase` does: append when the key is absent, replace the key's entries
when the new priority is smaller than the first of them, nothing otherwise -/
theorem pushIncrease_cases (q : List (Nat × α)) (v : Nat) (f : α) :
    ((∀ p ∈ q, p.1 ≠ v) ∧ pushIncrease q v f = q ++ [(v, f)]) ∨
    ∃ old, (v, old) ∈ q ∧
      ((f < old ∧ pushIncrease q v f = q.map (fun p => if p.1 == v then (v, f) else p)) ∨
       (¬ f < old ∧ pushIncrease q v f = q)) := by
  unfold pushIncrease
  cases hfind : q.find? (fun p => p.1 == v) with
  | none =>
    refine Or.inl ⟨fun p hp => ?_, rfl⟩
    simpa using List.find?_eq_none.1 hfind p hp
  | some r =>
    obtain ⟨a, old⟩ := r
    have hmem : (a, old) ∈ q := List.mem_of_find?_eq_some hfind
    have ha : a = v := by simpa using List.find?_some hfind
    subst ha
    refine Or.inr ⟨old, hmem, ?_⟩
    by_cases h : f < old
    · exact Or.inl ⟨h, if_pos h⟩
    · exact Or.inr ⟨h, if_neg h⟩

theorem map_fst_pushIncrease (q : List (Nat × α)) (v : Nat) (f : α) :
    ((∀ p ∈ q, p.1 ≠ v) ∧ (pushIncrease q v f).map Prod.fst = q.map Prod.fst ++ [v]) ∨
    ((∃ old, (v, old) ∈ q) ∧ (pushIncrease q v f).map Prod.fst = q.map Prod.fst) := by
  rcases pushIncrease_cases q v f with ⟨hno, h⟩ | ⟨old, hmem, ⟨_, h⟩ | ⟨_, h⟩⟩
  · exact Or.inl ⟨hno, by rw [h, List.map_append]; rfl⟩
  · refine Or.inr ⟨⟨old, hmem⟩, ?_⟩
    rw [h, List.map_map]
    refine List.map_congr_left fun p _ => ?_
    show (if p.1 == v then (v, f) else p).1 = p.1
    split
    · rename_i hk; exact (eq_of_beq hk).symm
    · rfl
  · exact Or.inr ⟨⟨old, hmem⟩, by rw [h]⟩

theorem mem_pushIncrease {q : List (Nat × α)} {v : Nat} {f : α} {p : Nat × α}
    (h : p ∈ pushIncrease q v f) : p.1 = v ∨ p ∈ q := by
  rcases pushIncrease_cases q v f with ⟨_, hq⟩ | ⟨_, _, ⟨_, hq⟩ | ⟨_, hq⟩⟩
  · rw [hq] at h
    rcases List.mem_append.1 h with h | h
    · exact Or.inr h
    · exact Or.inl (by rw [List.mem_singleton.1 h])
  · rw [hq] at h
    obtain ⟨p', hp', rfl⟩ := List.mem_map.1 h
    by_cases hk : (p'.1 == v) = true
    · exact Or.inl (by rw [if_pos hk])
    · exact Or.inr (by rw [if_neg hk]; exact hp')
  · exact Or.inr (hq ▸ h)

/-- membership after `push_increase` when the pushed priority beats every entry of that key -/
theorem mem_pushIncrease_iff {q : List (Nat × α)} {v : Nat} {f : α}
    (hlt : ∀ f', (v, f') ∈ q → f < f') (p : Nat × α) :
    p ∈ pushIncrease q v f ↔ (p ∈ q ∧ p.1 ≠ v) ∨ p = (v, f) := by
  rcases pushIncrease_cases q v f with ⟨hno, hq⟩ | ⟨old, hmem, ⟨_, hq⟩ | ⟨hn, _⟩⟩
  · rw [hq, List.mem_append, List.mem_singleton]
    exact ⟨Or.imp_left fun h => ⟨h, hno p h⟩, Or.imp_left And.left⟩
  · rw [hq, List.mem_map]
    constructor
    · rintro ⟨p', hp', rfl⟩
      by_cases hk : (p'.1 == v) = true
      · exact Or.inr (if_pos hk)
      · exact Or.inl (by rw [if_neg hk]; exact ⟨hp', fun h => hk (by rw [h]; exact beq_self_eq_true v)⟩)
    · rintro (⟨hp, hk⟩ | rfl)
      · exact ⟨p, hp, if_neg (fun h => hk (eq_of_beq h))⟩
      · exact ⟨(v, old), hmem, if_pos (beq_self_eq_true v)⟩
  · exact absurd (hlt old hmem) hn

theorem keys_pushIncrease_nodup {q : List (Nat × α)} (v : Nat) (f : α)
    (h : (q.map Prod.fst).Nodup) : ((pushIncrease q v f).map Prod.fst).Nodup := by
  rcases map_fst_pushIncrease q v f with ⟨hno, hk⟩ | ⟨_, hk⟩
  · rw [hk]
    refine List.nodup_append.2 ⟨h, List.nodup_singleton v, fun a ha b hb => ?_⟩
    obtain ⟨p, hp, rfl⟩ := List.mem_map.1 ha
    rw [List.mem_singleton.1 hb]
    exact hno p hp
  · rw [hk]; exact h

theorem keys_pushIncrease (q : List (Nat × α)) (v : Nat) (f : α) (x : Nat) :
    (∃ p ∈ pushIncrease q v f, p.1 = x) ↔ x = v ∨ ∃ p ∈ q, p.1 = x := by
  have hkey : ∀ l : List (Nat × α), (∃ p ∈ l, p.1 = x) ↔ x ∈ l.map Prod.fst :=
    fun l => ⟨fun ⟨p, hp, h⟩ => List.mem_map.2 ⟨p, hp, h⟩, fun h => List.mem_map.1 h⟩
  rw [hkey, hkey]
  rcases map_fst_pushIncrease q v f with ⟨_, hk⟩ | ⟨⟨old, hmem⟩, hk⟩
  · rw [hk, List.mem_append, List.mem_singleton]
    exact Or.comm
  · rw [hk]
    exact ⟨Or.inr, fun h => h.elim (fun hx => List.mem_map.2 ⟨(v, old), hmem, hx.symm⟩) id⟩

theorem pushIncrease_length_le (q : List (Nat × α)) (v : Nat) (f : α) :
    (pushIncrease q v f).length ≤ q.length + 1 := by
  rw [← List.length_map (f := Prod.fst), ← List.length_map (f := Prod.fst) (as := q)]
  rcases map_fst_pushIncrease q v f with ⟨_, h⟩ | ⟨_, h⟩
  · rw [h, List.length_append, List.length_singleton]
  · rw [h]
    exact Nat.le_succ _

/-- the entries left after `pop` returned `v` (the model filters the key out) -/
theorem mem_filter_ne {q : List (Nat × α)} {v : Nat} (p : Nat × α) :
    p ∈ q.filter (fun p => !(p.1 == v)) ↔ p ∈ q ∧ p.1 ≠ v := by
  simp [List.mem_filter]

theorem keys_filter_nodup {q : List (Nat × α)} (P : Nat × α → Bool)
    (h : (q.map Prod.fst).Nodup) : ((q.filter P).map Prod.fst).Nodup :=
  List.Nodup.sublist (List.Sublist.map _ List.filter_sublist) h

theorem popOk_spec {q : List (Nat × α)} {v : Nat} (h : popOk q v = true) :
    ∃ f, (v, f) ∈ q ∧ ∀ p ∈ q, f ≤ p.2 := by
  unfold popOk at h
  cases hfind : q.find? (fun p => p.1 == v) with
  | none => simp [hfind] at h
  | some r =>
    obtain ⟨a, f⟩ := r
    have hmem : (a, f) ∈ q := List.mem_of_find?_eq_some hfind
    have ha : a = v := by
      have := List.find?_some hfind
      simpa using this
    subst ha
    simp only [hfind, List.all_eq_true] at h
    refine ⟨f, hmem, ?_⟩
    intro p hp
    have := h p hp
    simpa using this

theorem popOk_mem {q : List (Nat × α)} {v : Nat} (h : popOk q v = true) : ∃ p ∈ q, p.1 = v := by
  obtain ⟨f, hf, _⟩ := popOk_spec h
  exact ⟨(v, f), hf, rfl⟩

theorem exists_min_entry : ∀ (q : List (Nat × α)), q ≠ [] → ∃ p ∈ q, ∀ p' ∈ q, p.2 ≤ p'.2
  | [], h => absurd rfl h
  | [p], _ => ⟨p, by simp, by simp⟩
  | p :: p2 :: q, _ => by
    obtain ⟨m, hm, hmin⟩ := exists_min_entry (p2 :: q) (by simp)
    by_cases h : p.2 ≤ m.2
    · refine ⟨p, by simp, ?_⟩
      intro p' hp'
      rcases List.mem_cons.1 hp' with rfl | hp'
      · exact le_refl _
      · exact le_trans h (hmin p' hp')
    · refine ⟨m, List.mem_cons_of_mem _ hm, ?_⟩
      intro p' hp'
      rcases List.mem_cons.1 hp' with rfl | hp'
      · exact le_of_lt (not_le.1 h)
      · exact hmin p' hp'

/-- with one entry per vertex, the vertex of an entry of minimal priority is an accepted pop -/
theorem popOk_of_min {q : List (Nat × α)} (hnd : (q.map Prod.fst).Nodup) {p : Nat × α}
    (hp : p ∈ q) (hmin : ∀ p' ∈ q, p.2 ≤ p'.2) : popOk q p.1 = true := by
  unfold popOk
  cases hfind : q.find? (fun x => x.1 == p.1) with
  | none =>
    rw [List.find?_eq_none] at hfind
    have := hfind p hp
    simp at this
  | some r =>
    have hr : r ∈ q := List.mem_of_find?_eq_some hfind
    have hk : r.1 = p.1 := by simpa using List.find?_some hfind
    have hrp : r = p := List.inj_on_of_nodup_map hnd hr hp hk
    subst hrp
    obtain ⟨a, f⟩ := r
    simp only [List.all_eq_true, Bool.not_eq_eq_eq_not, Bool.not_true, decide_eq_false_iff_not,
      not_lt]
    exact hmin

/-- **a non-empty queue with one entry per vertex offers an accepted pop** -/
theorem exists_popOk {q : List (Nat × α)} (hnd : (q.map Prod.fst).Nodup) (hq : q ≠ []) :
    ∃ v, popOk q v = true := by
  obtain ⟨p, hp, hmin⟩ := exists_min_entry q hq
  exact ⟨p.1, popOk_of_min hnd hp hmin⟩

/-! ### The maps after an insert -/

theorem upd_isSome {β : Type} (m : Nat → Option β) (k : Nat) (v : β) (x : Nat) :
    (upd m k v x).isSome ↔ x = k ∨ (m x).isSome := by
  by_cases h : x = k
  · simp [upd, h]
  · simp [upd, h]

theorem upd_isSome_of {β : Type} {m : Nat → Option β} {k : Nat} {v : β} {x : Nat}
    (h : (m x).isSome) : (upd m k v x).isSome :=
  (upd_isSome m k v x).2 (Or.inr h)

theorem upd_eq_some {β : Type} {m : Nat → Option β} {k x : Nat} {v b : β}
    (h : upd m k v x = some b) : (x = k ∧ v = b) ∨ (x ≠ k ∧ m x = some b) := by
  have h' : (if x = k then some v else m x) = some b := h
  by_cases hx : x = k
  · rw [if_pos hx] at h'
    exact Or.inl ⟨hx, Option.some.inj h'⟩
  · rw [if_neg hx] at h'
    exact Or.inr ⟨hx, h'⟩

/-- the keys of a map after an insert: one more exactly when the key was absent (the count `relax`
keeps in `solSize`) -/
theorem upd_keys {β : Type} {m : Nat → Option β} {keys : List Nat} (hnd : keys.Nodup)
    (hmem : ∀ x, (m x).isSome ↔ x ∈ keys) (k : Nat) (v : β) :
    ∃ keys' : List Nat, keys'.Nodup ∧ (∀ x, (upd m k v x).isSome ↔ x ∈ keys') ∧
      (m k = none → keys'.length = keys.length + 1) ∧
      ∀ b, m k = some b → keys'.length = keys.length := by
  cases hk : m k with
  | none =>
    have hnot : k ∉ keys := by
      intro hm
      have := (hmem k).2 hm
      rw [hk] at this
      cases this
    refine ⟨k :: keys, List.nodup_cons.2 ⟨hnot, hnd⟩, fun x => ?_, fun _ => rfl,
      fun _ h => (nomatch h)⟩
    rw [upd_isSome, List.mem_cons, hmem]
  | some b0 =>
    have hin : k ∈ keys := (hmem k).1 (by rw [hk]; rfl)
    refine ⟨keys, hnd, fun x => ?_, fun h => (nomatch h), fun _ _ => rfl⟩
    rw [upd_isSome, hmem]
    constructor
    · rintro (h | h)
      · rw [h]; exact hin
      · exact h
    · exact Or.inr

/-! ### The initial state -/

theorem initState_g {source : Nat} {f0 : α} {v : Nat} {x : α} :
    (initState source f0).g v = some x ↔ v = source ∧ x = 0 := by
  by_cases hv : v = source
  · simp [initState, upd, hv, zero_eq, eq_comm]
  · simp [initState, upd, hv]

theorem initState_g_isSome {source : Nat} {f0 : α} {v : Nat} :
    ((initState source f0).g v).isSome ↔ v = source := by
  by_cases hv : v = source
  · simp [initState, upd, hv]
  · simp [initState, upd, hv]

theorem mem_initState_queue {source : Nat} {f0 : α} {p : Nat × α} :
    p ∈ (initState source f0).queue ↔ p = (source, f0) := List.mem_singleton

/-! ### One relaxation -/

theorem improves_some (t x : α) : improves t (some x) = true ↔ t < x := decide_eq_true_iff

theorem improves_false {t : α} {o : Option α} (h : improves t o = false) :
    ∃ ex, o = some ex ∧ ex ≤ t := by
  cases o with
  | none =>
    have hn : improves t none = true := LawfulLit.belowInf_eq t
    rw [hn] at h
    cases h
  | some ex =>
    refine ⟨ex, rfl, not_lt.1 fun hlt => ?_⟩
    rw [(improves_some t ex).2 hlt] at h
    cases h

/-- the state an improving relaxation of edge `e` writes: the three inserts (`traversal_costs`,
`solution`, its size) and the `push_increase` of `relax` -/
def written (I : Inst α) (s : SState α) (e : Nat) (ac tc gt hv : α) (st' : List α) : SState α :=
  { s with
    g := upd s.g (I.keyV e) (gt + (ac + tc)),
    sol := upd s.sol (I.keyV e)
      { terminal := I.termV e, edge := e, access := ac, traversal := tc, state := st' },
    solSize := (match s.sol (I.keyV e) with | none => s.solSize + 1 | some _ => s.solSize),
    queue := pushIncrease s.queue (I.keyV e) (gt + (ac + tc) + hv) }

/-- the ways one `relax` ends: nothing to do (with the reason), the state `written` by an improving
edge, or the error of the component that failed -/
inductive Relaxed (I : Inst α) (hasTarget : Bool) (lastEdge : Option Nat) (curState : List α)
    (s : SState α) (e : Nat) : Except ErrKind (SState α) → Prop
  | invalid : I.valid e curState lastEdge = .ok false →
      Relaxed I hasTarget lastEdge curState s e (.ok s)
  | unlabelled {ac tc : α} {st' : List α} : I.valid e curState lastEdge = .ok true →
      I.trav e lastEdge curState = .ok (ac, tc, st') → s.g (I.termV e) = none →
      Relaxed I hasTarget lastEdge curState s e (.ok s)
  | keep {ac tc gt : α} {st' : List α} : I.valid e curState lastEdge = .ok true →
      I.trav e lastEdge curState = .ok (ac, tc, st') → s.g (I.termV e) = some gt →
      improves (gt + (ac + tc)) (s.g (I.keyV e)) = false →
      Relaxed I hasTarget lastEdge curState s e (.ok s)
  | update {ac tc gt hv : α} {st' : List α} : I.valid e curState lastEdge = .ok true →
      I.trav e lastEdge curState = .ok (ac, tc, st') → s.g (I.termV e) = some gt →
      improves (gt + (ac + tc)) (s.g (I.keyV e)) = true →
      (if hasTarget then I.h (I.keyV e) curState else .ok (zero : α)) = .ok hv →
      Relaxed I hasTarget lastEdge curState s e (.ok (written I s e ac tc gt hv st'))
  | validError {k : ErrKind} : I.valid e curState lastEdge = .error k →
      Relaxed I hasTarget lastEdge curState s e (.error k)
  | travError {k : ErrKind} : I.trav e lastEdge curState = .error k →
      Relaxed I hasTarget lastEdge curState s e (.error k)
  | estimateError {k : ErrKind} : hasTarget = true → I.h (I.keyV e) curState = .error k →
      Relaxed I hasTarget lastEdge curState s e (.error k)

theorem relax_relaxed (I : Inst α) (hasTarget : Bool) (lastEdge : Option Nat) (curState : List α)
    (s : SState α) (e : Nat) :
    Relaxed I hasTarget lastEdge curState s e (relax I hasTarget lastEdge curState s e) := by
  unfold relax
  split
  · exact .validError ‹_›
  · exact .invalid ‹_›
  · rename_i hval
    split
    · exact .travError ‹_›
    · rename_i ac tc st' htrav
      split
      · exact .unlabelled hval htrav ‹_›
      · rename_i gt hgt
        dsimp only
        split
        · rename_i himp
          split
          · rename_i k hk
            cases hasTarget with
            | false => cases hk
            | true => exact .estimateError rfl hk
          · exact .update hval htrav hgt himp ‹_›
        · rename_i himp
          exact .keep hval htrav hgt (by simpa using himp)

/-! ### The `for` loop -/

/-- the induction over the `for` loop: what every successful `relax` keeps (`P`) the loop keeps, and a
fact `E e` that the relaxation of `e` establishes and the others keep holds of every listed edge at
the end -/
theorem relaxAll_establishes {I : Inst α} {hasTarget : Bool} {lastEdge : Option Nat}
    {curState : List α} {P : SState α → Prop} {E : Nat → SState α → Prop} :
    ∀ (es : List Nat) (s s' : SState α),
      (∀ e ∈ es, ∀ s s', P s → relax I hasTarget lastEdge curState s e = .ok s' →
        P s' ∧ E e s' ∧ ∀ e', E e' s → E e' s') →
      P s → relaxAll I hasTarget lastEdge curState es s = .ok s' → P s' ∧ ∀ e ∈ es, E e s'
  | [], s, s', _, hs, h => by
    cases h
    exact ⟨hs, fun _ he => nomatch he⟩
  | e :: es, s, s', hstep, hs, h => by
    simp only [relaxAll] at h
    split at h
    · cases h
    · rename_i s1 h1
      obtain ⟨hp1, he1, _⟩ := hstep e List.mem_cons_self s s1 hs h1
      -- once established, `E e` is carried along the rest of the loop as part of the invariant
      obtain ⟨⟨hp', he'⟩, hrest⟩ := relaxAll_establishes (P := fun s => P s ∧ E e s) es s1 s'
        (fun e' he' s2 s3 hp2 h2 =>
          let ⟨a, b, c⟩ := hstep e' (List.mem_cons_of_mem _ he') s2 s3 hp2.1 h2
          ⟨⟨a, c e hp2.2⟩, b, c⟩)
        ⟨hp1, he1⟩ h
      exact ⟨hp', fun e' he'' => (List.mem_cons.1 he'').elim (fun h => h ▸ he') (hrest e')⟩

/-- what the states `written` by the improving relaxations keep, the `for` loop keeps: the other
ways a relaxation ends leave the state as it is.  `P` may speak of the pair handed to the loop and of
whatever else the caller has at hand (the vertex being expanded, the loop head). -/
theorem relaxAll_keeps {I : Inst α} {hasTarget : Bool} {le : Option Nat} {st : List α}
    {P : SState α → Prop} {es : List Nat} {s s' : SState α}
    (h : relaxAll I hasTarget le st es s = .ok s') (hs : P s)
    (hupd : ∀ e ∈ es, ∀ (s1 : SState α) (ac tc gt hv : α) (st' : List α), P s1 →
      I.valid e st le = .ok true → I.trav e le st = .ok (ac, tc, st') →
      s1.g (I.termV e) = some gt → improves (gt + (ac + tc)) (s1.g (I.keyV e)) = true →
      (if hasTarget then I.h (I.keyV e) st else .ok (zero : α)) = .ok hv →
      P (written I s1 e ac tc gt hv st')) : P s' := by
  refine (relaxAll_establishes (E := fun _ _ => True) es s s'
    (fun e he s1 s2 h1 hrel => ⟨?_, trivial, fun _ _ => trivial⟩) hs h).1
  have hr := relax_relaxed I hasTarget le st s1 e
  rw [hrel] at hr
  cases hr with
  | invalid | unlabelled | keep => exact h1
  | update hvalid htrav hgt himp hhv => exact hupd e he s1 _ _ _ _ _ h1 hvalid htrav hgt himp hhv

/-- the entry `b` is what the frontier model accepted and the traversal produced from the
(last edge, state) pair `(le, st)` -/
def ProducedFrom (I : Inst α) (b : Branch α) (le : Option Nat) (st : List α) : Prop :=
  I.valid b.edge st le = .ok true ∧ I.trav b.edge le st = .ok (b.access, b.traversal, b.state)

/-- the `for edge_id in incident_edges` loop: an entry of the new tree is an entry of the old tree or
was written — in the `improves` branch, after `valid = .ok true` and `trav = .ok …` — for one of
the listed edges, from the pair handed to the loop -/
theorem relaxAll_written {I : Inst α} {hasTarget : Bool} {le : Option Nat} {st : List α}
    (es : List Nat) (s s' : SState α) (h : relaxAll I hasTarget le st es s = .ok s') :
    ∀ v b, s'.sol v = some b → s.sol v = some b ∨
      (b.edge ∈ es ∧ v = I.keyV b.edge ∧ b.terminal = I.termV b.edge ∧ ProducedFrom I b le st) := by
  refine relaxAll_keeps (P := fun s1 => ∀ v b, s1.sol v = some b → s.sol v = some b ∨
    (b.edge ∈ es ∧ v = I.keyV b.edge ∧ b.terminal = I.termV b.edge ∧ ProducedFrom I b le st))
    h (fun _ _ hb => Or.inl hb) fun e he s1 _ _ _ _ _ hp hvalid htrav _ _ _ v b hb => ?_
  change upd s1.sol (I.keyV e) _ v = some b at hb
  unfold upd at hb
  split at hb
  · rename_i hv
    cases hb
    exact Or.inr ⟨he, hv, rfl, hvalid, htrav⟩
  · exact hp v b hb

/-- an error of the `for` loop is the error of one of the three calls made for one of its edges -/
theorem relaxAll_error {I : Inst α} {hasTarget : Bool} {lastEdge : Option Nat}
    {curState : List α} {k : ErrKind} :
    ∀ (es : List Nat) (s : SState α), relaxAll I hasTarget lastEdge curState es s = .error k →
      ∃ e ∈ es, I.valid e curState lastEdge = .error k ∨ I.trav e lastEdge curState = .error k ∨
        (hasTarget = true ∧ I.h (I.keyV e) curState = .error k)
  | [], s, h => by cases h
  | e :: es, s, h => by
    simp only [relaxAll] at h
    split at h
    · rename_i k' hk
      cases h
      refine ⟨e, List.mem_cons_self, ?_⟩
      have hr := relax_relaxed I hasTarget lastEdge curState s e
      rw [hk] at hr
      cases hr with
      | validError hk => exact Or.inl hk
      | travError hk => exact Or.inr (Or.inl hk)
      | estimateError ht hk => exact Or.inr (Or.inr ⟨ht, hk⟩)
    · obtain ⟨e', he', h1⟩ := relaxAll_error es _ h
      exact ⟨e', List.mem_cons_of_mem _ he', h1⟩

/-- the `for` loop does not end with an error that none of the three calls gives -/
theorem relaxAll_ne_error {I : Inst α} {k : ErrKind}
    (hvalid : ∀ e st le, I.valid e st le ≠ .error k)
    (htrav : ∀ e le st, I.trav e le st ≠ .error k) (hh : ∀ v st, I.h v st ≠ .error k)
    {hasTarget : Bool} {lastEdge : Option Nat} {curState : List α} (es : List Nat) (s : SState α) :
    relaxAll I hasTarget lastEdge curState es s ≠ .error k := by
  intro h
  obtain ⟨e, _, h1 | h1 | ⟨_, h1⟩⟩ := relaxAll_error es s h
  · exact hvalid _ _ _ h1
  · exact htrav _ _ _ h1
  · exact hh _ _ h1

end SearchLoop

namespace SearchLimits

-- the loop heads use no arithmetic either; the line is the full one because `curOf`, `popped`,
-- `Turn`, `Reach`, `startF` and the statements about them are spoken of by `Props/C10` with these
-- instances
variable {α : Type} [Field α] [LinearOrder α] [IsStrictOrderedRing α] [Lit α] [LawfulLit α]

/-! ### Loop heads -/

/-- `get_last_traversed_edge_id` / the state lookup at the popped vertex -/
def curOf (I : Inst α) (source : Nat) (s : SState α) (v : Nat) : Option (Option Nat × List α) :=
  if v = source then some (none, I.init)
  else match s.sol v with
    | some b => some (some b.edge, b.state)
    | none => none

theorem curOf_cases {I : Inst α} {source : Nat} {s : SState α} {v : Nat} {lastEdge : Option Nat}
    {st : List α} (h : curOf I source s v = some (lastEdge, st)) :
    (v = source ∧ lastEdge = none ∧ st = I.init) ∨
    (v ≠ source ∧ ∃ b, s.sol v = some b ∧ lastEdge = some b.edge ∧ st = b.state) := by
  unfold curOf at h
  split at h
  · rename_i hv
    cases h
    exact Or.inl ⟨hv, rfl, rfl⟩
  · rename_i hv
    split at h
    · rename_i b hb
      cases h
      exact Or.inr ⟨hv, b, hb, rfl, rfl⟩
    · cases h

/-- the state after `costs.pop()` returned `v` -/
def popped (s : SState α) (v : Nat) : SState α :=
  { s with queue := s.queue.filter (fun p => !(p.1 == v)) }

theorem popped_length_lt {s : SState α} {v : Nat} (hpop : popOk s.queue v = true) :
    (popped s v).queue.length + 1 ≤ s.queue.length := by
  obtain ⟨f, hf, _⟩ := SearchLoop.popOk_spec hpop
  have : (s.queue.filter (fun p => !(p.1 == v))).length < s.queue.length := by
    rw [List.length_filter_lt_length_iff_exists]
    exact ⟨(v, f), hf, by simp⟩
  simp only [popped]
  omega

/-- `Turn I source target s v s'`: at loop head `s` the limit test passes, the queue is not empty,
`v` is an accepted pop and not the target, the `for` loop over its incident edges succeeds, and
`s'` is the next loop head (`iterations += 1`) -/
structure Turn (I : Inst α) (source : Nat) (target : Option Nat) (s : SState α) (v : Nat)
    (s' : SState α) : Prop where
  term_ok : I.term s.solSize s.iters = .ok ()
  nonempty : s.queue.isEmpty = false
  pop_ok : popOk s.queue v = true
  not_target : target ≠ some v
  expand : ∃ lastEdge st s2, curOf I source s v = some (lastEdge, st) ∧
    relaxAll I target.isSome lastEdge st (I.incident v) (popped s v) = .ok s2 ∧
    s' = { s2 with iters := s2.iters + 1 }

/-- `Reach I source target pre s h`: started at loop head `s`, the loop expands the vertices `pre`
in this order (one complete turn each) and arrives at loop head `h` -/
inductive Reach (I : Inst α) (source : Nat) (target : Option Nat) :
    List Nat → SState α → SState α → Prop
  | here (s : SState α) : Reach I source target [] s s
  | turn {v : Nat} {rest : List Nat} {s s1 h : SState α} :
      Turn I source target s v s1 → Reach I source target rest s1 h →
      Reach I source target (v :: rest) s h

theorem Reach.snoc {I : Inst α} {source : Nat} {target : Option Nat} {pre : List Nat}
    {s h h' : SState α} {v : Nat} (hr : Reach I source target pre s h)
    (ht : Turn I source target h v h') : Reach I source target (pre ++ [v]) s h' := by
  induction hr with
  | here s => exact Reach.turn ht (Reach.here _)
  | turn ht' _ ih => exact Reach.turn ht' (ih ht)

/-- a chain of at least one turn ends with a turn -/
theorem Reach.last_turn {I : Inst α} {source : Nat} {target : Option Nat} {pre : List Nat}
    {s h : SState α} (hr : Reach I source target pre s h) :
    pre = [] ∨ ∃ h₀ v, Turn I source target h₀ v h := by
  induction hr with
  | here s => exact Or.inl rfl
  | @turn v rest s s1 h ht hr ih =>
    right
    rcases ih with rfl | ih
    · cases hr
      exact ⟨s, v, ht⟩
    · exact ih

/-! ### The loop body -/

/-- the loop body, with the popped state and the lookup named -/
theorem runLoop_unfold (I : Inst α) (source : Nat) (target : Option Nat) (sched : List Nat)
    (s : SState α) :
    runLoop I source target sched s =
      match I.term s.solSize s.iters with
      | .error k => .error k
      | .ok () =>
        if s.queue.isEmpty then
          match target with
          | some _ => .error .noPath
          | none => .ok s
        else
          match sched with
          | [] => .error .scheduleExhausted
          | v :: rest =>
            if !popOk s.queue v then .error .badSchedule
            else if target == some v then .ok (popped s v)
            else
              match curOf I source s v with
              | none => .error .internal
              | some (lastEdge, st) =>
                match relaxAll I target.isSome lastEdge st (I.incident v) (popped s v) with
                | .error k => .error k
                | .ok s2 => runLoop I source target rest { s2 with iters := s2.iters + 1 } := by
  conv_lhs => unfold runLoop
  rfl

theorem runLoop_turn {I : Inst α} {source : Nat} {target : Option Nat} {s s1 : SState α} {v : Nat}
    (ht : Turn I source target s v s1) (rest : List Nat) :
    runLoop I source target (v :: rest) s = runLoop I source target rest s1 := by
  obtain ⟨h1, h2, h3, h4, lastEdge, st, s2, h5, h6, rfl⟩ := ht
  have h4' : (target == some v) = false := by simpa using h4
  rw [runLoop_unfold]
  simp only [h1, h2, h3, h4', h5, h6, Bool.false_eq_true, if_false, Bool.not_true]

/-- the run goes through every loop head it reaches -/
theorem Reach.runLoop_eq {I : Inst α} {source : Nat} {target : Option Nat} {pre : List Nat}
    {s h : SState α} (hr : Reach I source target pre s h) (rest : List Nat) :
    runLoop I source target (pre ++ rest) s = runLoop I source target rest h := by
  induction hr with
  | here s => rfl
  | turn ht _ ih => rw [List.cons_append, runLoop_turn ht, ih]

/-- the ways `runLoop` stops: at loop head `h`, with `rest` of the schedule still to come; each arm
carries the tests of the loop body passed on the way to it -/
inductive Halt (I : Inst α) (source : Nat) (target : Option Nat) (h : SState α) :
    List Nat → Except ErrKind (SState α) → Prop
  | limit {rest : List Nat} {k : ErrKind} : I.term h.solSize h.iters = .error k →
      Halt I source target h rest (.error k)
  | done {rest : List Nat} : I.term h.solSize h.iters = .ok () → h.queue.isEmpty = true →
      target = none → Halt I source target h rest (.ok h)
  | noPath {rest : List Nat} {t : Nat} : I.term h.solSize h.iters = .ok () →
      h.queue.isEmpty = true → target = some t → Halt I source target h rest (.error .noPath)
  | exhausted : I.term h.solSize h.iters = .ok () → h.queue.isEmpty = false →
      Halt I source target h [] (.error .scheduleExhausted)
  | badSchedule {v : Nat} {rest : List Nat} : I.term h.solSize h.iters = .ok () →
      h.queue.isEmpty = false → popOk h.queue v = false →
      Halt I source target h (v :: rest) (.error .badSchedule)
  | found {t : Nat} {rest : List Nat} : I.term h.solSize h.iters = .ok () →
      h.queue.isEmpty = false → popOk h.queue t = true → target = some t →
      Halt I source target h (t :: rest) (.ok (popped h t))
  | missing {v : Nat} {rest : List Nat} : I.term h.solSize h.iters = .ok () →
      h.queue.isEmpty = false → popOk h.queue v = true → target ≠ some v →
      curOf I source h v = none → Halt I source target h (v :: rest) (.error .internal)
  | relaxError {v : Nat} {rest : List Nat} {lastEdge : Option Nat} {st : List α} {k : ErrKind} :
      I.term h.solSize h.iters = .ok () → h.queue.isEmpty = false → popOk h.queue v = true →
      target ≠ some v → curOf I source h v = some (lastEdge, st) →
      relaxAll I target.isSome lastEdge st (I.incident v) (popped h v) = .error k →
      Halt I source target h (v :: rest) (.error k)

/-- one pass through the loop body: it stops, or a complete turn is made and the loop goes on from
the next head -/
theorem runLoop_step (I : Inst α) (source : Nat) (target : Option Nat) (sched : List Nat)
    (s : SState α) :
    Halt I source target s sched (runLoop I source target sched s) ∨
    ∃ v rest s1, sched = v :: rest ∧ Turn I source target s v s1 ∧
      runLoop I source target sched s = runLoop I source target rest s1 := by
  rw [runLoop_unfold]
  -- the tests of the body one by one, each outcome with the tests passed on the way to it
  cases hterm : I.term s.solSize s.iters with
  | error k => exact Or.inl (.limit hterm)
  | ok u =>
    cases u
    dsimp only
    cases hemp : s.queue.isEmpty with
    | true =>
      cases target with
      | none => exact Or.inl (.done hterm hemp rfl)
      | some t => exact Or.inl (.noPath hterm hemp rfl)
    | false =>
      cases sched with
      | nil => exact Or.inl (.exhausted hterm hemp)
      | cons v rest =>
        dsimp only [Bool.false_eq_true, if_false]
        cases hpop : popOk s.queue v with
        | false => exact Or.inl (.badSchedule hterm hemp hpop)
        | true =>
          cases htgt : (target == some v) with
          | true => exact Or.inl (.found hterm hemp hpop (by simpa using htgt))
          | false =>
            have htgt : target ≠ some v := by simpa using htgt
            cases hcur : curOf I source s v with
            | none => exact Or.inl (.missing hterm hemp hpop htgt hcur)
            | some p =>
              obtain ⟨lastEdge, st⟩ := p
              dsimp only
              cases hrel : relaxAll I target.isSome lastEdge st (I.incident v) (popped s v) with
              | error k => exact Or.inl (.relaxError hterm hemp hpop htgt hcur hrel)
              | ok s2 =>
                exact Or.inr ⟨v, rest, _, rfl,
                  ⟨hterm, hemp, hpop, htgt, lastEdge, st, s2, hcur, hrel, rfl⟩, rfl⟩

/-- every run of the loop is a number of complete turns followed by one of the ways to stop -/
theorem runLoop_reach (I : Inst α) (source : Nat) (target : Option Nat) :
    ∀ (sched : List Nat) (s : SState α), ∃ pre rest h, sched = pre ++ rest ∧
      Reach I source target pre s h ∧
      Halt I source target h rest (runLoop I source target sched s) := by
  intro sched
  induction sched with
  | nil =>
    intro s
    rcases runLoop_step I source target [] s with hh | ⟨_, _, _, h, _⟩
    · exact ⟨[], [], s, rfl, Reach.here s, hh⟩
    · cases h
  | cons v rest ih =>
    intro s
    rcases runLoop_step I source target (v :: rest) s with hh | ⟨_, _, s1, h0, ht, h1⟩
    · exact ⟨[], _, s, rfl, Reach.here s, hh⟩
    · cases h0
      obtain ⟨pre, rest', h, hs, hr, hh⟩ := ih s1
      exact ⟨v :: pre, rest', h, by rw [hs]; rfl, Reach.turn ht hr, h1 ▸ hh⟩

/-! ### Invariants along a run -/

/-- what every complete turn keeps holds at every loop head the run reaches -/
theorem Reach.invariant {I : Inst α} {source : Nat} {target : Option Nat} {P : SState α → Prop}
    (hturn : ∀ s v s', Turn I source target s v s' → P s → P s') {pre : List Nat}
    {s h : SState α} (hr : Reach I source target pre s h) (hs : P s) : P h := by
  induction hr with
  | here s => exact hs
  | turn ht _ ih => exact ih (hturn _ _ _ ht hs)

/-- what the pop, the states `written` by the improving relaxations and the iteration count keep, a
complete turn keeps (for invariants that do not speak of the vertex being expanded; the others go
through `SearchLoop.relaxAll_keeps` with the turn taken apart) -/
theorem Turn.keeps {I : Inst α} {source : Nat} {target : Option Nat} {s s' : SState α} {v : Nat}
    (ht : Turn I source target s v s') {P : SState α → Prop} (hpop : P (popped s v))
    (hupd : ∀ le st, curOf I source s v = some (le, st) → ∀ e ∈ I.incident v,
      ∀ (s1 : SState α) (ac tc gt hv : α) (st' : List α), P s1 →
      I.valid e st le = .ok true → I.trav e le st = .ok (ac, tc, st') →
      s1.g (I.termV e) = some gt → improves (gt + (ac + tc)) (s1.g (I.keyV e)) = true →
      (if target.isSome then I.h (I.keyV e) st else .ok (zero : α)) = .ok hv →
      P (SearchLoop.written I s1 e ac tc gt hv st'))
    (hbump : ∀ s2, P s2 → P { s2 with iters := s2.iters + 1 }) : P s' := by
  obtain ⟨_, _, _, _, le, st, s2, hcur, hrel, rfl⟩ := ht
  exact hbump _ (SearchLoop.relaxAll_keeps hrel hpop (hupd le st hcur))

/-! ### The counters -/

theorem relax_counters {I : Inst α} {hasTarget : Bool} {lastEdge : Option Nat} {curState : List α}
    {s s' : SState α} {e : Nat} (h : relax I hasTarget lastEdge curState s e = .ok s') :
    s'.iters = s.iters ∧ s.solSize ≤ s'.solSize ∧ s'.solSize ≤ s.solSize + 1 := by
  have hr := SearchLoop.relax_relaxed I hasTarget lastEdge curState s e
  rw [h] at hr
  cases hr with
  | invalid | unlabelled | keep => exact ⟨rfl, le_refl _, Nat.le_succ _⟩
  | update =>
    refine ⟨rfl, ?_, ?_⟩
    · show s.solSize ≤ match s.sol (I.keyV e) with | none => s.solSize + 1 | some _ => s.solSize
      split
      · exact Nat.le_succ _
      · exact le_refl _
    · show (match s.sol (I.keyV e) with | none => s.solSize + 1 | some _ => s.solSize) ≤ _
      split
      · exact le_refl _
      · exact Nat.le_succ _

theorem relaxAll_counters {I : Inst α} {hasTarget : Bool} {lastEdge : Option Nat}
    {curState : List α} :
    ∀ (es : List Nat) (s s' : SState α), relaxAll I hasTarget lastEdge curState es s = .ok s' →
      s'.iters = s.iters ∧ s.solSize ≤ s'.solSize ∧ s'.solSize ≤ s.solSize + es.length
  | [], s, s', h => by
    simp only [relaxAll] at h
    cases h; exact ⟨rfl, le_refl _, by simp⟩
  | e :: es, s, s', h => by
    simp only [relaxAll] at h
    split at h
    · cases h
    · rename_i s1 h1
      obtain ⟨a1, a2, a3⟩ := relax_counters h1
      obtain ⟨b1, b2, b3⟩ := relaxAll_counters es s1 s' h
      refine ⟨by rw [b1, a1], le_trans a2 b2, ?_⟩
      simp only [List.length_cons]; omega

theorem Turn.counters {I : Inst α} {source : Nat} {target : Option Nat} {s s' : SState α} {v : Nat}
    (ht : Turn I source target s v s') :
    s'.iters = s.iters + 1 ∧ s.solSize ≤ s'.solSize ∧
      s'.solSize ≤ s.solSize + (I.incident v).length := by
  obtain ⟨_, _, _, _, lastEdge, st, s2, _, h6, rfl⟩ := ht
  obtain ⟨a1, a2, a3⟩ := relaxAll_counters _ _ _ h6
  exact ⟨by simp only [a1, popped], a2, a3⟩

/-- `iterations` counts the complete turns; `solution.len()` never decreases -/
theorem Reach.counters {I : Inst α} {source : Nat} {target : Option Nat} {pre : List Nat}
    {s h : SState α} (hr : Reach I source target pre s h) :
    h.iters = s.iters + pre.length ∧ s.solSize ≤ h.solSize := by
  induction hr with
  | here s => simp
  | turn ht _ ih =>
    obtain ⟨a1, a2, _⟩ := ht.counters
    refine ⟨?_, le_trans a2 ih.2⟩
    rw [ih.1, a1, List.length_cons]; omega

theorem Reach.solSize_le {I : Inst α} {D : Nat}
    (hD : ∀ v, (I.incident v).length ≤ D)
    {source : Nat} {target : Option Nat} {pre : List Nat} {s hd : SState α}
    (hr : Reach I source target pre s hd) : hd.solSize ≤ s.solSize + pre.length * D := by
  induction hr with
  | here s => simp
  | @turn v rest s s1 hd ht _ ih =>
    have h1 := ht.counters.2.2
    have h2 := hD v
    simp only [List.length_cons, Nat.add_mul, Nat.one_mul]
    omega

/-! ### Runs that return -/

/-- how an `.ok` result comes about at the last loop head `h`: the queue is empty and there is no
target, or the target is the accepted pop -/
def Final (target : Option Nat) (h : SState α) (rest : List Nat) (s : SState α) : Prop :=
  (h.queue.isEmpty = true ∧ target = none ∧ s = h) ∨
  (∃ t rest', rest = t :: rest' ∧ h.queue.isEmpty = false ∧ popOk h.queue t = true ∧
    target = some t ∧ s = popped h t)

/-- an `.ok` run decomposes into the loop heads it went through, the last of which passed the
limit test and produced the result -/
theorem runLoop_ok_reach {I : Inst α} {source : Nat} {target : Option Nat}
    (sched : List Nat) (s s' : SState α) (hrun : runLoop I source target sched s = .ok s') :
    ∃ pre rest h, sched = pre ++ rest ∧ Reach I source target pre s h ∧
      I.term h.solSize h.iters = .ok () ∧ Final target h rest s' := by
  obtain ⟨pre, rest, h, hs, hr, hh⟩ := runLoop_reach I source target sched s
  rw [hrun] at hh
  cases hh with
  | done hterm hemp ht => exact ⟨pre, rest, _, hs, hr, hterm, Or.inl ⟨hemp, ht, rfl⟩⟩
  | found hterm hemp hpop ht =>
    exact ⟨pre, _, h, hs, hr, hterm, Or.inr ⟨_, _, rfl, hemp, hpop, ht, rfl⟩⟩

/-- conversely, a head that passes the test and ends the loop gives the result -/
theorem runLoop_final {I : Inst α} {source : Nat} {target : Option Nat} {h s : SState α}
    {rest : List Nat} (hterm : I.term h.solSize h.iters = .ok ()) (hf : Final target h rest s) :
    runLoop I source target rest h = .ok s := by
  rw [runLoop_unfold]
  rcases hf with ⟨h1, rfl, rfl⟩ | ⟨t, rest', rfl, h1, h2, rfl, rfl⟩
  · simp only [hterm, h1, if_true]
  · simp [hterm, h1, h2]

/-- the result of an `.ok` run carries the labels, tree and counters of the last loop head -/
theorem Final.fields {target : Option Nat} {h s : SState α} {rest : List Nat}
    (hf : Final target h rest s) :
    s.g = h.g ∧ s.sol = h.sol ∧ s.solSize = h.solSize ∧ s.iters = h.iters := by
  rcases hf with ⟨_, _, rfl⟩ | ⟨t, rest', _, _, _, _, rfl⟩
  · exact ⟨rfl, rfl, rfl, rfl⟩
  · exact ⟨rfl, rfl, rfl, rfl⟩

/-- with a target the result is the last head with the target popped -/
theorem Final.of_some {t : Nat} {h s : SState α} {rest : List Nat} (hf : Final (some t) h rest s) :
    popOk h.queue t = true ∧ s = popped h t := by
  rcases hf with ⟨_, ht, _⟩ | ⟨_, _, _, _, hpop, ht, hs⟩
  · cases ht
  · cases ht
    exact ⟨hpop, hs⟩

/-- without a target the result is the last head, whose queue is empty -/
theorem Final.of_none {h s : SState α} {rest : List Nat} (hf : Final none h rest s) :
    h.queue = [] ∧ s = h := by
  rcases hf with ⟨hemp, _, hs⟩ | ⟨_, _, _, _, _, ht, _⟩
  · exact ⟨List.isEmpty_iff.1 hemp, hs⟩
  · cases ht

theorem Final.g_eq {target : Option Nat} {h s : SState α} {rest : List Nat}
    (hf : Final target h rest s) : s.g = h.g := hf.fields.1

theorem Final.sol_eq {target : Option Nat} {h s : SState α} {rest : List Nat}
    (hf : Final target h rest s) : s.sol = h.sol := hf.fields.2.1

theorem Final.solSize_eq {target : Option Nat} {h s : SState α} {rest : List Nat}
    (hf : Final target h rest s) : s.solSize = h.solSize := hf.fields.2.2.1

theorem Final.iters_eq {target : Option Nat} {h s : SState α} {rest : List Nat}
    (hf : Final target h rest s) : s.iters = h.iters := hf.fields.2.2.2

/-- a run that returns a result passed the limit test at *every* loop head it
went through (in particular at the last one, where the result was produced) -/
theorem ok_passes_every_head {I : Inst α} {source : Nat} {target : Option Nat} {pre rest : List Nat}
    {s h s' : SState α} (hrun : runLoop I source target (pre ++ rest) s = .ok s')
    (hr : Reach I source target pre s h) : I.term h.solSize h.iters = .ok () := by
  rw [hr.runLoop_eq] at hrun
  obtain ⟨pre', _, _, _, hr', hterm, _⟩ := runLoop_ok_reach rest h s' hrun
  cases hr' with
  | here => exact hterm
  | turn ht _ => exact ht.term_ok

/-! ### `run_a_star` -/

/-- the f-score the source is queued with -/
def startF (I : Inst α) (source : Nat) (target : Option Nat) : Except ErrKind α :=
  match target with
  | none => .ok zero
  | some _ => I.h source I.init

theorem startF_error {I : Inst α} {source : Nat} {target : Option Nat} {k : ErrKind}
    (h : startF I source target = .error k) :
    target.isSome = true ∧ I.h source I.init = .error k := by
  cases target with
  | none => cases h
  | some t => exact ⟨rfl, h⟩

/-- the empty result of the `target == source` shortcut -/
def emptyResult : SState α :=
  { queue := [], g := fun _ => none, sol := fun _ => none, solSize := 0, iters := 0 }

theorem runAStar_unfold (I : Inst α) (source : Nat) (target : Option Nat) (sched : List Nat) :
    runAStar I source target sched =
      if target = some source then .ok emptyResult
      else match startF I source target with
        | .error k => .error k
        | .ok f0 => runLoop I source target sched (initState source f0) := by
  unfold runAStar startF emptyResult
  by_cases ht : target = some source
  · simp [ht]
  · have : (target == some source) = false := by simpa using ht
    simp only [this, ht, if_false, Bool.false_eq_true]
    cases target <;> rfl

theorem runAStar_source (I : Inst α) (source : Nat) (sched : List Nat) :
    runAStar I source (some source) sched = .ok emptyResult := by
  rw [runAStar_unfold, if_pos rfl]

/-- every run of `run_a_star`: the `target == source` shortcut, a failing estimate at the source, or
the loop from the initial state through the heads `Reach` lists to the one where it `Halt`s -/
theorem runAStar_cases (I : Inst α) (source : Nat) (target : Option Nat) (sched : List Nat) :
    (target = some source ∧ runAStar I source target sched = .ok emptyResult) ∨
    (target ≠ some source ∧ ∃ k, startF I source target = .error k ∧
      runAStar I source target sched = .error k) ∨
    (target ≠ some source ∧ ∃ f0 pre rest h, startF I source target = .ok f0 ∧
      sched = pre ++ rest ∧ Reach I source target pre (initState source f0) h ∧
      Halt I source target h rest (runAStar I source target sched)) := by
  rw [runAStar_unfold]
  by_cases hts : target = some source
  · exact Or.inl ⟨hts, if_pos hts⟩
  · rw [if_neg hts]
    cases hf : startF I source target with
    | error k => exact Or.inr (Or.inl ⟨hts, k, rfl, rfl⟩)
    | ok f0 =>
      obtain ⟨pre, rest, h, hs, hr, hh⟩ := runLoop_reach I source target sched (initState source f0)
      exact Or.inr (Or.inr ⟨hts, f0, pre, rest, h, rfl, hs, hr, hh⟩)

theorem runAStar_ok_iff {I : Inst α} {source : Nat} {target : Option Nat} {sched : List Nat}
    {r : SState α} :
    runAStar I source target sched = .ok r ↔
      (target = some source ∧ r = emptyResult) ∨
      (target ≠ some source ∧ ∃ f0, startF I source target = .ok f0 ∧
        runLoop I source target sched (initState source f0) = .ok r) := by
  rw [runAStar_unfold]
  by_cases ht : target = some source
  · simp only [ht, if_true, Except.ok.injEq, true_and, ne_eq, not_true_eq_false, false_and,
      or_false]
    exact eq_comm
  · simp only [ht, if_false, false_and, ne_eq, not_false_eq_true, true_and, false_or]
    cases startF I source target with
    | error k => simp
    | ok f0 => simp

/-- an `.ok` result of `run_a_star`: the empty result of the shortcut, or what `Final` gives at the
last of the loop heads `Reach` lists, which passed the limit test -/
theorem runAStar_ok_cases {I : Inst α} {source : Nat} {target : Option Nat} {sched : List Nat}
    {r : SState α} (h : runAStar I source target sched = .ok r) :
    (target = some source ∧ r = emptyResult) ∨
    (target ≠ some source ∧ ∃ f0 pre rest hd, startF I source target = .ok f0 ∧
      sched = pre ++ rest ∧ Reach I source target pre (initState source f0) hd ∧
      I.term hd.solSize hd.iters = .ok () ∧ Final target hd rest r) := by
  rcases runAStar_ok_iff.1 h with h0 | ⟨hts, f0, hf, hrun⟩
  · exact Or.inl h0
  · obtain ⟨pre, rest, hd, hs, hr, hterm, hfin⟩ := runLoop_ok_reach sched _ r hrun
    exact Or.inr ⟨hts, f0, pre, rest, hd, hf, hs, hr, hterm, hfin⟩

/-! ### Where a tree entry comes from -/

/-- a predicate on (last edge, state) pairs that the search keeps: it holds of the source's pair, and
an accepted, answered traversal from such a pair produces such a pair -/
structure PairInv (I : Inst α) (S : Option Nat → List α → Prop) : Prop where
  init : S none I.init
  step : ∀ e le st ac tc st', S le st → I.valid e st le = .ok true →
    I.trav e le st = .ok (ac, tc, st') → S (some e) st'

/-- the entry is what the frontier model accepted and the traversal produced from a pair
satisfying `S` -/
def EntryFrom (I : Inst α) (S : Option Nat → List α → Prop) (b : Branch α) : Prop :=
  ∃ le st, S le st ∧ SearchLoop.ProducedFrom I b le st

/-- the pair an entry hands on to the relaxations from its vertex -/
theorem EntryFrom.pair {I : Inst α} {S : Option Nat → List α → Prop} (hS : PairInv I S)
    {b : Branch α} (h : EntryFrom I S b) : S (some b.edge) b.state :=
  let ⟨_, _, h1, h2, h3⟩ := h
  hS.step _ _ _ _ _ _ h1 h2 h3

/-- the pair the loop reads at a popped vertex satisfies `S` when the entries come from `S`-pairs -/
theorem curOf_pair {I : Inst α} {S : Option Nat → List α → Prop} (hS : PairInv I S) {source : Nat}
    {s : SState α} (hs : ∀ x b, s.sol x = some b → EntryFrom I S b) {v : Nat} {le : Option Nat}
    {st : List α} (h : curOf I source s v = some (le, st)) : S le st := by
  rcases curOf_cases h with ⟨_, rfl, rfl⟩ | ⟨_, b, hb, rfl, rfl⟩
  · exact hS.init
  · exact (hs v b hb).pair hS

/-- the entry `b` is what the turn that expanded `u` from loop head `h₀` wrote: its edge is one of
the edges iterated at `u`, `terminal` is that edge's near end, and the frontier model accepted — and
the traversal produced the entry's costs and state — for the (previous edge, state) pair the loop
read at `u` at `h₀` -/
def WrittenAt (I : Inst α) (source : Nat) (h₀ : SState α) (u : Nat) (b : Branch α) : Prop :=
  b.edge ∈ I.incident u ∧ b.terminal = I.termV b.edge ∧
  ∃ (le : Option Nat) (st : List α), curOf I source h₀ u = some (le, st) ∧
    SearchLoop.ProducedFrom I b le st

/-- an entry after a turn was there before or was written in it: the pair is the one read at the
head, not the one the entry's parent has now -/
theorem Turn.written {I : Inst α} {source : Nat} {target : Option Nat} {s s' : SState α} {u : Nat}
    (ht : Turn I source target s u s') :
    ∀ v b, s'.sol v = some b → s.sol v = some b ∨ (v = I.keyV b.edge ∧ WrittenAt I source s u b) := by
  obtain ⟨_, _, _, _, le, st, s2, hcur, hrel, rfl⟩ := ht
  intro v b hb
  rcases SearchLoop.relaxAll_written _ _ _ hrel v b hb with h | ⟨hm, hk, hterm, hv, htr⟩
  · exact Or.inl h
  · exact Or.inr ⟨hk, hm, hterm, le, st, hcur, hv, htr⟩

/-- a turn writes entries that come from the pair it read at the popped vertex -/
theorem Turn.entryFrom {I : Inst α} {S : Option Nat → List α → Prop} (hS : PairInv I S)
    {source : Nat} {target : Option Nat} {s s' : SState α} {v : Nat}
    (ht : Turn I source target s v s') (hs : ∀ x b, s.sol x = some b → EntryFrom I S b) :
    ∀ x b, s'.sol x = some b → EntryFrom I S b := fun x b hb =>
  (ht.written x b hb).elim (hs x b)
    fun ⟨_, _, _, le, st, hcur, hp⟩ => ⟨le, st, curOf_pair hS hs hcur, hp⟩

/-- **provenance of the tree entries**: every entry of a tree `run_a_star` returns was accepted by
the frontier model and produced by the traversal from a pair satisfying `S`, for every `S` the search
keeps.  No hypothesis on the instance, the source, the target or the schedule. -/
theorem runAStar_entryFrom {I : Inst α} {S : Option Nat → List α → Prop} (hS : PairInv I S)
    {source : Nat} {target : Option Nat} {sched : List Nat} {s : SState α}
    (h : runAStar I source target sched = .ok s) : ∀ x b, s.sol x = some b → EntryFrom I S b := by
  rcases runAStar_ok_cases h with ⟨_, rfl⟩ | ⟨_, _, _, _, _, _, _, hr, _, hfin⟩
  · exact fun _ _ hb => nomatch hb
  · rw [hfin.sol_eq]
    exact hr.invariant (P := fun s1 => ∀ x b, s1.sol x = some b → EntryFrom I S b)
      (fun _ _ _ ht => ht.entryFrom hS) (fun _ _ hb => nomatch hb)

end SearchLimits
end Compass
