/-
Tree invariant of the search loop (`Model/Search.lean`: `relax`, `relaxAll`, `runLoop`, `runAStar`)
and what it gives for `backtrack` / `runVertexOriented`.

For every source, optional target and schedule, over any linearly ordered field.  `WF` (incident
consistency, strictly positive edge cost) is needed where the loop writes (`relax` … `runAStar`,
`runVertexOriented`); what is read off a state satisfying `TreeInv` — labels decrease towards the
root, `backtrack` succeeds within `solSize + 1` steps, the route is a chain (`PathTo`, `RouteChain`),
the tree is rooted — needs the invariant only.
-/
import Compass.Proofs.SearchLoop
import Mathlib.Data.List.Chain
import Mathlib.Data.List.Perm.Subperm
import Mathlib.Logic.Function.Iterate

namespace Compass
namespace SearchTree

set_option linter.unusedSectionVars false

section

variable {α : Type} [Field α] [LinearOrder α] [IsStrictOrderedRing α] [Lit α] [LawfulLit α]

/-! ### Hypotheses on the instance -/

/-- the two hypotheses on a search instance: the incident lists are consistent with `termV`
(`Props/C01`'s H1), every answered traversal has a positive cost (H2) -/
structure WF (I : Inst α) : Prop where
  incident_term : ∀ v e, e ∈ I.incident v → I.termV e = v
  cost_pos : ∀ e le st ac tc st', I.trav e le st = .ok (ac, tc, st') → 0 < ac + tc

/-! ### `upd` -/

theorem upd_same {β : Type} (m : Nat → Option β) (k : Nat) (v : β) : upd m k v k = some v := by
  simp [upd]

theorem upd_other {β : Type} (m : Nat → Option β) (k : Nat) (v : β) {x : Nat} (h : x ≠ k) :
    upd m k v x = m x := by
  simp [upd, h]

/-! ### The invariant -/

/-- tree invariant of a loop state of `run_a_star` -/
structure TreeInv (I : Inst α) (source : Nat) (s : SState α) : Prop where
  /-- the source is labelled zero -/
  g_source : s.g source = some 0
  /-- the source never gets a tree entry -/
  sol_source : s.sol source = none
  /-- every tree entry `v ↦ b` joins its parent `b.terminal` to `v` with a positive cost that the
  labels respect, and the parent is the source or has an entry itself -/
  entry : ∀ v b, s.sol v = some b →
    I.keyV b.edge = v ∧ I.termV b.edge = b.terminal ∧ b.edge ∈ I.incident b.terminal ∧
    0 < b.access + b.traversal ∧
    (∃ gu gv, s.g b.terminal = some gu ∧ s.g v = some gv ∧ gu + (b.access + b.traversal) ≤ gv) ∧
    (b.terminal = source ∨ (s.sol b.terminal).isSome)
  /-- every labelled vertex other than the source has a tree entry -/
  labelled : ∀ v gv, s.g v = some gv → v = source ∨ (s.sol v).isSome
  /-- every queue entry has a label -/
  queue_labelled : ∀ p ∈ s.queue, (s.g p.1).isSome
  /-- every queue entry is the source or has a tree entry -/
  queue_entry : ∀ p ∈ s.queue, p.1 = source ∨ (s.sol p.1).isSome
  /-- `solSize` is the number of tree entries -/
  keys : ∃ keys : List Nat, keys.Nodup ∧ keys.length = s.solSize ∧ ∀ v, (s.sol v).isSome ↔ v ∈ keys
  /-- labels are non-negative -/
  g_nonneg : ∀ v gv, s.g v = some gv → 0 ≤ gv

/-- the invariant only reads `g`, `sol`, `solSize` and the members of the queue: dropping queue
entries and changing `iters` keep it -/
theorem TreeInv.of_eq {I : Inst α} {source : Nat} {s s' : SState α} (h : TreeInv I source s)
    (hg : s'.g = s.g) (hsol : s'.sol = s.sol) (hsize : s'.solSize = s.solSize)
    (hq : ∀ p ∈ s'.queue, p ∈ s.queue) : TreeInv I source s' where
  g_source := by rw [hg]; exact h.g_source
  sol_source := by rw [hsol]; exact h.sol_source
  entry := by rw [hg, hsol]; exact h.entry
  labelled := by rw [hg, hsol]; exact h.labelled
  queue_labelled := by rw [hg]; exact fun p hp => h.queue_labelled p (hq p hp)
  queue_entry := by rw [hsol]; exact fun p hp => h.queue_entry p (hq p hp)
  keys := by rw [hsol, hsize]; exact h.keys
  g_nonneg := by rw [hg]; exact h.g_nonneg

theorem TreeInv.pop {I : Inst α} {source : Nat} {s : SState α} (h : TreeInv I source s) (v : Nat) :
    TreeInv I source { s with queue := s.queue.filter (fun p => !(p.1 == v)) } :=
  h.of_eq rfl rfl rfl (fun _ hp => (List.mem_filter.1 hp).1)

theorem TreeInv.bump {I : Inst α} {source : Nat} {s : SState α} (h : TreeInv I source s) :
    TreeInv I source { s with iters := s.iters + 1 } :=
  h.of_eq rfl rfl rfl (fun _ hp => hp)

theorem initState_treeInv (I : Inst α) (source : Nat) (f0 : α) :
    TreeInv I source (initState source f0) where
  g_source := SearchLoop.initState_g.2 ⟨rfl, rfl⟩
  sol_source := rfl
  entry := fun _ _ h => nomatch h
  labelled := fun _ _ h => Or.inl (SearchLoop.initState_g.1 h).1
  queue_labelled := fun p hp => by
    rw [SearchLoop.mem_initState_queue.1 hp]
    exact SearchLoop.initState_g_isSome.2 rfl
  queue_entry := fun p hp => by
    rw [SearchLoop.mem_initState_queue.1 hp]
    exact Or.inl rfl
  keys := ⟨[], List.nodup_nil, rfl, fun _ => ⟨fun h => (nomatch h), fun h => (nomatch h)⟩⟩
  g_nonneg := fun _ _ h => le_of_eq (SearchLoop.initState_g.1 h).2.symm

/-! ### `relax` keeps the invariant -/

/-- the three inserts and the `push_increase` of an improving relaxation keep the invariant.  Two
facts carry the proof: the re-labelled vertex is not the source (an improvement on label 0 would be
negative) and is not the vertex relaxed from (the edge cost is positive), so source and parent keep
label and entry.  The one case that is not bookkeeping: an entry whose parent is the re-labelled
vertex keeps `gu + c ≤ gv` because that label only dropped. -/
theorem update_treeInv {I : Inst α} (hI : WF I) {source : Nat} {s : SState α}
    (hinv : TreeInv I source s) {v e : Nat} (hev : e ∈ I.incident v) {le : Option Nat}
    {st st' : List α} {ac tc gt : α} (htrav : I.trav e le st = .ok (ac, tc, st')) (hv : α)
    (hgt : s.g (I.termV e) = some gt)
    (himp : improves (gt + (ac + tc)) (s.g (I.keyV e)) = true) :
    TreeInv I source (SearchLoop.written I s e ac tc gt hv st') := by
  have hc : 0 < ac + tc := hI.cost_pos _ _ _ _ _ _ htrav
  have he : e ∈ I.incident (I.termV e) := by rw [hI.incident_term _ _ hev]; exact hev
  have hgt0 : 0 ≤ gt := hinv.g_nonneg _ _ hgt
  have hks : I.keyV e ≠ source := by
    intro hk
    rw [hk, hinv.g_source, SearchLoop.improves_some] at himp
    exact lt_asymm himp (SearchLoop.pos_add hgt0 hc)
  have hkt : I.termV e ≠ I.keyV e := by
    intro hk
    rw [← hk, hgt, SearchLoop.improves_some] at himp
    exact lt_asymm himp (SearchLoop.lt_add_pos gt hc)
  have hsk : source ≠ I.keyV e := fun h => hks h.symm
  refine
    { g_source := ?_, sol_source := ?_, entry := ?_, labelled := ?_, queue_labelled := ?_,
      queue_entry := ?_, keys := ?_, g_nonneg := ?_ }
  · show upd s.g (I.keyV e) _ source = some 0
    rw [upd_other _ _ _ hsk]; exact hinv.g_source
  · show upd s.sol (I.keyV e) _ source = none
    rw [upd_other _ _ _ hsk]; exact hinv.sol_source
  · intro x b hb
    change upd s.sol (I.keyV e) _ x = some b at hb
    show _ ∧ _ ∧ _ ∧ _ ∧
      (∃ gu gv, upd s.g (I.keyV e) _ b.terminal = some gu ∧ upd s.g (I.keyV e) _ x = some gv ∧ _) ∧
      (_ ∨ (upd s.sol (I.keyV e) _ b.terminal).isSome)
    rcases SearchLoop.upd_eq_some hb with ⟨rfl, rfl⟩ | ⟨hxk, hb⟩
    · refine ⟨rfl, rfl, he, hc, ⟨gt, gt + (ac + tc), ?_, ?_, le_refl _⟩, ?_⟩
      · show upd s.g (I.keyV e) _ (I.termV e) = some gt
        rw [upd_other _ _ _ hkt]; exact hgt
      · exact upd_same _ _ _
      · show I.termV e = source ∨ (upd s.sol (I.keyV e) _ (I.termV e)).isSome
        rw [upd_other _ _ _ hkt]; exact hinv.labelled _ _ hgt
    · obtain ⟨h1, h2, h3, h4, ⟨gu, gv, hgu, hgv, hle⟩, h6⟩ := hinv.entry x b hb
      refine ⟨h1, h2, h3, h4, ?_, ?_⟩
      · by_cases hbt : b.terminal = I.keyV e
        · refine ⟨gt + (ac + tc), gv, ?_, ?_, ?_⟩
          · rw [hbt]; exact upd_same _ _ _
          · rw [upd_other _ _ _ hxk]; exact hgv
          · rw [← hbt, hgu, SearchLoop.improves_some] at himp
            exact le_trans (SearchLoop.add_mono (le_of_lt himp) (le_refl _)) hle
        · refine ⟨gu, gv, ?_, ?_, hle⟩
          · rw [upd_other _ _ _ hbt]; exact hgu
          · rw [upd_other _ _ _ hxk]; exact hgv
      · exact h6.imp_right SearchLoop.upd_isSome_of
  · intro x gx hgx
    change upd s.g (I.keyV e) _ x = some gx at hgx
    show x = source ∨ (upd s.sol (I.keyV e) _ x).isSome
    rw [SearchLoop.upd_isSome]
    by_cases hxk : x = I.keyV e
    · exact Or.inr (Or.inl hxk)
    · rw [upd_other _ _ _ hxk] at hgx
      exact (hinv.labelled x gx hgx).imp_right Or.inr
  · intro p hp
    change p ∈ pushIncrease s.queue (I.keyV e) _ at hp
    show (upd s.g (I.keyV e) _ p.1).isSome
    rw [SearchLoop.upd_isSome]
    exact (SearchLoop.mem_pushIncrease hp).imp_right (hinv.queue_labelled p)
  · intro p hp
    change p ∈ pushIncrease s.queue (I.keyV e) _ at hp
    show p.1 = source ∨ (upd s.sol (I.keyV e) _ p.1).isSome
    rw [SearchLoop.upd_isSome]
    rcases SearchLoop.mem_pushIncrease hp with h | h
    · exact Or.inr (Or.inl h)
    · exact (hinv.queue_entry p h).imp_right Or.inr
  · obtain ⟨keys, hnd, hlen, hmem⟩ := hinv.keys
    obtain ⟨keys', hnd', hmem', hnone, hsome⟩ := SearchLoop.upd_keys hnd hmem (I.keyV e)
      { terminal := I.termV e, edge := e, access := ac, traversal := tc, state := st' }
    refine ⟨keys', hnd', ?_, hmem'⟩
    show keys'.length = match s.sol (I.keyV e) with | none => s.solSize + 1 | some _ => s.solSize
    cases hk : s.sol (I.keyV e) with
    | none => rw [hnone hk, hlen]
    | some b0 => rw [hsome b0 hk, hlen]
  · intro x gx hgx
    change upd s.g (I.keyV e) _ x = some gx at hgx
    rcases SearchLoop.upd_eq_some hgx with ⟨_, rfl⟩ | ⟨_, hgx⟩
    · exact le_of_lt (SearchLoop.pos_add hgt0 hc)
    · exact hinv.g_nonneg x gx hgx

/-- `relax` keeps the invariant (no assumption on the outcome of `valid`, `trav`, `h`: an error is
not an `.ok` state).  The premises naming the expanded vertex `cur` — it is the source or has an
entry, is labelled — describe the call the loop makes; the proof needs only that the edge is listed
at `cur`. -/
theorem relax_treeInv' {I : Inst α} (hI : WF I) {source : Nat} {hasTarget : Bool}
    {lastEdge : Option Nat} {curState : List α} {s s' : SState α} {e cur : Nat}
    (hinv : TreeInv I source s) (he : e ∈ I.incident cur) (_hterm : I.termV e = cur)
    (_hcur : cur = source ∨ (s.sol cur).isSome) (_hg : (s.g cur).isSome)
    (h : relax I hasTarget lastEdge curState s e = .ok s') : TreeInv I source s' := by
  have hr := SearchLoop.relax_relaxed I hasTarget lastEdge curState s e
  rw [h] at hr
  cases hr with
  | invalid | unlabelled | keep => exact hinv
  | update _ htrav hgt himp _ => exact update_treeInv hI hinv he htrav _ hgt himp

/-! ### The loop keeps the invariant -/

/-- a vertex the queue may pop is the source or has a tree entry: the loop's own
`InternalError("expected vertex id … missing from solution")` branch is never taken -/
theorem popped_has_entry {I : Inst α} {source : Nat} {s : SState α} (hinv : TreeInv I source s)
    {v : Nat} (h : popOk s.queue v = true) : v = source ∨ (s.sol v).isSome := by
  obtain ⟨p, hp, hpv⟩ := SearchLoop.popOk_mem h
  rw [← hpv]
  exact hinv.queue_entry p hp

/-- the same as the loop reads it: the lookup at an accepted pop answers (`Halt.missing` cannot
arise) -/
theorem curOf_ne_none {I : Inst α} {source : Nat} {s : SState α} (hinv : TreeInv I source s)
    {v : Nat} (hpop : popOk s.queue v = true) : SearchLimits.curOf I source s v ≠ none := by
  unfold SearchLimits.curOf
  split
  · simp
  · rcases popped_has_entry hinv hpop with hv | hv
    · contradiction
    · obtain ⟨b, hb⟩ := Option.isSome_iff_exists.1 hv
      simp [hb]

theorem _root_.Compass.SearchLimits.Turn.treeInv {I : Inst α} (hI : WF I) {source : Nat}
    {target : Option Nat} {s s' : SState α} {v : Nat} (ht : SearchLimits.Turn I source target s v s')
    (hinv : TreeInv I source s) : TreeInv I source s' :=
  ht.keeps (hinv.pop v)
    (fun _ _ _ _ he _ _ _ _ _ _ h1 _ htrav hgt himp _ => update_treeInv hI h1 he htrav _ hgt himp)
    (fun _ => TreeInv.bump)

theorem _root_.Compass.SearchLimits.Reach.treeInv {I : Inst α} (hI : WF I) {source : Nat}
    {target : Option Nat} {pre : List Nat} {s h : SState α}
    (hr : SearchLimits.Reach I source target pre s h) (hinv : TreeInv I source s) :
    TreeInv I source h :=
  hr.invariant (fun _ _ _ ht => ht.treeInv hI) hinv

/-- every `.ok` result of `run_a_star` is the empty result of the `target = source` shortcut or
satisfies the invariant (and then a target — reached by popping it — has a tree entry) -/
theorem runAStar_treeInv {I : Inst α} (hI : WF I) (source : Nat) (target : Option Nat)
    (sched : List Nat) (s : SState α) (h : runAStar I source target sched = .ok s) :
    (target = some source ∧ s = SearchLimits.emptyResult) ∨
    (target ≠ some source ∧ TreeInv I source s ∧
      ∀ t, target = some t → (s.sol t).isSome) := by
  rcases SearchLimits.runAStar_ok_cases h with h0 | ⟨hts, f0, _, _, hd, _, _, hr, _, hfin⟩
  · exact Or.inl h0
  · have hinv := hr.treeInv hI (initState_treeInv I source f0)
    refine Or.inr ⟨hts, ?_⟩
    rcases hfin with ⟨_, ht, rfl⟩ | ⟨t, _, _, _, hpop, ht, rfl⟩
    · exact ⟨hinv, fun t htt => by rw [ht] at htt; cases htt⟩
    · refine ⟨hinv.pop _, fun t' htt => ?_⟩
      rw [ht] at htt hts
      cases htt
      exact (popped_has_entry hinv hpop).resolve_left fun h3 => hts (by rw [h3])

/-! ### Consequences: labels strictly decrease towards the root -/

def LabelLt (s : SState α) (u v : Nat) : Prop :=
  ∃ gu gv, s.g u = some gu ∧ s.g v = some gv ∧ gu < gv

theorem LabelLt.trans {s : SState α} {u v w : Nat} (h1 : LabelLt s u v) (h2 : LabelLt s v w) :
    LabelLt s u w := by
  obtain ⟨a, b, ha, hb, hab⟩ := h1
  obtain ⟨b', c, hb', hc, hbc⟩ := h2
  rw [hb] at hb'
  cases hb'
  exact ⟨a, c, ha, hc, lt_trans hab hbc⟩

theorem LabelLt.irrefl {s : SState α} {v : Nat} (h : LabelLt s v v) : False := by
  obtain ⟨a, b, ha, hb, hab⟩ := h
  rw [ha] at hb
  cases hb
  exact lt_irrefl _ hab

theorem LabelLt.ne {s : SState α} {u v : Nat} (h : LabelLt s u v) : u ≠ v := by
  intro huv
  subst huv
  exact h.irrefl

/-- the parent of a tree entry has a strictly smaller label (strict because costs are positive) -/
theorem parent_label_lt {I : Inst α} {source : Nat} {s : SState α} (hinv : TreeInv I source s)
    {v : Nat} {b : Branch α} (h : s.sol v = some b) :
    LabelLt s b.terminal v := by
  obtain ⟨_, _, _, hc, ⟨gu, gv, hgu, hgv, hle⟩, _⟩ := hinv.entry v b h
  exact ⟨gu, gv, hgu, hgv, lt_of_lt_of_le (SearchLoop.lt_add_pos gu hc) hle⟩

/-- `u` is a proper ancestor of `v` in the tree -/
inductive Anc (sol : Nat → Option (Branch α)) : Nat → Nat → Prop
  | parent {v : Nat} {b : Branch α} : sol v = some b → Anc sol b.terminal v
  | step {u v : Nat} {b : Branch α} : sol v = some b → Anc sol u b.terminal → Anc sol u v

theorem anc_label_lt {I : Inst α} {source : Nat} {s : SState α} (hinv : TreeInv I source s)
    {u v : Nat} (h : Anc s.sol u v) : LabelLt s u v := by
  induction h with
  | parent hb => exact parent_label_lt hinv hb
  | step hb _ ih => exact ih.trans (parent_label_lt hinv hb)

theorem acyclic {I : Inst α} {source : Nat} {s : SState α} (hinv : TreeInv I source s) (v : Nat) :
    ¬ Anc s.sol v v :=
  fun h => (anc_label_lt hinv h).irrefl

/-! ### Consequences: backtracking -/

/-- `r` is the list of tree entries met walking up from `t` to the source, in travel order of the
search direction (the entry leaving the source first, the entry of `t` last) -/
inductive PathTo (source : Nat) (sol : Nat → Option (Branch α)) : Nat → List (Branch α) → Prop
  | nil : PathTo source sol source []
  | snoc {v : Nat} {b : Branch α} {r : List (Branch α)} :
      v ≠ source → sol v = some b → PathTo source sol b.terminal r →
      PathTo source sol v (r ++ [b])

theorem backtrackAux_sound {source : Nat} {sol : Nat → Option (Branch α)} :
    ∀ (fuel v : Nat) (visited : List Nat) (acc out : List (Branch α)),
      backtrackAux source sol fuel v visited acc = .ok out →
      ∃ r, PathTo source sol v r ∧ out = r ++ acc := by
  intro fuel
  induction fuel with
  | zero => intro v visited acc out h; simp [backtrackAux] at h
  | succ fuel ih =>
    intro v visited acc out h
    unfold backtrackAux at h
    split at h
    · rename_i hv
      cases h
      subst hv
      exact ⟨[], PathTo.nil, by simp⟩
    · rename_i hv
      split at h
      · cases h
      · rename_i b hb
        split at h
        · cases h
        · obtain ⟨r, hr, hout⟩ := ih _ _ _ _ h
          exact ⟨r ++ [b], PathTo.snoc hv hb hr, by simp [hout]⟩

theorem backtrack_sound {source t : Nat} {sol : Nat → Option (Branch α)} {fuel : Nat}
    {route : List (Branch α)} (h : backtrack source t sol fuel = .ok route) :
    PathTo source sol t route := by
  obtain ⟨r, hr, hout⟩ := backtrackAux_sound fuel t [] [] route h
  simp at hout
  rw [hout]; exact hr

/-- the walk of `backtrackAux`: with `visited` the edges of strict descendants and enough fuel, it
succeeds (and what it returns is a `PathTo`, `backtrackAux_sound`).  The measure is
`solSize < fuel + visited.length`: every step spends one unit of fuel and visits one more edge.  Fuel
cannot run out: the visited edges have pairwise distinct key vertices (labels strictly decrease
towards the root), all with a tree entry, so there are at most `solSize` of them (`TreeInv.keys`). -/
theorem backtrackAux_ok {I : Inst α} {source : Nat} {s : SState α} (hinv : TreeInv I source s) :
    ∀ (fuel v : Nat) (visited : List Nat) (acc : List (Branch α)),
      (v = source ∨ (s.sol v).isSome) →
      s.solSize < fuel + visited.length →
      (visited.map I.keyV).Nodup →
      (∀ e ∈ visited, (s.sol (I.keyV e)).isSome ∧ LabelLt s v (I.keyV e)) →
      ∃ out, backtrackAux source s.sol fuel v visited acc = .ok out := by
  intro fuel
  induction fuel with
  | zero =>
    intro v visited acc _ hfuel hnd hvis
    exfalso
    obtain ⟨keys, hknd, hklen, hkmem⟩ := hinv.keys
    have hsub : visited.map I.keyV ⊆ keys := by
      intro x hx
      obtain ⟨e, he, rfl⟩ := List.mem_map.1 hx
      exact (hkmem _).1 (hvis e he).1
    have := (hnd.subperm hsub).length_le
    simp at this
    omega
  | succ fuel ih =>
    intro v visited acc hv hfuel hnd hvis
    unfold backtrackAux
    by_cases hvs : v = source
    · exact ⟨acc, if_pos hvs⟩
    · rw [if_neg hvs]
      have hsome : (s.sol v).isSome := hv.resolve_left hvs
      obtain ⟨b, hb⟩ := Option.isSome_iff_exists.1 hsome
      rw [hb]
      obtain ⟨hkey, _, _, _, _, hterm⟩ := hinv.entry v b hb
      have hplt := parent_label_lt hinv hb
      have hnotin : I.keyV b.edge ∉ visited.map I.keyV := by
        intro hx
        obtain ⟨e, he, hek⟩ := List.mem_map.1 hx
        have := (hvis e he).2
        rw [hek, hkey] at this
        exact this.irrefl
      have hnv : b.edge ∉ visited := fun hx => hnotin (List.mem_map_of_mem hx)
      have hcont : visited.contains b.edge = false := by simpa using hnv
      simp only [hcont, Bool.false_eq_true, if_false]
      exact ih b.terminal (b.edge :: visited) (b :: acc) hterm
        (by simp only [List.length_cons]; omega)
        (by rw [List.map_cons]; exact List.nodup_cons.2 ⟨hnotin, hnd⟩)
        (by
          intro e he
          rcases List.mem_cons.1 he with rfl | he
          · rw [hkey]; exact ⟨hsome, hplt⟩
          · exact ⟨(hvis e he).1, hplt.trans (hvis e he).2⟩)

/-- backtracking from the source or from any vertex with a tree entry succeeds with the fuel
`solSize + 1`: never `panic "backtrack-fuel"`, never `internal` -/
theorem backtrack_ok {I : Inst α} {source : Nat} {s : SState α} (hinv : TreeInv I source s)
    {t : Nat} (ht : t = source ∨ (s.sol t).isSome) :
    ∃ route, PathTo source s.sol t route ∧
      backtrack source t s.sol (s.solSize + 1) = .ok route := by
  obtain ⟨r, hrun⟩ := backtrackAux_ok hinv (s.solSize + 1) t [] [] ht (by simp) (by simp)
    (by simp)
  exact ⟨r, backtrack_sound hrun, hrun⟩

/-- explicit negative form of `backtrack_ok`: no error outcome at all (in particular neither
`panic "backtrack-fuel"` nor `internal`) -/
theorem backtrack_never_fails {I : Inst α} {source : Nat} {s : SState α}
    (hinv : TreeInv I source s) {t : Nat} (ht : t = source ∨ (s.sol t).isSome) (k : ErrKind) :
    backtrack source t s.sol (s.solSize + 1) ≠ .error k := by
  obtain ⟨route, _, h⟩ := backtrack_ok hinv ht
  rw [h]
  exact fun h' => by cases h'

theorem backtrackAux_error_kind {source : Nat} {sol : Nat → Option (Branch α)} {k : ErrKind} :
    ∀ (fuel v : Nat) (visited : List Nat) (acc : List (Branch α)),
      backtrackAux source sol fuel v visited acc = .error k →
      k = .internal ∨ k = .panic "backtrack-fuel"
  | 0, _, _, _, h => by simp only [backtrackAux] at h; cases h; exact Or.inr rfl
  | fuel + 1, v, visited, acc, h => by
    simp only [backtrackAux] at h
    split at h
    · cases h
    · split at h
      · cases h; exact Or.inl rfl
      · split at h
        · cases h; exact Or.inl rfl
        · exact backtrackAux_error_kind fuel _ _ _ h

/-! ### Consequences: shape of the route -/

theorem pathTo_nil_iff {source : Nat} {sol : Nat → Option (Branch α)} {t : Nat}
    {r : List (Branch α)} (h : PathTo source sol t r) : r = [] ↔ t = source := by
  cases h with
  | nil => simp
  | snoc hv _ _ => simp [hv]

theorem pathTo_head {source : Nat} {sol : Nat → Option (Branch α)} {t : Nat}
    {r : List (Branch α)} (h : PathTo source sol t r) :
    ∀ b, r.head? = some b → b.terminal = source := by
  induction h with
  | nil => intro b hb; simp at hb
  | @snoc v b r hv hb hr ih =>
    intro b' hb'
    cases r with
    | nil =>
      simp at hb'
      subst hb'
      exact (pathTo_nil_iff hr).1 rfl
    | cons x xs =>
      apply ih
      simpa using hb'

theorem pathTo_last {I : Inst α} {source : Nat} {s : SState α} (hinv : TreeInv I source s)
    {t : Nat} {r : List (Branch α)} (h : PathTo source s.sol t r) :
    ∀ b, r.getLast? = some b → I.keyV b.edge = t := by
  cases h with
  | nil => intro b hb; simp at hb
  | @snoc v b r hv hb hr =>
    intro b' hb'
    simp at hb'
    subst hb'
    exact (hinv.entry _ _ hb).1

theorem pathTo_chain {I : Inst α} {source : Nat} {s : SState α} (hinv : TreeInv I source s)
    {t : Nat} {r : List (Branch α)} (h : PathTo source s.sol t r) :
    r.IsChain (fun a b => I.keyV a.edge = b.terminal) := by
  induction h with
  | nil => exact List.isChain_nil
  | @snoc v b r hv hb hr ih =>
    refine List.IsChain.append ih (List.isChain_singleton _) ?_
    intro x hx y hy
    simp at hy
    subst hy
    exact pathTo_last hinv hr x hx

theorem pathTo_mem {source : Nat} {sol : Nat → Option (Branch α)} {t : Nat}
    {r : List (Branch α)} (h : PathTo source sol t r) :
    ∀ b ∈ r, ∃ v, v ≠ source ∧ sol v = some b := by
  induction h with
  | nil => intro b hb; simp at hb
  | @snoc v b r hv hb hr ih =>
    intro b' hb'
    rcases List.mem_append.1 hb' with h | h
    · exact ih b' h
    · simp at h
      subst h
      exact ⟨v, hv, hb⟩

theorem pathTo_entry {I : Inst α} {source : Nat} {s : SState α} (hinv : TreeInv I source s)
    {t : Nat} {r : List (Branch α)} (h : PathTo source s.sol t r) :
    ∀ b ∈ r, s.sol (I.keyV b.edge) = some b ∧ I.keyV b.edge ≠ source := by
  intro b hb
  obtain ⟨v, hv, hsol⟩ := pathTo_mem h b hb
  rw [(hinv.entry v b hsol).1]
  exact ⟨hsol, hv⟩

/-- every key vertex on the path to `t` is `t` or has a strictly smaller label than `t` -/
theorem pathTo_label {I : Inst α} {source : Nat} {s : SState α} (hinv : TreeInv I source s)
    {t : Nat} {r : List (Branch α)} (h : PathTo source s.sol t r) :
    ∀ b ∈ r, I.keyV b.edge = t ∨ LabelLt s (I.keyV b.edge) t := by
  induction h with
  | nil => intro b hb; simp at hb
  | @snoc v b r hv hb hr ih =>
    intro b' hb'
    rcases List.mem_append.1 hb' with h | h
    · right
      have hp := parent_label_lt hinv hb
      rcases ih b' h with h1 | h1
      · rw [h1]; exact hp
      · exact h1.trans hp
    · simp at h
      subst h
      exact Or.inl (hinv.entry _ _ hb).1

theorem pathTo_keys_nodup {I : Inst α} {source : Nat} {s : SState α} (hinv : TreeInv I source s)
    {t : Nat} {r : List (Branch α)} (h : PathTo source s.sol t r) :
    (r.map (fun b => I.keyV b.edge)).Nodup := by
  induction h with
  | nil => simp
  | @snoc v b r hv hb hr ih =>
    rw [List.map_append, List.nodup_append]
    refine ⟨ih, by simp, ?_⟩
    intro x hx y hy
    simp at hy
    rw [hy, (hinv.entry _ _ hb).1]
    obtain ⟨b', hb', rfl⟩ := List.mem_map.1 hx
    have hp := parent_label_lt hinv hb
    rcases pathTo_label hinv hr b' hb' with h1 | h1
    · rw [h1]; exact hp.ne
    · exact (h1.trans hp).ne

theorem pathTo_edges_nodup {I : Inst α} {source : Nat} {s : SState α} (hinv : TreeInv I source s)
    {t : Nat} {r : List (Branch α)} (h : PathTo source s.sol t r) :
    (r.map (·.edge)).Nodup := by
  apply List.Nodup.of_map I.keyV
  rw [List.map_map]
  exact pathTo_keys_nodup hinv h

/-- the parents along the path are pairwise distinct too: each lies strictly below its entry's
vertex -/
theorem pathTo_terminals_nodup {I : Inst α} {source : Nat} {s : SState α}
    (hinv : TreeInv I source s) {t : Nat} {r : List (Branch α)}
    (h : PathTo source s.sol t r) : (r.map (·.terminal)).Nodup := by
  induction h with
  | nil => simp
  | @snoc v b r hv hb hr ih =>
    rw [List.map_append, List.nodup_append]
    refine ⟨ih, by simp, ?_⟩
    intro x hx y hy
    simp only [List.map_cons, List.map_nil, List.mem_singleton] at hy
    subst hy
    obtain ⟨b', hb', rfl⟩ := List.mem_map.1 hx
    have h1 := parent_label_lt hinv (pathTo_entry hinv hr b' hb').1
    rcases pathTo_label hinv hr b' hb' with h2 | h2
    · rw [h2] at h1; exact h1.ne
    · exact (h1.trans h2).ne

theorem pathTo_length_le {I : Inst α} {source : Nat} {s : SState α} (hinv : TreeInv I source s)
    {t : Nat} {r : List (Branch α)} (h : PathTo source s.sol t r) : r.length ≤ s.solSize := by
  obtain ⟨keys, _, hklen, hkmem⟩ := hinv.keys
  have hsub : r.map (fun b => I.keyV b.edge) ⊆ keys := by
    intro x hx
    obtain ⟨b, hb, rfl⟩ := List.mem_map.1 hx
    apply (hkmem _).1
    rw [(pathTo_entry hinv h b hb).1]; rfl
  have := ((pathTo_keys_nodup hinv h).subperm hsub).length_le
  simpa [hklen] using this

/-- the summed cost of the path is at most the label of its end (telescoping `gu + c ≤ gv`) -/
theorem pathTo_cost_le {I : Inst α} {source : Nat} {s : SState α} (hinv : TreeInv I source s)
    {t : Nat} {r : List (Branch α)} (h : PathTo source s.sol t r) :
    ∀ gt, s.g t = some gt → (r.map (fun b => b.access + b.traversal)).sum ≤ gt := by
  induction h with
  | nil =>
    intro gt hgt
    rw [hinv.g_source] at hgt
    cases hgt
    simp
  | @snoc v b r hv hb hr ih =>
    intro gt hgt
    obtain ⟨_, _, _, _, ⟨gu, gv, hgu, hgv, hle⟩, _⟩ := hinv.entry v b hb
    rw [hgt] at hgv
    cases hgv
    simp only [List.map_append, List.sum_append, List.map_cons, List.map_nil, List.sum_cons,
      List.sum_nil, add_zero]
    exact le_trans (SearchLoop.add_mono (ih gu hgu) (le_refl _)) hle

/-- `route` is a walk source ⇝ `t` through entries of the tree of `s`, each vertex and each edge met
once (what the backtrack from `t` returns) -/
structure RouteChain (I : Inst α) (source : Nat) (s : SState α) (t : Nat)
    (route : List (Branch α)) : Prop where
  /-- the route is empty exactly when the target is the source -/
  nil_iff : route = [] ↔ t = source
  /-- the first entry leaves the source -/
  head_terminal : ∀ b, route.head? = some b → b.terminal = source
  /-- the last entry is stored under the target -/
  last_key : ∀ b, route.getLast? = some b → I.keyV b.edge = t
  /-- consecutive entries chain -/
  chain : route.IsChain (fun a b => I.keyV a.edge = b.terminal)
  /-- each entry is expanded from its edge's `termV` end, of which the edge is an incident edge -/
  term_eq : ∀ b ∈ route, I.termV b.edge = b.terminal ∧ b.edge ∈ I.incident b.terminal
  /-- each entry is the tree entry of its key vertex -/
  entry : ∀ b ∈ route, s.sol (I.keyV b.edge) = some b
  /-- no key vertex is the source -/
  key_ne_source : ∀ b ∈ route, I.keyV b.edge ≠ source
  /-- key vertices are pairwise distinct -/
  keys_nodup : (route.map (fun b => I.keyV b.edge)).Nodup
  /-- edge ids are pairwise distinct -/
  edges_nodup : (route.map (·.edge)).Nodup
  /-- the route is no longer than the tree is large -/
  length_le : route.length ≤ s.solSize

theorem pathTo_routeChain {I : Inst α} {source : Nat} {s : SState α} (hinv : TreeInv I source s)
    {t : Nat} {r : List (Branch α)} (h : PathTo source s.sol t r) : RouteChain I source s t r where
  nil_iff := pathTo_nil_iff h
  head_terminal := pathTo_head h
  last_key := pathTo_last hinv h
  chain := pathTo_chain hinv h
  term_eq := by
    intro b hb
    obtain ⟨_, h2, h3, _⟩ := hinv.entry _ b (pathTo_entry hinv h b hb).1
    exact ⟨h2, h3⟩
  entry := fun b hb => (pathTo_entry hinv h b hb).1
  key_ne_source := fun b hb => (pathTo_entry hinv h b hb).2
  keys_nodup := pathTo_keys_nodup hinv h
  edges_nodup := pathTo_edges_nodup hinv h
  length_le := pathTo_length_le hinv h

theorem RouteChain.chain_getElem {I : Inst α} {source : Nat} {s : SState α} {t : Nat}
    {route : List (Branch α)} (h : RouteChain I source s t route) (i : Nat)
    (hi : i + 1 < route.length) :
    I.keyV (route[i]'(Nat.lt_of_succ_lt hi)).edge = (route[i + 1]'hi).terminal ∧
    I.keyV (route[i]'(Nat.lt_of_succ_lt hi)).edge = I.termV (route[i + 1]'hi).edge := by
  have h1 := List.isChain_iff_getElem.1 h.chain i hi
  exact ⟨h1, by rw [(h.term_eq _ (List.getElem_mem hi)).1]; exact h1⟩

/-- whatever `backtrack` returns on a state satisfying the invariant is a walk source ⇝ `t` through
tree entries -/
theorem route_chain {I : Inst α} {source : Nat} {s : SState α} (hinv : TreeInv I source s)
    {t fuel : Nat} {route : List (Branch α)}
    (h : backtrack source t s.sol fuel = .ok route) : RouteChain I source s t route :=
  pathTo_routeChain hinv (backtrack_sound h)

theorem labelled_of_entry {I : Inst α} {source : Nat} {s : SState α} (hinv : TreeInv I source s)
    {t : Nat} (ht : t = source ∨ (s.sol t).isSome) : ∃ gt, s.g t = some gt := by
  rcases ht with rfl | ht
  · exact ⟨0, hinv.g_source⟩
  · obtain ⟨b, hb⟩ := Option.isSome_iff_exists.1 ht
    obtain ⟨_, _, _, _, ⟨_, gv, _, hgv, _⟩, _⟩ := hinv.entry t b hb
    exact ⟨gv, hgv⟩

/-- from the source or a vertex with an entry the backtrack succeeds within `solSize + 1` steps, with a
walk through tree entries that costs at most the vertex's label -/
theorem backtrack_spec {I : Inst α} {source : Nat} {s : SState α} (hinv : TreeInv I source s)
    {t : Nat} (ht : t = source ∨ (s.sol t).isSome) :
    ∃ route gt, backtrack source t s.sol (s.solSize + 1) = .ok route ∧
      RouteChain I source s t route ∧ s.g t = some gt ∧
      (route.map (fun b => b.access + b.traversal)).sum ≤ gt := by
  obtain ⟨route, hp, hrun⟩ := backtrack_ok hinv ht
  obtain ⟨gt, hgt⟩ := labelled_of_entry hinv ht
  exact ⟨route, gt, hrun, pathTo_routeChain hinv hp, hgt, pathTo_cost_le hinv hp gt hgt⟩

/-! ### Consequences: the tree is rooted at the source -/

/-- the parent map of the tree (identity where there is no entry) -/
def parent (sol : Nat → Option (Branch α)) (v : Nat) : Nat :=
  match sol v with
  | some b => b.terminal
  | none => v

/-- storing an entry under `root` does not change the parent iterates of a vertex as long as they
stay away from `root` -/
theorem iterate_parent_upd {sol : Nat → Option (Branch α)} {root : Nat} {o : Branch α} {v : Nat} :
    ∀ n, (∀ i, i < n → (parent sol)^[i] v ≠ root) →
      (parent (upd sol root o))^[n] v = (parent sol)^[n] v
  | 0, _ => rfl
  | n + 1, h => by
    rw [Function.iterate_succ_apply', Function.iterate_succ_apply',
      iterate_parent_upd n (fun i hi => h i (Nat.lt_succ_of_lt hi))]
    have hx := h n (Nat.lt_succ_self n)
    generalize (parent sol)^[n] v = x at hx
    simp only [parent, upd_other _ _ _ hx]

/-- along a `PathTo` of length `n`: `n` parent steps reach the source, every earlier iterate is a
non-source vertex with an entry, and each step strictly lowers the label -/
theorem pathTo_iterate {I : Inst α} {source : Nat} {s : SState α} (hinv : TreeInv I source s)
    {t : Nat} {r : List (Branch α)} (h : PathTo source s.sol t r) :
    (parent s.sol)^[r.length] t = source ∧
    ∀ i, i < r.length →
      (parent s.sol)^[i] t ≠ source ∧ (s.sol ((parent s.sol)^[i] t)).isSome ∧
      LabelLt s ((parent s.sol)^[i + 1] t) ((parent s.sol)^[i] t) := by
  induction h with
  | nil => exact ⟨rfl, fun i hi => by simp at hi⟩
  | @snoc v b r hv hb hr ih =>
    have hpar : parent s.sol v = b.terminal := by simp [parent, hb]
    refine ⟨?_, ?_⟩
    · rw [List.length_append, List.length_singleton, Function.iterate_succ_apply, hpar]
      exact ih.1
    · intro i hi
      rw [List.length_append, List.length_singleton] at hi
      cases i with
      | zero =>
        refine ⟨hv, by simp [hb], ?_⟩
        simp only [Function.iterate_succ_apply, Function.iterate_zero, id_eq, hpar]
        exact parent_label_lt hinv hb
      | succ i =>
        have := ih.2 i (by omega)
        simp only [Function.iterate_succ_apply, hpar] at this ⊢
        exact this

/-- from any vertex with a tree entry, iterating `parent` reaches the source after
`n` steps with `1 ≤ n ≤ solSize`, passing only through non-source vertices with entries, with
strictly decreasing labels and therefore without repeating a vertex -/
theorem tree_rooted {I : Inst α} {source : Nat} {s : SState α} (hinv : TreeInv I source s)
    {v : Nat} (hv : (s.sol v).isSome) :
    ∃ n, 0 < n ∧ n ≤ s.solSize ∧ (parent s.sol)^[n] v = source ∧
      (∀ i, i < n → (parent s.sol)^[i] v ≠ source ∧ (s.sol ((parent s.sol)^[i] v)).isSome) ∧
      (∀ i j, i < j → j ≤ n → LabelLt s ((parent s.sol)^[j] v) ((parent s.sol)^[i] v)) ∧
      (∀ i j, i < j → j ≤ n → (parent s.sol)^[i] v ≠ (parent s.sol)^[j] v) := by
  obtain ⟨r, hp, _⟩ := backtrack_ok hinv (Or.inr hv)
  obtain ⟨h1, h2⟩ := pathTo_iterate hinv hp
  have hvs : v ≠ source := by
    intro h
    rw [h, hinv.sol_source] at hv
    simp at hv
  have hlen : 0 < r.length := by
    rcases Nat.eq_zero_or_pos r.length with h | h
    · exact absurd ((pathTo_nil_iff hp).1 (List.length_eq_zero_iff.1 h)) hvs
    · exact h
  have hlt : ∀ i j, i < j → j ≤ r.length →
      LabelLt s ((parent s.sol)^[j] v) ((parent s.sol)^[i] v) := by
    intro i j hij
    induction j with
    | zero => omega
    | succ j ih =>
      intro hj
      have hstep := (h2 j (by omega)).2.2
      rcases Nat.lt_succ_iff_lt_or_eq.1 hij with h | h
      · exact hstep.trans (ih h (by omega))
      · rw [h]; exact hstep
  refine ⟨r.length, hlen, pathTo_length_le hinv hp, h1,
    fun i hi => ⟨(h2 i hi).1, (h2 i hi).2.1⟩, hlt, ?_⟩
  intro i j hij hj
  exact (hlt i j hij hj).ne.symm

/-! ### `runVertexOriented` -/

theorem runVertexOriented_some {I : Inst α} {source t : Nat} {sched : List Nat}
    {res : SearchResult α} (h : runVertexOriented I source (some t) sched = .ok res) :
    runAStar I source (some t) sched = .ok res.final ∧
    ∃ route, res.route = some route ∧
      backtrack source t res.final.sol (res.final.solSize + 1) = .ok route := by
  unfold runVertexOriented at h
  split at h
  · cases h
  · rename_i s hrun
    simp only at h
    split at h
    · cases h
    · rename_i r hr
      cases h
      exact ⟨hrun, r, rfl, hr⟩

theorem runVertexOriented_none {I : Inst α} {source : Nat} {sched : List Nat}
    {res : SearchResult α} (h : runVertexOriented I source none sched = .ok res) :
    runAStar I source none sched = .ok res.final ∧ res.route = none := by
  unfold runVertexOriented at h
  split at h
  · cases h
  · rename_i s hrun
    cases h
    exact ⟨hrun, rfl⟩

theorem runVertexOriented_final {I : Inst α} {source : Nat} {target : Option Nat}
    {sched : List Nat} {res : SearchResult α}
    (h : runVertexOriented I source target sched = .ok res) :
    runAStar I source target sched = .ok res.final := by
  cases target with
  | none => exact (runVertexOriented_none h).1
  | some t => exact (runVertexOriented_some h).1

theorem route_backtrack {I : Inst α} {source t : Nat} {sched : List Nat} {res : SearchResult α}
    {first : List (Branch α)} (h : runVertexOriented I source (some t) sched = .ok res)
    (hfirst : res.route = some first) :
    backtrack source t res.final.sol (res.final.solSize + 1) = .ok first := by
  obtain ⟨_, route, hr, hbt⟩ := runVertexOriented_some h
  cases hr.symm.trans hfirst
  exact hbt

theorem route_nil_of_eq {I : Inst α} {source : Nat} {sched : List Nat} {res : SearchResult α}
    {first : List (Branch α)} (h : runVertexOriented I source (some source) sched = .ok res)
    (hfirst : res.route = some first) : first = [] :=
  (pathTo_nil_iff (backtrack_sound (route_backtrack h hfirst))).2 rfl

/-- with a target other than the source, a successful `run_vertex_oriented` returns a route, the
final state satisfies the invariant, the route is the backtrack of the target's tree entry with all
`RouteChain` facts, and its summed cost is at most the target's label -/
theorem runVertexOriented_route {I : Inst α} (hI : WF I) (source t : Nat) (sched : List Nat)
    (res : SearchResult α) (hts : t ≠ source)
    (h : runVertexOriented I source (some t) sched = .ok res) :
    TreeInv I source res.final ∧ (res.final.sol t).isSome ∧
    ∃ route gt, res.route = some route ∧ route ≠ [] ∧
      RouteChain I source res.final t route ∧ res.final.g t = some gt ∧
      (route.map (fun b => b.access + b.traversal)).sum ≤ gt := by
  obtain ⟨hrun, r, hr0, hr⟩ := runVertexOriented_some h
  rcases runAStar_treeInv hI source (some t) sched _ hrun with h0 | ⟨_, hinv, hent⟩
  · exact absurd (Option.some.inj h0.1) hts
  · have htent : (res.final.sol t).isSome := hent t rfl
    obtain ⟨gt, hgt⟩ := labelled_of_entry hinv (Or.inr htent)
    have hrc := route_chain hinv hr
    exact ⟨hinv, htent, r, gt, hr0, fun h => hts (hrc.nil_iff.1 h), hrc, hgt,
      pathTo_cost_le hinv (backtrack_sound hr) gt hgt⟩

/-- `run_vertex_oriented` fails exactly where `run_a_star` fails, with the same error: on the tree
`run_a_star` returns the backtrack succeeds (whatever the target, the source and none included) -/
theorem runVertexOriented_error_iff {I : Inst α} (hI : WF I) {source : Nat}
    {target : Option Nat} {sched : List Nat} {k : ErrKind} :
    runVertexOriented I source target sched = .error k ↔
      runAStar I source target sched = .error k := by
  unfold runVertexOriented
  cases hrun : runAStar I source target sched with
  | error k' => exact ⟨fun h => by cases h; rfl, fun h => by cases h; rfl⟩
  | ok s =>
    refine ⟨fun h => ?_, fun h => nomatch h⟩
    cases target with
    | none => cases h
    | some t =>
      exfalso
      dsimp only at h
      rcases runAStar_treeInv hI source (some t) sched s hrun with h0 | ⟨_, hinv, hent⟩
      · -- the shortcut: the backtrack from the source is the empty route
        obtain ⟨h0, rfl⟩ := h0
        cases h0
        simp only [backtrack, backtrackAux, if_true] at h
        cases h
      · obtain ⟨route, _, hbt⟩ := backtrack_ok hinv (Or.inr (hent t rfl))
        rw [hbt] at h
        cases h

theorem runVertexOriented_of_runAStar {I : Inst α} (hI : WF I) {source : Nat}
    {target : Option Nat} {sched : List Nat} {s : SState α}
    (h : runAStar I source target sched = .ok s) :
    ∃ res, runVertexOriented I source target sched = .ok res ∧ res.final = s := by
  cases hr : runVertexOriented I source target sched with
  | error k =>
    have := (runVertexOriented_error_iff hI).1 hr
    rw [h] at this
    cases this
  | ok res =>
    have := runVertexOriented_final hr
    rw [h] at this
    cases this
    exact ⟨res, rfl, rfl⟩

theorem runVertexOriented_treeInv {I : Inst α} (hI : WF I) {source : Nat} {target : Option Nat}
    {sched : List Nat} {res : SearchResult α} (hts : target ≠ some source)
    (h : runVertexOriented I source target sched = .ok res) : TreeInv I source res.final :=
  ((runAStar_treeInv hI source target sched _ (runVertexOriented_final h)).resolve_left
    (fun h0 => hts h0.1)).2.1

/-- an error of `run_vertex_oriented` is the error of the source's estimate or of the loop started
in the initial state -/
theorem runVertexOriented_error_cases {I : Inst α} (hI : WF I) {source : Nat}
    {target : Option Nat} {sched : List Nat} {k : ErrKind}
    (h : runVertexOriented I source target sched = .error k) :
    SearchLimits.startF I source target = .error k ∨
    ∃ f0, SearchLimits.startF I source target = .ok f0 ∧
      runLoop I source target sched (initState source f0) = .error k := by
  have hra := (runVertexOriented_error_iff hI).1 h
  rw [SearchLimits.runAStar_unfold] at hra
  split at hra
  · cases hra
  · split at hra
    · rename_i k' hk
      cases hra
      exact Or.inl hk
    · rename_i f0 hf0
      exact Or.inr ⟨f0, hf0, hra⟩

/-! ### Where an error of a run comes from -/

/-- **where an error of a run comes from**, for every `WF` instance and every pair invariant `S`:
"no path", a replay error, the limit test at a loop head the run reached, the estimate of the
source, or a call made for a listed edge on a pair satisfying `S` — never the loop's own "vertex
missing from solution", never the backtrack's errors -/
theorem _root_.Compass.SearchLimits.runVertexOriented_error_located {I : Inst α} (hI : SearchTree.WF I)
    {S : Option Nat → List α → Prop} (hS : SearchLimits.PairInv I S) {source : Nat}
    {target : Option Nat} {sched : List Nat} {k : ErrKind}
    (h : runVertexOriented I source target sched = .error k) :
    k = .noPath ∨ k = .scheduleExhausted ∨ k = .badSchedule ∨
    (∃ f0 pre hd, SearchLimits.startF I source target = .ok f0 ∧
      SearchLimits.Reach I source target pre (initState source f0) hd ∧
      I.term hd.solSize hd.iters = .error k) ∨
    (target.isSome = true ∧ I.h source I.init = .error k) ∨
    ∃ v e le st, e ∈ I.incident v ∧ S le st ∧
      (I.valid e st le = .error k ∨ I.trav e le st = .error k ∨
        (target.isSome = true ∧ I.h (I.keyV e) st = .error k)) := by
  rcases SearchTree.runVertexOriented_error_cases hI h with hk | ⟨f0, hf0, hloop⟩
  · exact Or.inr (Or.inr (Or.inr (Or.inr (Or.inl (SearchLimits.startF_error hk)))))
  · obtain ⟨pre, _, hd, _, hr, he⟩ :=
      SearchLimits.runLoop_reach I source target sched (initState source f0)
    rw [hloop] at he
    cases he with
    | limit hk => exact Or.inr (Or.inr (Or.inr (Or.inl ⟨f0, pre, hd, hf0, hr, hk⟩)))
    | noPath => exact Or.inl rfl
    | exhausted => exact Or.inr (Or.inl rfl)
    | badSchedule => exact Or.inr (Or.inr (Or.inl rfl))
    | missing _ _ hpop _ hcur =>
      exact absurd hcur (SearchTree.curOf_ne_none
        (hr.treeInv hI (SearchTree.initState_treeInv I source f0)) hpop)
    | relaxError _ _ _ _ hcur hk =>
      obtain ⟨e, he, h1⟩ := SearchLoop.relaxAll_error _ _ hk
      exact Or.inr (Or.inr (Or.inr (Or.inr (Or.inr ⟨_, e, _, _, he, SearchLimits.curOf_pair hS
        (hr.invariant (fun _ _ _ ht => ht.entryFrom hS) (fun _ _ hb => nomatch hb)) hcur, h1⟩))))

end

/-! ### Non-vacuity: a concrete instance over ℚ

Four vertices, six edges with positive costs, among them a parallel pair (0, 1 : 0→1) and a self
loop (2 : 1→1).  The hypotheses `WF` hold, the schedule `[0, 1, 2]` is accepted and
`runVertexOriented` returns the two-edge route `[0, 3]` (cost 3 = label of the target, the direct
edge 4 of cost 5 is replaced when vertex 1 is expanded). -/

namespace Example

/-- edges: 0: 0→1 (1), 1: 0→1 (3, parallel), 2: 1→1 (1, self loop), 3: 1→2 (2), 4: 0→2 (5), 5: 2→3 (1) -/
def src : Nat → Nat
  | 0 => 0 | 1 => 0 | 2 => 1 | 3 => 1 | 4 => 0 | 5 => 2 | _ => 9
def dst : Nat → Nat
  | 0 => 1 | 1 => 1 | 2 => 1 | 3 => 2 | 4 => 2 | 5 => 3 | _ => 9
def cost : Nat → ℚ
  | 0 => 1 | 1 => 3 | 2 => 1 | 3 => 2 | 4 => 5 | 5 => 1 | _ => 1
def out : Nat → List Nat
  | 0 => [0, 1, 4] | 1 => [2, 3] | 2 => [5] | _ => []

def inst : Inst ℚ where
  incident := out
  keyV := dst
  termV := src
  init := []
  valid := fun _ _ _ => .ok true
  trav := fun e _ _ => .ok (0, cost e, [])
  h := fun _ _ => .ok 0
  term := fun _ _ => .ok ()

def routeEdges (r : Except ErrKind (SearchResult ℚ)) : Option (List Nat) :=
  match r with
  | .ok res => res.route.map (·.map (·.edge))
  | .error _ => none

/-- evaluated once: the next example states it, the last example below and
`SearchRoute.Example.tree_run_ok` read it -/
theorem inst_run : routeEdges (runVertexOriented inst 0 (some 2) [0, 1, 2]) = some [0, 3] := by
  decide +kernel

example : routeEdges (runVertexOriented inst 0 (some 2) [0, 1, 2]) = some [0, 3] := inst_run

theorem inst_wf : WF inst where
  incident_term := by
    intro v e h
    change e ∈ out v at h
    change src e = v
    unfold out at h
    split at h <;> simp at h
    · rcases h with rfl | rfl | rfl <;> rfl
    · rcases h with rfl | rfl <;> rfl
    · subst h; rfl
  cost_pos := by
    intro e le st ac tc st' h
    simp only [inst, Except.ok.injEq, Prod.mk.injEq] at h
    obtain ⟨rfl, rfl, _⟩ := h
    unfold cost
    split <;> norm_num

def labelOf (r : Except ErrKind (SearchResult ℚ)) (v : Nat) : Option ℚ :=
  match r with
  | .ok res => res.final.g v
  | .error _ => none

def errOf (r : Except ErrKind (SearchResult ℚ)) : Option ErrKind :=
  match r with
  | .ok _ => none
  | .error k => some k

example : labelOf (runVertexOriented inst 0 (some 2) [0, 1, 2]) 2 = some 3 := by decide +kernel
example : errOf (runVertexOriented inst 0 (some 2) [0, 2]) = some .badSchedule := by decide +kernel
example : errOf (runVertexOriented inst 0 (some 3) [0, 1, 2]) = some .scheduleExhausted := by decide +kernel
example : errOf (runVertexOriented inst 3 (some 0) [3]) = some .noPath := by decide +kernel

example : ∃ res route, runVertexOriented inst 0 (some 2) [0, 1, 2] = .ok res ∧
    res.route = some route ∧ route.map (·.edge) = [0, 3] ∧
    RouteChain inst 0 res.final 2 route := by
  have h1 := inst_run
  cases h : runVertexOriented inst 0 (some 2) [0, 1, 2] with
  | error k =>
    rw [h] at h1
    cases h1
  | ok res =>
    obtain ⟨_, _, route, gt, hr, _, hrc, _, _⟩ := runVertexOriented_route inst_wf 0 2 [0, 1, 2] res (by decide) h
    rw [h] at h1
    simp [routeEdges, hr] at h1
    exact ⟨res, route, rfl, hr, by simpa using h1, hrc⟩

end Example

end SearchTree
end Compass
