/-
The termination model `TermM` (`Model/Instance.lean`, `TerminationModel::{test, terminate_search,
explain_termination}`), nested `combined` to any depth: which single limits occur in a model (`Leaf`),
when it fires, what it names, when a test passes, and monotonicity of passing in the limits.  The search
loop under a limit function is `Proofs/SearchLimits.lean`; the builder of the model from JSON is in
`Proofs/Build.lean`.  The namespace is `SearchLimits`, under which the statements of `Props/C10` speak.
-/
import Compass.Model.Instance

namespace Compass
namespace SearchLimits

/-! ## The termination model -/

/-- `Leaf l m`: the single limit `l` (runtime / size / iterations) occurs in `m`, at any depth -/
inductive Leaf : TermM → TermM → Prop
  | runtime (l f b p : Nat) : Leaf (.runtime l f b p) (.runtime l f b p)
  | size (l : Nat) : Leaf (.size l) (.size l)
  | iters (l : Nat) : Leaf (.iters l) (.iters l)
  | combined {l m : TermM} {ms : List TermM} : m ∈ ms → Leaf l m → Leaf l (.combined ms)

theorem Leaf.single {l : TermM} (hl : ∀ ms, l ≠ .combined ms) :
    Leaf l l ∧ ∀ l', Leaf l' l → l' = l := by
  cases l with
  | runtime l f b p => exact ⟨.runtime l f b p, fun _ h => by cases h; rfl⟩
  | size l => exact ⟨.size l, fun _ h => by cases h; rfl⟩
  | iters l => exact ⟨.iters l, fun _ h => by cases h; rfl⟩
  | combined ms => exact absurd rfl (hl ms)

/-- induction over the nested inductive `TermM`: the single limits, and a combination of models of
which the claim holds -/
theorem TermM.induct {P : TermM → Prop} (hl : ∀ l, (∀ ms, l ≠ .combined ms) → P l)
    (hc : ∀ ms, (∀ m ∈ ms, P m) → P (.combined ms)) : ∀ m, P m := by
  intro m
  exact TermM.rec (motive_1 := P) (motive_2 := fun ms => ∀ m ∈ ms, P m)
    (fun _ _ _ _ => hl _ (fun _ h => nomatch h)) (fun _ => hl _ (fun _ h => nomatch h))
    (fun _ => hl _ (fun _ h => nomatch h)) (fun ms ih => hc ms ih) (by simp)
    (fun m ms ihm ihms => by
      intro m' hm'
      rcases List.mem_cons.1 hm' with rfl | h
      · exact ihm
      · exact ihms m' h) m

/-- the kind named by `explain_termination` for a single limit -/
def kindOf : TermM → TermKind
  | .runtime _ _ _ _ => .runtime
  | .size _ => .size
  | .iters _ => .iterations
  | .combined _ => .runtime   -- never a `Leaf`

/-- some runtime limit of the model has check frequency 0 (`iteration % 0` panics) -/
def ZeroFreq (m : TermM) : Prop := ∃ l b p, Leaf (.runtime l 0 b p) m

theorem ZeroFreq.combined {m : TermM} {ms : List TermM} (hm : m ∈ ms) (h : ZeroFreq m) :
    ZeroFreq (.combined ms) := by
  obtain ⟨l, b, p, hl⟩ := h
  exact ⟨l, b, p, Leaf.combined hm hl⟩

theorem zeroFreq_combined_iff {ms : List TermM} :
    ZeroFreq (.combined ms) ↔ ∃ m ∈ ms, ZeroFreq m := by
  constructor
  · rintro ⟨l, b, p, hl⟩
    cases hl with
    | combined hm hl => exact ⟨_, hm, l, b, p, hl⟩
  · rintro ⟨m, hm, h⟩
    exact h.combined hm

/-! ### the two `where` helpers, by list induction -/

theorem firesList_none {ms : List TermM} {sz it : Nat} {acc : Bool} :
    TermM.fires.firesList ms sz it acc = none ↔ ∃ m ∈ ms, m.fires sz it = none := by
  induction ms generalizing acc with
  | nil => exact ⟨fun h => (nomatch h), fun ⟨_, hm, _⟩ => (nomatch hm)⟩
  | cons m ms ih =>
    rw [TermM.fires.firesList]
    cases hm : m.fires sz it with
    | none => exact ⟨fun _ => ⟨m, List.mem_cons_self, hm⟩, fun _ => rfl⟩
    | some r =>
      refine (ih (acc := acc || r)).trans ⟨fun ⟨m', hm', h⟩ => ⟨m', List.mem_cons_of_mem _ hm', h⟩, ?_⟩
      rintro ⟨m', hm', h⟩
      rcases List.mem_cons.1 hm' with rfl | hm'
      · rw [hm] at h; cases h
      · exact ⟨m', hm', h⟩

theorem firesList_some {ms : List TermM} {sz it : Nat} {acc r : Bool}
    (h : TermM.fires.firesList ms sz it acc = some r) :
    r = true ↔ acc = true ∨ ∃ m ∈ ms, m.fires sz it = some true := by
  induction ms generalizing acc with
  | nil =>
    cases h
    exact ⟨Or.inl, fun h => h.elim id (fun ⟨_, hm, _⟩ => (nomatch hm))⟩
  | cons m ms ih =>
    rw [TermM.fires.firesList] at h
    cases hm : m.fires sz it with
    | none => rw [hm] at h; cases h
    | some r' =>
      rw [hm] at h
      rw [ih h]
      constructor
      · rintro (h1 | ⟨m', hm', h2⟩)
        · rcases Bool.or_eq_true_iff.1 h1 with h1 | h1
          · exact Or.inl h1
          · exact Or.inr ⟨m, List.mem_cons_self, by rw [hm, h1]⟩
        · exact Or.inr ⟨m', List.mem_cons_of_mem _ hm', h2⟩
      · rintro (h1 | ⟨m', hm', h2⟩)
        · exact Or.inl (Bool.or_eq_true_iff.2 (Or.inl h1))
        · rcases List.mem_cons.1 hm' with rfl | hm'
          · rw [hm] at h2
            cases h2
            exact Or.inl (Bool.or_true _)
          · exact Or.inr ⟨m', hm', h2⟩

theorem mem_explainList {ms : List TermM} {sz it : Nat} {k : TermKind} :
    k ∈ TermM.explain.explainList ms sz it ↔ ∃ m ∈ ms, k ∈ m.explain sz it := by
  induction ms with
  | nil => exact ⟨fun h => (nomatch h), fun ⟨_, hm, _⟩ => (nomatch hm)⟩
  | cons m ms ih =>
    rw [TermM.explain.explainList, List.mem_append, ih]
    constructor
    · rintro (h | ⟨m', hm', h⟩)
      · exact ⟨m, List.mem_cons_self, h⟩
      · exact ⟨m', List.mem_cons_of_mem _ hm', h⟩
    · rintro ⟨m', hm', h⟩
      rcases List.mem_cons.1 hm' with rfl | hm'
      · exact Or.inl h
      · exact Or.inr ⟨m', hm', h⟩

/-! ### `terminate_search` -/

/-- the division-by-zero panic is reached exactly when some runtime limit has frequency 0
(`try_fold` visits every sub-model: `acc || r` does not short-circuit) -/
theorem fires_none_iff (sz it : Nat) : ∀ m : TermM, m.fires sz it = none ↔ ZeroFreq m := by
  intro m
  induction m using TermM.induct with
  | hl l hl =>
    cases l with
    | runtime l f b p =>
      constructor
      · intro h
        by_cases hf : f = 0
        · subst hf; exact ⟨l, b, p, Leaf.runtime _ _ _ _⟩
        · simp only [TermM.fires, hf, if_false] at h
          split at h <;> cases h
      · rintro ⟨l', b', p', hl⟩
        cases hl
        simp [TermM.fires]
    | size l => exact ⟨fun h => by simp [TermM.fires] at h, fun ⟨_, _, _, hl⟩ => by cases hl⟩
    | iters l => exact ⟨fun h => by simp [TermM.fires] at h, fun ⟨_, _, _, hl⟩ => by cases hl⟩
    | combined ms => exact absurd rfl (hl ms)
  | hc ms ih =>
    rw [zeroFreq_combined_iff]
    simp only [TermM.fires, firesList_none]
    constructor
    · rintro ⟨m, hm, h⟩; exact ⟨m, hm, (ih m hm).1 h⟩
    · rintro ⟨m, hm, h⟩; exact ⟨m, hm, (ih m hm).2 h⟩

/-- the `explain` of a single limit names its kind exactly when it fires -/
theorem explain_single {l : TermM} (hl : ∀ ms, l ≠ .combined ms) (sz it : Nat) (k : TermKind) :
    k ∈ l.explain sz it ↔ kindOf l = k ∧ l.fires sz it = some true := by
  cases l with
  | combined ms => exact absurd rfl (hl ms)
  | runtime _ _ _ _ | size _ | iters _ =>
    clear hl
    simp only [TermM.explain, kindOf]
    split
    · simp_all [eq_comm]
    · simp_all [eq_comm]

/-- combined = any fires: the model fires iff no frequency is 0 and some limit in it fires -/
theorem fires_true_iff (sz it : Nat) : ∀ m : TermM,
    m.fires sz it = some true ↔ ¬ ZeroFreq m ∧ ∃ l, Leaf l m ∧ l.fires sz it = some true := by
  intro m
  induction m using TermM.induct with
  | hl l hl =>
    obtain ⟨hself, huniq⟩ := Leaf.single hl
    constructor
    · intro h
      refine ⟨fun hz => ?_, l, hself, h⟩
      rw [← fires_none_iff sz it, h] at hz
      cases hz
    · rintro ⟨_, l', hl', hf⟩
      rw [huniq l' hl'] at hf
      exact hf
  | hc ms ih =>
    constructor
    · intro h
      refine ⟨fun hz => ?_, ?_⟩
      · rw [← fires_none_iff sz it, h] at hz; cases hz
      · simp only [TermM.fires] at h
        rcases (firesList_some h).1 rfl with h' | ⟨m, hm, hf⟩
        · cases h'
        · obtain ⟨_, l, hl, hlf⟩ := (ih m hm).1 hf
          exact ⟨l, Leaf.combined hm hl, hlf⟩
    · rintro ⟨hz, l, hl, hlf⟩
      cases hl with
      | @combined _ m _ hm hl =>
        have hmz : ¬ ZeroFreq m := fun h => hz (h.combined hm)
        have hmf : m.fires sz it = some true := (ih m hm).2 ⟨hmz, l, hl, hlf⟩
        cases hc : (TermM.combined ms).fires sz it with
        | none => exact absurd ((fires_none_iff sz it _).1 hc) hz
        | some r =>
          simp only [TermM.fires] at hc
          rw [(firesList_some hc).2 (Or.inr ⟨m, hm, hmf⟩)]

/-- `terminate_search = Ok(false)`: no frequency is 0 and no limit in the model fires -/
theorem fires_false_iff (sz it : Nat) (m : TermM) :
    m.fires sz it = some false ↔
      ¬ ZeroFreq m ∧ ∀ l, Leaf l m → l.fires sz it ≠ some true := by
  constructor
  · intro h
    refine ⟨fun hz => ?_, fun l hl hlf => ?_⟩
    · rw [← fires_none_iff sz it, h] at hz; cases hz
    · have hz : ¬ ZeroFreq m := fun hz => by rw [← fires_none_iff sz it, h] at hz; cases hz
      have := (fires_true_iff sz it m).2 ⟨hz, l, hl, hlf⟩
      rw [h] at this; cases this
  · rintro ⟨hz, hall⟩
    cases hf : m.fires sz it with
    | none => exact absurd ((fires_none_iff sz it m).1 hf) hz
    | some r =>
      cases r with
      | false => rfl
      | true =>
        obtain ⟨_, l, hl, hlf⟩ := (fires_true_iff sz it m).1 hf
        exact absurd hlf (hall l hl)

/-! ### `explain_termination` -/

/-- the kinds named are exactly the kinds of the limits in the model that themselves fire -/
theorem mem_explain (sz it : Nat) (k : TermKind) : ∀ m : TermM,
    k ∈ m.explain sz it ↔ ∃ l, Leaf l m ∧ kindOf l = k ∧ l.fires sz it = some true := by
  intro m
  induction m using TermM.induct with
  | hl l hl =>
    obtain ⟨hself, huniq⟩ := Leaf.single hl
    rw [explain_single hl]
    constructor
    · intro h; exact ⟨l, hself, h⟩
    · rintro ⟨l', hl', h⟩
      rw [huniq l' hl'] at h
      exact h
  | hc ms ih =>
    simp only [TermM.explain, mem_explainList]
    constructor
    · rintro ⟨m, hm, h⟩
      obtain ⟨l, hl, h2⟩ := (ih m hm).1 h
      exact ⟨l, Leaf.combined hm hl, h2⟩
    · rintro ⟨l, hl, h2⟩
      cases hl with
      | @combined _ m _ hm hl => exact ⟨m, hm, (ih m hm).2 ⟨l, hl, h2⟩⟩

/-- whenever the model fires, it can explain: the `RuntimeError("unable to explain termination")`
branch of `test` is unreachable -/
theorem explain_ne_nil {m : TermM} {sz it : Nat} (h : m.fires sz it = some true) :
    m.explain sz it ≠ [] := by
  obtain ⟨_, l, hl, hlf⟩ := (fires_true_iff sz it m).1 h
  have : kindOf l ∈ m.explain sz it := (mem_explain sz it _ m).2 ⟨l, hl, rfl, hlf⟩
  exact List.ne_nil_of_mem this

/-! ### `test` -/

/-- `test` read off `terminate_search`: the "unable to explain" arm is never taken -/
theorem test_eq (m : TermM) (sz it : Nat) :
    m.test sz it = match m.fires sz it with
      | none => .error (.panic "termination-frequency-zero")
      | some false => .ok ()
      | some true => .error (.terminated (m.explain sz it)) := by
  unfold TermM.test
  cases hf : m.fires sz it with
  | none => rfl
  | some r =>
    cases r with
    | false => rfl
    | true =>
      have hne := explain_ne_nil hf
      dsimp only
      split
      · exact absurd ‹_› hne
      · rfl

/-- `test = Ok(())` exactly when `terminate_search = Ok(false)` -/
theorem test_ok_iff (m : TermM) (sz it : Nat) :
    m.test sz it = .ok () ↔ m.fires sz it = some false := by
  rw [test_eq]
  cases m.fires sz it with
  | none => simp
  | some r =>
    cases r with
    | false => simp
    | true => simp

theorem test_terminated_iff (m : TermM) (sz it : Nat) (ks : List TermKind) :
    m.test sz it = .error (.terminated ks) ↔ m.fires sz it = some true ∧ ks = m.explain sz it := by
  rw [test_eq]
  cases m.fires sz it with
  | none => simp
  | some r =>
    cases r with
    | false => simp
    | true => simp [eq_comm]

theorem test_panic_iff (m : TermM) (sz it : Nat) :
    m.test sz it = .error (.panic "termination-frequency-zero") ↔ ZeroFreq m := by
  rw [test_eq, ← fires_none_iff sz it]
  cases m.fires sz it with
  | none => simp
  | some r =>
    cases r with
    | false => simp
    | true => simp

/-- the "unable to explain" outcome is unreachable -/
theorem test_ne_internal (m : TermM) (sz it : Nat) : m.test sz it ≠ .error .internal := by
  rw [test_eq]
  cases m.fires sz it with
  | none => simp
  | some r =>
    cases r with
    | false => simp
    | true => simp

/-- a limit test never answers "no path" (nor any error other than the two above) -/
theorem test_error_kinds (m : TermM) (sz it : Nat) (k : ErrKind) (h : m.test sz it = .error k) :
    (∃ ks, k = .terminated ks ∧ ks ≠ []) ∨ k = .panic "termination-frequency-zero" := by
  rw [test_eq] at h
  cases hf : m.fires sz it with
  | none => rw [hf] at h; cases h; exact Or.inr rfl
  | some r =>
    cases r with
    | false => rw [hf] at h; cases h
    | true => rw [hf] at h; cases h; exact Or.inl ⟨_, rfl, explain_ne_nil hf⟩

/-- **terminated_is_explicit** (termination-model half).  `test` has exactly three outcomes:
`Ok(())` when nothing fires; `QueryTerminated` naming a non-empty list of kinds, each the kind of a
limit occurring in the model that itself fires at these counters; or the `iteration % 0` panic,
which happens exactly when some runtime limit in the model has frequency 0.  The
`RuntimeError("unable to explain termination")` outcome (`.internal`) never occurs. -/
theorem terminated_is_explicit (m : TermM) (sz it : Nat) :
    (m.test sz it = .ok () ∧ m.fires sz it = some false) ∨
    (∃ ks, m.test sz it = .error (.terminated ks) ∧ m.fires sz it = some true ∧ ks ≠ [] ∧
        ks = m.explain sz it ∧
        ∀ k ∈ ks, ∃ l, Leaf l m ∧ kindOf l = k ∧ l.fires sz it = some true) ∨
    (m.test sz it = .error (.panic "termination-frequency-zero") ∧ ZeroFreq m) := by
  rw [test_eq]
  cases hf : m.fires sz it with
  | none => exact Or.inr (Or.inr ⟨rfl, (fires_none_iff sz it m).1 hf⟩)
  | some r =>
    cases r with
    | false => exact Or.inl ⟨rfl, rfl⟩
    | true =>
      exact Or.inr (Or.inl ⟨m.explain sz it, rfl, rfl, explain_ne_nil hf, rfl,
        fun k hk => (mem_explain sz it k m).1 hk⟩)

theorem test_ok_leaf {m : TermM} {sz it : Nat} (h : m.test sz it = .ok ()) {l : TermM}
    (hl : Leaf l m) : l.fires sz it ≠ some true :=
  ((fires_false_iff sz it m).1 ((test_ok_iff m sz it).1 h)).2 l hl

theorem test_error_of_leaf {m l : TermM} (hl : Leaf l m) {sz it : Nat}
    (hf : l.fires sz it = some true) : ∃ k, m.test sz it = .error k := by
  cases ht : m.test sz it with
  | error k => exact ⟨k, rfl⟩
  | ok u => exact absurd hf (test_ok_leaf ht hl)

/-- if every limit occurring in `m₂` that fires makes some limit of `m` fire (and `m₂` has no zero
frequency), `m₂` passes wherever `m` passes: so does a larger single limit, and a combination with
a limit removed -/
theorem test_mono {m m₂ : TermM} (hz : ¬ ZeroFreq m₂)
    (hle : ∀ sz it l₂, Leaf l₂ m₂ → l₂.fires sz it = some true →
      ∃ l, Leaf l m ∧ l.fires sz it = some true) :
    ∀ sz it, m.test sz it = .ok () → m₂.test sz it = .ok () := by
  intro sz it h
  rw [test_ok_iff, fires_false_iff]
  refine ⟨hz, fun l₂ hl₂ hf => ?_⟩
  obtain ⟨l, hl, hlf⟩ := hle sz it l₂ hl₂ hf
  exact test_ok_leaf h hl hlf

/-! ### Monotonicity of the concrete limits -/

theorem iters_test_mono {L L' : Nat} (h : L ≤ L') (sz it : Nat)
    (hok : (TermM.iters L).test sz it = .ok ()) : (TermM.iters L').test sz it = .ok () := by
  rw [test_ok_iff] at hok ⊢
  simp only [TermM.fires, Option.some.injEq, decide_eq_false_iff_not] at hok ⊢
  omega

theorem size_test_mono {S S' : Nat} (h : S ≤ S') (sz it : Nat)
    (hok : (TermM.size S).test sz it = .ok ()) : (TermM.size S').test sz it = .ok () := by
  rw [test_ok_iff] at hok ⊢
  simp only [TermM.fires, Option.some.injEq, decide_eq_false_iff_not] at hok ⊢
  omega

/-- a larger time budget (same check frequency, same clock) passes wherever a smaller one does -/
theorem runtime_test_mono {l l' freq b p : Nat} (h : l ≤ l') (sz it : Nat)
    (hok : (TermM.runtime l freq b p).test sz it = .ok ()) :
    (TermM.runtime l' freq b p).test sz it = .ok () := by
  rw [test_ok_iff] at hok ⊢
  simp only [TermM.fires] at hok ⊢
  split at hok
  · cases hok
  · rename_i hf
    split at hok
    · rename_i hm
      simp only [Option.some.injEq, decide_eq_false_iff_not] at hok
      simp only [hf, hm, if_false, if_true, Option.some.injEq, decide_eq_false_iff_not]
      omega
    · rename_i hm
      simp only [hf, hm, if_false]

/-- dropping limits from a combination (at any depth: every limit of `m₂` occurs in `m`) keeps
every pass -/
theorem test_mono_of_leaves {m m₂ : TermM} (hsub : ∀ l, Leaf l m₂ → Leaf l m) (sz it : Nat)
    (hok : m.test sz it = .ok ()) : m₂.test sz it = .ok () := by
  have hz : ¬ ZeroFreq m₂ := by
    rintro ⟨l, b, p, hl⟩
    have := (test_panic_iff m sz it).2 ⟨l, b, p, hsub _ hl⟩
    rw [hok] at this; cases this
  exact test_mono hz (fun sz it l₂ hl₂ hf => ⟨l₂, hsub l₂ hl₂, hf⟩) sz it hok

/-- the empty combination never fires: "no limit" -/
theorem combined_nil_test (sz it : Nat) : (TermM.combined []).test sz it = .ok () := by
  simp [TermM.test, TermM.fires, TermM.fires.firesList]

end SearchLimits
end Compass
