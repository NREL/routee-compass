/-
The Dijkstra discipline of DESIGN.md Appendix A.2, needed for C03 (state and cost accumulation
along a route) and C04 (turn restrictions along a route).

Hypotheses: `SearchTree.WF I` (incident consistency, strictly positive edge cost) and `Heur I
target.isSome H`: the heuristic term added to a label is a vertex function `H` that is consistent
(`H (termV e) ≤ cost + H (keyV e)` along every accepted traversal).  Dijkstra is `ZeroH I`
(`H = 0`, `ZeroH.heur`): the headline theorems are stated for a consistent heuristic (`…_of_heur`)
and read for Dijkstra through `ZeroH.heur` (`expansions_le_vertices` is written out).  Costs and
validity may depend on the state and on the previous edge (turn delays, turn restrictions): nothing
here assumes state independence.

For every source, optional target and schedule, at every loop head of `runLoop`
(`discipline_at_every_head`):

* (M) every closed f-score (label + `H`; closed = labelled, not queued) is at most every queued
  f-score, and a queued f-score is the vertex's label + `H` (`Disc.mono`, `Disc.qg`); the vertex
  being popped carries an f-score at least every closed one (`popped_ge_closed`);
* a closed vertex never passes `tentative < existing` again (`Mid.closed_not_improved`), keeps its
  label and tree entry and is never re-queued (`ClosedKept`), so each vertex is expanded at most
  once (`expanded_nodup`), the source first (`source_first`), and `iterations ≤ nV`
  (`expansions_le_vertices`);
* every tree entry was produced from its parent's *final* entry (`Fresh`, `entry_fresh_of_heur`),
  hence every link of a returned route was validated and traversed from the state and edge the route
  itself reports for the previous link (`Disc.linksFresh`, `route_fresh_of_heur`); TreeInv's
  `g u + cost ≤ g v` holds with equality (`Disc.label_eq`), so a route's summed cost is the target's
  label (`route_cost_eq_label_of_heur`).
-/
import Compass.Proofs.SearchOpt
import Compass.Proofs.Instance
import Compass.Proofs.RouteSums

namespace Compass
namespace SearchDiscipline

set_option linter.unusedSectionVars false

open SearchTree (WF TreeInv upd_same upd_other RouteChain)
open SearchLimits (Reach popped curOf Final startF)

section

variable {α : Type} [Field α] [LinearOrder α] [IsStrictOrderedRing α] [Lit α] [LawfulLit α]

/-! ### Definitions -/

/-- Dijkstra: whenever the estimate succeeds it is zero (`weight_factor = Some(Cost::ZERO)`; an
estimate that fails aborts the search, so no state is reached through it) -/
def ZeroH (I : Inst α) : Prop := ∀ v st x, I.h v st = .ok x → x = 0

/-- the heuristic term the loop adds to a tentative label is the vertex function `H` (whenever the
estimate succeeds; a failing estimate aborts the search), and `H` is consistent: along every
accepted traversal it drops by at most the cost charged.  `hasTarget` is `target.isSome`: without
a target the loop adds `Cost::ZERO`. -/
structure Heur (I : Inst α) (hasTarget : Bool) (H : Nat → α) : Prop where
  eq : ∀ v st x, (if hasTarget then I.h v st else Except.ok zero) = .ok x → x = H v
  consistent : ∀ e le st ac tc st', I.valid e st le = .ok true →
    I.trav e le st = .ok (ac, tc, st') → H (I.termV e) ≤ (ac + tc) + H (I.keyV e)

/-- without a target the loop adds `Cost::ZERO` whatever the estimate: every destination-less
search runs with `H = 0`, consistent because costs are positive -/
theorem Heur.noTarget {I : Inst α} (hI : WF I) : Heur I false (fun _ => 0) where
  eq := by
    intro v st x h
    simp only [Bool.false_eq_true, if_false, Except.ok.injEq, zero_eq] at h
    exact h.symm
  consistent := by
    intro e le st ac tc st' _ htrav
    rw [add_zero]
    exact le_of_lt (hI.cost_pos _ _ _ _ _ _ htrav)

/-- Dijkstra is the case `H = 0` -/
theorem ZeroH.heur {I : Inst α} (hI : WF I) (hh : ZeroH I) (hasTarget : Bool) :
    Heur I hasTarget (fun _ => 0) := by
  cases hasTarget with
  | false => exact Heur.noTarget hI
  | true => exact ⟨fun v st x h => hh v st x h, (Heur.noTarget hI).consistent⟩

/-- A* with a heuristic that is a consistent function `hv` of the vertex; without a target the
term is 0 -/
theorem Heur.of_vertex {I : Inst α} (hI : WF I) {hv : Nat → α}
    (heq : ∀ v st x, I.h v st = .ok x → x = hv v)
    (hcons : ∀ e le st ac tc st', I.valid e st le = .ok true →
      I.trav e le st = .ok (ac, tc, st') → hv (I.termV e) ≤ (ac + tc) + hv (I.keyV e))
    (hasTarget : Bool) : Heur I hasTarget (SearchOpt.Hf hasTarget hv) := by
  cases hasTarget with
  | false => exact Heur.noTarget hI
  | true =>
    rw [SearchOpt.Hf_true]
    exact ⟨fun v st x h => heq v st x h, hcons⟩

def NotQueued (s : SState α) (v : Nat) : Prop := ∀ p ∈ s.queue, p.1 ≠ v

def Closed (s : SState α) (v : Nat) : Prop := (s.g v).isSome ∧ NotQueued s v

/-- the tree entry `b` is what the frontier model accepted and the traversal produced *from the
entry its parent has in `sol`* (from the initial state and no previous edge at the source) -/
def Fresh (I : Inst α) (source : Nat) (sol : Nat → Option (Branch α)) (b : Branch α) : Prop :=
  (b.terminal = source →
    I.valid b.edge I.init none = .ok true ∧
    I.trav b.edge none I.init = .ok (b.access, b.traversal, b.state)) ∧
  (b.terminal ≠ source → ∀ bu, sol b.terminal = some bu →
    I.valid b.edge bu.state (some bu.edge) = .ok true ∧
    I.trav b.edge (some bu.edge) bu.state = .ok (b.access, b.traversal, b.state))

/-- `Fresh` read for an entry whose parent is the source or has an entry: the pair it was produced
from -/
theorem Fresh.cases {I : Inst α} {source : Nat} {sol : Nat → Option (Branch α)} {b : Branch α}
    (h : Fresh I source sol b) (hpar : b.terminal = source ∨ (sol b.terminal).isSome) :
    (b.terminal = source ∧ SearchLoop.ProducedFrom I b none I.init) ∨
    (b.terminal ≠ source ∧ ∃ bu, sol b.terminal = some bu ∧
      SearchLoop.ProducedFrom I b (some bu.edge) bu.state) := by
  by_cases hs : b.terminal = source
  · exact Or.inl ⟨hs, h.1 hs⟩
  · obtain ⟨bu, hbu⟩ := Option.isSome_iff_exists.1 (hpar.resolve_left hs)
    exact Or.inr ⟨hs, bu, hbu, h.2 hs bu hbu⟩

/-- from `s` to `s'` closed vertices stay closed and keep their label and their tree entry -/
def ClosedKept (s s' : SState α) : Prop :=
  ∀ x, Closed s x → Closed s' x ∧ s'.g x = s.g x ∧ s'.sol x = s.sol x

theorem ClosedKept.refl (s : SState α) : ClosedKept s s := fun _ h => ⟨h, rfl, rfl⟩

theorem ClosedKept.trans {s s' s'' : SState α} (h : ClosedKept s s') (h' : ClosedKept s' s'') :
    ClosedKept s s'' := by
  intro x hx
  obtain ⟨a1, a2, a3⟩ := h x hx
  obtain ⟨b1, b2, b3⟩ := h' x a1
  exact ⟨b1, by rw [b2, a2], by rw [b3, a3]⟩

/-- the discipline at a loop head -/
structure Disc (I : Inst α) (H : Nat → α) (source : Nat) (s : SState α) : Prop where
  tree : TreeInv I source s
  /-- a queued f-score is the label of its vertex plus the heuristic term (`H = 0`: the label) -/
  qg : ∀ p ∈ s.queue, ∃ gx, s.g p.1 = some gx ∧ p.2 = gx + H p.1
  /-- (M) closed f-scores are below queued ones -/
  mono : ∀ u gu, s.g u = some gu → NotQueued s u → ∀ p ∈ s.queue, gu + H u ≤ p.2
  /-- every tree entry was produced from its parent's current entry -/
  fresh : ∀ v b, s.sol v = some b → Fresh I source s.sol b
  /-- parents are closed -/
  parent_closed : ∀ v b, s.sol v = some b → NotQueued s b.terminal
  /-- TreeInv's `g u + cost ≤ g v` holds with equality -/
  label_eq : ∀ v b, s.sol v = some b →
    ∃ gp, s.g b.terminal = some gp ∧ s.g v = some (gp + (b.access + b.traversal))

/-- the discipline inside the `for` loop over the incident edges of the popped vertex `u` (label
`gu`, handed to the loop with `lastEdge` and `st`) -/
structure Mid (I : Inst α) (H : Nat → α) (source : Nat) (u : Nat) (gu : α)
    (lastEdge : Option Nat) (st : List α) (s : SState α) : Prop where
  tree : TreeInv I source s
  qg : ∀ p ∈ s.queue, ∃ gx, s.g p.1 = some gx ∧ p.2 = gx + H p.1
  label : s.g u = some gu
  u_closed : NotQueued s u
  /-- the popped f-score is at least every closed one … -/
  closed_le : ∀ x gx, s.g x = some gx → NotQueued s x → gx + H x ≤ gu + H u
  /-- … and at most every queued one -/
  queue_ge : ∀ p ∈ s.queue, gu + H u ≤ p.2
  /-- `lastEdge` / `st` are still what the tree says about `u` -/
  cur : curOf I source s u = some (lastEdge, st)
  fresh : ∀ v b, s.sol v = some b → Fresh I source s.sol b
  parent_closed : ∀ v b, s.sol v = some b → NotQueued s b.terminal
  label_eq : ∀ v b, s.sol v = some b →
    ∃ gp, s.g b.terminal = some gp ∧ s.g v = some (gp + (b.access + b.traversal))

/-! ### One relaxation keeps the discipline -/

/-- a closed vertex never passes `tentative < existing` against a tentative label above the popped
one -/
theorem Mid.closed_not_improved {I : Inst α} {H : Nat → α} {source u : Nat} {gu : α}
    {lastEdge : Option Nat} {st : List α} {s : SState α} (hm : Mid I H source u gu lastEdge st s)
    {c : α} {x : Nat} (hc : H u ≤ c + H x) (hx : Closed s x) :
    improves (gu + c) (s.g x) = false := by
  obtain ⟨gx, hgx⟩ := Option.isSome_iff_exists.1 hx.1
  -- `gx + H x ≤ gu + H u ≤ gu + (c + H x)`
  have := (hm.closed_le x gx hgx hx.2).trans (SearchLoop.add_mono (le_refl gu) hc)
  rw [← add_assoc, add_le_add_iff_right] at this
  rw [hgx, Bool.eq_false_iff, ne_eq, SearchLoop.improves_some, not_lt]
  exact this

/-- the state written by an improving relaxation from the popped vertex keeps `Mid`, and leaves what
was closed closed, with its label and its entry -/
theorem update_mid {I : Inst α} {H : Nat → α} {source u : Nat} {gu : α} {lastEdge : Option Nat}
    {st : List α} {s : SState α} (hm : Mid I H source u gu lastEdge st s) (e : Nat) (ac tc : α)
    (st' : List α) (hI : WF I) (he : e ∈ I.incident u)
    (hcons : H u ≤ (ac + tc) + H (I.keyV e))
    (hvalid : I.valid e st lastEdge = .ok true) (htrav : I.trav e lastEdge st = .ok (ac, tc, st'))
    (himp : improves (gu + (ac + tc)) (s.g (I.keyV e)) = true) :
    let s' : SState α := SearchLoop.written I s e ac tc gu (H (I.keyV e)) st'
    Mid I H source u gu lastEdge st s' ∧ ClosedKept s s' := by
  intro s'
  have hterm : I.termV e = u := hI.incident_term u e he
  have hgt : s.g (I.termV e) = some gu := by rw [hterm]; exact hm.label
  have htree : TreeInv I source s' :=
    SearchTree.update_treeInv hI hm.tree he htrav (H (I.keyV e)) hgt himp
  -- the improved vertex is not closed
  have hkey_open : ¬ Closed s (I.keyV e) := by
    intro hx
    rw [hm.closed_not_improved hcons hx] at himp
    cases himp
  have hku : I.keyV e ≠ u := fun h => hkey_open (h ▸ ⟨by rw [hm.label]; rfl, hm.u_closed⟩)
  have huk : u ≠ I.keyV e := fun h => hku h.symm
  -- the queue after the push
  have hq : ∀ p, p ∈ s'.queue ↔
      (p ∈ s.queue ∧ p.1 ≠ I.keyV e) ∨ p = (I.keyV e, gu + (ac + tc) + H (I.keyV e)) :=
    SearchOpt.mem_push (fun v f h => hm.qg (v, f) h) himp
  have hg' : ∀ x, x ≠ I.keyV e → s'.g x = s.g x := fun x hx => upd_other _ _ _ hx
  have hsol' : ∀ x, x ≠ I.keyV e → s'.sol x = s.sol x := fun x hx => upd_other _ _ _ hx
  have hnq : ∀ x, x ≠ I.keyV e → (NotQueued s' x ↔ NotQueued s x) := by
    intro x hx
    constructor
    · intro h p hp hpx
      exact h p ((hq p).2 (Or.inl ⟨hp, by rw [hpx]; exact hx⟩)) hpx
    · intro h p hp hpx
      rcases (hq p).1 hp with ⟨hp', _⟩ | rfl
      · exact h p hp' hpx
      · exact hx hpx.symm
  have hkey_queued : ¬ NotQueued s' (I.keyV e) := fun h =>
    h _ ((hq _).2 (Or.inr rfl)) rfl
  -- a closed vertex of `s` is not the improved one
  have hclosed_ne : ∀ x, Closed s x → x ≠ I.keyV e := fun x hx h => hkey_open (h ▸ hx)
  have hparent_ne : ∀ v b, s.sol v = some b → b.terminal ≠ I.keyV e := by
    intro v b hb
    obtain ⟨_, _, _, _, ⟨gp, _, hgp, _, _⟩, _⟩ := hm.tree.entry v b hb
    exact hclosed_ne _ ⟨by rw [hgp]; rfl, hm.parent_closed v b hb⟩
  have hsolu : s'.sol u = s.sol u := hsol' u huk
  refine ⟨{ tree := htree, qg := ?_, label := ?_, u_closed := ?_, closed_le := ?_, queue_ge := ?_,
            cur := ?_, fresh := ?_, parent_closed := ?_, label_eq := ?_ }, ?_⟩
  · intro p hp
    rcases (hq p).1 hp with ⟨hp', hne⟩ | rfl
    · rw [hg' _ hne]; exact hm.qg p hp'
    · exact ⟨gu + (ac + tc), upd_same _ _ _, rfl⟩
  · rw [hg' u huk]; exact hm.label
  · exact (hnq u huk).2 hm.u_closed
  · intro x gx hgx hnqx
    have hx : x ≠ I.keyV e := fun h => hkey_queued (h ▸ hnqx)
    rw [hg' x hx] at hgx
    exact hm.closed_le x gx hgx ((hnq x hx).1 hnqx)
  · intro p hp
    rcases (hq p).1 hp with ⟨hp', _⟩ | rfl
    · exact hm.queue_ge p hp'
    · rw [add_assoc]
      exact SearchLoop.add_mono (le_refl gu) hcons
  · unfold curOf
    rw [hsolu]
    exact hm.cur
  · intro v b hb
    rcases SearchLoop.upd_eq_some (m := s.sol) hb with ⟨rfl, rfl⟩ | ⟨hv, hb⟩
    · -- the new entry: the pair is the one read at the head (`hm.cur`), and it is still what the
      -- tree says of `u`, whose entry this relaxation does not touch (`hsolu`)
      rcases SearchLimits.curOf_cases hm.cur with ⟨hu, rfl, rfl⟩ | ⟨hu, bu', hbu', rfl, rfl⟩
      · exact ⟨fun _ => ⟨hvalid, htrav⟩, fun hs => absurd (hterm.trans hu) hs⟩
      · refine ⟨fun hs => absurd (hterm.symm.trans hs) hu, fun _ bu hbu => ?_⟩
        simp only [hterm] at hbu
        rw [hsolu, hbu'] at hbu
        cases hbu
        exact ⟨hvalid, htrav⟩
    · -- an older entry: its parent is closed, so the parent's entry is not the one rewritten
      obtain ⟨f1, f2⟩ := hm.fresh v b hb
      refine ⟨f1, fun hs bu hbu => f2 hs bu ?_⟩
      rw [hsol' _ (hparent_ne v b hb)] at hbu
      exact hbu
  · intro v b hb
    rcases SearchLoop.upd_eq_some (m := s.sol) hb with ⟨rfl, rfl⟩ | ⟨hv, hb⟩
    · simp only [hterm]
      exact (hnq u huk).2 hm.u_closed
    · exact (hnq _ (hparent_ne v b hb)).2 (hm.parent_closed v b hb)
  · intro v b hb
    rcases SearchLoop.upd_eq_some (m := s.sol) hb with ⟨rfl, rfl⟩ | ⟨hv, hb⟩
    · refine ⟨gu, ?_, upd_same _ _ _⟩
      simp only [hterm]
      rw [hg' u huk]; exact hm.label
    · obtain ⟨gp, h1, h2⟩ := hm.label_eq v b hb
      exact ⟨gp, by rw [hg' _ (hparent_ne v b hb)]; exact h1, by rw [hg' v hv]; exact h2⟩
  · intro x hx
    have hne := hclosed_ne x hx
    exact ⟨⟨by rw [hg' x hne]; exact hx.1, (hnq x hne).2 hx.2⟩, hg' x hne, hsol' x hne⟩

theorem relaxAll_mid {I : Inst α} (hI : WF I) {H : Nat → α} {hasTarget : Bool}
    (hH : Heur I hasTarget H) {source u : Nat} {gu : α} {lastEdge : Option Nat} {st : List α}
    {s s' : SState α} (hm : Mid I H source u gu lastEdge st s)
    (h : relaxAll I hasTarget lastEdge st (I.incident u) s = .ok s') :
    Mid I H source u gu lastEdge st s' ∧ ClosedKept s s' := by
  refine SearchLoop.relaxAll_keeps
    (P := fun s1 => Mid I H source u gu lastEdge st s1 ∧ ClosedKept s s1) h
    ⟨hm, ClosedKept.refl _⟩ fun e he s1 ac tc gt hv st' hp hvalid htrav hgt himp hhv => ?_
  have hterm : I.termV e = u := hI.incident_term u e he
  rw [hterm, hp.1.label] at hgt
  cases hgt
  cases hH.eq _ _ _ hhv
  have hcons := hH.consistent e lastEdge st ac tc st' hvalid htrav
  rw [hterm] at hcons
  obtain ⟨hm2, hk2⟩ := update_mid hp.1 e ac tc st' hI he hcons hvalid htrav himp
  exact ⟨hm2, hp.2.trans hk2⟩

/-! ### One loop turn keeps the discipline -/

/-- (M) at the pop: the popped vertex is queued with its label + `H`, an f-score at least every
closed one and at most every queued one -/
theorem popped_ge_closed {I : Inst α} {H : Nat → α} {source : Nat} {s : SState α}
    (hd : Disc I H source s) {v : Nat} (hpop : popOk s.queue v = true) :
    ∃ gv, (v, gv + H v) ∈ s.queue ∧ s.g v = some gv ∧ (∀ p ∈ s.queue, gv + H v ≤ p.2) ∧
      ∀ x gx, s.g x = some gx → NotQueued s x → gx + H x ≤ gv + H v := by
  obtain ⟨f, hf, hmin⟩ := SearchLoop.popOk_spec hpop
  obtain ⟨gv, hgv, hfv⟩ := hd.qg _ hf
  simp only at hgv hfv
  subst hfv
  exact ⟨gv, hf, hgv, hmin, fun x gx hgx hx => hd.mono x gx hgx hx _ hf⟩

theorem Disc.pop {I : Inst α} {H : Nat → α} {source : Nat} {s : SState α}
    (hd : Disc I H source s) {v : Nat}
    (hpop : popOk s.queue v = true) {lastEdge : Option Nat} {st : List α}
    (hcur : curOf I source s v = some (lastEdge, st)) :
    ∃ f, (v, f + H v) ∈ s.queue ∧ Mid I H source v f lastEdge st (popped s v) := by
  obtain ⟨f, hf, hgf, hmin, hcl⟩ := popped_ge_closed hd hpop
  refine ⟨f, hf, { tree := hd.tree.pop v, qg := ?_, label := hgf, u_closed := ?_, closed_le := ?_,
                   queue_ge := ?_, cur := hcur, fresh := hd.fresh, parent_closed := ?_,
                   label_eq := hd.label_eq }⟩
  · intro p hp; exact hd.qg p ((SearchLoop.mem_filter_ne _).1 hp).1
  · intro p hp; exact ((SearchLoop.mem_filter_ne _).1 hp).2
  · intro x gx hgx hx
    by_cases hxv : x = v
    · subst hxv
      have : s.g x = some gx := hgx
      rw [hgf] at this
      cases this; exact le_refl _
    · apply hcl x gx hgx
      intro p hp hpx
      exact hx p ((SearchLoop.mem_filter_ne _).2 ⟨hp, by rw [hpx]; exact hxv⟩) hpx
  · intro p hp; exact hmin p ((SearchLoop.mem_filter_ne _).1 hp).1
  · intro w b hb p hp
    exact hd.parent_closed w b hb p ((SearchLoop.mem_filter_ne _).1 hp).1

theorem Mid.toDisc {I : Inst α} {H : Nat → α} {source u : Nat} {gu : α} {lastEdge : Option Nat}
    {st : List α} {s : SState α} (hm : Mid I H source u gu lastEdge st s) :
    Disc I H source { s with iters := s.iters + 1 } where
  tree := hm.tree.bump
  qg := hm.qg
  mono := fun x gx hgx hx p hp => le_trans (hm.closed_le x gx hgx hx) (hm.queue_ge p hp)
  fresh := hm.fresh
  parent_closed := hm.parent_closed
  label_eq := hm.label_eq

/-- a complete turn keeps the discipline, closes the expanded vertex and keeps what was closed -/
theorem turn_disc {I : Inst α} (hI : WF I) {H : Nat → α} {source : Nat} {target : Option Nat}
    (hH : Heur I target.isSome H) {s s' : SState α} {v : Nat} (hd : Disc I H source s)
    (ht : SearchLimits.Turn I source target s v s') :
    Disc I H source s' ∧ ClosedKept s s' ∧ Closed s' v ∧ ¬ NotQueued s v := by
  obtain ⟨_, _, hpop, _, lastEdge, st, s2, hcur, hrel, rfl⟩ := ht
  obtain ⟨f, hf, hmid⟩ := hd.pop hpop hcur
  obtain ⟨hm2, hk⟩ := relaxAll_mid hI hH hmid hrel
  refine ⟨hm2.toDisc, ?_, ⟨by show (s2.g v).isSome; rw [hm2.label]; rfl, hm2.u_closed⟩,
    fun h => h _ hf rfl⟩
  intro x hx
  have hx' : Closed (popped s v) x := ⟨hx.1, fun p hp => hx.2 p ((SearchLoop.mem_filter_ne _).1 hp).1⟩
  exact hk x hx'

/-! ### Every loop head of a run -/

/-- what holds of the vertices `pre` expanded between the loop heads `s` and `h` -/
structure Expanded (I : Inst α) (source : Nat) (s h : SState α) (pre : List Nat) : Prop where
  /-- what was closed at `s` is closed at `h`, with its label and entry -/
  kept : ClosedKept s h
  closed : ∀ x ∈ pre, Closed h x
  /-- an expanded vertex was not closed before -/
  open_before : ∀ x ∈ pre, ¬ Closed s x
  nodup : pre.Nodup
  /-- an expanded vertex is the source or the key vertex of some edge -/
  keys : ∀ x ∈ pre, x = source ∨ ∃ e, I.keyV e = x

/-- along a run the discipline holds at every loop head reached -/
theorem reach_disc {I : Inst α} (hI : WF I) {H : Nat → α} {source : Nat} {target : Option Nat}
    (hH : Heur I target.isSome H) {pre : List Nat} {s h : SState α}
    (hr : Reach I source target pre s h)
    (hd : Disc I H source s) : Disc I H source h ∧ Expanded I source s h pre := by
  induction hr with
  | here s => exact ⟨hd, ClosedKept.refl _, by simp, by simp, List.nodup_nil, by simp⟩
  | @turn v rest s s1 h ht hr ih =>
    obtain ⟨hd1, hk1, hcv, hvq⟩ := turn_disc hI hH hd ht
    obtain ⟨hdh, hx⟩ := ih hd1
    have hv_rest : v ∉ rest := fun hv => hx.open_before v hv hcv
    refine ⟨hdh, hk1.trans hx.kept, ?_, ?_, List.nodup_cons.2 ⟨hv_rest, hx.nodup⟩, ?_⟩
    · intro x hmem
      rcases List.mem_cons.1 hmem with rfl | hmem
      · exact (hx.kept _ hcv).1
      · exact hx.closed x hmem
    · intro x hmem hcx
      rcases List.mem_cons.1 hmem with rfl | hmem
      · exact hvq hcx.2
      · exact hx.open_before x hmem (hk1 x hcx).1
    · intro x hmem
      rcases List.mem_cons.1 hmem with rfl | hmem
      · rcases SearchTree.popped_has_entry hd.tree ht.pop_ok with h1 | h1
        · exact Or.inl h1
        · obtain ⟨b, hb⟩ := Option.isSome_iff_exists.1 h1
          exact Or.inr ⟨b.edge, (hd.tree.entry _ b hb).1⟩
      · exact hx.keys x hmem

/-- once closed, a vertex stays closed for the rest of the run, keeps its label and its tree entry
(they are final), and is never expanded again -/
theorem closed_final {I : Inst α} (hI : WF I) {H : Nat → α} {source : Nat} {target : Option Nat}
    (hH : Heur I target.isSome H) {pre : List Nat} {s h : SState α}
    (hr : Reach I source target pre s h) (hd : Disc I H source s) {x : Nat} (hx : Closed s x) :
    Closed h x ∧ h.g x = s.g x ∧ h.sol x = s.sol x ∧ x ∉ pre := by
  have he := (reach_disc hI hH hr hd).2
  obtain ⟨h1, h2, h3⟩ := he.kept x hx
  exact ⟨h1, h2, h3, fun hmem => he.open_before x hmem hx⟩

/-- (M) for Dijkstra, in plain terms: a closed label is at most every queued f-score, and a queued
f-score is the label of its vertex -/
theorem Disc.dijkstra_monotone {I : Inst α} {source : Nat} {s : SState α}
    (hd : Disc I (fun _ => 0) source s) {u : Nat} {gu : α} (hgu : s.g u = some gu)
    (hu : NotQueued s u) {p : Nat × α} (hp : p ∈ s.queue) : gu ≤ p.2 ∧ s.g p.1 = some p.2 := by
  have h1 := hd.mono u gu hgu hu p hp
  obtain ⟨gx, h2, h3⟩ := hd.qg p hp
  simp only [add_zero] at h1 h3
  exact ⟨h1, by rw [h3]; exact h2⟩

/-- (M) for Dijkstra at the pop: the popped vertex's label is at least every closed label and at
most every queued f-score -/
theorem Disc.dijkstra_pop {I : Inst α} {source : Nat} {s : SState α}
    (hd : Disc I (fun _ => 0) source s) {v : Nat} (hpop : popOk s.queue v = true) :
    ∃ gv, s.g v = some gv ∧ (v, gv) ∈ s.queue ∧ (∀ p ∈ s.queue, gv ≤ p.2) ∧
      ∀ x gx, s.g x = some gx → NotQueued s x → gx ≤ gv := by
  obtain ⟨gv, h1, h2, h3, h4⟩ := popped_ge_closed hd hpop
  simp only [add_zero] at h1 h3 h4
  exact ⟨gv, h2, h1, h3, h4⟩

theorem initState_disc (I : Inst α) (H : Nat → α) (source : Nat) :
    Disc I H source (initState source (H source)) where
  tree := SearchTree.initState_treeInv I source _
  qg := fun p hp => by
    rw [SearchLoop.mem_initState_queue.1 hp]
    exact ⟨0, SearchLoop.initState_g.2 ⟨rfl, rfl⟩, (zero_add _).symm⟩
  mono := fun u gu hgu hnq =>
    absurd (SearchLoop.initState_g.1 hgu).1.symm (hnq _ (SearchLoop.mem_initState_queue.2 rfl))
  fresh := fun _ _ hb => nomatch hb
  parent_closed := fun _ _ hb => nomatch hb
  label_eq := fun _ _ hb => nomatch hb

theorem startF_eq {I : Inst α} {H : Nat → α} {source : Nat} {target : Option Nat}
    (hH : Heur I target.isSome H) {f0 : α} (h : startF I source target = .ok f0) :
    f0 = H source := by
  unfold startF at h
  cases target with
  | none => exact hH.eq source I.init f0 h
  | some t => exact hH.eq source I.init f0 h

theorem source_first {I : Inst α} {source : Nat} {target : Option Nat} {pre : List Nat} {f0 : α}
    {h : SState α} (hr : Reach I source target pre (initState source f0) h) :
    pre = [] ∨ pre.head? = some source := by
  cases hr with
  | here => exact Or.inl rfl
  | turn ht _ =>
    obtain ⟨p, hp, hpv⟩ := SearchLoop.popOk_mem ht.pop_ok
    rw [SearchLoop.mem_initState_queue.1 hp] at hpv
    exact Or.inr (congrArg some hpv.symm)

/-- **(M) at every loop head** of a run from the initial state, whatever the schedule: the
discipline `Disc`; the expanded vertices are pairwise distinct (each vertex is popped for expansion
at most once) and all closed (`Expanded`); the source comes first -/
theorem discipline_at_every_head {I : Inst α} (hI : WF I) {H : Nat → α} {source : Nat}
    {target : Option Nat} (hH : Heur I target.isSome H) {pre : List Nat} {h : SState α}
    (hr : Reach I source target pre (initState source (H source)) h) :
    Disc I H source h ∧ Expanded I source (initState source (H source)) h pre ∧
      (pre = [] ∨ pre.head? = some source) :=
  let ⟨h1, h2⟩ := reach_disc hI hH hr (initState_disc I H source)
  ⟨h1, h2, source_first hr⟩

theorem expanded_nodup {I : Inst α} (hI : WF I) {H : Nat → α} {source : Nat}
    {target : Option Nat} (hH : Heur I target.isSome H) {pre : List Nat} {h : SState α}
    (hr : Reach I source target pre (initState source (H source)) h) : pre.Nodup :=
  (discipline_at_every_head hI hH hr).2.1.nodup

/-! ### Results of a run -/

/-- an `.ok` run is the `target == source` shortcut, or ends at a loop head that satisfies the
discipline and whose labels, tree and counters are the result's -/
theorem runAStar_disc {I : Inst α} (hI : WF I) {H : Nat → α} {source : Nat}
    {target : Option Nat} (hH : Heur I target.isSome H)
    {sched : List Nat} {s : SState α} (hrun : runAStar I source target sched = .ok s) :
    (target = some source ∧ s = SearchLimits.emptyResult) ∨
    ∃ pre rest h, sched = pre ++ rest ∧ Reach I source target pre (initState source (H source)) h ∧
      Disc I H source h ∧ Final target h rest s := by
  rcases SearchLimits.runAStar_ok_cases hrun with h0 | ⟨_, f0, pre, rest, h, hf0, hs, hr, _, hfin⟩
  · exact Or.inl h0
  · cases startF_eq hH hf0
    exact Or.inr ⟨pre, rest, h, hs, hr, (discipline_at_every_head hI hH hr).1, hfin⟩

/-- for a consistent vertex heuristic: in the result of a run every tree entry was produced from its
parent's *final* entry (which exists), or from `(I.init, none)` when the parent is the source -/
theorem entry_fresh_of_heur {I : Inst α} (hI : WF I) {H : Nat → α} {source : Nat}
    {target : Option Nat} (hH : Heur I target.isSome H)
    {sched : List Nat} {s : SState α} (hrun : runAStar I source target sched = .ok s)
    {v : Nat} {b : Branch α} (hb : s.sol v = some b) :
    (b.terminal = source ∧ SearchLoop.ProducedFrom I b none I.init) ∨
    (b.terminal ≠ source ∧ ∃ bu, s.sol b.terminal = some bu ∧
      SearchLoop.ProducedFrom I b (some bu.edge) bu.state) := by
  rcases runAStar_disc hI hH hrun with ⟨_, rfl⟩ | ⟨pre, rest, h, _, _, hd, hfin⟩
  · cases hb
  · rw [hfin.sol_eq] at hb ⊢
    exact (hd.fresh v b hb).cases (hd.tree.entry v b hb).2.2.2.2.2

/-- in any run under the discipline — returning or not — at most `nV` expansion steps are
performed -/
theorem reach_length_le_vertices {I : Inst α} (hI : WF I) {H : Nat → α} {source nV : Nat}
    (hsrc : source < nV) (hkey : ∀ e, I.keyV e < nV) {target : Option Nat}
    (hH : Heur I target.isSome H) {pre : List Nat}
    {h : SState α} (hr : Reach I source target pre (initState source (H source)) h) :
    pre.length ≤ nV := by
  have he := (discipline_at_every_head hI hH hr).2.1
  have hsub : pre ⊆ List.range nV := by
    intro x hx
    rw [List.mem_range]
    rcases he.keys x hx with rfl | ⟨e, rfl⟩
    · exact hsrc
    · exact hkey e
  have := (he.nodup.subperm hsub).length_le
  simpa using this

/-- for a consistent vertex heuristic, with all vertices below `nV`: a run performs at most `nV`
expansion steps -/
theorem expansions_le_vertices_of_heur {I : Inst α} (hI : WF I) {H : Nat → α} {source nV : Nat}
    (hsrc : source < nV) (hkey : ∀ e, I.keyV e < nV) {target : Option Nat}
    (hH : Heur I target.isSome H) {sched : List Nat}
    {s : SState α} (hrun : runAStar I source target sched = .ok s) : s.iters ≤ nV := by
  rcases runAStar_disc hI hH hrun with ⟨_, rfl⟩ | ⟨pre, rest, h, _, hr, _, hfin⟩
  · exact Nat.zero_le _
  · rw [hfin.iters_eq, hr.counters.1]
    simpa [initState] using reach_length_le_vertices hI hsrc hkey hH hr

/-- **expansions_le_vertices**: `expansions_le_vertices_of_heur` for a Dijkstra run -/
theorem expansions_le_vertices {I : Inst α} (hI : WF I) (hh : ZeroH I) {source nV : Nat}
    (hsrc : source < nV) (hkey : ∀ e, I.keyV e < nV) {target : Option Nat} {sched : List Nat}
    {s : SState α} (hrun : runAStar I source target sched = .ok s) : s.iters ≤ nV :=
  expansions_le_vertices_of_heur hI hsrc hkey (hh.heur hI _) hrun

/-! ### Routes -/

/-- the links of a route: the first entry was produced from `(I.init, none)`, each later one from
the state and edge of the entry before it -/
def LinksFresh (I : Inst α) : Option (Branch α) → List (Branch α) → Prop
  | _, [] => True
  | none, b :: r =>
    (I.valid b.edge I.init none = .ok true ∧
      I.trav b.edge none I.init = .ok (b.access, b.traversal, b.state)) ∧
    LinksFresh I (some b) r
  | some a, b :: r =>
    (I.valid b.edge a.state (some a.edge) = .ok true ∧
      I.trav b.edge (some a.edge) a.state = .ok (b.access, b.traversal, b.state)) ∧
    LinksFresh I (some b) r

theorem LinksFresh.isChain {I : Inst α} {route : List (Branch α)} :
    ∀ {prev : Option (Branch α)}, LinksFresh I prev route →
      route.IsChain (fun a b => SearchLoop.ProducedFrom I b (some a.edge) a.state) := by
  induction route with
  | nil => exact fun _ => .nil
  | cons a r ih =>
    intro prev h
    have h' : LinksFresh I (some a) r := by cases prev <;> exact h.2
    cases r with
    | nil => exact .singleton a
    | cons b r => exact .cons_cons h'.1 (ih h')

theorem LinksFresh.head {I : Inst α} {route : List (Branch α)} (h : LinksFresh I none route) :
    ∀ b, route.head? = some b → SearchLoop.ProducedFrom I b none I.init := by
  intro b hb
  cases route with
  | nil => cases hb
  | cons x xs =>
    cases hb
    exact h.1

/-- a chain of tree entries, each `Fresh`, has fresh links.  `prev` is the element before `route`
(none at the start of the route): the hypothesis on it says that `route` continues it — its first
element is expanded from `prev`'s vertex, whose entry `prev` is; with no `prev`, from the source -/
theorem linksFresh_of_chain {I : Inst α} {source : Nat} {sol : Nat → Option (Branch α)} :
    ∀ (prev : Option (Branch α)) (route : List (Branch α)),
      (∀ b ∈ route, Fresh I source sol b ∧ sol (I.keyV b.edge) = some b ∧ I.keyV b.edge ≠ source) →
      route.IsChain (fun a b => I.keyV a.edge = b.terminal) →
      (match prev with
        | none => ∀ b, route.head? = some b → b.terminal = source
        | some a => (sol (I.keyV a.edge) = some a ∧ I.keyV a.edge ≠ source) ∧
            ∀ b, route.head? = some b → I.keyV a.edge = b.terminal) →
      LinksFresh I prev route
  | _, [], _, _, _ => by cases ‹Option (Branch α)› <;> trivial
  | prev, b :: r, hall, hchain, hhead => by
    have hb := hall b List.mem_cons_self
    have hrest : LinksFresh I (some b) r := by
      apply linksFresh_of_chain (some b) r (fun b' hb' => hall b' (List.mem_cons_of_mem _ hb'))
        (List.IsChain.tail hchain)
      refine ⟨⟨hb.2.1, hb.2.2⟩, fun b' hb' => ?_⟩
      cases r with
      | nil => cases hb'
      | cons x xs =>
        cases hb'
        exact (List.isChain_cons_cons.1 hchain).1
    cases prev with
    | none => exact ⟨hb.1.1 (hhead b rfl), hrest⟩
    | some a =>
      obtain ⟨⟨ha1, ha2⟩, hlink⟩ := hhead
      have hpar : I.keyV a.edge = b.terminal := hlink b rfl
      exact ⟨hb.1.2 (hpar ▸ ha2) a (hpar ▸ ha1), hrest⟩

/-- **every path of a tree under the discipline has fresh links**: in the backtrack from any vertex
the first element was validated and traversed from `(I.init, none)`, each later one from the state
and edge of the element before it (`LinksFresh.head`, `LinksFresh.isChain`) -/
theorem Disc.linksFresh {I : Inst α} {H : Nat → α} {source : Nat} {s : SState α}
    (hd : Disc I H source s) {v fuel : Nat} {route : List (Branch α)}
    (hbt : backtrack source v s.sol fuel = .ok route) :
    RouteChain I source s v route ∧ LinksFresh I none route := by
  have hrc := SearchTree.route_chain hd.tree hbt
  refine ⟨hrc, linksFresh_of_chain (sol := s.sol) none route (fun b hb => ?_) hrc.chain
    hrc.head_terminal⟩
  exact ⟨hd.fresh _ b (hrc.entry b hb), hrc.entry b hb, hrc.key_ne_source b hb⟩

/-- the tree and labels `run_vertex_oriented` returns towards `t ≠ source` are those of a loop head
that satisfies the discipline -/
theorem runVertexOriented_disc {I : Inst α} (hI : WF I) {H : Nat → α} {source t : Nat}
    (hH : Heur I true H) {sched : List Nat} {res : SearchResult α} (hts : t ≠ source)
    (hrun : runVertexOriented I source (some t) sched = .ok res) :
    ∃ h, Disc I H source h ∧ res.final.sol = h.sol ∧ res.final.g = h.g := by
  obtain ⟨_, _, h, _, _, hd, hfin⟩ := (runAStar_disc (target := some t) hI hH
    (SearchTree.runVertexOriented_final hrun)).resolve_left fun h => hts (Option.some.inj h.1)
  exact ⟨h, hd, hfin.sol_eq, hfin.g_eq⟩

/-- `Disc.linksFresh` for the final tree of a run to a target other than the source, for any
consistent vertex heuristic -/
theorem backtrack_linksFresh {I : Inst α} (hI : WF I) {H : Nat → α} {source t : Nat}
    (hH : Heur I true H) {sched : List Nat} {res : SearchResult α} (hts : t ≠ source)
    (hrun : runVertexOriented I source (some t) sched = .ok res) {v fuel : Nat}
    {route : List (Branch α)} (hbt : backtrack source v res.final.sol fuel = .ok route) :
    RouteChain I source res.final v route ∧ LinksFresh I none route := by
  obtain ⟨h, hd, hsol, _⟩ := runVertexOriented_disc hI hH hts hrun
  refine ⟨SearchTree.route_chain (SearchTree.runVertexOriented_treeInv hI
    (fun h => hts (Option.some.inj h)) hrun) hbt, ?_⟩
  rw [hsol] at hbt
  exact (hd.linksFresh hbt).2

/-- **the link relation of a returned route**, for a consistent vertex heuristic: `backtrack_linksFresh`
at the target -/
theorem route_fresh_of_heur {I : Inst α} (hI : WF I) {H : Nat → α} {source t : Nat}
    (hH : Heur I true H) {sched : List Nat} {res : SearchResult α} (hts : t ≠ source)
    (hrun : runVertexOriented I source (some t) sched = .ok res) :
    ∃ route, res.route = some route ∧ route ≠ [] ∧ RouteChain I source res.final t route ∧
      LinksFresh I none route := by
  obtain ⟨_, route, hroute, hbt⟩ := SearchTree.runVertexOriented_some hrun
  obtain ⟨hrc, hl⟩ := backtrack_linksFresh hI hH hts hrun hbt
  exact ⟨route, hroute, fun h0 => hts ((SearchTree.pathTo_nil_iff (SearchTree.backtrack_sound hbt)).1 h0),
    hrc, hl⟩

/-- `route_fresh_of_heur` with the two readings of `LinksFresh none` written out: the head of the
route and every consecutive pair, by index -/
theorem route_links_fresh_of_heur {I : Inst α} (hI : WF I) {H : Nat → α} {source t : Nat}
    (hH : Heur I true H) {sched : List Nat} {res : SearchResult α} (hts : t ≠ source)
    (hrun : runVertexOriented I source (some t) sched = .ok res) :
    ∃ route, res.route = some route ∧ route ≠ [] ∧ RouteChain I source res.final t route ∧
      LinksFresh I none route ∧
      (∀ b, route.head? = some b →
        I.valid b.edge I.init none = .ok true ∧
        I.trav b.edge none I.init = .ok (b.access, b.traversal, b.state)) ∧
      ∀ i (hi : i + 1 < route.length),
        I.valid route[i + 1].edge route[i].state (some route[i].edge) = .ok true ∧
        I.trav route[i + 1].edge (some route[i].edge) route[i].state =
          .ok (route[i + 1].access, route[i + 1].traversal, route[i + 1].state) := by
  obtain ⟨route, h1, h2, h3, h4⟩ := route_fresh_of_heur hI hH hts hrun
  exact ⟨route, h1, h2, h3, h4, h4.head, List.isChain_iff_getElem.1 h4.isChain⟩

theorem pathTo_cost_eq {I : Inst α} {H : Nat → α} {source : Nat} {s : SState α}
    (hd : Disc I H source s)
    {t : Nat} {r : List (Branch α)} (h : SearchTree.PathTo source s.sol t r) :
    ∀ gt, s.g t = some gt → (r.map (fun b => b.access + b.traversal)).sum = gt := by
  induction h with
  | nil =>
    intro gt hgt
    rw [hd.tree.g_source] at hgt
    cases hgt
    simp
  | @snoc v b r hv hb hr ih =>
    intro gt hgt
    obtain ⟨gp, hgp, hgv⟩ := hd.label_eq v b hb
    rw [hgt] at hgv
    cases hgv
    have := ih gp hgp
    simp only [List.map_append, List.sum_append, List.map_cons, List.map_nil, List.sum_cons,
      List.sum_nil, add_zero]
    rw [this]

/-- for a consistent vertex heuristic: the summed cost (access + traversal) of the route
`run_vertex_oriented` returns *equals* the label of the target (TreeInv's inequality holds with
equality under the discipline) -/
theorem route_cost_eq_label_of_heur {I : Inst α} (hI : WF I) {H : Nat → α} {source t : Nat}
    (hH : Heur I true H) {sched : List Nat} {res : SearchResult α} (hts : t ≠ source)
    (hrun : runVertexOriented I source (some t) sched = .ok res) :
    ∃ route gt, res.route = some route ∧ res.final.g t = some gt ∧
      (route.map (fun b => b.access + b.traversal)).sum = gt := by
  obtain ⟨_, _, route, gt, hroute, _, _, hgt, _⟩ :=
    SearchTree.runVertexOriented_route hI source t sched res hts hrun
  obtain ⟨h, hd, hsol, hg⟩ := runVertexOriented_disc hI hH hts hrun
  have hpath := SearchTree.backtrack_sound (SearchTree.route_backtrack hrun hroute)
  rw [hsol] at hpath
  exact ⟨_, gt, hroute, hgt, pathTo_cost_eq hd hpath gt (hg ▸ hgt)⟩

/-! ### Configured instances -/

/-- `SearchAlgorithm::Dijkstra` runs A* with `weight_factor = Some(Cost::ZERO)`: whatever the
estimate, the heuristic term is `est * 0 = 0` -/
theorem config_zeroH (c : Config α) (hwf : c.wf = some 0) : ZeroH c.inst := by
  intro v st x h
  obtain ⟨_, _, est, _, _, _, _, rfl⟩ := estimate_ok (c := c) h
  rw [hwf]
  exact mul_zero est

/-- `route_fresh_of_heur` for a configured Dijkstra search: any traversal, access (turn delay), cost
and frontier (turn restriction) models -/
theorem config_route_links_fresh (c : Config α) (hadj : c.AdjConsistent) (hwf : c.wf = some 0)
    {source t : Nat} {sched : List Nat} {res : SearchResult α} (hts : t ≠ source)
    (hrun : runVertexOriented c.inst source (some t) sched = .ok res) :
    ∃ route, res.route = some route ∧ route ≠ [] ∧ RouteChain c.inst source res.final t route ∧
      LinksFresh c.inst none route :=
  route_fresh_of_heur (c.inst_wf hadj) ((config_zeroH c hwf).heur (c.inst_wf hadj) true) hts hrun

/-- the links of a configured instance (`LinksFresh`, which also records validity) are the link relation of
`Proofs/RouteSums`: `c.inst.trav` is `edgeTraversal c`, `c.inst.init` the initial state -/
theorem accFrom_of_linksFresh (c : Config α) :
    ∀ (prev : Option (Branch α)) (route : List (Branch α)), LinksFresh c.inst prev route →
      RouteSums.AccFrom c (prev.map (·.edge))
        (match prev with | none => initialState c.feats | some a => a.state) route
  | _, [], _ => trivial
  | none, b :: r, h => ⟨h.1.2, accFrom_of_linksFresh c (some b) r h.2⟩
  | some _, b :: r, h => ⟨h.1.2, accFrom_of_linksFresh c (some b) r h.2⟩

end

/-! ### Non-vacuity: turn restriction and turn delay on a four-vertex instance over ℚ

Edges 0: 0→1 (1), 1: 1→2 (1), 2: 0→2 (5), 3: 1→2 (2), 4: 2→3 (1).  The turn 0→1 is forbidden, the
turn 0→3 costs a delay of ½; validity and cost therefore depend on the previous edge, and the state
(accumulated cost) on the whole path.  Dijkstra from 0 to 3 with the schedule `[0, 1, 2, 3]`
returns the route `[0, 3, 4]` of cost 4½. -/

namespace Example

def src : Nat → Nat
  | 0 => 0 | 1 => 1 | 2 => 0 | 3 => 1 | 4 => 2 | _ => 9
def dst : Nat → Nat
  | 0 => 1 | 1 => 2 | 2 => 2 | 3 => 2 | 4 => 3 | _ => 9
def base : Nat → ℚ
  | 0 => 1 | 1 => 1 | 2 => 5 | 3 => 2 | 4 => 1 | _ => 1
def out : Nat → List Nat
  | 0 => [0, 2] | 1 => [1, 3] | 2 => [4] | _ => []
def delay (last : Option Nat) (e : Nat) : ℚ :=
  if last = some 0 ∧ e = 3 then 1 / 2 else 0

def inst : Inst ℚ where
  incident := out
  keyV := dst
  termV := src
  init := [0]
  valid := fun e _ last => .ok (!(last == some 0 && e == 1))
  trav := fun e last st => .ok (delay last e, base e, [st.headD 0 + delay last e + base e])
  h := fun _ _ => .ok 0
  term := fun _ _ => .ok ()

theorem inst_wf : WF inst where
  incident_term := by
    intro v e h
    change e ∈ out v at h
    change src e = v
    unfold out at h
    split at h <;> simp at h
    · rcases h with rfl | rfl <;> rfl
    · rcases h with rfl | rfl <;> rfl
    · subst h; rfl
  cost_pos := by
    intro e le st ac tc st' h
    simp only [inst, Except.ok.injEq, Prod.mk.injEq] at h
    obtain ⟨rfl, rfl, _⟩ := h
    have h1 : 0 ≤ delay le e := by unfold delay; split <;> norm_num
    have h2 : 0 < base e := by unfold base; split <;> norm_num
    linarith

theorem inst_zeroH : ZeroH inst := by
  intro v st x h
  simp only [inst, Except.ok.injEq] at h
  exact h.symm

/-- a consistent heuristic towards vertex 3 (remaining base cost along the cheapest way) -/
def hv : Nat → ℚ
  | 0 => 3 | 1 => 2 | 2 => 1 | _ => 0

/-- the same instance searched with A* -/
def instA : Inst ℚ := { inst with h := fun v _ => .ok (hv v) }

theorem instA_wf : WF instA := ⟨inst_wf.incident_term, inst_wf.cost_pos⟩

theorem instA_heur : Heur instA true hv where
  eq := by
    intro v st x h
    simp only [instA, if_true, Except.ok.injEq] at h
    exact h.symm
  consistent := by
    intro e le st ac tc st' _ h
    simp only [instA, inst, Except.ok.injEq, Prod.mk.injEq] at h
    obtain ⟨rfl, rfl, _⟩ := h
    have h1 : 0 ≤ delay le e := by unfold delay; split <;> norm_num
    show hv (src e) ≤ delay le e + base e + hv (dst e)
    have h2 : hv (src e) ≤ base e + hv (dst e) := by
      rcases e with _ | _ | _ | _ | _ | e
      · decide +kernel
      · decide +kernel
      · decide +kernel
      · decide +kernel
      · decide +kernel
      · show hv 9 ≤ 1 + hv 9
        norm_num [hv]
    linarith

def routeSummary (r : Except ErrKind (SearchResult ℚ)) :
    Option (List (Nat × List ℚ) × Nat × Option ℚ) :=
  match r with
  | .ok res => res.route.map (fun rt => (rt.map (fun b => (b.edge, b.state)), res.final.iters,
      res.final.g 3))
  | .error _ => none

theorem inst_summary : routeSummary (runVertexOriented inst 0 (some 3) [0, 1, 2, 3]) =
    some ([(0, [1]), (3, [7 / 2]), (4, [9 / 2])], 3, some (9 / 2)) := by decide +kernel

example : routeSummary (runVertexOriented inst 0 (some 3) [0, 1, 2, 3]) =
    some ([(0, [1]), (3, [7 / 2]), (4, [9 / 2])], 3, some (9 / 2)) := inst_summary

/-- the theorems apply: the route's links are fresh, its cost is the target's label, and the
number of expansions is at most the number of vertices -/
example : ∃ res route, runVertexOriented inst 0 (some 3) [0, 1, 2, 3] = .ok res ∧
    res.route = some route ∧ route.map (·.edge) = [0, 3, 4] ∧ LinksFresh inst none route ∧
    (route.map (fun b => b.access + b.traversal)).sum = 9 / 2 ∧ res.final.iters ≤ 4 := by
  have hsum := inst_summary
  cases hrun : runVertexOriented inst 0 (some 3) [0, 1, 2, 3] with
  | error k => rw [hrun] at hsum; simp [routeSummary] at hsum
  | ok res =>
    obtain ⟨route, hr, _, _, hlinks⟩ :=
      route_fresh_of_heur inst_wf (inst_zeroH.heur inst_wf true) (by decide) hrun
    obtain ⟨route', gt, hr', hgt, hcost⟩ :=
      route_cost_eq_label_of_heur inst_wf (inst_zeroH.heur inst_wf true) (by decide) hrun
    rw [hr] at hr'
    cases hr'
    rw [hrun] at hsum
    simp only [routeSummary, hr, Option.map_some, Option.some.injEq, Prod.mk.injEq] at hsum
    obtain ⟨h1, h2, h3⟩ := hsum
    refine ⟨res, route, rfl, hr, ?_, hlinks, ?_, by omega⟩
    · have := congrArg (List.map Prod.fst) h1
      simpa [List.map_map, Function.comp_def] using this
    · rw [hgt] at h3
      cases h3
      exact hcost

/-- A* with the consistent heuristic: the discipline applies as well -/
example : ∃ res route, runVertexOriented instA 0 (some 3) [0, 1, 2, 3] = .ok res ∧
    res.route = some route ∧ LinksFresh instA none route ∧ res.final.iters ≤ 4 := by
  have hsum : routeSummary (runVertexOriented instA 0 (some 3) [0, 1, 2, 3]) =
      some ([(0, [1]), (3, [7 / 2]), (4, [9 / 2])], 3, some (9 / 2)) := by decide +kernel
  cases hrun : runVertexOriented instA 0 (some 3) [0, 1, 2, 3] with
  | error k => rw [hrun] at hsum; simp [routeSummary] at hsum
  | ok res =>
    obtain ⟨route, hr, _, _, hlinks⟩ :=
      route_fresh_of_heur instA_wf instA_heur (by decide) hrun
    rw [hrun] at hsum
    simp only [routeSummary, hr, Option.map_some, Option.some.injEq, Prod.mk.injEq] at hsum
    exact ⟨res, route, rfl, hr, hlinks, by omega⟩

end Example

end SearchDiscipline
end Compass
