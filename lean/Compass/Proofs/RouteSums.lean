/-
Closed forms of the state accumulation along a route (C03).

The route is any `List (Branch α)` satisfying the *link relation* `Accumulates` (the first element is
`edgeTraversal` of its edge from the initial state with no previous edge, every further element
`edgeTraversal` of its edge from the state and edge of the element before it; `C03.dijkstra_route_links`
shows it of the route a Dijkstra run returns); nothing here depends on the search algorithm.  The file
turns that step-by-step relation into the sums the property states (`route_distance_is_sum`,
`route_time_is_sum`, `other_slots_unchanged`), the signs of their terms and monotonicity, the summary, and
the same sums with the values of the run written out as lists; it closes with "any chain of successful
traversals accumulates" (`chain_accFrom`: not only search routes) and a concrete instance (`speedExample`).

How: every operation of the model on a state adds an amount to each slot (`Adds`, `Proofs/Instance.lean`:
`add_distance` and `add_time` at their feature's slot, `slotDelta (distSlot fs name) …`), hence access,
traversal, one route step `stepDelta`, and by induction a whole prefix of the route; distance, time and the
untouched slots are that one statement read at the slot in question (`stepDelta_dist`, `stepDelta_time`,
`stepDelta_other`).

No term of a sum is a default: on a route every edge, every `create_time` and every delay lookup answered
(`route_edges_defined`, `route_times_defined`, `route_delays_defined`).  So where the written-out forms build
a list of the run's values with `getD 0` the `0` never shows, and where a term definition defaults to `0` a
unit conversion of `0` is `0` as well.
-/
import Compass.Proofs.Instance
import Compass.Proofs.Units

namespace Compass
namespace RouteSums

set_option linter.unusedSectionVars false

variable {α : Type} [Field α] [LinearOrder α] [IsStrictOrderedRing α] [Lit α] [LawfulLit α]

/-! ### The link relation -/

/-- the link relation from a given previous edge and state: each element is `edgeTraversal` of its
edge from the state and edge before it -/
def AccFrom (c : Config α) : Option Nat → List α → List (Branch α) → Prop
  | _, _, [] => True
  | last, st, b :: r =>
    edgeTraversal c b.edge last st = .ok (b.access, b.traversal, b.state) ∧
      AccFrom c (some b.edge) b.state r

/-- first element = `edgeTraversal c e₁ none (initialState c.feats)`, each next element =
`edgeTraversal c e_{i+1} (some e_i) state_i` -/
def Accumulates (c : Config α) (route : List (Branch α)) : Prop :=
  AccFrom c none (initialState c.feats) route

/-- the link relation from its index form, in which `C03.route_accumulates_partial` states it of the
Dijkstra route; the converse is `AccFrom.head_getElem` with `AccFrom.getElem` -/
theorem accFrom_of_index (c : Config α) :
    ∀ (last : Option Nat) (st : List α) (route : List (Branch α)),
      (∀ b, route.head? = some b →
        edgeTraversal c b.edge last st = .ok (b.access, b.traversal, b.state)) →
      (∀ i (hi : i + 1 < route.length),
        edgeTraversal c route[i + 1].edge (some route[i].edge) route[i].state =
          .ok (route[i + 1].access, route[i + 1].traversal, route[i + 1].state)) →
      AccFrom c last st route
  | _, _, [], _, _ => trivial
  | _, _, b :: r, h0, hs => by
    refine ⟨h0 b rfl, accFrom_of_index c (some b.edge) b.state r ?_ ?_⟩
    · intro b' hb'
      cases r with
      | nil => cases hb'
      | cons x xs =>
        cases hb'
        exact hs 0 (Nat.succ_lt_succ (Nat.succ_pos _))
    · intro i hi
      exact hs (i + 1) (Nat.succ_lt_succ hi)

theorem AccFrom.getElem {c : Config α} :
    ∀ {last : Option Nat} {st : List α} {route : List (Branch α)}, AccFrom c last st route →
      ∀ i (hi : i + 1 < route.length),
        edgeTraversal c route[i + 1].edge (some (route[i]'(Nat.lt_of_succ_lt hi)).edge)
            (route[i]'(Nat.lt_of_succ_lt hi)).state =
          .ok (route[i + 1].access, route[i + 1].traversal, route[i + 1].state)
  | _, _, [], _, i, hi => (Nat.not_lt_zero _ hi).elim
  | _, _, [_], _, i, hi => (Nat.not_lt_zero _ (Nat.lt_of_succ_lt_succ hi)).elim
  | _, _, a :: b :: r, h, i, hi => by
    cases i with
    | zero => exact h.2.1
    | succ i => exact AccFrom.getElem (route := b :: r) h.2 i (Nat.lt_of_succ_lt_succ hi)

theorem AccFrom.head_getElem {c : Config α} {last : Option Nat} {st : List α} {route : List (Branch α)}
    (h : AccFrom c last st route) (hr : 0 < route.length) :
    edgeTraversal c route[0].edge last st = .ok (route[0].access, route[0].traversal, route[0].state) := by
  cases route with
  | nil => cases hr
  | cons b r => exact h.1

/-! ### Slots and the terms of the sums -/

/-- the "distance" feature sits at index `i` and is a distance in unit `fu` -/
structure DistSlot (fs : List (Feat α)) (i : Nat) (fu : DistanceUnit) : Prop where
  idx : featIndex fs "distance" = some i
  kind : (fs[i]?).map (·.kind) = some (FeatKind.dist fu)

/-- the "time" feature sits at index `t` and is a time in unit `ftu` -/
structure TimeSlot (fs : List (Feat α)) (t : Nat) (ftu : TimeUnit) : Prop where
  idx : featIndex fs "time" = some t
  kind : (fs[t]?).map (·.kind) = some (FeatKind.time ftu)

/-- the distance unit a traversal model computes in -/
def travDu : TravModel α → DistanceUnit
  | .distance du => du
  | .speed _ du _ _ _ => du

theorem travDu_distance (du : DistanceUnit) : travDu (TravModel.distance du : TravModel α) = du := rfl
theorem travDu_speed (su : SpeedUnit) (du : DistanceUnit) (tu : TimeUnit) (ms : α) (table : List α) :
    travDu (TravModel.speed su du tu ms table) = du := rfl

/-- length of edge `e` (stored in the base unit), converted to the model's unit and then to the
feature's unit `fu`: what one traversal of `e` adds to the distance slot -/
def distTerm (m : TravModel α) (edges : List (EdgeRec α)) (fu : DistanceUnit) (e : Nat) : α :=
  match edges[e]? with
  | none => 0
  | some er => (travDu m).convert fu (baseDistanceUnit.convert (travDu m) er.dist)

theorem distTerm_eq {m : TravModel α} {edges : List (EdgeRec α)} {e : Nat} {er : EdgeRec α}
    (her : edges[e]? = some er) (fu : DistanceUnit) :
    distTerm m edges fu e = (travDu m).convert fu (baseDistanceUnit.convert (travDu m) er.dist) := by
  simp only [distTerm, her]

/-- the term as the conversion of one number, `0` standing in for the length of an edge that does not
exist (a conversion of `0` is `0`); likewise `timeConvert_getD` for the time and delay terms -/
theorem distTerm_getD (m : TravModel α) (edges : List (EdgeRec α)) (fu : DistanceUnit) (e : Nat) :
    distTerm m edges fu e =
      (travDu m).convert fu (baseDistanceUnit.convert (travDu m) (((edges[e]?).map (·.dist)).getD 0)) := by
  unfold distTerm
  cases edges[e]? with
  | none => simp [DistanceUnit.convert, Factor.apply_eq]
  | some er => rfl

/-- the value `create_time` returns for edge `e` under the speed-table model: length (in the model's
distance unit) over the edge's table speed, in the model's time unit `tu` -/
def speedTime? (edges : List (EdgeRec α)) (su : SpeedUnit) (du : DistanceUnit) (tu : TimeUnit)
    (table : List α) (e : Nat) : Option α :=
  match edges[e]? with
  | none => none
  | some er =>
    match table[e]? with
    | none => none
    | some sp => createTime sp su (baseDistanceUnit.convert du er.dist) du tu

theorem speedTime?_eq {edges : List (EdgeRec α)} {su : SpeedUnit} {du : DistanceUnit} {tu : TimeUnit}
    {table : List α} {e : Nat} {er : EdgeRec α} {sp : α} (her : edges[e]? = some er)
    (hsp : table[e]? = some sp) :
    speedTime? edges su du tu table e =
      createTime sp su (baseDistanceUnit.convert du er.dist) du tu := by
  simp only [speedTime?, her, hsp]

theorem speedTime?_some {edges : List (EdgeRec α)} {su : SpeedUnit} {du : DistanceUnit} {tu : TimeUnit}
    {table : List α} {e : Nat} {tv : α} (h : speedTime? edges su du tu table e = some tv) :
    ∃ er sp, edges[e]? = some er ∧ table[e]? = some sp ∧
      createTime sp su (baseDistanceUnit.convert du er.dist) du tu = some tv := by
  unfold speedTime? at h
  split at h
  · cases h
  · rename_i er her
    split at h
    · cases h
    · rename_i sp hsp
      exact ⟨er, sp, her, hsp, h⟩

/-- `C09.createTime_eq_some`: what `create_time` returns is length over speed, for positive speed `s` (unit
`su`) and length `d` (unit `du`) exactly `d / s` times the combined unit factor `C09.timeK su du tu` -/
theorem createTime_some_eq {s : α} {su : SpeedUnit} {d : α} {du : DistanceUnit} {tu : TimeUnit} {tv : α}
    (h : createTime s su d du tu = some tv) :
    0 < s ∧ 0 < d ∧ tv = d / s * (C09.timeK su du tu : α) :=
  C09.createTime_eq_some h

theorem timeConvert_getD (u v : TimeUnit) (o : Option α) :
    (match o with | none => 0 | some t => u.convert v t) = u.convert v (o.getD 0) := by
  cases o with
  | none => simp [TimeUnit.convert, Factor.apply_eq]
  | some t => rfl

/-- what one traversal of `e` adds to the time slot (feature unit `ftu`) -/
def timeTerm (m : TravModel α) (edges : List (EdgeRec α)) (ftu : TimeUnit) (e : Nat) : α :=
  match m with
  | .distance _ => 0
  | .speed su du tu _ table =>
    match speedTime? edges su du tu table e with
    | none => 0
    | some t => tu.convert ftu t

theorem timeTerm_distance (du : DistanceUnit) (edges : List (EdgeRec α)) (ftu : TimeUnit) (e : Nat) :
    timeTerm (.distance du) edges ftu e = 0 := rfl

theorem timeTerm_speed_eq {edges : List (EdgeRec α)} {su : SpeedUnit} {du : DistanceUnit}
    {tu : TimeUnit} {ms : α} {table : List α} {e : Nat} {t : α}
    (h : speedTime? edges su du tu table e = some t) (ftu : TimeUnit) :
    timeTerm (.speed su du tu ms table) edges ftu e = tu.convert ftu t := by
  simp only [timeTerm, h]

/-- what the access model adds to the time slot for the turn `pe → ne` (feature unit `ftu`) -/
def delayTerm (m : AccessModel α) (ftu : TimeUnit) (pe ne : Nat) : α :=
  match m with
  | .noAccess => 0
  | .turnDelay dtu headings delays =>
    match turnDelayOf headings delays pe ne with
    | none => 0
    | some d => dtu.convert ftu d

theorem delayTerm_turnDelay_eq {dtu : TimeUnit} {headings : List (Int × Option Int)}
    {delays : List (Option α)} {pe ne : Nat} {d : α}
    (h : turnDelayOf headings delays pe ne = some d) (ftu : TimeUnit) :
    delayTerm (.turnDelay dtu headings delays) ftu pe ne = dtu.convert ftu d := by
  simp only [delayTerm, h]

theorem delayTerm_noAccess (ftu : TimeUnit) (pe ne : Nat) :
    delayTerm (AccessModel.noAccess : AccessModel α) ftu pe ne = 0 := rfl

/-- the pair handed to the access model for the step "previous route element `l`, this element `e`":
(l, e) in a forward search, (e, l) in a reverse search (`reverse_traversal`) -/
def prevEdge (c : Config α) (l e : Nat) : Nat := if c.reverse then e else l
/-- the other member of that pair -/
def nextEdge (c : Config α) (l e : Nat) : Nat := if c.reverse then l else e

/-- delay term of the turn from route element `l` to route element `e` -/
def turnDelayTerm (c : Config α) (ftu : TimeUnit) (l e : Nat) : α :=
  delayTerm c.access ftu (prevEdge c l e) (nextEdge c l e)

theorem prevEdge_forward {c : Config α} (h : c.reverse = false) (l e : Nat) : prevEdge c l e = l := by
  simp [prevEdge, h]
theorem nextEdge_forward {c : Config α} (h : c.reverse = false) (l e : Nat) : nextEdge c l e = e := by
  simp [nextEdge, h]
theorem prevEdge_reverse {c : Config α} (h : c.reverse = true) (l e : Nat) : prevEdge c l e = e := by
  simp [prevEdge, h]
theorem nextEdge_reverse {c : Config α} (h : c.reverse = true) (l e : Nat) : nextEdge c l e = l := by
  simp [nextEdge, h]

/-- a quantity `g l e` of the turn from `l` to `e` as a quantity of the step to `e` after `last`:
nothing at a step without a previous edge -/
def perTurn (g : Nat → Nat → α) : Option Nat → Nat → α
  | none, _ => 0
  | some l, e => g l e

/-! ### One access step, one traversal step -/

theorem access_adds {m : AccessModel α} {fs : List (Feat α)} {pe ne : Nat} {st st1 : List α}
    (h : m.access fs pe ne st = some st1) :
    Adds st st1 (slotDelta (timeSlot fs "time") fun ftu => delayTerm m ftu pe ne) := by
  have h' := AccessModel.access_ok h
  cases m with
  | noAccess =>
    cases h'
    exact (Adds.zero st).congr fun j => (slotDelta_zero _ j).symm
  | turnDelay dtu headings delays =>
    obtain ⟨d, hd, ha⟩ := h'
    simp only [delayTerm_turnDelay_eq hd]
    exact addTime_adds ha

theorem traverse_adds {m : TravModel α} {fs : List (Feat α)} {edges : List (EdgeRec α)} {e : Nat}
    {st st' : List α} (h : m.traverse fs edges e st = some st') :
    Adds st st' (fun j => slotDelta (timeSlot fs "time") (fun ftu => timeTerm m edges ftu e) j +
      slotDelta (distSlot fs "distance") (fun fu => distTerm m edges fu e) j) := by
  obtain ⟨er, her, h'⟩ := TravModel.traverse_ok h
  cases m with
  | distance du =>
    simp only [timeTerm_distance, slotDelta_zero, zero_add, distTerm_eq her, travDu_distance]
    exact addDistance_adds h'
  | speed su du tu ms table =>
    obtain ⟨sp, tv, st1, hsp, htv, h1, h2⟩ := h'
    simp only [timeTerm_speed_eq ((speedTime?_eq her hsp).trans htv), distTerm_eq her, travDu_speed]
    exact (addTime_adds h1).trans (addDistance_adds h2)

/-! ### One route step -/

/-- the states of a successful `edgeTraversal`, in terms of the two models: the access model on the
pair (`prevEdge`, `nextEdge`) — skipped without a previous edge —, then the traversal model -/
theorem edgeTraversal_states {c : Config α} {e : Nat} {last : Option Nat} {st : List α} {ac tc : α}
    {st' : List α} (h : edgeTraversal c e last st = .ok (ac, tc, st')) :
    ∃ st1, (match last with
            | none => st1 = st
            | some l => c.access.access c.feats (prevEdge c l e) (nextEdge c l e) st = some st1) ∧
      c.trav.traverse c.feats c.edges e st1 = some st' := by
  obtain ⟨_, st1, _, _, hea, htr, _⟩ := edgeTraversal_ok h
  refine ⟨st1, ?_, htr⟩
  have hok := edgeAccess_ok hea
  cases last with
  | none => exact hok.2
  | some l =>
    obtain ⟨_, _, hst1, _⟩ := hok
    exact hst1

/-- what the route step to `e` after `last` adds to slot `j`: the delay of the turn taken and the
traversal time at the "time" slot, the edge's length at the "distance" slot, nothing elsewhere -/
def stepDelta (c : Config α) (last : Option Nat) (e : Nat) (j : Nat) : α :=
  slotDelta (timeSlot c.feats "time") (fun ftu => perTurn (turnDelayTerm c ftu) last e) j +
    (slotDelta (timeSlot c.feats "time") (fun ftu => timeTerm c.trav c.edges ftu e) j +
      slotDelta (distSlot c.feats "distance") (fun fu => distTerm c.trav c.edges fu e) j)

theorem step_adds {c : Config α} {e : Nat} {last : Option Nat} {st : List α} {ac tc : α}
    {st' : List α} (h : edgeTraversal c e last st = .ok (ac, tc, st')) :
    Adds st st' (stepDelta c last e) := by
  obtain ⟨st1, h1, h2⟩ := edgeTraversal_states h
  have hacc : Adds st st1
      (slotDelta (timeSlot c.feats "time") fun ftu => perTurn (turnDelayTerm c ftu) last e) := by
    cases last with
    | none => subst h1; exact (Adds.zero _).congr fun j => (slotDelta_zero _ j).symm
    | some l => exact access_adds h1
  exact hacc.trans (traverse_adds h2)

/-- at the distance slot the two time amounts vanish: `slotDelta_timeSlot` asks for a feature of kind `time`
at the slot, and `hs.kind` says the kind there is `dist` (and symmetrically in `stepDelta_time`) -/
theorem stepDelta_dist {c : Config α} {i : Nat} {fu : DistanceUnit} (hs : DistSlot c.feats i fu)
    (last : Option Nat) (e : Nat) : stepDelta c last e i = distTerm c.trav c.edges fu e := by
  simp only [stepDelta, slotDelta_timeSlot, slotDelta_distSlot, hs.idx, hs.kind, ite_self, if_true,
    zero_add]

theorem stepDelta_time {c : Config α} {t : Nat} {ftu : TimeUnit} (hs : TimeSlot c.feats t ftu)
    (last : Option Nat) (e : Nat) :
    stepDelta c last e t = timeTerm c.trav c.edges ftu e + perTurn (turnDelayTerm c ftu) last e := by
  simp only [stepDelta, slotDelta_timeSlot, slotDelta_distSlot, hs.idx, hs.kind, ite_self, if_true,
    add_zero]
  -- the step runs the access model before the traversal model; the closed forms list the traversal time first
  exact add_comm _ _

theorem stepDelta_other {c : Config α} {j : Nat} (hjd : featIndex c.feats "distance" ≠ some j)
    (hjt : featIndex c.feats "time" ≠ some j) (last : Option Nat) (e : Nat) :
    stepDelta c last e j = 0 := by
  simp only [stepDelta, slotDelta_timeSlot, slotDelta_distSlot, if_neg hjt, if_neg hjd, add_zero]

/-! ### Along a route every lookup answered -/

theorem AccFrom.traverse_at {c : Config α} {last : Option Nat} {st : List α} {route : List (Branch α)}
    (h : AccFrom c last st route) (k : Nat) (hk : k < route.length) :
    ∃ st1, c.trav.traverse c.feats c.edges route[k].edge st1 = some route[k].state := by
  cases k with
  | zero => exact (edgeTraversal_states (h.head_getElem hk)).imp fun _ h => h.2
  | succ k => exact (edgeTraversal_states (h.getElem k hk)).imp fun _ h => h.2

theorem route_edges_defined {c : Config α} {last : Option Nat} {st : List α}
    {route : List (Branch α)} (hacc : AccFrom c last st route) :
    ∀ k (hk : k < route.length), ∃ er, c.edges[route[k].edge]? = some er := by
  intro k hk
  obtain ⟨_, h⟩ := hacc.traverse_at k hk
  exact (TravModel.traverse_ok h).imp fun _ h => h.1

theorem route_times_defined {c : Config α} {last : Option Nat} {st : List α}
    {route : List (Branch α)} (hacc : AccFrom c last st route)
    {su : SpeedUnit} {du : DistanceUnit} {tu : TimeUnit} {ms : α} {table : List α}
    (htrav : c.trav = .speed su du tu ms table) :
    ∀ k (hk : k < route.length), ∃ er sp tv, c.edges[route[k].edge]? = some er ∧
      table[route[k].edge]? = some sp ∧
      createTime sp su (baseDistanceUnit.convert du er.dist) du tu = some tv := by
  intro k hk
  obtain ⟨_, h2⟩ := hacc.traverse_at k hk
  obtain ⟨er, her, h3⟩ := TravModel.traverse_ok h2
  rw [htrav] at h3
  obtain ⟨sp, tv, _, hsp, htv, _⟩ := h3
  exact ⟨er, sp, tv, her, hsp, htv⟩

theorem route_delays_defined {c : Config α} {last : Option Nat} {st : List α}
    {route : List (Branch α)} (hacc : AccFrom c last st route)
    {dtu : TimeUnit} {headings : List (Int × Option Int)} {delays : List (Option α)}
    (hac : c.access = .turnDelay dtu headings delays) :
    ∀ k (hk : k + 1 < route.length), ∃ d,
      turnDelayOf headings delays (prevEdge c (route[k]'(Nat.lt_of_succ_lt hk)).edge route[k + 1].edge)
        (nextEdge c (route[k]'(Nat.lt_of_succ_lt hk)).edge route[k + 1].edge) = some d := by
  intro k hk
  obtain ⟨_, h1, _⟩ := edgeTraversal_states (hacc.getElem k hk)
  have h2 := AccessModel.access_ok h1
  rw [hac] at h2
  exact h2.imp fun _ h => h.1

/-! ### Sums along the route -/

/-- sum of a per-step quantity along a list of edges, starting after `last` -/
def stepSum (d : Option Nat → Nat → α) : Option Nat → List Nat → α
  | _, [] => 0
  | last, e :: r => d last e + stepSum d (some e) r

/-- the edges of the first `k + 1` route elements -/
def prefixEdges (route : List (Branch α)) (k : Nat) : List Nat := (route.take (k + 1)).map (·.edge)

/-- consecutive pairs of a list -/
def pairs (es : List Nat) : List (Nat × Nat) := es.zip es.tail

/-- the state of element `k` is the starting state plus, slot by slot, the sum of the steps -/
theorem accFrom_adds {c : Config α} :
    ∀ (route : List (Branch α)) (last : Option Nat) (st : List α), AccFrom c last st route →
      ∀ k (hk : k < route.length),
        Adds st route[k].state (fun j => stepSum (fun l e => stepDelta c l e j) last (prefixEdges route k))
  | [], _, _, _, k, hk => (Nat.not_lt_zero _ hk).elim
  | b :: r, last, st, h, k, hk => by
    have hb := step_adds h.1
    -- `prefixEdges (b :: r) 0 = [b.edge]`, `prefixEdges (b :: r) (k + 1) = b.edge :: prefixEdges r k`, and
    -- `stepSum` over a cons is the head's amount plus the sum after it: both sides compute to the same sum
    cases k with
    | zero => exact (hb.trans (Adds.zero _)).congr fun _ => rfl
    | succ k =>
      exact (hb.trans (accFrom_adds r (some b.edge) b.state h.2 k (Nat.lt_of_succ_lt_succ hk))).congr
        fun _ => rfl

theorem stepSum_edges (f : Nat → α) :
    ∀ (last : Option Nat) (es : List Nat), stepSum (fun _ e => f e) last es = (es.map f).sum
  | _, [] => rfl
  | _, e :: r => by simp [stepSum, stepSum_edges f (some e) r]

theorem stepSum_add (d1 d2 : Option Nat → Nat → α) :
    ∀ (last : Option Nat) (es : List Nat),
      stepSum (fun l e => d1 l e + d2 l e) last es = stepSum d1 last es + stepSum d2 last es
  | _, [] => by simp [stepSum]
  | _, e :: r => by
    simp only [stepSum, stepSum_add d1 d2 (some e) r]
    ring

theorem pairs_cons_cons (a b : Nat) (r : List Nat) : pairs (a :: b :: r) = (a, b) :: pairs (b :: r) := by
  simp [pairs]

theorem stepSum_pairs (g : Nat → Nat → α) (last : Option Nat) (es : List Nat) :
    stepSum (perTurn g) last es = ((pairs (last.toList ++ es)).map (fun p => g p.1 p.2)).sum := by
  induction es generalizing last with
  | nil =>
    cases last with
    | none => rfl
    | some l => rfl
  | cons e r ih =>
    have := ih (some e)
    simp only [Option.toList_some, List.singleton_append] at this
    cases last with
    | none => simp only [stepSum, perTurn, this, Option.toList_none, List.nil_append, zero_add]
    | some l =>
      simp only [stepSum, perTurn, this, Option.toList_some, List.singleton_append, pairs_cons_cons,
        List.map_cons, List.sum_cons]

/-! ### Closed forms -/

theorem init_slot (fs : List (Feat α)) (j : Nat) :
    (initialState fs)[j]? = (fs[j]?).map (·.init) := by
  simp [initialState]

/-- every slot of every element: the declared initial value plus the sum of what the steps added there; the
closed forms below are this equation with `stepDelta` evaluated at the slot -/
theorem route_slot {c : Config α} {route : List (Branch α)} (hacc : Accumulates c route) (j k : Nat)
    (hk : k < route.length) :
    route[k].state[j]? = (c.feats[j]?).map fun f =>
      f.init + stepSum (fun l e => stepDelta c l e j) none (prefixEdges route k) := by
  rw [accFrom_adds route none _ hacc k hk j, init_slot, Option.map_map]
  rfl

/-- **distance is the sum of the edge lengths**, expressed in the feature's unit: for every
traversal model and every access model, the distance slot of route element `k` is the declared
initial value plus the sum over the first `k + 1` edges of their length converted (base unit → the
model's unit → the feature's unit). -/
theorem route_distance_is_sum {c : Config α} {route : List (Branch α)} (hacc : Accumulates c route)
    {i : Nat} {fu : DistanceUnit} (hs : DistSlot c.feats i fu) :
    ∃ f, c.feats[i]? = some f ∧
      ∀ k (hk : k < route.length),
        route[k].state[i]? =
          some (f.init + ((prefixEdges route k).map (distTerm c.trav c.edges fu)).sum) := by
  obtain ⟨f, hf, _⟩ := Option.map_eq_some_iff.1 hs.kind
  refine ⟨f, hf, fun k hk => ?_⟩
  simp only [route_slot hacc, hf, stepDelta_dist hs, stepSum_edges, Option.map_some]

/-- **time is the sum of the traversal times plus the delay of each turn taken, each once**: for
every traversal and access model, the time slot of route element `k` is the declared initial value
plus the sum over the first `k + 1` edges of the time `create_time` returned for them (speed-table
model; nothing under the distance model), converted from the model's time unit to the feature's
unit, plus the sum over the `k` consecutive pairs of those edges of the delay the table holds for
the turn, converted from the table's unit to the feature's unit. -/
theorem route_time_is_sum {c : Config α} {route : List (Branch α)} (hacc : Accumulates c route)
    {t : Nat} {ftu : TimeUnit} (hs : TimeSlot c.feats t ftu) :
    ∃ f, c.feats[t]? = some f ∧
      ∀ k (hk : k < route.length),
        route[k].state[t]? =
          some (f.init + ((prefixEdges route k).map (timeTerm c.trav c.edges ftu)).sum
            + ((pairs (prefixEdges route k)).map (fun p => turnDelayTerm c ftu p.1 p.2)).sum) := by
  obtain ⟨f, hf, _⟩ := Option.map_eq_some_iff.1 hs.kind
  refine ⟨f, hf, fun k hk => ?_⟩
  simp only [route_slot hacc, hf, stepDelta_time hs, Option.map_some]
  rw [stepSum_add, stepSum_edges, stepSum_pairs, add_assoc, Option.toList_none, List.nil_append]

/-- **every slot that is neither the distance nor the time slot keeps its initial value** -/
theorem other_slots_unchanged {c : Config α} {route : List (Branch α)} (hacc : Accumulates c route)
    {j : Nat} (hjd : featIndex c.feats "distance" ≠ some j)
    (hjt : featIndex c.feats "time" ≠ some j) :
    ∀ k (hk : k < route.length), route[k].state[j]? = (c.feats[j]?).map (·.init) := by
  intro k hk
  simp only [route_slot hacc, stepDelta_other hjd hjt, stepSum_edges (fun _ => (0 : α)),
    List.sum_map_zero, add_zero]

/-! ### Signs of the terms -/

theorem distTerm_nonneg (m : TravModel α) {edges : List (EdgeRec α)} (fu : DistanceUnit) {e : Nat}
    (hlen : ∀ er, edges[e]? = some er → 0 ≤ er.dist) : 0 ≤ distTerm m edges fu e := by
  unfold distTerm
  split
  · exact le_refl _
  · rename_i er her
    exact Factor.apply_nonneg (C09.distance_wf _ _) (Factor.apply_nonneg (C09.distance_wf _ _) (hlen er her))

/-- where `create_time` answered the time term is positive: it only answers for positive speed and length -/
theorem timeTerm_speed_pos {edges : List (EdgeRec α)} {su : SpeedUnit} {du : DistanceUnit}
    {tu : TimeUnit} {ms : α} {table : List α} {e : Nat} {tv : α}
    (h : speedTime? edges su du tu table e = some tv) (ftu : TimeUnit) :
    0 < timeTerm (.speed su du tu ms table) edges ftu e := by
  obtain ⟨er, sp, _, _, hct⟩ := speedTime?_some h
  rw [timeTerm_speed_eq h]
  exact Factor.apply_pos (C09.time_wf _ _) (C09.createTime_pos hct)

theorem timeTerm_nonneg (m : TravModel α) (edges : List (EdgeRec α)) (ftu : TimeUnit) (e : Nat) :
    0 ≤ timeTerm m edges ftu e := by
  cases m with
  | distance du => exact le_refl _
  | speed su du tu ms table =>
    cases h : speedTime? edges su du tu table e with
    | none => exact le_of_eq (by simp only [timeTerm, h])
    | some tv => exact (timeTerm_speed_pos h ftu).le

/-- the configured turn delays are non-negative -/
def DelaysNonneg : AccessModel α → Prop
  | .noAccess => True
  | .turnDelay _ _ delays => ∀ d, some d ∈ delays → 0 ≤ d

theorem turnDelayOf_mem {headings : List (Int × Option Int)} {delays : List (Option α)} {pe ne : Nat}
    {d : α} (h : turnDelayOf headings delays pe ne = some d) : some d ∈ delays :=
  let ⟨_, _, _, _, _, _, hd⟩ := turnDelayOf_eq_some_iff.1 h
  List.mem_of_getElem? hd

theorem delayTerm_nonneg {m : AccessModel α} (hm : DelaysNonneg m) (ftu : TimeUnit) (pe ne : Nat) :
    0 ≤ delayTerm m ftu pe ne := by
  unfold delayTerm
  split
  · exact le_refl _
  · split
    · exact le_refl _
    · rename_i d hd
      exact Factor.apply_nonneg (C09.time_wf _ _) (hm d (turnDelayOf_mem hd))

theorem stepDelta_dist_nonneg {c : Config α} {i : Nat} {fu : DistanceUnit} (hs : DistSlot c.feats i fu)
    (hlen : ∀ er ∈ c.edges, 0 ≤ er.dist) (last : Option Nat) (e : Nat) : 0 ≤ stepDelta c last e i := by
  rw [stepDelta_dist hs]
  exact distTerm_nonneg _ _ (fun er her => hlen er (List.mem_of_getElem? her))

theorem stepDelta_time_nonneg {c : Config α} {t : Nat} {ftu : TimeUnit} (hs : TimeSlot c.feats t ftu)
    (hdel : DelaysNonneg c.access) (last : Option Nat) (e : Nat) : 0 ≤ stepDelta c last e t := by
  rw [stepDelta_time hs]
  refine add_nonneg (timeTerm_nonneg _ _ _ _) ?_
  cases last with
  | none => exact le_refl _
  | some l => exact delayTerm_nonneg hdel ftu _ _

/-! ### Monotonicity -/

/-- slot `j` never decreases from one route element to the next -/
def SlotMono (route : List (Branch α)) (j : Nat) : Prop :=
  ∀ k (hk : k + 1 < route.length) x y, (route[k]'(Nat.lt_of_succ_lt hk)).state[j]? = some x →
    route[k + 1].state[j]? = some y → x ≤ y

/-- slot `j` of the first route element is not below its initial value -/
def InitMono (c : Config α) (route : List (Branch α)) (j : Nat) : Prop :=
  ∀ (hr : 0 < route.length) x y, (initialState c.feats)[j]? = some x →
    route[0].state[j]? = some y → x ≤ y

/-- a slot to which every step adds a non-negative amount never decreases: not from the initial
state to the first element, not from any element to the next -/
theorem slot_monotone {c : Config α} {j : Nat} (hd : ∀ last e, 0 ≤ stepDelta c last e j)
    {route : List (Branch α)} (hacc : Accumulates c route) :
    InitMono c route j ∧ SlotMono route j := by
  exact ⟨fun hr x y hx hy => (step_adds (hacc.head_getElem hr)).le (hd _ _) hx hy,
    fun k hk x y hx hy => (step_adds (hacc.getElem k hk)).le (hd _ _) hx hy⟩

theorem route_distance_monotone {c : Config α} {route : List (Branch α)} (hacc : Accumulates c route)
    {i : Nat} {fu : DistanceUnit} (hs : DistSlot c.feats i fu)
    (hlen : ∀ er ∈ c.edges, 0 ≤ er.dist) :
    InitMono c route i ∧ SlotMono route i :=
  slot_monotone (stepDelta_dist_nonneg hs hlen) hacc

/-- with non-negative configured delays the time slot never decreases (no premise on speeds or lengths:
`timeTerm_nonneg`) -/
theorem route_time_monotone {c : Config α} {route : List (Branch α)} (hacc : Accumulates c route)
    {t : Nat} {ftu : TimeUnit} (hs : TimeSlot c.feats t ftu) (hdel : DelaysNonneg c.access) :
    InitMono c route t ∧ SlotMono route t :=
  slot_monotone (stepDelta_time_nonneg hs hdel) hacc

/-- under the speed-table model the time slot strictly increases from every element to the next -/
theorem route_time_strict {c : Config α} {route : List (Branch α)} (hacc : Accumulates c route)
    {t : Nat} {ftu : TimeUnit} (hs : TimeSlot c.feats t ftu) (hdel : DelaysNonneg c.access)
    {su : SpeedUnit} {du : DistanceUnit} {tu : TimeUnit} {ms : α} {table : List α}
    (htrav : c.trav = .speed su du tu ms table) :
    ∀ k (hk : k + 1 < route.length) x y, route[k].state[t]? = some x →
        route[k + 1].state[t]? = some y → x < y := by
  intro k hk x y hx hy
  refine (step_adds (hacc.getElem k hk)).lt ?_ hx hy
  rw [stepDelta_time hs]
  obtain ⟨er, sp, tv, her, hsp, hct⟩ := route_times_defined hacc htrav (k + 1) hk
  rw [htrav]
  exact add_pos_of_pos_of_nonneg (timeTerm_speed_pos ((speedTime?_eq her hsp).trans hct) ftu)
    (delayTerm_nonneg hdel ftu _ _)

theorem slot_mono_le {route : List (Branch α)} {j : Nat}
    (hdef : ∀ k (hk : k < route.length), ∃ x, route[k].state[j]? = some x)
    (hstep : SlotMono route j) :
    ∀ (d k : Nat) (hk' : k + d < route.length) (x y : α),
      (route[k]'(Nat.lt_of_le_of_lt (Nat.le_add_right k d) hk')).state[j]? = some x →
        route[k + d].state[j]? = some y → x ≤ y
  | 0, k, hk', x, y, hx, hy => by
    simp only [Nat.add_zero] at hy
    rw [hx] at hy
    cases hy
    exact le_refl _
  | d + 1, k, hk', x, y, hx, hy => by
    obtain ⟨z, hz⟩ := hdef (k + d) (by omega)
    exact le_trans (slot_mono_le hdef hstep d k (by omega) x z hx hz)
      (hstep (k + d) (by omega) z y hz hy)

/-- … nor between any two elements; the slot is read at every element as soon as it is read at one (`route_slot`) -/
theorem slot_monotone_le {c : Config α} {j : Nat} (hd : ∀ last e, 0 ≤ stepDelta c last e j)
    {route : List (Branch α)} (hacc : Accumulates c route) :
    ∀ (k k' : Nat) (hkk : k ≤ k') (hk' : k' < route.length) (x y : α),
      (route[k]'(by omega)).state[j]? = some x → route[k'].state[j]? = some y → x ≤ y := by
  intro k k' hkk hk' x y hx hy
  obtain ⟨d, rfl⟩ := Nat.exists_eq_add_of_le hkk
  obtain ⟨f, hf, _⟩ := Option.map_eq_some_iff.1 ((route_slot hacc j k (by omega)).symm.trans hx)
  exact slot_mono_le (fun m hm => ⟨_, by rw [route_slot hacc j m hm, hf]; rfl⟩)
    (slot_monotone hd hacc).2 d k hk' x y hx hy

theorem route_distance_monotone_le {c : Config α} {route : List (Branch α)}
    (hacc : Accumulates c route) {i : Nat} {fu : DistanceUnit} (hs : DistSlot c.feats i fu)
    (hlen : ∀ er ∈ c.edges, 0 ≤ er.dist) :
    ∀ (k k' : Nat) (hkk : k ≤ k') (hk' : k' < route.length) (x y : α),
      (route[k]'(by omega)).state[i]? = some x → route[k'].state[i]? = some y → x ≤ y :=
  slot_monotone_le (stepDelta_dist_nonneg hs hlen) hacc

theorem route_time_monotone_le {c : Config α} {route : List (Branch α)}
    (hacc : Accumulates c route) {t : Nat} {ftu : TimeUnit} (hs : TimeSlot c.feats t ftu)
    (hdel : DelaysNonneg c.access) :
    ∀ (k k' : Nat) (hkk : k ≤ k') (hk' : k' < route.length) (x y : α),
      (route[k]'(by omega)).state[t]? = some x → route[k'].state[t]? = some y → x ≤ y :=
  slot_monotone_le (stepDelta_time_nonneg hs hdel) hacc

/-! ### The summary -/

/-- `route.traversal_summary`: the state of the last route element (`construct_route_output`) -/
def routeSummary (route : List (Branch α)) : Option (List α) := route.getLast?.map (·.state)

theorem prefixEdges_last (route : List (Branch α)) :
    prefixEdges route (route.length - 1) = route.map (·.edge) := by
  unfold prefixEdges
  rw [List.take_of_length_le (by omega)]

theorem summary_is_last_state {route : List (Branch α)} (hne : route ≠ []) :
    routeSummary route =
      some (route[route.length - 1]'(by
        have := List.length_pos_of_ne_nil hne; omega)).state := by
  have hpos := List.length_pos_of_ne_nil hne
  simp only [routeSummary, List.getLast?_eq_getElem?]
  rw [List.getElem?_eq_getElem (by omega)]
  rfl

/-- the closed forms at the last index: the summary's distance is the initial value plus the sum
over all edges of the route, its time the initial value plus all traversal times and all turn
delays, every other slot the initial value -/
theorem summary_closed_form {c : Config α} {route : List (Branch α)} (hacc : Accumulates c route)
    (hne : route ≠ []) {i : Nat} {fu : DistanceUnit} (hd : DistSlot c.feats i fu)
    {t : Nat} {ftu : TimeUnit} (ht : TimeSlot c.feats t ftu) :
    ∃ s fd ft, routeSummary route = some s ∧ c.feats[i]? = some fd ∧ c.feats[t]? = some ft ∧
      s[i]? = some (fd.init + ((route.map (·.edge)).map (distTerm c.trav c.edges fu)).sum) ∧
      s[t]? = some (ft.init + ((route.map (·.edge)).map (timeTerm c.trav c.edges ftu)).sum
            + ((pairs (route.map (·.edge))).map (fun p => turnDelayTerm c ftu p.1 p.2)).sum) ∧
      ∀ j, featIndex c.feats "distance" ≠ some j → featIndex c.feats "time" ≠ some j →
        s[j]? = (c.feats[j]?).map (·.init) := by
  have hpos := List.length_pos_of_ne_nil hne
  have hk : route.length - 1 < route.length := by omega
  obtain ⟨fd, hfd, hdist⟩ := route_distance_is_sum hacc hd
  obtain ⟨ft, hft, htime⟩ := route_time_is_sum hacc ht
  refine ⟨_, fd, ft, summary_is_last_state hne, hfd, hft, ?_, ?_, ?_⟩
  · rw [hdist _ hk, prefixEdges_last]
  · rw [htime _ hk, prefixEdges_last]
  · intro j hjd hjt
    exact other_slots_unchanged hacc hjd hjt _ hk

/-- the distance of the summary alone, for a configuration without a time feature -/
theorem summary_distance {c : Config α} {route : List (Branch α)} (hacc : Accumulates c route)
    (hne : route ≠ []) {i : Nat} {fu : DistanceUnit} (hd : DistSlot c.feats i fu) :
    ∃ s fd, routeSummary route = some s ∧ c.feats[i]? = some fd ∧
      s[i]? = some (fd.init + ((route.map (·.edge)).map (distTerm c.trav c.edges fu)).sum) := by
  have hpos := List.length_pos_of_ne_nil hne
  have hk : route.length - 1 < route.length := by omega
  obtain ⟨fd, hfd, hdist⟩ := route_distance_is_sum hacc hd
  refine ⟨_, fd, summary_is_last_state hne, hfd, ?_⟩
  rw [hdist _ hk, prefixEdges_last]

/-! ### The closed forms with the values of the run written out

The same statements with the terms replaced by what the successful run computed: lists of the edge
lengths, of the times `create_time` returned and of the delays the table returned, one per edge /
per turn, each proved to be exactly the `some` value of the run. -/

theorem map_prefixEdges {β : Type} (route : List (Branch α)) (k : Nat) (g : Nat → β) :
    (prefixEdges route k).map g = (route.map (fun b => g b.edge)).take (k + 1) := by
  simp [prefixEdges, List.map_take, List.map_map, Function.comp_def]

theorem pairs_take : ∀ (l : List Nat) (k : Nat), pairs (l.take (k + 1)) = (pairs l).take k
  | [], _ => by simp [pairs]
  | [a], k => by simp [pairs]
  | a :: b :: r, 0 => by simp [pairs]
  | a :: b :: r, k + 1 => by
    have := pairs_take (b :: r) k
    simp only [List.take_succ_cons] at this ⊢
    rw [pairs_cons_cons, pairs_cons_cons, this, List.take_succ_cons]

theorem pairs_prefixEdges (route : List (Branch α)) (k : Nat) :
    pairs (prefixEdges route k) = (pairs (route.map (·.edge))).take k := by
  rw [← pairs_take]
  simp [prefixEdges, List.map_take]

theorem pairs_length (l : List Nat) : (pairs l).length = l.length - 1 := by
  simp [pairs, List.length_zip, List.length_tail]

theorem pairs_getElem? (l : List Nat) (k : Nat) (hk : k + 1 < l.length) :
    (pairs l)[k]? = some (l[k]'(Nat.lt_of_succ_lt hk), l[k + 1]) := by
  rw [pairs, List.getElem?_zip_eq_some]
  refine ⟨by simp, ?_⟩
  rw [List.getElem?_eq_getElem (by simp [List.length_tail]; omega), List.getElem_tail]

theorem sum_map_mul (l : List α) (r : α) : (l.map (· * r)).sum = l.sum * r := by
  induction l with
  | nil => simp
  | cons a l ih => simp [ih, add_mul]

/-- the values a per-edge lookup `g` answered along the route, as a list (`0` where it did not answer: never, on a
route, see the header): where a term is `conv` of the looked-up value, the sum of the terms over a prefix
of the route is the sum over the prefix of the list -/
theorem route_value_list (route : List (Branch α)) (g : Nat → Option α) (conv : α → α) (term : Nat → α)
    (hterm : ∀ e, term e = conv ((g e).getD 0)) :
    ∃ vals : List α, vals.length = route.length ∧
      (∀ k (hk : k < route.length) v, g route[k].edge = some v → vals[k]? = some v) ∧
      ∀ k, ((prefixEdges route k).map term).sum = ((vals.take (k + 1)).map conv).sum := by
  refine ⟨route.map (fun b => (g b.edge).getD 0), by simp, ?_, ?_⟩
  · intro k hk v hv
    rw [List.getElem?_map, List.getElem?_eq_getElem hk]
    simp [hv]
  · intro k
    rw [map_prefixEdges, List.map_take, List.map_map]
    congr 2
    apply List.map_congr_left
    intro b _
    simp only [Function.comp_def, hterm]

/-- **distance, written out**: with `lens` the stored lengths of the route's edges (each edge exists), the
distance at element `k` is the initial value plus the sum of the first `k + 1` lengths each converted
base → the traversal model's unit → `fu`, which is also the *total* length converted once (conversion is
linear). -/
theorem route_distance_is_sum_explicit {c : Config α} {route : List (Branch α)}
    (hacc : Accumulates c route) {i : Nat} {fu : DistanceUnit} (hs : DistSlot c.feats i fu) :
    ∃ (f : Feat α) (lens : List α), c.feats[i]? = some f ∧ lens.length = route.length ∧
      (∀ k (hk : k < route.length), ∃ er, c.edges[route[k].edge]? = some er ∧
        lens[k]? = some er.dist) ∧
      ∀ k (hk : k < route.length),
        route[k].state[i]? = some (f.init + ((lens.take (k + 1)).map (fun len =>
          (travDu c.trav).convert fu (baseDistanceUnit.convert (travDu c.trav) len))).sum) ∧
        route[k].state[i]? = some (f.init + (travDu c.trav).convert fu
          (baseDistanceUnit.convert (travDu c.trav) (lens.take (k + 1)).sum)) := by
  obtain ⟨f, hf, hsum⟩ := route_distance_is_sum hacc hs
  obtain ⟨lens, hl, hval, h1⟩ := route_value_list route (fun e => (c.edges[e]?).map (·.dist))
    (fun len => (travDu c.trav).convert fu (baseDistanceUnit.convert (travDu c.trav) len))
    (distTerm c.trav c.edges fu) (distTerm_getD c.trav c.edges fu)
  refine ⟨f, lens, hf, hl, ?_, ?_⟩
  · intro k hk
    obtain ⟨er, her⟩ := route_edges_defined hacc k hk
    exact ⟨er, her, hval k hk er.dist (by rw [her]; rfl)⟩
  · intro k hk
    refine ⟨by rw [hsum k hk, h1], ?_⟩
    rw [hsum k hk, h1]
    congr 2
    simp only [DistanceUnit.convert, Factor.apply_eq]
    rw [← sum_map_mul, ← sum_map_mul, List.map_map]
    rfl

/-- `times` lists, edge by edge, what `create_time` returned along the route (speed-table model) -/
def TimesOf (c : Config α) (su : SpeedUnit) (du : DistanceUnit) (tu : TimeUnit) (table : List α)
    (route : List (Branch α)) (times : List α) : Prop :=
  ∀ k (hk : k < route.length), ∃ er sp tv, c.edges[route[k].edge]? = some er ∧
    table[route[k].edge]? = some sp ∧
    createTime sp su (baseDistanceUnit.convert du er.dist) du tu = some tv ∧
    times[k]? = some tv

/-- `dls` lists, turn by turn, the delay the table returned along the route (turn-delay model) -/
def DelaysOf (c : Config α) (headings : List (Int × Option Int)) (delays : List (Option α))
    (route : List (Branch α)) (dls : List α) : Prop :=
  ∀ k (hk : k + 1 < route.length), ∃ d,
    turnDelayOf headings delays
        (prevEdge c (route[k]'(Nat.lt_of_succ_lt hk)).edge route[k + 1].edge)
        (nextEdge c (route[k]'(Nat.lt_of_succ_lt hk)).edge route[k + 1].edge) = some d ∧
      dls[k]? = some d

theorem route_delay_list {c : Config α} {route : List (Branch α)} (hacc : Accumulates c route)
    {dtu : TimeUnit} {headings : List (Int × Option Int)} {delays : List (Option α)}
    (hac : c.access = .turnDelay dtu headings delays) (ftu : TimeUnit) :
    ∃ dls : List α, dls.length = route.length - 1 ∧ DelaysOf c headings delays route dls ∧
      ∀ k, ((pairs (prefixEdges route k)).map (fun p => turnDelayTerm c ftu p.1 p.2)).sum =
        ((dls.take k).map (dtu.convert ftu)).sum := by
  refine ⟨(pairs (route.map (·.edge))).map (fun p =>
    (turnDelayOf headings delays (prevEdge c p.1 p.2) (nextEdge c p.1 p.2)).getD 0), ?_, ?_, ?_⟩
  · simp [pairs_length]
  · intro k hk
    obtain ⟨d, hd⟩ := route_delays_defined hacc hac k hk
    refine ⟨d, hd, ?_⟩
    rw [List.getElem?_map, pairs_getElem? _ _ (by simpa using hk)]
    simp [hd]
  · intro k
    rw [pairs_prefixEdges, List.map_take, List.map_take, List.map_map]
    congr 2
    apply List.map_congr_left
    intro p _
    simp only [Function.comp_def, turnDelayTerm, hac]
    exact timeConvert_getD dtu ftu _

theorem route_time_list {c : Config α} {route : List (Branch α)} (hacc : Accumulates c route)
    {su : SpeedUnit} {du : DistanceUnit} {tu : TimeUnit} {ms : α} {table : List α}
    (htrav : c.trav = .speed su du tu ms table) (ftu : TimeUnit) :
    ∃ times : List α, times.length = route.length ∧ TimesOf c su du tu table route times ∧
      ∀ k, ((prefixEdges route k).map (timeTerm c.trav c.edges ftu)).sum =
        ((times.take (k + 1)).map (tu.convert ftu)).sum := by
  obtain ⟨times, hl, hval, h1⟩ := route_value_list route (speedTime? c.edges su du tu table)
    (tu.convert ftu) (timeTerm c.trav c.edges ftu) (fun e => by
      rw [htrav]
      exact timeConvert_getD tu ftu _)
  refine ⟨times, hl, fun k hk => ?_, h1⟩
  obtain ⟨er, sp, tv, her, hsp, hct⟩ := route_times_defined hacc htrav k hk
  exact ⟨er, sp, tv, her, hsp, hct, hval k hk tv ((speedTime?_eq her hsp).trans hct)⟩

/-- **time, written out, speed-table model with turn delays**: `times[k]` is the value
`create_time (table speed of e_k) su (length of e_k in du) du tu` returned, `dls[k]` the delay the
table returned for the turn from `e_k` to `e_{k+1}`; the time at element `k` is the initial value
plus the first `k + 1` times (model unit `tu` → feature unit) plus the first `k` delays (table unit
`dtu` → feature unit). -/
theorem route_time_is_sum_speed_turnDelay {c : Config α} {route : List (Branch α)}
    (hacc : Accumulates c route) {t : Nat} {ftu : TimeUnit} (hs : TimeSlot c.feats t ftu)
    {su : SpeedUnit} {du : DistanceUnit} {tu : TimeUnit} {ms : α} {table : List α}
    (htrav : c.trav = .speed su du tu ms table)
    {dtu : TimeUnit} {headings : List (Int × Option Int)} {delays : List (Option α)}
    (hac : c.access = .turnDelay dtu headings delays) :
    ∃ (f : Feat α) (times dls : List α), c.feats[t]? = some f ∧
      times.length = route.length ∧ dls.length = route.length - 1 ∧
      TimesOf c su du tu table route times ∧ DelaysOf c headings delays route dls ∧
      ∀ k (hk : k < route.length),
        route[k].state[t]? = some (f.init + ((times.take (k + 1)).map (tu.convert ftu)).sum
          + ((dls.take k).map (dtu.convert ftu)).sum) := by
  obtain ⟨f, hf, hsum⟩ := route_time_is_sum hacc hs
  obtain ⟨times, ht1, ht2, ht3⟩ := route_time_list hacc htrav ftu
  obtain ⟨dls, hd1, hd2, hd3⟩ := route_delay_list hacc hac ftu
  refine ⟨f, times, dls, hf, ht1, hd1, ht2, hd2, ?_⟩
  intro k hk
  rw [hsum k hk, ht3, hd3]

theorem turnDelayTerm_noAccess {c : Config α} (hac : c.access = .noAccess) (ftu : TimeUnit) :
    (fun p : Nat × Nat => turnDelayTerm c ftu p.1 p.2) = fun _ => 0 := by
  funext p
  simp only [turnDelayTerm, hac, delayTerm_noAccess]

theorem timeTerm_distance_fun {c : Config α} {du : DistanceUnit} (htrav : c.trav = .distance du)
    (ftu : TimeUnit) : timeTerm c.trav c.edges ftu = fun _ => 0 := by
  funext e
  rw [htrav, timeTerm_distance]

/-- **time, written out, speed-table model without access model**: time = initial + Σ times -/
theorem route_time_is_sum_speed_noAccess {c : Config α} {route : List (Branch α)}
    (hacc : Accumulates c route) {t : Nat} {ftu : TimeUnit} (hs : TimeSlot c.feats t ftu)
    {su : SpeedUnit} {du : DistanceUnit} {tu : TimeUnit} {ms : α} {table : List α}
    (htrav : c.trav = .speed su du tu ms table) (hac : c.access = .noAccess) :
    ∃ (f : Feat α) (times : List α), c.feats[t]? = some f ∧ times.length = route.length ∧
      (∀ k (hk : k < route.length), ∃ er sp tv, c.edges[route[k].edge]? = some er ∧
        table[route[k].edge]? = some sp ∧
        createTime sp su (baseDistanceUnit.convert du er.dist) du tu = some tv ∧
        times[k]? = some tv) ∧
      ∀ k (hk : k < route.length),
        route[k].state[t]? = some (f.init + ((times.take (k + 1)).map (tu.convert ftu)).sum) := by
  obtain ⟨f, hf, hsum⟩ := route_time_is_sum hacc hs
  obtain ⟨times, ht1, ht2, ht3⟩ := route_time_list hacc htrav ftu
  refine ⟨f, times, hf, ht1, ht2, ?_⟩
  intro k hk
  rw [hsum k hk, ht3]
  rw [turnDelayTerm_noAccess hac, List.sum_map_zero, add_zero]

/-- **time, written out, distance model with turn delays**: time = initial + Σ delays -/
theorem route_time_is_sum_distance_turnDelay {c : Config α} {route : List (Branch α)}
    (hacc : Accumulates c route) {t : Nat} {ftu : TimeUnit} (hs : TimeSlot c.feats t ftu)
    {du : DistanceUnit} (htrav : c.trav = .distance du)
    {dtu : TimeUnit} {headings : List (Int × Option Int)} {delays : List (Option α)}
    (hac : c.access = .turnDelay dtu headings delays) :
    ∃ (f : Feat α) (dls : List α), c.feats[t]? = some f ∧ dls.length = route.length - 1 ∧
      (∀ k (hk : k + 1 < route.length), ∃ d,
        turnDelayOf headings delays (prevEdge c route[k].edge route[k + 1].edge)
          (nextEdge c route[k].edge route[k + 1].edge) = some d ∧ dls[k]? = some d) ∧
      ∀ k (hk : k < route.length),
        route[k].state[t]? = some (f.init + ((dls.take k).map (dtu.convert ftu)).sum) := by
  obtain ⟨f, hf, hsum⟩ := route_time_is_sum hacc hs
  obtain ⟨dls, hd1, hd2, hd3⟩ := route_delay_list hacc hac ftu
  refine ⟨f, dls, hf, hd1, hd2, ?_⟩
  intro k hk
  rw [hsum k hk, hd3]
  rw [timeTerm_distance_fun htrav, List.sum_map_zero, add_zero]

/-- distance model without access model: the time slot (if there is one) keeps its initial value -/
theorem route_time_is_sum_distance_noAccess {c : Config α} {route : List (Branch α)}
    (hacc : Accumulates c route) {t : Nat} {ftu : TimeUnit} (hs : TimeSlot c.feats t ftu)
    {du : DistanceUnit} (htrav : c.trav = .distance du) (hac : c.access = .noAccess) :
    ∃ f : Feat α, c.feats[t]? = some f ∧
      ∀ k (hk : k < route.length), route[k].state[t]? = some f.init := by
  obtain ⟨f, hf, hsum⟩ := route_time_is_sum hacc hs
  refine ⟨f, hf, ?_⟩
  intro k hk
  rw [hsum k hk]
  rw [timeTerm_distance_fun htrav, turnDelayTerm_noAccess hac, List.sum_map_zero, List.sum_map_zero,
    add_zero, add_zero]

/-! ### Any chain of successful traversals accumulates (not only search routes)

`chain` traverses a given list of edges in order, each from the state and edge before it.  Nothing
ties it to `Config.runEdge` or to the k-shortest-path code: it serves the example at the end of the file,
a route that satisfies the link relation without a search having produced it. -/

/-- the route obtained by traversing the edges `es` in order (`none` when a traversal fails) -/
def chain (c : Config α) : Option Nat → List α → List Nat → Option (List (Branch α))
  | _, _, [] => some []
  | last, st, e :: r =>
    match edgeTraversal c e last st with
    | .error _ => none
    | .ok (ac, tc, st') =>
      match chain c (some e) st' r with
      | none => none
      | some rest =>
        some ({ terminal := 0, edge := e, access := ac, traversal := tc, state := st' } :: rest)

theorem chain_accFrom {c : Config α} :
    ∀ (es : List Nat) (last : Option Nat) (st : List α) (route : List (Branch α)),
      chain c last st es = some route → AccFrom c last st route ∧ route.map (·.edge) = es
  | [], _, _, route, h => by
    simp only [chain, Option.some.injEq] at h
    subst h
    exact ⟨trivial, rfl⟩
  | e :: r, last, st, route, h => by
    unfold chain at h
    split at h
    · cases h
    · rename_i ac tc st' hstep
      split at h
      · cases h
      · rename_i rest hrest
        simp only [Option.some.injEq] at h
        subst h
        obtain ⟨h1, h2⟩ := chain_accFrom r (some e) st' rest hrest
        exact ⟨⟨hstep, h1⟩, by simp [h2]⟩

/-! ### Non-vacuity: speed-table model with turn delays, four different units

Three edges 0→1→2→3 of 1000 m, 500 m, 2000 m at 36, 18, 72 km/h; the model computes in kilometres
and hours, the features are time in minutes (initial 5), an unrelated slot (initial 7) and distance
in miles (initial 1); headings 0°, 90°, 90° so the first turn is a right turn and the second is no
turn; delays in seconds, a different one per turn class.  The states of the traversal chain are
exactly the closed forms, the hypotheses of the theorems are met, and time strictly increases. -/

def speedExample : Config ℚ where
  nV := 4
  edges := [⟨0, 1, 1000⟩, ⟨1, 2, 500⟩, ⟨2, 3, 2000⟩]
  outAdj := [[0], [1], [2], []]
  inAdj := [[], [0], [1], [2]]
  feats := [{ name := "time", kind := .time .minutes, init := 5 },
            { name := "spare", kind := .other, init := 7 },
            { name := "distance", kind := .dist .miles, init := 1 }]
  trav := .speed .kilometersPerHour .kilometers .hours 120 [36, 18, 72]
  access := .turnDelay .seconds [(0, none), (90, none), (90, some 90)]
    [some 1, some 2, some 3, some 4, some 5, some 6, some 7, some 8]
  cost := { indices := [0, 2], weights := [1, 1, 1], vehicleRates := [.raw, .raw, .raw],
            networkRates := [.zero, .zero, .zero], agg := .sum }
  frontier := []
  term := .combined []
  reverse := false
  gc := []
  wf := some 0

theorem speedExample_timeSlot : TimeSlot speedExample.feats 0 .minutes := ⟨by decide, rfl⟩
theorem speedExample_distSlot : DistSlot speedExample.feats 2 .miles := ⟨by decide, rfl⟩

/-- (time, spare, distance) reported along the chain = the closed forms, evaluated independently -/
example :
    (chain speedExample none (initialState speedExample.feats) [0, 1, 2]).map
        (·.map (fun b => (b.state[0]?, b.state[1]?, b.state[2]?))) =
      some ([0, 1, 2].map (fun k =>
        (some (5 + ((([0, 1, 2] : List Nat).take (k + 1)).map
              (timeTerm speedExample.trav speedExample.edges .minutes)).sum
            + ((pairs (([0, 1, 2] : List Nat).take (k + 1))).map
              (fun p => turnDelayTerm speedExample .minutes p.1 p.2)).sum),
         some 7,
         some (1 + ((([0, 1, 2] : List Nat).take (k + 1)).map
              (distTerm speedExample.trav speedExample.edges .miles)).sum)))) := by
  decide +kernel

/-- the terms are what the property says: the time of edge 0 is `create_time` of its table speed
(36 km/h) and its length (1000 m in kilometres), in hours; the right turn onto edge 1 costs the
table's entry for "right" (4 s), going straight onto edge 2 the entry for "no turn" (1 s), each
converted from seconds to the feature's minutes -/
example :
    speedTime? speedExample.edges .kilometersPerHour .kilometers .hours [36, 18, 72] 0 =
      createTime 36 .kilometersPerHour (DistanceUnit.meters.convert .kilometers 1000) .kilometers .hours ∧
    (speedTime? speedExample.edges .kilometersPerHour .kilometers .hours [36, 18, 72] 0).isSome = true ∧
    turnDelayTerm speedExample .minutes 0 1 = TimeUnit.seconds.convert .minutes 4 ∧
    turnDelayTerm speedExample .minutes 1 2 = TimeUnit.seconds.convert .minutes 1 := by
  decide +kernel

/-- the theorems apply to that chain -/
example : ∃ route, chain speedExample none (initialState speedExample.feats) [0, 1, 2] = some route ∧
    Accumulates speedExample route ∧ route.length = 3 ∧
    (∃ times dls : List ℚ, times.length = 3 ∧ dls.length = 2 ∧
      ∀ k (hk : k < route.length), route[k].state[0]? =
        some (5 + ((times.take (k + 1)).map (TimeUnit.hours.convert .minutes)).sum
          + ((dls.take k).map (TimeUnit.seconds.convert .minutes)).sum)) ∧
    ∀ k (hk : k + 1 < route.length) x y, route[k].state[0]? = some x →
      route[k + 1].state[0]? = some y → x < y := by
  have hsome : (chain speedExample none (initialState speedExample.feats) [0, 1, 2]).isSome = true := by
    decide +kernel
  obtain ⟨route, hroute⟩ := Option.isSome_iff_exists.1 hsome
  obtain ⟨hacc, hedges⟩ := chain_accFrom _ _ _ _ hroute
  have hlen : route.length = 3 := by
    have := congrArg List.length hedges
    simpa using this
  have hdel : DelaysNonneg speedExample.access := by
    intro d hd
    simp only [List.mem_cons, Option.some.injEq, List.not_mem_nil, or_false] at hd
    rcases hd with rfl | rfl | rfl | rfl | rfl | rfl | rfl | rfl <;> norm_num
  refine ⟨route, hroute, hacc, hlen, ?_, route_time_strict hacc speedExample_timeSlot hdel rfl⟩
  obtain ⟨f, times, dls, hf, h1, h2, _, _, h5⟩ :=
    route_time_is_sum_speed_turnDelay hacc speedExample_timeSlot rfl rfl
  have hf5 : f.init = 5 := by
    have : speedExample.feats[0]? = some ⟨"time", .time .minutes, 5⟩ := rfl
    rw [this] at hf
    cases hf
    rfl
  refine ⟨times, dls, by omega, by omega, ?_⟩
  intro k hk
  rw [h5 k hk, hf5]

end RouteSums
end Compass
