/-
The minimal state layer of the search model (`Model/Instance.lean`: `Feat`, `featIndex`,
`initialState`, `addDistance`, `addTime` over a plain `List (Feat α)`, answers in `Option`) is a
refinement of the full state model (`Model/StateModel.lean`: `StateModel` over the
`CompactOrderedHashMap` container, answers in `Except StateErr`).  Both model the one Rust type
`StateModel` of `routee-compass-core/src/model/state/state_model.rs`.

The relation is `Represents m fs`: `m` is well-formed and its ordered feature list is `toEntries fs`.
It holds for `StateModel::new` and for `StateModel::empty().extend(..)` exactly when the feature names
are pairwise distinct.  With a repeated name the Rust constructors keep the first occurrence's slot,
the last occurrence's feature and one slot fewer, while the minimal layer keeps both entries
(`normalize`, `duplicate_name_index_counterexample`); the full model is the one that matches the Rust
code there.  Under `Represents m fs` the two layers agree on every input, with no side condition on
the state vector, the unit or the name: one lemma per primitive (slots, initial state, `add_distance`
and `add_time`, the positional reads), from which the traversal, access and edge-traversal steps of
`Model/Instance.lean` are the same functions written against the `StateModel` API.
-/
import Compass.Proofs.StateModel
import Compass.Model.Instance

namespace Compass
namespace StateRefine

open List

set_option linter.unusedSectionVars false

variable {α : Type}

/-! ### the abstraction -/

/-- the `StateFeature` a `Feat` stands for; `.other` is the custom floating-point feature the search
    harness builds for its `X` kind (`harness/src/search.rs::build`) -/
def toFeature (f : Feat α) : StateFeature α :=
  match f.kind with
  | .dist u => .distance u f.init
  | .time u => .time u f.init
  | .other => .custom "custom" "x" (.floatingPoint f.init)

/-- the argument of `StateModel::new` / `extend` -/
def toEntries (fs : List (Feat α)) : List (String × StateFeature α) :=
  fs.map (fun f => (f.name, toFeature f))

/-- `StateModel::new` of the feature list -/
def toStateModel (fs : List (Feat α)) : StateModel α := StateModel.new (toEntries fs)

/-- `m` is a well-formed state model whose features, in slot order, are `fs` -/
def Represents (m : StateModel α) (fs : List (Feat α)) : Prop :=
  StateModel.WF m ∧ StateModel.feats m = toEntries fs

theorem toEntries_keys (fs : List (Feat α)) : (toEntries fs).map (·.1) = fs.map (·.name) := by
  simp [toEntries]

/-- distinct names: `StateModel::new` builds a model represented by the list -/
theorem represents_new (fs : List (Feat α)) (nd : (fs.map (·.name)).Nodup) :
    Represents (toStateModel fs) fs :=
  StateModel.new_refines_of_nodup (toEntries fs) (by rw [toEntries_keys]; exact nd)

/-- the hypothesis is necessary: only lists with pairwise distinct names are represented at all -/
theorem Represents.nodup {m : StateModel α} {fs : List (Feat α)} (h : Represents m fs) :
    (fs.map (·.name)).Nodup := by
  have := StateModel.feats_nodup h.1
  rw [h.2, toEntries_keys] at this
  exact this

/-- distinct names: `StateModel::empty().extend(..)` succeeds and builds a model represented by the
    list (the search harness starts its model this way, `harness/src/search.rs::build`) -/
theorem represents_extend (fs : List (Feat α)) (nd : (fs.map (·.name)).Nodup) :
    ∃ m, (StateModel.empty : StateModel α).extend (toEntries fs) = .ok m ∧ Represents m fs := by
  have hnd : ((toEntries fs).map (·.1)).Nodup := by rw [toEntries_keys]; exact nd
  have he := StateModel.empty_refines (α := α)
  -- the empty model holds nothing, and entries that share a name are the same entry
  obtain ⟨m, hm⟩ := (StateModel.extend_ok_iff_kindsAgree he.1 (toEntries fs)).mpr
    (.of_eqv (by rw [he.2]; exact fun _ _ _ ho => nomatch ho) fun e h e' h' hk => by
      rw [inj_on_of_nodup_map hnd h h' hk]
      exact (StateFeature.eqv_iff_eqvKey _ _).mpr rfl)
  obtain ⟨hw, hf⟩ := StateModel.extend_ok he.1 hm
  rw [he.2, Spec.insertAll_nil_of_nodup _ hnd] at hf
  exact ⟨m, hm, hw, hf⟩

/-! ### without the hypothesis: what a repeated name does

`StateModel::new` / `extend` insert the entries one after the other; a name that is already present
keeps its slot and takes the later feature.  On the feature list that is `normalize`; the model
built from ANY list `fs` is represented by `normalize fs`, and `normalize fs = fs` exactly when the
names are pairwise distinct. -/

/-- insert one feature: overwrite the entry of the same name in place, else append -/
def insertFeat : List (Feat α) → Feat α → List (Feat α)
  | [], g => [g]
  | f :: r, g => if f.name = g.name then g :: r else f :: insertFeat r g

/-- the feature list `StateModel::new(fs)` stands for -/
def normalize (fs : List (Feat α)) : List (Feat α) := fs.foldl insertFeat []

theorem toEntries_insertFeat (l : List (Feat α)) (g : Feat α) :
    toEntries (insertFeat l g) = Spec.insert (toEntries l) g.name (toFeature g) := by
  induction l with
  | nil => rfl
  | cons f r ih =>
    simp only [toEntries] at ih
    simp only [insertFeat, toEntries, map_cons, Spec.insert]
    split_ifs with h
    · simp [h]
    · simp [ih]

theorem toEntries_foldl_insertFeat (fs acc : List (Feat α)) :
    toEntries (fs.foldl insertFeat acc) = Spec.insertAll (toEntries acc) (toEntries fs) := by
  induction fs generalizing acc with
  | nil => rfl
  | cons f r ih =>
    rw [foldl_cons, ih, toEntries_insertFeat]
    rfl

theorem toEntries_normalize (fs : List (Feat α)) :
    toEntries (normalize fs) = Spec.insertAll [] (toEntries fs) :=
  toEntries_foldl_insertFeat fs []

/-- every feature list: `StateModel::new` builds the model of the normalised list -/
theorem represents_new_normalize (fs : List (Feat α)) : Represents (toStateModel fs) (normalize fs) := by
  have := StateModel.new_refines (toEntries fs)
  rw [← toEntries_normalize] at this
  exact this

theorem toEntries_injective : Function.Injective (toEntries : List (Feat α) → _) := by
  refine List.map_injective_iff.mpr ?_
  rintro ⟨n1, k1, i1⟩ ⟨n2, k2, i2⟩ h
  cases k1 <;> cases k2 <;> cases h <;> rfl

/-- the normalised list is the list itself exactly when the names are pairwise distinct -/
theorem normalize_eq_self_iff (fs : List (Feat α)) :
    normalize fs = fs ↔ (fs.map (·.name)).Nodup := by
  constructor
  · intro h
    have := (represents_new_normalize fs).nodup
    rwa [h] at this
  · intro nd
    apply toEntries_injective
    rw [toEntries_normalize]
    exact Spec.insertAll_nil_of_nodup _ (by rw [toEntries_keys]; exact nd)

/-- a feature list with a repeated name -/
def dupFeats : List (Feat Nat) := [⟨"a", .other, 1⟩, ⟨"a", .other, 2⟩, ⟨"b", .other, 3⟩]

/-- a repeated name, concretely (no arithmetic involved): the minimal layer keeps three slots and
    finds `"b"` in slot 2; `StateModel::new` keeps two (first position, last declaration) and gives
    `"b"` slot 1 -/
theorem duplicate_name_index_counterexample :
    featIndex dupFeats "b" = some 2 ∧ (toStateModel dupFeats).getIndex "b" = some 1 ∧
      (initialState dupFeats).length = 3 ∧ (toStateModel dupFeats).len = 2 ∧
      (normalize dupFeats).map (·.name) = ["a", "b"] ∧ (normalize dupFeats).map (·.init) = [2, 3] := by
  decide

/-! ### names, slots, features -/

theorem indexOf_toEntries (fs : List (Feat α)) (name : String) :
    Spec.indexOf (toEntries fs) name = featIndex fs name := by
  induction fs with
  | nil => rfl
  | cons f r ih =>
    simp only [toEntries, featIndex] at ih
    simp only [toEntries, map_cons, Spec.indexOf, featIndex, findIdx?_cons, beq_iff_eq, ih]

/-- with distinct names the entry at position `i` owns slot `i` -/
theorem featIndex_of_getElem? {fs : List (Feat α)} (nd : (fs.map (·.name)).Nodup) {i : Nat}
    {f : Feat α} (h : fs[i]? = some f) : featIndex fs f.name = some i := by
  rw [← indexOf_toEntries]
  apply Spec.indexOf_of_getElem (by rw [toEntries_keys]; exact nd)
  simp [toEntries, h]

section represented
variable {m : StateModel α} {fs : List (Feat α)}

theorem getIndex_eq_featIndex (hm : Represents m fs) (name : String) :
    m.getIndex name = featIndex fs name := by
  rw [StateModel.getIndex_eq hm.1, hm.2, indexOf_toEntries]

/-- `state[i]?` at the slot of `name` is `get_state_variable(state, name)` -/
theorem getStateVariable_full (hm : Represents m fs) (state : List α) (name : String) :
    m.getStateVariable state name =
      match featIndex fs name with
      | none => .error .unknownName
      | some i =>
        match state[i]? with
        | some v => .ok v
        | none => .error .runtime := by
  simp only [StateModel.getStateVariable,
    show m.map.getIndex name = featIndex fs name from getIndex_eq_featIndex hm name]
  cases featIndex fs name with
  | none => rfl
  | some i => cases hs : state[i]? <;> simp [hs]

/-- a name the minimal layer finds at slot `i`: the full model holds, under that name, the feature of
    the list entry there -/
theorem getFeature_of_some (hm : Represents m fs) {name : String} {i : Nat}
    (h : featIndex fs name = some i) :
    ∃ f, fs[i]? = some f ∧ m.getFeature name = .ok (toFeature f) := by
  rw [← indexOf_toEntries] at h
  obtain ⟨sf, h1, h2⟩ := Spec.indexOf_get h
  rw [toEntries, getElem?_map] at h1
  cases hf : fs[i]? with
  | none => rw [hf] at h1; cases h1
  | some f =>
    rw [hf] at h1
    simp only [Option.map_some, Option.some.injEq, Prod.mk.injEq] at h1
    exact ⟨f, rfl, by rw [StateModel.getFeature_ok, StateModel.get_eq hm.1, hm.2, h2, h1.2]⟩

theorem getFeature_of_none (hm : Represents m fs) {name : String} (h : featIndex fs name = none) :
    m.getFeature name = .error .unknownName := by
  rw [← indexOf_toEntries] at h
  simp only [StateModel.getFeature, StateModel.get_eq hm.1, hm.2,
    Spec.get_eq_none_iff.mpr (Spec.indexOf_eq_none_iff.mp h)]

theorem len_eq_length (hm : Represents m fs) : m.len = fs.length := by
  rw [StateModel.len_eq m, hm.2]; simp [toEntries]

theorem names_eq (hm : Represents m fs) : m.names = fs.map (·.name) := by
  rw [StateModel.names_eq_keys hm.1, hm.2, toEntries_keys]

/-! ### initial state -/

section initial
variable [Lit α] [IntCodec α] [LT α] [DecidableLT α] [BEq α]

theorem declaredInitial_toFeature (f : Feat α) : StateModel.declaredInitial (toFeature f) = f.init := by
  unfold toFeature
  cases f.kind <;> rfl

theorem initialState_eq (hm : Represents m fs) : m.initialState = .ok (initialState fs) := by
  rw [StateModel.initialState_eq_declared hm.1, hm.2]
  simp [toEntries, initialState, declaredInitial_toFeature]

end initial

/-! ### `add_distance`, `add_time` -/

/-- the `StateModelError` of `add_distance` where the minimal layer answers `none`:
    no such name; the feature is not a distance; otherwise the slot is beyond the state vector.
    (The inner `| none` cannot occur: `featIndex` answers positions of the list.) -/
def distErr (fs : List (Feat α)) (name : String) : StateErr :=
  match featIndex fs name with
  | none => .unknownName
  | some i =>
    match fs[i]? with
    | none => .unknownName
    | some f =>
      match f.kind with
      | .dist _ => .runtime
      | _ => .unexpectedFeatureUnit

/-- likewise for `add_time` -/
def timeErr (fs : List (Feat α)) (name : String) : StateErr :=
  match featIndex fs name with
  | none => .unknownName
  | some i =>
    match fs[i]? with
    | none => .unknownName
    | some f =>
      match f.kind with
      | .time _ => .runtime
      | _ => .unexpectedFeatureUnit

/-- the full model's answer as a function of the minimal layer's -/
def lift (r : Option (List α)) (e : StateErr) : Except StateErr (List α) :=
  match r with
  | some s => .ok s
  | none => .error e

theorem lift_toOption (r : Option (List α)) (e : StateErr) : (lift r e).toOption = r := by
  cases r <;> rfl

theorem lift_ok_iff (r : Option (List α)) (e : StateErr) (s : List α) :
    lift r e = .ok s ↔ r = some s := by
  cases r <;> simp [lift]

theorem lift_error_iff (r : Option (List α)) (e e' : StateErr) :
    lift r e = .error e' ↔ r = none ∧ e' = e := by
  cases r <;> simp [lift, eq_comm]

section kinds
variable {β : Type}

/-- a kind of slot the minimal layer knows (distance, time), seen from both layers.  Minimal layer:
    `pick` recognises the `FeatKind` and yields its unit, `ctor` is its inverse.  Full model: `sel` is the
    getter of `state_feature.rs`, `feature` the constructor.  `toFeature` carries the one to the other. -/
structure SlotKind (α β : Type) where
  pick : FeatKind → Option β
  ctor : β → FeatKind
  sel : StateFeature α → Except StateErr β
  feature : β → α → StateFeature α
  pick_iff : ∀ {k b}, pick k = some b ↔ k = ctor b
  sel_toFeature : ∀ f : Feat α, sel (toFeature f) =
    match pick f.kind with
    | some b => .ok b
    | none => .error .unexpectedFeatureUnit
  toFeature_eq : ∀ {f : Feat α} {b init}, toFeature f = feature b init ↔ f.kind = ctor b ∧ f.init = init

def distKind : SlotKind α DistanceUnit where
  pick | .dist u => some u | _ => none
  ctor := .dist
  sel := StateFeature.getDistanceUnit
  feature := .distance
  pick_iff := by intro k b; cases k <;> simp
  sel_toFeature f := by unfold toFeature; cases f.kind <;> rfl
  toFeature_eq := by intro f b init; unfold toFeature; cases f.kind <;> simp

def timeKind : SlotKind α TimeUnit where
  pick | .time u => some u | _ => none
  ctor := .time
  sel := StateFeature.getTimeUnit
  feature := .time
  pick_iff := by intro k b; cases k <;> simp
  sel_toFeature f := by unfold toFeature; cases f.kind <;> rfl
  toFeature_eq := by intro f b init; unfold toFeature; cases f.kind <;> simp

/-- the error cases, each with its exact cause on the feature list / state vector: unknown name; a
    feature of another kind (whatever the state vector); a feature of the kind whose slot is beyond the
    state vector.  No other error occurs (`InvalidStateVariableIndex` in particular) -/
theorem add_error_cases (K : SlotKind α β) (hm : Represents m fs) (state : List α) (name : String)
    (g : α → β → α) (e : StateErr)
    (h : StateModel.writeWith m state name K.sel (StateModel.bump m state name g) = .error e) :
    (e = .unknownName ∧ featIndex fs name = none) ∨
    (e = .unexpectedFeatureUnit ∧ ∃ i f, featIndex fs name = some i ∧ fs[i]? = some f ∧
        ∀ fu, f.kind ≠ K.ctor fu) ∨
    (e = .runtime ∧ ∃ i f fu, featIndex fs name = some i ∧ fs[i]? = some f ∧ f.kind = K.ctor fu ∧
        state.length ≤ i) := by
  cases hi : featIndex fs name with
  | none =>
    rw [StateModel.writeWith_unknown (getFeature_of_none hm hi)] at h
    cases h; exact Or.inl ⟨rfl, rfl⟩
  | some i =>
    obtain ⟨f, hf, hg⟩ := getFeature_of_some hm hi
    rw [StateModel.writeWith_bump_eval ((getIndex_eq_featIndex hm name).trans hi) hg,
      K.sel_toFeature] at h
    cases hk : K.pick f.kind with
    | none =>
      rw [hk] at h; cases h
      exact Or.inr (Or.inl ⟨rfl, i, f, rfl, hf, fun b hb => by rw [K.pick_iff.mpr hb] at hk; cases hk⟩)
    | some fu =>
      rw [hk] at h
      cases hs : state[i]? with
      | none =>
        simp only [hs, Except.ok_bind] at h; cases h
        exact Or.inr (Or.inr ⟨rfl, i, f, fu, rfl, hf, K.pick_iff.mp hk, getElem?_eq_none_iff.mp hs⟩)
      | some x => simp only [hs, Except.ok_bind] at h; cases h

end kinds

section arith
variable [Add α] [Mul α] [Div α] [Lit α]

/-- `add_distance`: the full model answers `.ok s'` exactly where the minimal layer answers `some s'`,
    and `distErr` where it answers `none` — for every state vector, name, value and unit.  (Stated per
    kind: `addDistance` of `Model/Instance.lean` and `distErr` match on `FeatKind` itself, so one
    statement over a `SlotKind` would need copies of both to compare with.) -/
theorem addDistance_full (hm : Represents m fs) (state : List α) (name : String) (d : α)
    (u : DistanceUnit) :
    m.addDistance state name d u = lift (addDistance fs state name d u) (distErr fs name) := by
  rw [StateModel.addDistance_eq]
  unfold Compass.addDistance distErr
  cases hi : featIndex fs name with
  | none => exact StateModel.writeWith_unknown (getFeature_of_none hm hi) _ _
  | some i =>
    obtain ⟨f, hf, hg⟩ := getFeature_of_some hm hi
    rw [StateModel.writeWith_bump_eval ((getIndex_eq_featIndex hm name).trans hi) hg]
    simp only [hf, show (toFeature f).getDistanceUnit = _ from distKind.sel_toFeature f]
    -- without a slot both answer "no" and `distErr` names the error the kind gives; with one, the
    -- answer is `some` exactly for a distance feature
    cases state[i]? with
    | none => cases f.kind <;> rfl
    | some x =>
      cases hk : f.kind with
      | dist fu => simp only [hk, lift, distKind, Except.ok_bind]
      | _ => simp only [hk, lift, distKind, Except.error_bind]

/-- `add_time` likewise -/
theorem addTime_full (hm : Represents m fs) (state : List α) (name : String) (t : α)
    (u : TimeUnit) :
    m.addTime state name t u = lift (addTime fs state name t u) (timeErr fs name) := by
  rw [StateModel.addTime_eq]
  unfold Compass.addTime timeErr
  cases hi : featIndex fs name with
  | none => exact StateModel.writeWith_unknown (getFeature_of_none hm hi) _ _
  | some i =>
    obtain ⟨f, hf, hg⟩ := getFeature_of_some hm hi
    rw [StateModel.writeWith_bump_eval ((getIndex_eq_featIndex hm name).trans hi) hg]
    simp only [hf, show (toFeature f).getTimeUnit = _ from timeKind.sel_toFeature f]
    cases state[i]? with
    | none => cases f.kind <;> rfl
    | some x =>
      cases hk : f.kind with
      | time fu => simp only [hk, lift, timeKind, Except.ok_bind]
      | _ => simp only [hk, lift, timeKind, Except.error_bind]

/-- the minimal layer is the full model with the error forgotten -/
theorem addDistance_toOption (hm : Represents m fs) (state : List α) (name : String) (d : α)
    (u : DistanceUnit) :
    addDistance fs state name d u = (m.addDistance state name d u).toOption := by
  rw [addDistance_full hm, lift_toOption]

theorem addTime_toOption (hm : Represents m fs) (state : List α) (name : String) (t : α)
    (u : TimeUnit) :
    addTime fs state name t u = (m.addTime state name t u).toOption := by
  rw [addTime_full hm, lift_toOption]

theorem addDistance_some_iff (hm : Represents m fs) (state : List α) (name : String) (d : α)
    (u : DistanceUnit) (s' : List α) :
    addDistance fs state name d u = some s' ↔ m.addDistance state name d u = .ok s' := by
  rw [addDistance_full hm, lift_ok_iff]

theorem addTime_some_iff (hm : Represents m fs) (state : List α) (name : String) (t : α)
    (u : TimeUnit) (s' : List α) :
    addTime fs state name t u = some s' ↔ m.addTime state name t u = .ok s' := by
  rw [addTime_full hm, lift_ok_iff]

theorem addDistance_none_iff (hm : Represents m fs) (state : List α) (name : String) (d : α)
    (u : DistanceUnit) :
    addDistance fs state name d u = none ↔
      m.addDistance state name d u = .error (distErr fs name) := by
  rw [addDistance_full hm, lift_error_iff]; simp

theorem addTime_none_iff (hm : Represents m fs) (state : List α) (name : String) (t : α)
    (u : TimeUnit) :
    addTime fs state name t u = none ↔ m.addTime state name t u = .error (timeErr fs name) := by
  rw [addTime_full hm, lift_error_iff]; simp

end arith

/-! ### reads

`Model/Instance.lean` and `Model/Cost.lean` never call a getter: the cost model reads `prev[i]?`,
`next[i]?` at the indices `CostModel::new` took from `state_model.indexed_iter()`, and the route
theorems (`RouteSums.DistSlot`, `TimeSlot`) read `state[i]?` at the slot `featIndex` names.  Each of
these positional reads is the `StateModel` accessor for the feature that owns the slot. -/

theorem slot_read (hm : Represents m fs) (state : List α) {i : Nat} {f : Feat α}
    (hf : fs[i]? = some f) : state[i]? = (m.getStateVariable state f.name).toOption := by
  rw [getStateVariable_full hm, featIndex_of_getElem? hm.nodup hf]
  cases hs : state[i]? <;> simp [hs, Except.toOption]

/-- `next[i] − prev[i]` (both slots present) is `get_delta(prev, next, name)` of the slot's feature -/
theorem delta_read [Sub α] (hm : Represents m fs) (prev next : List α) {i : Nat} {f : Feat α}
    (hf : fs[i]? = some f) :
    (match prev[i]?, next[i]? with
      | some p, some n => some (n - p)
      | _, _ => none) = (m.getDelta prev next f.name).toOption := by
  simp only [StateModel.getDelta, getStateVariable_full hm, featIndex_of_getElem? hm.nodup hf]
  cases prev[i]? <;> cases next[i]? <;> rfl

/-- one item of `cost_ops::calculate_vehicle_costs` reads the state through `get_delta` -/
theorem vehicleTerm_getDelta [Add α] [Sub α] [Mul α] [Lit α] (hm : Represents m fs) (cm : CostModel α)
    (prev next : List α) {i : Nat} {f : Feat α} (hf : fs[i]? = some f) :
    cm.vehicleTerm prev next i =
      match (m.getDelta prev next f.name).toOption, cm.vehicleRates[i]?, cm.weights[i]? with
      | some d, some r, some w => some (r.mapValue d * w)
      | _, _, _ => none := by
  rw [← delta_read hm prev next hf]
  unfold CostModel.vehicleTerm
  cases prev[i]? <;> cases next[i]? <;> cases cm.vehicleRates[i]? <;> cases cm.weights[i]? <;> rfl

section kindSlots
variable {β γ : Type}

/-- the slot hypotheses of the route theorems (`featIndex fs name = some i`, the entry there is of kind
    `K` in unit `fu`) say: a getter of that kind reads slot `i` -/
theorem readWith_slot (K : SlotKind α β) (hm : Represents m fs) {name : String} {i : Nat} {fu : β}
    (hi : featIndex fs name = some i) (hk : (fs[i]?).map (·.kind) = some (K.ctor fu))
    (state : List α) (k : α → β → γ) :
    StateModel.readWith m state name K.sel k =
      match state[i]? with
      | some v => .ok (k v fu)
      | none => .error .runtime := by
  obtain ⟨f, hf, hg⟩ := getFeature_of_some hm hi
  rw [hf] at hk
  simp only [StateModel.readWith, getStateVariable_full hm, hi, hg]
  cases state[i]? with
  | none => rfl
  | some v => simp only [Except.ok_bind, K.sel_toFeature, K.pick_iff.mpr (Option.some.inj hk)]; rfl

/-- a feature of kind `K` of the state model, seen from the feature list: the entry in its slot has
    that unit and that initial value -/
theorem kindSlot_of_feature (K : SlotKind α β) (hm : Represents m fs) {name : String} {i : Nat} {fu : β}
    {init : α} (hi : m.getIndex name = some i) (hg : m.getFeature name = .ok (K.feature fu init)) :
    ∃ f, featIndex fs name = some i ∧ fs[i]? = some f ∧ f.kind = K.ctor fu ∧ f.init = init := by
  rw [getIndex_eq_featIndex hm] at hi
  obtain ⟨f, hf, hg'⟩ := getFeature_of_some hm hi
  rw [hg'] at hg
  obtain ⟨hk, hinit⟩ := K.toFeature_eq.mp (Except.ok.inj hg)
  exact ⟨f, hi, hf, hk, hinit⟩

/-- and conversely the slot hypotheses are statements about the state model: the name has slot `i`
    and its feature is of kind `K` in unit `fu` -/
theorem kindSlot_iff (K : SlotKind α β) (hm : Represents m fs) (name : String) (i : Nat) (fu : β) :
    (featIndex fs name = some i ∧ (fs[i]?).map (·.kind) = some (K.ctor fu)) ↔
      (m.getIndex name = some i ∧ ∃ init, m.getFeature name = .ok (K.feature fu init)) := by
  constructor
  · rintro ⟨hi, hk⟩
    obtain ⟨f, hf, hg⟩ := getFeature_of_some hm hi
    rw [hf] at hk
    exact ⟨(getIndex_eq_featIndex hm name).trans hi, f.init,
      by rw [hg, K.toFeature_eq.mpr ⟨Option.some.inj hk, rfl⟩]⟩
  · rintro ⟨hi, init, hg⟩
    obtain ⟨f, hi', hf, hk, -⟩ := kindSlot_of_feature K hm hi hg
    exact ⟨hi', by rw [hf]; exact congrArg some hk⟩

end kindSlots

section getters
variable [Mul α] [Div α] [Lit α]

/-- under the slot hypotheses `get_distance(state, name, u)` is slot `i` converted from `fu` to `u` -/
theorem getDistance_slot (hm : Represents m fs) {name : String} {i : Nat} {fu : DistanceUnit}
    (hi : featIndex fs name = some i) (hk : (fs[i]?).map (·.kind) = some (FeatKind.dist fu))
    (state : List α) (u : DistanceUnit) :
    m.getDistance state name u =
      match state[i]? with
      | some v => .ok (fu.convert u v)
      | none => .error .runtime := by
  rw [StateModel.getDistance_eq]
  exact readWith_slot distKind hm hi hk state _

theorem getTime_slot (hm : Represents m fs) {name : String} {i : Nat} {fu : TimeUnit}
    (hi : featIndex fs name = some i) (hk : (fs[i]?).map (·.kind) = some (FeatKind.time fu))
    (state : List α) (u : TimeUnit) :
    m.getTime state name u =
      match state[i]? with
      | some v => .ok (fu.convert u v)
      | none => .error .runtime := by
  rw [StateModel.getTime_eq]
  exact readWith_slot timeKind hm hi hk state _

end getters

end represented

/-! ### whole steps: the traversal, access and edge-traversal functions of `Model/Instance.lean`
written against the `StateModel` API (`state_model.add_distance(..)?`, `state_model.add_time(..)?`;
the error is forgotten exactly as `Model/Instance.lean` forgets it) -/

section steps
variable [Add α] [Sub α] [Mul α] [Div α] [LT α] [LE α] [DecidableLT α] [DecidableLE α] [BEq α] [Lit α]

/-- `TraversalModel::traverse_edge` over a `StateModel` -/
def traverseSM (tm : TravModel α) (m : StateModel α) (edges : List (EdgeRec α)) (e : Nat)
    (state : List α) : Option (List α) :=
  match edges[e]? with
  | none => none
  | some er =>
    match tm with
    | .distance du =>
      (m.addDistance state "distance" (baseDistanceUnit.convert du er.dist) du).toOption
    | .speed su du tu _ table =>
      let d := baseDistanceUnit.convert du er.dist
      match table[e]? with
      | none => none
      | some sp =>
        match createTime sp su d du tu with
        | none => none
        | some t =>
          match (m.addTime state "time" t tu).toOption with
          | none => none
          | some st1 => (m.addDistance st1 "distance" d du).toOption

/-- `TraversalModel::estimate_traversal` over a `StateModel` -/
def estimateSM (tm : TravModel α) (m : StateModel α) (gcMeters : α) (state : List α) :
    Option (List α) :=
  match tm with
  | .distance du =>
    (m.addDistance state "distance" (DistanceUnit.meters.convert du gcMeters) du).toOption
  | .speed su du tu maxSpeed _ =>
    let d := DistanceUnit.meters.convert du gcMeters
    if d == (zero : α) then some state
    else
      match createTime maxSpeed su d du tu with
      | none => none
      | some t =>
        match (m.addTime state "time" t tu).toOption with
        | none => none
        | some st1 => (m.addDistance st1 "distance" d du).toOption

/-- `AccessModel::access_edge` over a `StateModel` -/
def accessSM (am : AccessModel α) (m : StateModel α) (pe ne : Nat) (state : List α) :
    Option (List α) :=
  match am with
  | .noAccess => some state
  | .turnDelay tu headings delays =>
    match turnDelayOf headings delays pe ne with
    | Option.none => Option.none
    | Option.some d => (m.addTime state "time" d tu).toOption

/-- `edgeAccess` of `Model/Instance.lean` over a `StateModel` -/
def edgeAccessSM (c : Config α) (m : StateModel α) (e : Nat) (last : Option Nat)
    (prevState : List α) : Except ErrKind (α × List α) :=
  match last with
  | none => .ok (zero, prevState)
  | some l =>
    match c.edges[l]? with
    | none => .error .network
    | some _ =>
      let pe := if c.reverse then e else l
      let ne := if c.reverse then l else e
      match accessSM c.access m pe ne prevState with
      | none => .error .access
      | some st1 =>
        match c.cost.accessCost pe ne prevState st1 with
        | none => .error .cost
        | some ac => .ok ((zero : α) + ac, st1)

/-- `EdgeTraversal::forward_traversal / reverse_traversal` over a `StateModel` -/
def edgeTraversalSM (c : Config α) (m : StateModel α) (e : Nat) (last : Option Nat)
    (prevState : List α) : Except ErrKind (α × α × List α) :=
  match c.edges[e]? with
  | none => .error .network
  | some _ =>
    match edgeAccessSM c m e last prevState with
    | .error k => .error k
    | .ok (ac, st1) =>
      match traverseSM c.trav m c.edges e st1 with
      | none => .error .traversal
      | some st2 =>
        match c.cost.traversalCost e prevState st2 with
        | none => .error .cost
        | some total => .ok (ac, total - ac, st2)

/-- `SearchInstance::estimate_traversal_cost` over a `StateModel` -/
def modelEstimateSM (c : Config α) (m : StateModel α) (v : Nat) (state : List α) : Except ErrKind α :=
  match c.gc[v]? with
  | none => .error .network
  | some gcm =>
    if gcm < zero then .error .traversal
    else
      match estimateSM c.trav m gcm state with
      | none => .error .traversal
      | some dst =>
        match c.cost.costEstimate state dst with
        | none => .error .cost
        | some est => .ok (est * (match c.wf with | some w => w | none => one))

variable {m : StateModel α} {fs : List (Feat α)}

theorem traverse_eq (hm : Represents m fs) (tm : TravModel α) (edges : List (EdgeRec α)) (e : Nat)
    (state : List α) : tm.traverse fs edges e state = traverseSM tm m edges e state := by
  unfold TravModel.traverse traverseSM
  simp only [addDistance_toOption hm, addTime_toOption hm]
  rfl

theorem estimate_eq (hm : Represents m fs) (tm : TravModel α) (gcMeters : α) (state : List α) :
    tm.estimate fs gcMeters state = estimateSM tm m gcMeters state := by
  unfold TravModel.estimate estimateSM
  simp only [addDistance_toOption hm, addTime_toOption hm]
  rfl

theorem access_eq (hm : Represents m fs) (am : AccessModel α) (pe ne : Nat) (state : List α) :
    am.access fs pe ne state = accessSM am m pe ne state := by
  unfold AccessModel.access accessSM
  simp only [addTime_toOption hm]
  rfl

theorem edgeAccess_eq {c : Config α} (hm : Represents m c.feats) (e : Nat) (last : Option Nat)
    (st : List α) : edgeAccess c e last st = edgeAccessSM c m e last st := by
  unfold edgeAccess edgeAccessSM
  simp only [access_eq hm]
  rfl

/-- one search step (`Inst.trav` of a configured instance) is the step over the full state model -/
theorem edgeTraversal_eq {c : Config α} (hm : Represents m c.feats) (e : Nat) (last : Option Nat)
    (st : List α) : edgeTraversal c e last st = edgeTraversalSM c m e last st := by
  unfold edgeTraversal edgeTraversalSM
  simp only [edgeAccess_eq hm, traverse_eq hm]
  rfl

/-- the A* estimate (`Inst.h`) likewise -/
theorem modelEstimate_eq {c : Config α} (hm : Represents m c.feats) (v : Nat) (st : List α) :
    estimate c v st = modelEstimateSM c m v st := by
  unfold estimate modelEstimateSM
  simp only [estimate_eq hm]
  rfl

end steps

end StateRefine
end Compass
