/-
Worker threads as interleavings of atomic steps, and a single-query function with shared state
(`Model/Batch.lean`, last two sections): no schedule changes what a worker will have produced when it is done
(`Worker.total`, `exec_total`), draining schedules exist, and a stateful single-query function that agrees with
the pure one under an invariant of the state cannot be told apart by the workers (`execS_snd`); the rounded
prediction cache (`cachedPredict_ok`).
-/
import Compass.Model.Batch
import Mathlib.Data.List.Flatten

namespace Compass
namespace Batch

/-! ### worker interleavings -/

/-- what worker `w` will have produced once it is done -/
def Worker.total (respond : Json → Json) (w : Worker) : List Json := w.done ++ w.todo.map respond

theorem Worker.step_total (respond : Json → Json) (w : Worker) :
    (w.step respond).total respond = w.total respond := by
  unfold Worker.step Worker.total
  cases h : w.todo with
  | nil => simp [h]
  | cons q r => simp

theorem stepAt_total (respond : Json → Json) : ∀ (i : Nat) (ws : List Worker),
    (stepAt respond i ws).map (Worker.total respond) = ws.map (Worker.total respond)
  | i, [] => by cases i <;> rfl
  | 0, w :: ws => by simp [stepAt, Worker.step_total]
  | i + 1, w :: ws => by simp [stepAt, stepAt_total respond i ws]

/-- the invariant of every schedule: no step changes what each worker will end up with -/
theorem exec_total (respond : Json → Json) : ∀ (sched : Sched) (ws : List Worker),
    (exec respond sched ws).map (Worker.total respond) = ws.map (Worker.total respond)
  | [], _ => rfl
  | i :: s, ws => by
    simp only [exec, List.foldl_cons]
    have := exec_total respond s (stepAt respond i ws)
    simp only [exec] at this
    rw [this, stepAt_total]

theorem finished_total (respond : Json → Json) : ∀ (ws : List Worker), finished ws = true →
    ws.map (Worker.total respond) = ws.map (·.done)
  | [], _ => rfl
  | w :: ws, h => by
    simp only [finished, List.all_cons, Bool.and_eq_true, List.isEmpty_iff] at h
    have ih := finished_total respond ws (by simpa [finished] using h.2)
    simp [Worker.total, h.1, ih]

theorem initWorkers_total (respond : Json → Json) (bins : List (List Json)) :
    (initWorkers bins).map (Worker.total respond) = bins.map (fun b => b.map respond) := by
  simp [initWorkers, Worker.total, Function.comp_def]

/-- the worker once its bin is fully processed -/
def Worker.drain (respond : Json → Json) (w : Worker) : Worker :=
  { done := w.total respond, todo := [] }

theorem stepAt_append (respond : Json → Json) : ∀ (pre : List Worker) (w : Worker) (post : List Worker),
    stepAt respond pre.length (pre ++ w :: post) = pre ++ w.step respond :: post
  | [], _, _ => rfl
  | p :: ps, w, post => by simp [stepAt, stepAt_append respond ps w post]

theorem exec_replicate_drain (respond : Json → Json) (pre : List Worker) (w : Worker) (post : List Worker) :
    exec respond (List.replicate w.todo.length pre.length) (pre ++ w :: post)
      = pre ++ w.drain respond :: post := by
  obtain ⟨d, t⟩ := w
  induction t generalizing d with
  | nil => simp [exec, Worker.drain, Worker.total]
  | cons q r ih =>
    simp only [List.length_cons, List.replicate_succ, exec, List.foldl_cons, stepAt_append]
    have := ih (d ++ [respond q])
    simp only [exec] at this
    simp only [Worker.step]
    rw [this]
    simp [Worker.drain, Worker.total]

theorem exec_append (respond : Json → Json) (s₁ s₂ : Sched) (ws : List Worker) :
    exec respond (s₁ ++ s₂) ws = exec respond s₂ (exec respond s₁ ws) := by
  simp [exec, List.foldl_append]

theorem exists_draining_sched (respond : Json → Json) : ∀ (ws pre : List Worker),
    ∃ sched, exec respond sched (pre ++ ws) = pre ++ ws.map (Worker.drain respond)
  | [], pre => ⟨[], by simp [exec]⟩
  | w :: post, pre => by
    obtain ⟨s₂, h₂⟩ := exists_draining_sched respond post (pre ++ [w.drain respond])
    refine ⟨List.replicate w.todo.length pre.length ++ s₂, ?_⟩
    rw [exec_append, exec_replicate_drain]
    simpa [Worker.drain] using h₂

theorem finished_drain (respond : Json → Json) (ws : List Worker) :
    finished (ws.map (Worker.drain respond)) = true := by
  simp [finished, Worker.drain]

/-! ### shared state

`respondS` is a single-query function that reads and updates a shared state; `I` is an invariant of that state
under which it answers what the pure `respond` answers.  Then the workers cannot tell the two apart, step by
step (`stepAtS_snd`) and hence under every schedule (`execS_snd`). -/

theorem stepAtS_snd {σ : Type} (respondS : RespondS σ) (respond : Json → Json) (I : σ → Prop)
    (h : ∀ s q, I s → (respondS s q).1 = respond q ∧ I (respondS s q).2) :
    ∀ (i : Nat) (ws : List Worker) (s : σ), I s →
      (stepAtS respondS i (s, ws)).2 = stepAt respond i ws ∧ I (stepAtS respondS i (s, ws)).1
  | i, [], s, hs => by cases i <;> exact ⟨rfl, hs⟩
  | 0, w :: ws, s, hs => by
    cases hw : w.todo with
    | nil => simp [stepAtS, stepAt, Worker.step, hw, hs]
    | cons q r =>
      obtain ⟨h1, h2⟩ := h s q hs
      simp [stepAtS, stepAt, Worker.step, hw, h1, h2]
  | i + 1, w :: ws, s, hs => by
    obtain ⟨h1, h2⟩ := stepAtS_snd respondS respond I h i ws s hs
    simp [stepAtS, stepAt, h1, h2]

theorem execS_snd {σ : Type} (respondS : RespondS σ) (respond : Json → Json) (I : σ → Prop)
    (h : ∀ s q, I s → (respondS s q).1 = respond q ∧ I (respondS s q).2) :
    ∀ (sched : Sched) (ws : List Worker) (s : σ), I s →
      (execS respondS sched (s, ws)).2 = exec respond sched ws
  | [], _, _, _ => rfl
  | i :: sched, ws, s, hs => by
    obtain ⟨h1, h2⟩ := stepAtS_snd respondS respond I h i ws s hs
    simp only [execS, exec, List.foldl_cons]
    have := execS_snd respondS respond I h sched (stepAt respond i ws) (stepAtS respondS i (s, ws)).1 h2
    simp only [execS, exec] at this
    rw [← this, ← h1]

/-- the invariant of a collision-free cache: every stored value is the prediction of every input with
that rounded key -/
def CacheOk (round f : Nat → Nat) (cache : List (Nat × Nat)) : Prop :=
  ∀ p ∈ cache, ∀ x, round x = p.1 → f x = p.2

theorem cachedPredict_ok (round f : Nat → Nat) (hfac : ∀ x y, round x = round y → f x = f y)
    (cache : List (Nat × Nat)) (hc : CacheOk round f cache) (x : Nat) :
    (cachedPredict round f cache x).1 = f x ∧ CacheOk round f (cachedPredict round f cache x).2 := by
  unfold cachedPredict
  cases hf : cache.find? (fun p => p.1 == round x) with
  | some p =>
    have hm := List.mem_of_find?_eq_some hf
    have hk : p.1 = round x := by simpa using List.find?_some hf
    exact ⟨(hc p hm x hk.symm).symm, hc⟩
  | none =>
    refine ⟨rfl, ?_⟩
    intro p hp y hy
    rcases List.mem_cons.mp hp with rfl | hp
    · exact hfac y x hy
    · exact hc p hp y hy

end Batch
end Compass
