/-
Concrete configurations meet the premises of the C02 / C05 theorems.

`SearchOpt.UniformCost` cannot hold of a `Config.inst` (on a malformed state vector or an unknown
previous edge the traversal fails); `SearchOpt.UniformCostOn` can, and does for every configuration
whose edge cost "does not depend on how the edge was reached":

* no access model (`NoAccessModel`): nothing is charged for the turn, the state is not touched
  between the parent's state and the traversal;
* no turn-restriction frontier model: the verdict on an edge does not depend on the previous edge;
* adjacency lists consistent with the edge list (what the loader guarantees, C15).

Nothing else is needed — any traversal model of the instance layer (distance, speed table), any
weights, vehicle rates (offsets included), network rates, either aggregation, any feature list:

* the traversal models change each state slot by an amount `edgeDelta c e i` that depends on the
  edge alone (in a field `(x + d) − x = d`), and the cost model reads the two states only through
  their difference (C07), so `CostModel::traversal_cost` is a function `costOf c e` of the edge;
* the record built by `EdgeTraversal::forward_traversal` has `traversal_cost = total − access_cost`,
  so `access + traversal = total` whatever was charged for the access;
* `enforce_strictly_positive` makes `costOf c e > 0` for any sign of weights, rates and lengths;
* calls that fail (short state vector, missing feature, table too short, …) fail the run, and the
  theorems are about runs that returned.

Likewise the estimate is a function `hOf c v` of the vertex (`estimate_eq`), and no component answers
"no path" (`Config.noSpuriousNoPath`).  Results: `Config.uniformCostOn` / `Config.uniformOn`, and on
top of them `config_route_least_cost` (C02, for `run_vertex_oriented`; C02 and C05 hold the forms for
`Config.runVertex`); with any access model (`Config.RestrictionLocal`, `Config.validLocal`) the
reachability theorems of `SearchReach` still apply (the `namespace SearchReach` section).  A
`namespace SearchLimits` section reads the limit theorems of `Proofs/SearchLimits.lean` on configured
instances.  The namespace `ConfigUniform.Example` at the end
holds the example network (`exC`, `exS`, `exA`, `exR`) that C01, C02, C05, C10 use for non-vacuity;
`ConfigAdmissible` (the metric premises, `exSA`) and `ConfigProgress` (well-formedness of `exC`) add to
the same namespace.

Names: a theorem `config_…` is an instance-level theorem read on `Config.inst` / `Config.runVertex`.
It stands in the namespace of the theorem it reads (`SearchLimits.config_…` here,
`SearchTermination.config_…`, `SearchReach.config_…`), in the root namespace when it combines several
(`config_route_least_cost`, `config_error_wf`).
-/
import Compass.Proofs.SearchRoute
import Compass.Proofs.SearchLimits

namespace Compass

set_option linter.unusedSectionVars false

section
variable {α : Type} [Field α] [LinearOrder α] [IsStrictOrderedRing α] [Lit α] [LawfulLit α]

open SearchOpt (Walk cost UniformCostOn UniformOn VertexHOn NoSpuriousNoPath Admissible)

/-! ### The traversal models: the state change of an edge is a function of the edge -/

/-- change of state slot `i` over edge `e` (whatever the state before): the converted length in the
distance slot; with the speed-table model also the converted travel time in the time slot -/
def Config.edgeDelta (c : Config α) (e i : Nat) : α :=
  match c.edges[e]? with
  | none => 0
  | some er =>
    match c.trav with
    | .distance du =>
      slotDelta (distSlot c.feats "distance")
        (fun fu => du.convert fu (baseDistanceUnit.convert du er.dist)) i
    | .speed su du tu _ table =>
      match table[e]? with
      | none => 0
      | some sp =>
        match createTime sp su (baseDistanceUnit.convert du er.dist) du tu with
        | none => 0
        | some t =>
          slotDelta (timeSlot c.feats "time") (fun fu => tu.convert fu t) i
            + slotDelta (distSlot c.feats "distance")
                (fun fu => du.convert fu (baseDistanceUnit.convert du er.dist)) i

/-- whenever `traverse_edge` answers, it added `edgeDelta` to the state, whatever it was before.
(`RouteSums.traverse_adds` is the same fact with the amounts `timeTerm` / `distTerm` of C03's sums,
which are total; `edgeDelta` is 0 as a whole when the traversal does not answer, so that `costOf` is
a function of the edge alone.  The two agree on traversals that answer; each is read off
`TravModel.traverse_ok`.) -/
theorem traverse_adds_edgeDelta (c : Config α) {e : Nat} {st st' : List α}
    (h : c.trav.traverse c.feats c.edges e st = some st') : Adds st st' (c.edgeDelta e) := by
  obtain ⟨er, her, hm⟩ := TravModel.traverse_ok h
  unfold Config.edgeDelta
  cases ht : c.trav with
  | distance du =>
    rw [ht] at hm
    simp only [her]
    exact addDistance_adds hm
  | speed su du tu ms table =>
    rw [ht] at hm
    obtain ⟨sp, t, st1, hsp, hct, h1, h2⟩ := hm
    simp only [her, hsp, hct]
    exact (addTime_adds h1).trans (addDistance_adds h2)

theorem Config.edgeDelta_distance (c : Config α) {du : DistanceUnit} (ht : c.trav = .distance du)
    {e : Nat} {er : EdgeRec α} (he : c.edges[e]? = some er) (i : Nat) :
    c.edgeDelta e i = slotDelta (distSlot c.feats "distance")
      (fun fu => du.convert fu (baseDistanceUnit.convert du er.dist)) i := by
  simp [Config.edgeDelta, he, ht]

theorem Config.edgeDelta_speed (c : Config α) {su : SpeedUnit} {du : DistanceUnit} {tu : TimeUnit}
    {ms : α} {table : List α} (ht : c.trav = .speed su du tu ms table)
    {e : Nat} {er : EdgeRec α} (he : c.edges[e]? = some er) {sp t : α} (hsp : table[e]? = some sp)
    (hct : createTime sp su (baseDistanceUnit.convert du er.dist) du tu = some t) (i : Nat) :
    c.edgeDelta e i = slotDelta (timeSlot c.feats "time") (fun fu => tu.convert fu t) i
      + slotDelta (distSlot c.feats "distance")
          (fun fu => du.convert fu (baseDistanceUnit.convert du er.dist)) i := by
  simp [Config.edgeDelta, he, ht, hsp, hct]

/-! ### The cost model reads the two states only through their difference -/

/-- the vehicle part of a cost when state slot `i` changes by `δ i` -/
def CostModel.vehicleOfDelta (m : CostModel α) (δ : Nat → α) : α :=
  m.part fun i => (m.vr i).mapValue (δ i)

/-- `CostModel::traversal_cost` for edge `e` when state slot `i` changes by `δ i` -/
def CostModel.costOfDelta (m : CostModel α) (e : Nat) (δ : Nat → α) : α :=
  enforceStrictlyPositive
    (m.agg.agg (m.indices.map fun i => (m.vr i).mapValue (δ i) * m.wt i)
      + m.agg.agg (m.traversalTerms e))

/-- whatever is asked of the cost model, it reads the two states through an `Adds` between them only:
inside the vectors it reads, that is what `stateDelta` reports -/
theorem CostModel.charged_of_adds (m : CostModel α) (q : CostQuery) {prev next : List α}
    {δ : Nat → α} (hδ : Adds prev next δ) {t : α} (h : m.charged q prev next = some t) :
    t = q.clip (m.vehicleOfDelta δ + m.netPart q) := by
  rw [m.charged_eq, Option.map_eq_some_iff] at h
  obtain ⟨s, hs, rfl⟩ := h
  obtain ⟨hr, rfl⟩ := (m.total_eq_some_iff q prev next s).mp hs
  have key : (m.part fun i => (m.vr i).mapValue (stateDelta prev next i)) = m.vehicleOfDelta δ :=
    CostModel.part_congr rfl rfl fun i hi => by rw [hδ.stateDelta (hr.toV i hi).1]
  rw [CostModel.value, key]

/-- the cost of edge `e` in configuration `c`: `traversal_cost` of the edge's own state change -/
def Config.costOf (c : Config α) (e : Nat) : α := c.cost.costOfDelta e (c.edgeDelta e)

theorem Config.costOf_eq (c : Config α) (e : Nat) :
    c.costOf e = enforceStrictlyPositive
      (c.cost.vehicleOfDelta (c.edgeDelta e) + c.cost.part fun i => (c.cost.nr i).traversalCost e) :=
  rfl

theorem Config.costOf_pos (c : Config α) (e : Nat) : 0 < c.costOf e := enforceStrictlyPositive_pos _

/-- under sum aggregation: the floor applied to
`Σᵢ wᵢ·rateᵢ(Δᵢ e) + Σᵢ wᵢ·(per-edge surcharge of feature i)` (C07's sum formula) -/
theorem Config.costOf_sum (c : Config α) (hs : c.cost.agg = .sum) (e : Nat) :
    c.costOf e = enforceStrictlyPositive
      ((c.cost.indices.map fun i => c.cost.wt i * (c.cost.vr i).mapValue (c.edgeDelta e i)).sum
        + (c.cost.indices.map fun i => c.cost.wt i * (c.cost.nr i).traversalCost e).sum) := by
  rw [c.costOf_eq, CostModel.vehicleOfDelta, c.cost.part_sum hs, c.cost.part_sum hs]

/-- when the formula is positive the floor is not in the way: `costOf` *is* the weighted sum -/
theorem Config.costOf_sum_of_pos (c : Config α) (hs : c.cost.agg = .sum) (e : Nat)
    (hpos : 0 <
      (c.cost.indices.map fun i => c.cost.wt i * (c.cost.vr i).mapValue (c.edgeDelta e i)).sum
        + (c.cost.indices.map fun i => c.cost.wt i * (c.cost.nr i).traversalCost e).sum) :
    c.costOf e =
      (c.cost.indices.map fun i => c.cost.wt i * (c.cost.vr i).mapValue (c.edgeDelta e i)).sum
        + (c.cost.indices.map fun i => c.cost.wt i * (c.cost.nr i).traversalCost e).sum := by
  rw [c.costOf_sum hs e, enforceStrictlyPositive_of_pos hpos]

/-! ### `EdgeTraversal` without access model -/

/-- without access model, whenever `forward_traversal` / `reverse_traversal` answers, the record's
`access + traversal` is `costOf c e`, whatever the previous edge and the state -/
theorem edgeTraversal_noAccess (c : Config α) (hacc : c.access = .noAccess) (e : Nat)
    (last : Option Nat) (st : List α) (ac tc : α) (st' : List α)
    (h : edgeTraversal c e last st = .ok (ac, tc, st')) : ac + tc = c.costOf e := by
  obtain ⟨_, st1, total, _, hea, htr, htot, rfl⟩ := edgeTraversal_ok h
  -- the access step leaves the state as it is
  have hst1 : st1 = st := by
    have hok := edgeAccess_ok hea
    cases last with
    | none => exact hok.2
    | some l =>
      obtain ⟨_, _, hst1, _⟩ := hok
      rw [hacc] at hst1
      exact (Option.some.inj hst1).symm
  subst hst1
  rw [show c.costOf e = total from
    (c.cost.charged_of_adds (.traversal e) (traverse_adds_edgeDelta c htr) htot).symm]
  ring

/-! ### Frontier models: without turn restrictions the verdict is a function of the edge -/

def FrontierM.prevFree : FrontierM α → Bool
  | .turnRestriction _ => false
  | _ => true

theorem FrontierM.valid_prevFree (m : FrontierM α) (h : m.prevFree = true) (e : Nat)
    (prev : Option Nat) : m.valid e prev = m.valid e none := by
  cases m with
  | turnRestriction pairs => simp [FrontierM.prevFree] at h
  | roadClass allowed table => rfl
  | vehicle table params => rfl
  | edgeCut cut => rfl

theorem frontierValid_prevFree :
    ∀ (ms : List (FrontierM α)), ms.all FrontierM.prevFree = true → ∀ (e : Nat) (prev : Option Nat),
      frontierValid ms e prev = frontierValid ms e none
  | [], _, _, _ => rfl
  | m :: ms, h, e, prev => by
    simp only [List.all_cons, Bool.and_eq_true] at h
    simp only [frontierValid, m.valid_prevFree h.1 e prev, frontierValid_prevFree ms h.2 e prev]

/-- the frontier models' verdict on edge `e` (an erring model is read as "no": such an edge fails
every run that reaches it) -/
def Config.okOf (c : Config α) (e : Nat) : Bool :=
  match frontierValid c.frontier e none with
  | .ok b => b
  | .error _ => false

/-! ### The premises, `ValidLocal` and `UniformCostOn` -/

/-- "restrictions that depend only on the edge itself": consistent adjacency and no turn-restriction
frontier model.  Any traversal model, **any access model** (turn delays included), any cost model,
weight factor, termination model, direction. -/
structure Config.RestrictionLocal (c : Config α) : Prop where
  adj : c.AdjConsistent
  noTurn : c.frontier.all FrontierM.prevFree = true

theorem Config.validLocal (c : Config α) (h : c.RestrictionLocal) :
    SearchReach.ValidLocal c.inst c.okOf where
  incident_term := h.adj
  valid_eq := by
    intro e st le b hv
    have hv := (Config.inst_valid_ok hv).2
    rw [frontierValid_prevFree c.frontier h.noTurn e le] at hv
    simp [Config.okOf, hv]

/-- "the cost of an edge does not depend on how the edge was reached": consistent adjacency, no
access model, no turn restrictions.  (Decidable but for `AdjConsistent`, which quantifies over the
adjacency lists.) -/
structure Config.EdgeLocal (c : Config α) : Prop where
  adj : c.AdjConsistent
  noAccess : c.access = .noAccess
  noTurn : c.frontier.all FrontierM.prevFree = true

theorem Config.EdgeLocal.restrictionLocal {c : Config α} (h : c.EdgeLocal) : c.RestrictionLocal :=
  ⟨h.adj, h.noTurn⟩

/-- **every edge-local configuration meets `UniformCostOn`** (with the trivial invariant: the
partial-correctness premises hold on every call that answers) -/
theorem Config.uniformCostOn (c : Config α) (h : c.EdgeLocal) :
    UniformCostOn c.inst (fun _ _ => True) c.okOf c.costOf where
  incident_term := h.adj
  init_ok := trivial
  valid_eq := fun e le st b _ hv => (c.validLocal h.restrictionLocal).valid_eq e st le b hv
  trav_eq := by
    intro e le st ac tc st' _ _ ht
    exact ⟨edgeTraversal_noAccess c h.noAccess e le st ac tc st' ht, trivial⟩
  cost_pos := c.costOf_pos

/-! ### The estimate is a function of the vertex -/

/-- change of state slot `i` in `estimate_traversal` from vertex `v` (whatever the state) -/
def Config.estDelta (c : Config α) (v i : Nat) : α :=
  match c.gc[v]? with
  | none => 0
  | some gcm =>
    match c.trav with
    | .distance du =>
      slotDelta (distSlot c.feats "distance")
        (fun fu => du.convert fu (DistanceUnit.meters.convert du gcm)) i
    | .speed su du tu maxSpeed _ =>
      if DistanceUnit.meters.convert du gcm == (zero : α) then 0
      else
        match createTime maxSpeed su (DistanceUnit.meters.convert du gcm) du tu with
        | none => 0
        | some t =>
          slotDelta (timeSlot c.feats "time") (fun fu => tu.convert fu t) i
            + slotDelta (distSlot c.feats "distance")
                (fun fu => du.convert fu (DistanceUnit.meters.convert du gcm)) i

theorem estimate_adds (c : Config α) {v : Nat} {gcm : α} (hg : c.gc[v]? = some gcm)
    {st dst : List α} (h : c.trav.estimate c.feats gcm st = some dst) :
    Adds st dst (c.estDelta v) := by
  have hm := TravModel.estimate_ok h
  unfold Config.estDelta
  cases ht : c.trav with
  | distance du =>
    rw [ht] at hm
    simp only [hg]
    exact addDistance_adds hm
  | speed su du tu ms table =>
    rw [ht] at hm
    dsimp only at hm
    simp only [hg]
    split at hm
    · rename_i hz
      subst hm
      simp only [if_pos hz]
      exact Adds.zero _
    · rename_i hz
      obtain ⟨t, st1, hct, h1, h2⟩ := hm
      simp only [if_neg hz, hct]
      exact (addTime_adds h1).trans (addDistance_adds h2)

/-- `weight_factor`, absent read as one -/
def Config.wfOf (c : Config α) : α :=
  match c.wf with
  | some w => w
  | none => 1

/-- the heuristic of configuration `c` as a function of the vertex -/
def Config.hOf (c : Config α) (v : Nat) : α :=
  enforceNonNegative
    (c.cost.agg.agg (c.cost.indices.map fun i => (c.cost.vr i).mapValue (c.estDelta v i) * c.cost.wt i))
    * c.wfOf

theorem Config.hOf_eq (c : Config α) (v : Nat) :
    c.hOf v = enforceNonNegative (c.cost.vehicleOfDelta (c.estDelta v)) * c.wfOf := rfl

/-- whenever `estimate_traversal_cost` answers, it answers `hOf c v` — whatever the state -/
theorem estimate_eq (c : Config α) (v : Nat) (st : List α) (x : α)
    (h : estimate c v st = .ok x) : x = c.hOf v := by
  obtain ⟨gcm, dst, est, hg, _, hd, hest, rfl⟩ := estimate_ok h
  rw [c.cost.charged_of_adds .estimate (estimate_adds c hg hd) hest, c.cost.netPart_estimate, c.hOf_eq, add_zero]
  unfold Config.wfOf
  cases c.wf <;> simp [one_eq, CostQuery.clip]

theorem Config.vertexHOn (c : Config α) : VertexHOn c.inst (fun _ _ => True) c.hOf := by
  intro v le st x _ h
  exact estimate_eq c v st x h

theorem Config.hOf_nonneg (c : Config α) (hwf : 0 ≤ c.wfOf) (v : Nat) : 0 ≤ c.hOf v :=
  mul_nonneg (enforceNonNegative_nonneg _) hwf

/-- Dijkstra is weight factor 0 -/
theorem Config.hOf_dijkstra (c : Config α) (hwf : c.wf = some 0) (v : Nat) : c.hOf v = 0 := by
  simp [Config.hOf, Config.wfOf, hwf]

theorem Config.uniformOn (c : Config α) (h : c.EdgeLocal) (hwf : 0 ≤ c.wfOf) :
    UniformOn c.inst (fun _ _ => True) c.okOf c.costOf c.hOf :=
  { c.uniformCostOn h with h_eq := c.vertexHOn, h_nonneg := c.hOf_nonneg hwf }

/-! ### No component answers "no path": the models err with a `ModelErr`, the limits terminate -/

theorem Config.noSpuriousNoPath (c : Config α) : NoSpuriousNoPath c.inst where
  valid := fun e st le h => (Config.inst_valid_error h).ne_noPath rfl
  trav := fun e le st h => (edgeTraversal_error (c := c) h).ne_noPath rfl
  h := fun v st h => (estimate_error (c := c) h).ne_noPath rfl
  term := fun n i h => by
    rcases SearchLimits.test_error_kinds c.term n i _ h with ⟨_, h, _⟩ | h
    · cases h
    · cases h

/-! ### C05 for concrete configurations with any access model (`Config.RestrictionLocal`)

The reachability theorems of `SearchReach` (`Proofs/SearchOpt.lean`) read on `Config.runVertex` and
through the edge-oriented wrapper. -/

namespace SearchReach

theorem config_result_implies_reachable (c : Config α) (h : c.RestrictionLocal) {source t : Nat}
    {sched : List Nat} {r : AlgResult α} (hrun : c.runVertex source (some t) sched = .ok r) :
    ∃ es, Walk c.inst c.okOf source es t := by
  obtain ⟨res, hres, _⟩ := runVertex_ok hrun
  exact ok_walk (c.validLocal h).validOn (SearchTree.runVertexOriented_final hres)

theorem config_nopath_implies_unreachable (c : Config α) (h : c.RestrictionLocal) {source t : Nat}
    {sched : List Nat} (hrun : c.runVertex source (some t) sched = .error .noPath) :
    ¬ ∃ es, Walk c.inst c.okOf source es t :=
  nopath_imp_unreachable (c.validLocal h).validOn c.noSpuriousNoPath
    ((SearchTree.runVertexOriented_error_iff (c.inst_wf h.adj)).1
      ((runVertex_error_iff c _ _ _ _).1 hrun))

/-- among the outcomes "a result" and "no path", `Config.runVertex` answers "no path" exactly when
no valid walk source ⇝ `t` exists, and returns a result exactly when one does -/
theorem config_nopath_iff_unreachable (c : Config α) (h : c.RestrictionLocal) {source t : Nat}
    {sched : List Nat}
    (hres : (∃ r, c.runVertex source (some t) sched = .ok r) ∨
      c.runVertex source (some t) sched = .error .noPath) :
    (c.runVertex source (some t) sched = .error .noPath ↔
        ¬ ∃ es, Walk c.inst c.okOf source es t) ∧
    ((∃ r, c.runVertex source (some t) sched = .ok r) ↔ ∃ es, Walk c.inst c.okOf source es t) :=
  (SearchOpt.iff_of_outcomes (fun ⟨_, hr⟩ => config_result_implies_reachable c h hr)
    (config_nopath_implies_unreachable c h) hres).symm

/-- destination-less search: the returned tree holds exactly the vertices reachable by a valid walk
(the source has no entry) -/
theorem config_tree_reachable (c : Config α) (h : c.RestrictionLocal) {source : Nat}
    {sched : List Nat} {r : AlgResult α} (hrun : c.runVertex source none sched = .ok r) :
    ∃ tree, r.trees = [tree] ∧ tree source = none ∧
      ∀ v, (v = source ∨ (tree v).isSome) ↔ ∃ es, Walk c.inst c.okOf source es v := by
  obtain ⟨res, hres, htrees, _, _⟩ := runVertex_ok hrun
  have hra := (SearchTree.runVertexOriented_none hres).1
  have hinv := SearchRoute.treeInv_of_tree_run (c.inst_wf h.adj) hra
  refine ⟨res.final.sol, htrees, hinv.sol_source, fun v => ?_⟩
  rw [← tree_eq_reachable (c.validLocal h) c.noSpuriousNoPath hra v]
  constructor
  · intro hv
    obtain ⟨x, hx⟩ := SearchTree.labelled_of_entry hinv hv
    rw [hx]; rfl
  · intro hv
    obtain ⟨x, hx⟩ := Option.isSome_iff_exists.1 hv
    exact hinv.labelled v x hx

/-! ### Through the edge-oriented wrapper -/

/-- **edge-oriented query with a destination** (distinct origin and destination edges): a result
implies that the destination edge's tail is reachable from the origin edge's head through permitted
edges, and "no path" that it is not.  The origin and destination edges themselves are given by the
query and never shown to the frontier model; when they are adjacent the inner walk is empty and
"no path" is never answered. -/
theorem config_edge_oriented_reachability (c : Config α) (h : c.RestrictionLocal)
    (source tgt : Nat) (sched : List Nat) (e1 e2 : EdgeRec α)
    (h1 : c.edges[source]? = some e1) (h2 : c.edges[tgt]? = some e2) (hne : source ≠ tgt) :
    (∀ r, c.runEdge source (some tgt) sched = .ok r →
      ∃ es, Walk c.inst c.okOf e1.dst es e2.src) ∧
    (c.runEdge source (some tgt) sched = .error .noPath →
      ¬ ∃ es, Walk c.inst c.okOf e1.dst es e2.src) := by
  by_cases hadj' : e1.dst = e2.src
  · refine ⟨fun _ _ => ⟨[], hadj'⟩, fun hnp => ?_⟩
    exact absurd rfl
      (SearchRoute.runEdge_adjacent_error c source tgt sched _ e1 e2 h1 h2 hne hadj' hnp).ne_noPath
  · refine ⟨fun r hr => ?_, fun hnp => ?_⟩
    · obtain ⟨res, _, _, hres, _⟩ :=
        SearchRoute.runEdge_nonadjacent c source tgt sched r e1 e2 h1 h2 hne hadj' hr
      exact config_result_implies_reachable c h (runVertex_eq hres)
    · exact config_nopath_implies_unreachable c h
        (SearchRoute.runEdge_nonadjacent_error c h.adj source tgt sched _ e1 e2 h1 h2 hne hadj' hnp)

end SearchReach

/-! ### Route optimality on edge-local configurations -/

/-- Dijkstra is weight factor 0: the estimate is zero, no admissibility premise is needed -/
theorem Config.admissible_dijkstra (c : Config α) (hwf : c.wf = some 0) (t : Nat) :
    Admissible c.inst c.okOf c.costOf c.hOf t :=
  (funext (c.hOf_dijkstra hwf) : c.hOf = fun _ => 0) ▸ SearchRoute.admissible_zero c.costOf_pos t

/-- **C02 on a concrete configuration, A\***: for every edge-local configuration with a non-negative
weight factor whose estimate is admissible for `t`, every source, every schedule: the route
`run_vertex_oriented` returns is a valid walk source ⇝ `t`, its summed cost is `Σ costOf` over its
edges, and no valid walk source ⇝ `t` costs less.  (C02 reads it on `Config.runVertex`, the
k-shortest-paths proofs on the first search.) -/
theorem config_route_least_cost (c : Config α) (h : c.EdgeLocal) (hwf : 0 ≤ c.wfOf)
    {source t : Nat} (hts : t ≠ source) (hadm : Admissible c.inst c.okOf c.costOf c.hOf t)
    {sched : List Nat} {res : SearchResult α}
    (hres : runVertexOriented c.inst source (some t) sched = .ok res) :
    ∃ route, res.route = some route ∧ route ≠ [] ∧
      Walk c.inst c.okOf source (route.map (·.edge)) t ∧
      (route.map (fun b => b.access + b.traversal)).sum = cost c.costOf (route.map (·.edge)) ∧
      ∀ es, Walk c.inst c.okOf source es t →
        (route.map (fun b => b.access + b.traversal)).sum ≤ cost c.costOf es :=
  let ⟨route, _, hr, hne, hw, hsum, _, _, hmin⟩ :=
    SearchRoute.route_optimal_on (c.inst_wf h.adj) (c.uniformOn h hwf) hts hadm hres
  ⟨route, hr, hne, hw, hsum, hmin⟩

/-! ### The limit theorems of `SearchLimits` on configured instances (`Config.inst` sets `term := c.term.test`) -/

namespace SearchLimits

/-- nor `Terminated`: only the limits do -/
theorem config_components_not_terminated (c : Config α) : ComponentsNotTerminated c.inst where
  valid := fun e st le ks h => (Config.inst_valid_error h).ne_terminated ks rfl
  trav := fun e le st ks h => (edgeTraversal_error (c := c) h).ne_terminated ks rfl
  h := fun v st ks h => (estimate_error (c := c) h).ne_terminated ks rfl

/-- `SearchLimits.iterations_le_limit` with an `iters L` limit anywhere in the configured termination
model -/
theorem config_iterations_le_limit (c : Config α) {L : Nat} (hl : Leaf (.iters L) c.term)
    {source : Nat} {target : Option Nat} {sched : List Nat} {s : SState α}
    (hrun : runAStar c.inst source target sched = .ok s) :
    s.iters ≤ L ∧ (target ≠ some source → s.iters < L) :=
  iterations_le_limit (iterLimit_of_leaf (I := c.inst) rfl hl) hrun

/-- `success_monotone` between two configurations that differ in the termination model only -/
theorem config_success_monotone (c : Config α) (m₂ : TermM)
    (hmono : ∀ sz it, c.term.test sz it = .ok () → m₂.test sz it = .ok ())
    {source : Nat} {target : Option Nat} {sched : List Nat} {r : SearchResult α}
    (h : runVertexOriented c.inst source target sched = .ok r) :
    runVertexOriented ({ c with term := m₂ } : Config α).inst source target sched = .ok r :=
  runVertexOriented_mono (I := c.inst) hmono h

/-- the same for `Config.runVertex` (`SearchAlgorithmResult`) -/
theorem config_runVertex_mono (c : Config α) (m₂ : TermM)
    (hmono : ∀ sz it, c.term.test sz it = .ok () → m₂.test sz it = .ok ())
    {source : Nat} {target : Option Nat} {sched : List Nat} {r : AlgResult α}
    (h : c.runVertex source target sched = .ok r) :
    ({ c with term := m₂ } : Config α).runVertex source target sched = .ok r := by
  obtain ⟨res, hres, h1, h2, h3⟩ := runVertex_ok h
  rw [runVertex_eq (config_success_monotone c m₂ hmono hres), ← h1, ← h2, ← h3]

/-- a returned `Config.runVertex` result performed at most `L` expansions -/
theorem config_runVertex_iterations_le_limit (c : Config α) {L : Nat} (hl : Leaf (.iters L) c.term)
    {source : Nat} {target : Option Nat} {sched : List Nat} {r : AlgResult α}
    (h : c.runVertex source target sched = .ok r) : r.iterations ≤ L := by
  obtain ⟨res, hres, _, _, hit⟩ := runVertex_ok h
  rw [hit]
  exact (config_iterations_le_limit c hl (SearchTree.runVertexOriented_final hres)).1

end SearchLimits

end

/-! ### Non-vacuity: concrete configurations over ℚ

Five vertices (4 is isolated), eight edges: 0: 0→1 (1000 m), 1: 1→2 (2000 m), 2: 2→3 (500 m),
3: 1→1 (self loop), 4: 3→1 (closes a cycle), 5: 2→2 (self loop), 6: 0→3 (10 m, a shortcut the
frontier model forbids), 7: 1→3 (3000 m).

* `exC`: distance model in metres writing a *kilometre* feature; cost = 2 · (3 · km + 1) plus a
  surcharge of 5 on edge 2 (weight 2, a combined rate with an **offset**, an edge lookup); weight
  factor 0 (Dijkstra).  By length the best route is `[0, 1, 2]`; by cost it is `[0, 7]`.
* `exS`: speed-table model (km/h table, seconds, a minutes feature), cost = travel time; edge 7 is
  slow, the best route is `[0, 1, 2]`.
* `exA`: raw distance cost, weight factor one, a great-circle table that is consistent with the edge
  lengths: A* with an admissible non-zero estimate. -/

namespace ConfigUniform.Example

open SearchOpt (Walk cost Admissible)
open SearchRoute.Example (routeEdgesOf ok_of_routeEdgesOf)

def exC : Config ℚ where
  nV := 5
  edges := [⟨0, 1, 1000⟩, ⟨1, 2, 2000⟩, ⟨2, 3, 500⟩, ⟨1, 1, 100⟩, ⟨3, 1, 700⟩, ⟨2, 2, 50⟩,
            ⟨0, 3, 10⟩, ⟨1, 3, 3000⟩]
  outAdj := [[0, 6], [1, 3, 7], [2, 5], [4]]
  inAdj := [[], [0, 3, 4], [1, 5], [2, 6, 7]]
  feats := [{ name := "distance", kind := .dist .kilometers, init := 0 }]
  trav := .distance .meters
  access := .noAccess
  cost := { indices := [0], weights := [2], vehicleRates := [.combined [.factor 3, .offset 1]],
            networkRates := [.edgeLookup [(2, 5)]], agg := .sum }
  frontier := [.edgeCut [6]]
  term := .iters 100
  reverse := false
  gc := [0, 0, 0, 0, 0]
  wf := some 0

def exS : Config ℚ := { exC with
  feats := [{ name := "distance", kind := .dist .meters, init := 0 },
            { name := "time", kind := .time .minutes, init := 0 }]
  trav := .speed .kilometersPerHour .meters .seconds 72 [36, 36, 36, 36, 36, 36, 36, 18]
  cost := { indices := [0, 1], weights := [0, 1], vehicleRates := [.raw, .raw],
            networkRates := [.zero, .zero], agg := .sum } }

def exA : Config ℚ := { exC with
  feats := [{ name := "distance", kind := .dist .meters, init := 0 }]
  cost := { indices := [0], weights := [1], vehicleRates := [.raw], networkRates := [.zero],
            agg := .sum }
  gc := [3000, 2400, 500, 0, 0]
  wf := none }

/-- the same network searched backwards (from vertex 3 over the in-edges) -/
def exR : Config ℚ := { exC with reverse := true }

theorem exC_edgeLocal : exC.EdgeLocal := ⟨adjConsistent_of_lists _ (by decide +kernel), rfl, rfl⟩
theorem exS_edgeLocal : exS.EdgeLocal := ⟨adjConsistent_of_lists _ (by decide +kernel), rfl, rfl⟩
theorem exA_edgeLocal : exA.EdgeLocal := ⟨adjConsistent_of_lists _ (by decide +kernel), rfl, rfl⟩
theorem exR_edgeLocal : exR.EdgeLocal := ⟨adjConsistent_of_lists _ (by decide +kernel), rfl, rfl⟩

/-- no vertex has more than three incident edges (forward search) -/
theorem degree_le (c : Config ℚ) (ho : c.outAdj = exC.outAdj) (hr : c.reverse = false) (v : Nat) :
    (c.inst.incident v).length ≤ 3 := by
  refine c.forall_incident (P := fun _ l => l.length ≤ 3) (fun _ => Nat.zero_le _) ?_ v
  simp only [Config.inst, hr, ho, Bool.false_eq_true, if_false]
  decide

/-! the runs: by cost `[0, 7]` (Dijkstra on `exC`), by time `[0, 1, 2]` (`exS`), A* `[0, 1, 2]` (`exA`),
reverse search `[7, 0]` (`exR`, in the order of the search direction) -/

theorem exC_run : routeEdgesOf (exC.runVertex 0 (some 3) [0, 1, 2, 3]) = some [[0, 7]] := by
  decide +kernel
theorem exS_run : routeEdgesOf (exS.runVertex 0 (some 3) [0, 1, 2, 3]) = some [[0, 1, 2]] := by
  decide +kernel
theorem exA_run : routeEdgesOf (exA.runVertex 0 (some 3) [0, 1, 2, 3]) = some [[0, 1, 2]] := by
  decide +kernel
theorem exR_run : routeEdgesOf (exR.runVertex 3 (some 0) [3, 2, 1, 0]) = some [[7, 0]] := by
  decide +kernel

def errOf (r : Except ErrKind (AlgResult ℚ)) : Option ErrKind :=
  match r with
  | .ok _ => none
  | .error k => some k

/-- an evaluated `errOf` names the outcome -/
theorem error_of_errOf {r : Except ErrKind (AlgResult ℚ)} {k : ErrKind} (h : errOf r = some k) :
    r = .error k := by
  cases r with
  | ok s => cases h
  | error k' => exact congrArg Except.error (Option.some.inj h)

/-- vertex 4 is isolated: the run towards it ends with "no path" -/
theorem exC_nopath : exC.runVertex 0 (some 4) [0, 1, 2, 3] = .error .noPath :=
  error_of_errOf (by decide +kernel)

/-- the estimate of `exA` is the great-circle table, consistent with the edge costs, hence admissible -/
theorem exA_admissible : Admissible exA.inst exA.okOf exA.costOf exA.hOf 3 := by
  apply SearchOpt.admissible_of_consistent
  · exact exA.forall_incident
      (P := fun v l => ∀ e ∈ l, exA.okOf e = true →
        exA.hOf v ≤ exA.costOf e + exA.hOf (exA.inst.keyV e))
      (fun _ _ he => nomatch he) (by decide +kernel)
  · decide +kernel

/-- the estimate is not the zero function: A* really uses it -/
theorem exA_h0 : exA.hOf 0 = 3000 := by decide +kernel

end ConfigUniform.Example

end Compass
