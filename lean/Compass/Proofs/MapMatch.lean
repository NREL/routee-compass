/-
Lemmas for C16 (map matching): insertion into an insertion-ordered JSON object, heads of nearest-first
candidate lists and the exhaustive scan, the tolerance tests, one step of the edge search, every outcome of the two `process`
functions, the range checks of `haversine`, the ids the writers put into a query read back.
-/
import Compass.Proofs.Num
import Compass.Proofs.AssocList
import Compass.Model.MapMatchIO
import Std.Data.String.ToNat

namespace Compass
namespace MapMatch

open Json

-- the lemmas of a section use varying subsets of its instances
set_option linter.unusedSectionVars false

/-! ### JSON objects -/

/-- the entries whose key is not in `W`, in order -/
def keep (W : List String) (kvs : List (String × Json)) : List (String × Json) :=
  kvs.filter fun p => !(W.contains p.1)

/-- `after` is `before` except possibly for the keys in `W`: every other key keeps its value and the
other keys keep their relative order; a query that is not an object is untouched -/
def SameOthers (W : List String) (before after : Json) : Prop :=
  match before with
  | .obj kvs => ∃ kvs', after = .obj kvs' ∧ keep W kvs' = keep W kvs
  | _ => after = before

theorem SameOthers.refl (W : List String) (q : Json) : SameOthers W q q := by
  unfold SameOthers
  split
  · exact ⟨_, rfl, rfl⟩
  · rfl

theorem SameOthers.trans {W : List String} {a b c : Json} (h1 : SameOthers W a b) (h2 : SameOthers W b c) :
    SameOthers W a c := by
  unfold SameOthers at *
  split at h1
  · obtain ⟨kvs', rfl, hk⟩ := h1
    simp only at h2
    obtain ⟨kvs'', rfl, hk'⟩ := h2
    exact ⟨kvs'', rfl, hk'.trans hk⟩
  · subst h1
    split at h2
    · simp_all
    · exact h2

theorem keep_insertKv (W : List String) (k : String) (v : Json) (hk : k ∈ W)
    (kvs : List (String × Json)) : keep W (insertKv kvs k v) = keep W kvs := by
  have hW : ¬ (!W.contains k) = true := by rw [List.contains_iff_mem.2 hk]; exact Bool.false_ne_true
  unfold insertKv keep
  split
  · clear * - hW
    induction kvs with
    | nil => rfl
    | cons p rest ih =>
      rw [List.map_cons, List.filter_cons, List.filter_cons, ih]
      cases hp : p.1 == k
      · rfl
      · rw [if_pos rfl, if_neg hW, eq_of_beq hp, if_neg hW]
  · rw [List.filter_append, List.filter_cons, if_neg hW]
    exact List.append_nil _

/-! ### the field writer -/

theorem addField_ok {q q' : Json} {f : Field} {id : Nat} (h : addField q f id = .ok q') :
    ∃ kvs, q = .obj kvs ∧ q' = .obj (insertKv kvs f.name (idJson id)) := by
  unfold addField at h
  split at h
  · next kvs => exact ⟨kvs, rfl, by injection h with h; exact h.symm⟩
  · cases h

theorem addField_obj (kvs : List (String × Json)) (f : Field) (id : Nat) :
    addField (.obj kvs) f id = .ok (.obj (insertKv kvs f.name (idJson id))) := rfl

theorem SameOthers.insertKv {W : List String} {k : String} (hk : k ∈ W) (kvs : List (String × Json)) (v : Json) :
    SameOthers W (.obj kvs) (.obj (insertKv kvs k v)) :=
  ⟨_, rfl, keep_insertKv W k v hk kvs⟩

/-! ### nearest-first lists -/

section
variable {α : Type} [LinearOrder α]

/-- the order `rstar`'s nearest-neighbour iterator is assumed to produce -/
def Sorted {β : Type} (d2 : β → α) (l : List β) : Prop := l.Pairwise fun a b => d2 a ≤ d2 b

theorem Sorted.head_le {β : Type} {d2 : β → α} {c : β} {rest : List β} (h : Sorted d2 (c :: rest)) :
    ∀ c' ∈ c :: rest, d2 c ≤ d2 c' := by
  intro c' hc'
  rcases List.mem_cons.mp hc' with rfl | hm
  · exact le_refl _
  · exact (List.pairwise_cons.mp h).1 c' hm

theorem Sorted.tail {β : Type} {d2 : β → α} {c : β} {rest : List β} (h : Sorted d2 (c :: rest)) :
    Sorted d2 rest := (List.pairwise_cons.mp h).2

theorem scanMin_cons_ne_none (c : VCand α) (rest : List (VCand α)) : scanMin (c :: rest) ≠ none := by
  unfold scanMin
  cases scanMin rest with
  | none => exact fun h => nomatch h
  | some m => dsimp only; split <;> exact fun h => nomatch h

/-- the exhaustive scan really is an arg-min, on any list -/
theorem scanMin_is_argmin (l : List (VCand α)) (m : VCand α) (h : scanMin l = some m) :
    m ∈ l ∧ ∀ c ∈ l, m.d2 ≤ c.d2 := by
  induction l generalizing m with
  | nil => cases h
  | cons c rest ih =>
    unfold scanMin at h
    cases hr : scanMin rest with
    | none =>
      -- the rest is empty: `c` is the only candidate
      simp only [hr] at h
      injection h with h; subst h
      cases rest with
      | nil => simp
      | cons c2 r2 => exact absurd hr (scanMin_cons_ne_none c2 r2)
    | some m' =>
      obtain ⟨hm', hle⟩ := ih m' hr
      simp only [hr] at h
      split at h
      · next hc =>
        injection h with h; subst h
        refine ⟨List.mem_cons_self, ?_⟩
        intro c' hc'
        rcases List.mem_cons.mp hc' with rfl | hmem
        · exact le_refl _
        · exact le_trans hc (hle c' hmem)
      · next hc =>
        injection h with h; subst h
        refine ⟨List.mem_cons_of_mem _ hm', ?_⟩
        intro c' hc'
        rcases List.mem_cons.mp hc' with rfl | hmem
        · exact le_of_lt (not_le.mp hc)
        · exact hle c' hmem

end


section
variable {α : Type} [_root_.Field α] [LinearOrder α] [Lit α]

/-! ### the vertex matcher -/

/- The three lemmas on the tolerance tests (`validateTolerance_ok_iff`, `validateTolerance_beyond_iff`,
`withinTolerance_ok_true_iff`) go the same way: split on the tolerance, then on `gc`; without a distance both sides are
false; with `gc = some g` the `show` only exposes the `match`, reduced by the `cases`, and `exists_some_eq` removes the
existential on the other side. -/

theorem exists_some_eq {β : Type} {g : β} {p : β → Prop} : (∃ g', some g = some g' ∧ p g') ↔ p g :=
  ⟨fun ⟨_, h, hp⟩ => Option.some.inj h ▸ hp, fun h => ⟨g, rfl, h⟩⟩

/-- what the code's tolerance test demands of the chosen vertex: a great-circle distance exists and,
converted into the tolerance's unit, is at most the tolerance -/
def Passes (tol : Option (α × DistanceUnit)) (c : VCand α) : Prop :=
  match tol with
  | none => True
  | some (t, u) => ∃ g, c.gc = some g ∧ DistanceUnit.meters.convert u g ≤ t

theorem validateTolerance_ok_iff (tol : Option (α × DistanceUnit)) (c : VCand α) :
    validateTolerance tol c = .ok () ↔ Passes tol c := by
  unfold validateTolerance Passes
  cases tol with
  | none => exact ⟨fun _ => trivial, fun _ => rfl⟩
  | some tu =>
    obtain ⟨t, u⟩ := tu
    cases c.gc with
    | none =>
      constructor
      · intro h; cases h
      · rintro ⟨_, h, _⟩; cases h
    | some g =>
      refine Iff.trans ?_ exists_some_eq.symm
      show (if _ then _ else _) = _ ↔ _
      split
      · next h => exact ⟨fun _ => h, fun _ => rfl⟩
      · next h => exact ⟨fun e => (by cases e), fun h' => absurd h' h⟩

theorem validateTolerance_beyond_iff (t : α) (u : DistanceUnit) (c : VCand α) :
    validateTolerance (some (t, u)) c = .error .beyondTolerance ↔
      ∃ g, c.gc = some g ∧ t < DistanceUnit.meters.convert u g := by
  unfold validateTolerance
  cases c.gc with
  | none =>
    constructor
    · intro h; cases h
    · rintro ⟨_, h, _⟩; cases h
  | some g =>
    refine Iff.trans ?_ exists_some_eq.symm
    show (if _ then _ else _) = _ ↔ _
    split
    · next h => exact ⟨fun e => (by cases e), fun h' => absurd h (not_le.2 h')⟩
    · next h => exact ⟨fun _ => not_le.1 h, fun _ => rfl⟩

theorem matchVertexInto_cons (tol : Option (α × DistanceUnit)) (kvs : List (String × Json)) (f : Field) (c : VCand α)
    (rest : List (VCand α)) :
    matchVertexInto tol (.obj kvs) f (c :: rest) =
      match validateTolerance tol c with
      | .error e => .error e
      | .ok _ => .ok (.obj (insertKv kvs f.name (idJson c.id))) := rfl

theorem matchVertexInto_ok {tol : Option (α × DistanceUnit)} {q q' : Json} {f : Field} {cands : List (VCand α)}
    (h : matchVertexInto tol q f cands = .ok q') :
    ∃ c rest kvs, cands = c :: rest ∧ Passes tol c ∧ q = .obj kvs ∧
      q' = .obj (insertKv kvs f.name (idJson c.id)) := by
  unfold matchVertexInto nearestVertex at h
  cases cands with
  | nil => simp at h
  | cons c rest =>
    simp only [List.head?_cons] at h
    split at h
    · cases h
    · next hv =>
      obtain ⟨kvs, rfl, rfl⟩ := addField_ok h
      exact ⟨c, rest, kvs, rfl, (validateTolerance_ok_iff tol c).1 hv, rfl, rfl⟩

/-- every outcome of `RTreePlugin::process`: an error that leaves the query as it was; or the origin is
matched and written, and then either there is no destination, or the destination fails (the query
keeps `origin_vertex`), or it is matched and written too -/
theorem vertexProcess_cases (tol : Option (α × DistanceUnit)) (q : Json) (oc dc : List (VCand α)) :
    (∃ e, vertexProcess tol q oc dc = ⟨some e, q⟩) ∨
    ∃ co ro kvs, oc = co :: ro ∧ Passes tol co ∧ q = .obj kvs ∧
      ((destinationCoordinate q = .ok false ∧
          vertexProcess tol q oc dc = ⟨none, .obj (insertKv kvs Field.originVertex.name (idJson co.id))⟩) ∨
       (destinationCoordinate q = .ok true ∧
         ((∃ e, vertexProcess tol q oc dc =
            ⟨some e, .obj (insertKv kvs Field.originVertex.name (idJson co.id))⟩) ∨
          ∃ cd rd, dc = cd :: rd ∧ Passes tol cd ∧
            vertexProcess tol q oc dc =
              ⟨none, .obj (insertKv (insertKv kvs Field.originVertex.name (idJson co.id))
                Field.destinationVertex.name (idJson cd.id))⟩))) := by
  unfold vertexProcess
  cases originCoordinate q with
  | error e => exact .inl ⟨e, rfl⟩
  | ok _ =>
    cases destinationCoordinate q with
    | error e => exact .inl ⟨e, rfl⟩
    | ok hasDst =>
      cases hm : matchVertexInto tol q .originVertex oc with
      | error e => exact .inl ⟨e, rfl⟩
      | ok q1 =>
        obtain ⟨co, ro, kvs, rfl, hv, rfl, rfl⟩ := matchVertexInto_ok hm
        refine .inr ⟨co, ro, kvs, rfl, hv, rfl, ?_⟩
        cases hasDst with
        | false => exact .inl ⟨rfl, rfl⟩
        | true =>
          refine .inr ⟨rfl, ?_⟩
          dsimp only
          cases hm2 : matchVertexInto tol
              (.obj (insertKv kvs Field.originVertex.name (idJson co.id))) .destinationVertex dc with
          | error e => exact .inl ⟨e, rfl⟩
          | ok q2 =>
            obtain ⟨cd, rd, kvs2, rfl, hv2, hq, rfl⟩ := matchVertexInto_ok hm2
            cases hq
            exact .inr ⟨cd, rd, rfl, hv2, rfl⟩

/-! ### the edge matcher -/

/-- passes the road-class filter and the vehicle restrictions -/
def Admissible (classes : Option (List Nat)) (hasLookup : Bool) (c : ECand α) : Prop :=
  validClass classes hasLookup c = .ok true ∧ c.vehOk = true

/-- the road-class lookup has an entry for each of these candidates — asked only when it is consulted at all,
i.e. when a lookup is loaded AND the query filters by road class (`cls` is `none` for every candidate of a
plugin without a lookup).  For a plugin made by the builder this holds of every edge of the network
(`edge_builder_consistent`: the lookup has the network's size). -/
def LookupCovers (classes : Option (List Nat)) (hasLookup : Bool) (l : List (ECand α)) : Prop :=
  hasLookup = true → classes.isSome → ∀ c ∈ l, c.cls ≠ none

theorem LookupCovers.tail {classes : Option (List Nat)} {hasLookup : Bool} {c : ECand α} {l : List (ECand α)}
    (h : LookupCovers classes hasLookup (c :: l)) : LookupCovers classes hasLookup l :=
  fun a b c' hc' => h a b c' (List.mem_cons_of_mem _ hc')

theorem validClass_eq_error_iff {classes : Option (List Nat)} {hasLookup : Bool} {c : ECand α} {e : Err} :
    validClass classes hasLookup c = .error e ↔
      e = .roadClassMissing ∧ hasLookup = true ∧ classes.isSome ∧ c.cls = none := by
  unfold validClass
  split
  · split
    · next hc => exact ⟨fun h => (by cases h; exact ⟨rfl, rfl, rfl, hc⟩), fun h => (by rw [h.1])⟩
    · next k hc => exact ⟨fun h => (by cases h), fun h => (by rw [hc] at h; cases h.2.2.2)⟩
  · next hno =>
    refine ⟨fun h => (by cases h), fun h => ?_⟩
    obtain ⟨cs, hcs⟩ := Option.isSome_iff_exists.1 h.2.2.1
    exact absurd h.2.1 (by rw [hcs] at hno; exact fun hl => hno cs rfl hl)

theorem searchEdge_cons_of_admissible (tol : Option (α × DistanceUnit)) {classes : Option (List Nat)}
    {hasLookup : Bool} {c : ECand α} (rest : List (ECand α)) (hadm : Admissible classes hasLookup c) :
    searchEdge tol classes hasLookup (c :: rest) =
      match withinTolerance tol c with
      | .error e => .error e
      | .ok w => if w then .ok (some c.id) else .ok none := by
  rw [searchEdge, hadm.1, hadm.2]
  rfl

theorem searchEdge_cons_of_not_admissible (tol : Option (α × DistanceUnit)) {classes : Option (List Nat)}
    {hasLookup : Bool} {c : ECand α} (rest : List (ECand α))
    (hcov : hasLookup = true → classes.isSome → c.cls ≠ none) (hn : ¬ Admissible classes hasLookup c) :
    searchEdge tol classes hasLookup (c :: rest) = searchEdge tol classes hasLookup rest := by
  rw [searchEdge]
  cases hvc : validClass classes hasLookup c with
  | error e =>
    obtain ⟨_, hl, hc, hnone⟩ := validClass_eq_error_iff.1 hvc
    exact absurd hnone (hcov hl hc)
  | ok vc =>
    dsimp only
    rw [if_neg]
    intro hb
    rw [Bool.and_eq_true] at hb
    exact hn ⟨hb.1 ▸ hvc, hb.2⟩

/-- what the edge matcher's tolerance test demands of the chosen edge: a great-circle distance exists and,
converted into the tolerance's unit, is at most the tolerance -/
def EPasses (tol : Option (α × DistanceUnit)) (c : ECand α) : Prop :=
  match tol with
  | none => True
  | some (t, u) => ∃ g, c.gc = some g ∧ DistanceUnit.meters.convert u g ≤ t

theorem withinTolerance_ok_true_iff (tol : Option (α × DistanceUnit)) (c : ECand α) :
    withinTolerance tol c = .ok true ↔ EPasses tol c := by
  unfold withinTolerance EPasses
  cases tol with
  | none => exact ⟨fun _ => trivial, fun _ => rfl⟩
  | some tu =>
    obtain ⟨t, u⟩ := tu
    cases c.gc with
    | none =>
      constructor
      · intro h; cases h
      · rintro ⟨_, h, _⟩; cases h
    | some g =>
      refine Iff.trans ?_ exists_some_eq.symm
      show Except.ok (decide _) = _ ↔ _
      rw [Except.ok.injEq, decide_eq_true_eq]

/-- `cands` has a nearest admissible candidate, with id `id`, and it passes the tolerance test: the candidates
before it are inadmissible (and have a road class where one is asked for) -/
def Matchable (tol : Option (α × DistanceUnit)) (classes : Option (List Nat)) (hasLookup : Bool)
    (cands : List (ECand α)) (id : Nat) : Prop :=
  ∃ pre c post, cands = pre ++ c :: post ∧ c.id = id ∧ LookupCovers classes hasLookup pre ∧
    (∀ c' ∈ pre, ¬ Admissible classes hasLookup c') ∧ Admissible classes hasLookup c ∧ EPasses tol c

/-- every outcome of `EdgeRtreeInputPlugin::process`: an error that leaves the query as it was, or both
searches found an edge and their ids are written -/
theorem edgeProcess_cases (tol : Option (α × DistanceUnit)) (mapping : List (String × Nat)) (hasLookup : Bool)
    (q : Json) (oc dc : List (ECand α)) :
    (∃ e, edgeProcess tol mapping hasLookup q oc dc = ⟨some e, q⟩) ∨
    ∃ classes eo kvs, readRoadClasses mapping q = .ok classes ∧ q = .obj kvs ∧
      searchEdge tol classes hasLookup oc = .ok (some eo) ∧
      ((destinationCoordinate q = .ok false ∧
          edgeProcess tol mapping hasLookup q oc dc =
            ⟨none, .obj (insertKv kvs Field.originEdge.name (idJson eo))⟩) ∨
       (destinationCoordinate q = .ok true ∧ ∃ ed, searchEdge tol classes hasLookup dc = .ok (some ed) ∧
          edgeProcess tol mapping hasLookup q oc dc =
            ⟨none, .obj (insertKv (insertKv kvs Field.originEdge.name (idJson eo))
              Field.destinationEdge.name (idJson ed))⟩)) := by
  unfold edgeProcess
  cases readRoadClasses mapping q with
  | error e => exact .inl ⟨e, rfl⟩
  | ok classes =>
    cases ho : originCoordinate q with
    | error e => exact .inl ⟨e, rfl⟩
    | ok _ =>
      obtain ⟨kvs, rfl⟩ : ∃ kvs, q = .obj kvs := by
        cases q with
        | obj kvs => exact ⟨kvs, rfl⟩
        | _ => cases ho
      cases destinationCoordinate (.obj kvs) with
      | error e => exact .inl ⟨e, rfl⟩
      | ok hasDst =>
        unfold searchEdge!
        dsimp only
        cases hso : searchEdge tol classes hasLookup oc with
        | error e => exact .inl ⟨e, rfl⟩
        | ok ro =>
          cases ro with
          | none => exact .inl ⟨_, rfl⟩
          | some eo =>
            cases hasDst with
            | false => exact .inr ⟨classes, eo, kvs, rfl, rfl, hso, .inl ⟨rfl, rfl⟩⟩
            | true =>
              dsimp only
              cases hsd : searchEdge tol classes hasLookup dc with
              | error e => exact .inl ⟨e, rfl⟩
              | ok rd =>
                cases rd with
                | none => exact .inl ⟨_, rfl⟩
                | some ed => exact .inr ⟨classes, eo, kvs, rfl, rfl, hso, .inr ⟨rfl, ed, hsd, rfl⟩⟩

/-! ### coordinates -/

/-- the literals `180.0` and `90.0` of `haversine_distance_meters` mean 180 and 90 -/
theorem coordsInRange_iff [LawfulLit α] (sx sy dx dy : α) :
    coordsInRange sx sy dx dy = true ↔
      (-180 ≤ sx ∧ sx ≤ 180) ∧ (-180 ≤ dx ∧ dx ≤ 180) ∧ (-90 ≤ sy ∧ sy ≤ 90) ∧ (-90 ≤ dy ∧ dy ≤ 90) := by
  have lit_one : ∀ n : Nat, (Lit.lit n 1 : α) = n := fun n => by rw [LawfulLit.lit_eq, Nat.cast_one, div_one]
  simp only [coordsInRange, inRange, Bool.and_eq_true, decide_eq_true_eq, lit_one, Nat.cast_ofNat, and_assoc]

theorem destinationCoordinate_false_iff (q : Json) :
    destinationCoordinate q = .ok false ↔ q.get? "destination_x" = none ∧ q.get? "destination_y" = none := by
  unfold destinationCoordinate
  simp only [Field.name]
  constructor
  · intro h
    split at h
    · next h1 h2 => exact ⟨h1, h2⟩
    · cases h
    · cases h
    · split at h
      · cases h
      · split at h <;> cases h
  · rintro ⟨h1, h2⟩
    rw [h1, h2]

end


/-! ### ids written by the matchers read back (`InputJsonExtensions` readers) -/

/-- `Value::from(n).as_u64() == Some(n)` for every `u64`: the decimal rendering of `n` is all digits and parses back
to `n` -/
theorem asU64_idJson (n : Nat) (h : n < 2 ^ 64) : Json.asU64? (idJson n) = some n := by
  have hd : Json.allDigits (toString n) = true := by
    unfold Json.allDigits
    rw [Nat.toString_eq_repr]
    simp only [Bool.and_eq_true, Bool.not_eq_true', List.all_eq_true]
    refine ⟨by simp [@Nat.repr_ne_empty n], fun c hc => ?_⟩
    rw [Nat.toList_repr] at hc
    exact Nat.isDigit_of_mem_toDigits (by omega) (by omega) hc
  unfold idJson Json.asU64?
  simp only [hd, if_true]
  rw [Nat.toString_eq_repr, Nat.toNat?_repr]
  have h' : n < 18446744073709551616 := by simpa using h
  simp [h']

/-- a key that holds the number `serde_json` makes of an id reads back as that id, through either reader shape -/
theorem getId_of_get? {q : Json} {f : Field} {n : Nat} (hn : n < 2 ^ 64) (h : q.get? f.name = some (idJson n)) :
    getRequiredId q f = .ok n ∧ getOptionalId q f = .ok (some n) := by
  simp only [getRequiredId, getOptionalId, h, asU64_idJson n hn, and_self]

/-- an id one of the four writers puts under the key of `f` is what either reader shape finds there -/
theorem written_id_reads_back {q q' : Json} {f : Field} {n : Nat} (hn : n < 2 ^ 64) (h : addField q f n = .ok q') :
    getRequiredId q' f = .ok n ∧ getOptionalId q' f = .ok (some n) := by
  obtain ⟨kvs, rfl, rfl⟩ := addField_ok h
  exact getId_of_get? hn (lookup_insertKv_same _ _ _)

theorem isNumber_iff_asF64Bits (v : Json) : v.isNumber = true ↔ ∃ b, v.asF64Bits? = some b := by
  cases v <;> simp [Json.isNumber, Json.asF64Bits?]

end MapMatch
end Compass
