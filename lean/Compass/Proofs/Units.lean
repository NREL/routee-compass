/-
The unit tables of `Gen/Units.lean` and the constructors of `Model/Units.lean`, as the proof modules use them:
what is decided about each table (well-formed and identity entries, the calibration of the distance / time / speed /
grade / weight tables against hand-written SI values, the name tables), the lifting of a table fact to every magnitude
and sign in any linearly ordered field, the derived factors `timeK` / `speedK`, `create_time` and `create_speed` in
closed form, and the reader `jsonUnescape` of `from_str`.

The names say `C09` because the property theorems of `Props/C09.lean` are stated with them (its `tol`, its SI
tables, `timeK`); `Props/C09.lean` holds the property theorems themselves, apart from those a proof module reads
(`createTime_def`, `distance_` / `time_` / `energy_convert_id`) and `createTime_none_iff`, on which
`createTime_eq_some` rests: these are here.  The tables are regenerated from the Rust source on every run, so every
`decide +kernel` below is re-checked against what the code says now.
-/
import Compass.Proofs.Num
import Compass.Model.Units

namespace Compass
namespace C09

set_option linter.unusedSectionVars false

instance : Fintype DistanceUnit := Fintype.ofList DistanceUnit.all (by intro x; cases x <;> decide)
instance : Fintype TimeUnit := Fintype.ofList TimeUnit.all (by intro x; cases x <;> decide)
instance : Fintype SpeedUnit := Fintype.ofList SpeedUnit.all (by intro x; cases x <;> decide)
instance : Fintype EnergyUnit := Fintype.ofList EnergyUnit.all (by intro x; cases x <;> decide)
instance : Fintype GradeUnit := Fintype.ofList GradeUnit.all (by intro x; cases x <;> decide)
instance : Fintype WeightUnit := Fintype.ofList WeightUnit.all (by intro x; cases x <;> decide)
instance : Fintype EnergyRateUnit := Fintype.ofList EnergyRateUnit.all (by intro x; cases x <;> decide)

/-! ### SI definitions (hand written, independent of the source) -/

/-- metres per unit -/
def siDistance : DistanceUnit → ℚ
  | .meters => 1 | .kilometers => 1000 | .miles => 1609344 / 1000 | .inches => 254 / 10000 | .feet => 3048 / 10000
/-- seconds per unit -/
def siTime : TimeUnit → ℚ
  | .hours => 3600 | .minutes => 60 | .seconds => 1 | .milliseconds => 1 / 1000
/-- metres per second per unit -/
def siSpeed : SpeedUnit → ℚ
  | .kilometersPerHour => 1000 / 3600 | .milesPerHour => (1609344 / 1000) / 3600 | .metersPerSecond => 1
/-- rise over run per unit -/
def siGrade : GradeUnit → ℚ
  | .percent => 1 / 100 | .decimal => 1 | .millis => 1 / 1000
/-- kilograms per unit (avoirdupois pound, US short ton) -/
def siWeight : WeightUnit → ℚ
  | .pounds => 45359237 / 100000000 | .tons => 2000 * (45359237 / 100000000) | .kg => 1

/-- relative tolerance of the property: 0.1 percent -/
def tol : ℚ := 1 / 1000

/-! ### Table facts (finite, decided by the kernel over all ordered pairs) -/

theorem distance_wf : ∀ u v : DistanceUnit, (DistanceUnit.factor u v).wf = true := by decide +kernel
theorem time_wf : ∀ u v : TimeUnit, (TimeUnit.factor u v).wf = true := by decide +kernel
theorem speed_wf : ∀ u v : SpeedUnit, (SpeedUnit.factor u v).wf = true := by decide +kernel
theorem energy_wf : ∀ u v : EnergyUnit, (EnergyUnit.factor u v).wf = true := by decide +kernel

theorem distance_id : ∀ u : DistanceUnit, DistanceUnit.factor u u = .id := by decide +kernel
theorem time_id : ∀ u : TimeUnit, TimeUnit.factor u u = .id := by decide +kernel
theorem speed_id : ∀ u : SpeedUnit, SpeedUnit.factor u u = .id := by decide +kernel
theorem energy_id : ∀ u : EnergyUnit, EnergyUnit.factor u u = .id := by decide +kernel
theorem grade_id : ∀ u : GradeUnit, GradeUnit.factor u u = .id := by decide +kernel
theorem weight_id : ∀ u : WeightUnit, WeightUnit.factor u u = .id := by decide +kernel

/-! The tables with SI values, calibrated: every entry is the ratio of the SI values up to the stated factor.  The constants are the table's worst relative deviation over all
ordered pairs, rounded up: distance 2.14·10⁻⁴ (metres → miles, `0.0006215040398` = 1 / 1609.0 against a mile of
1609.344 m), speed 2.85·10⁻⁵ (metres per second → miles per hour, `2.237`), time 8·10⁻¹⁰ (milliseconds → hours,
`0.000000277777778`).  A chain of such entries is accurate to the product of the factors (`Conv.comp`, `Conv.mul`,
`Conv.div`): seven legs, three of them distances, still fit into `tol` (`timeK`, `speedK`, C08's `recK`).  The round
trip and the physical value of a table follow as well (`Conv.roundtrip`, `Conv.abs_sub_one_le`); the energy table has
no SI values and is checked for the round trip directly. -/

theorem distance_cal : ∀ u v : DistanceUnit,
    Conv (1 + 1 / 4000) (DistanceUnit.factor u v).ratio (siDistance u) (siDistance v) := by decide +kernel
theorem time_cal : ∀ u v : TimeUnit,
    Conv (1 + 1 / 1000000000) (TimeUnit.factor u v).ratio (siTime u) (siTime v) := by decide +kernel
theorem speed_cal : ∀ u v : SpeedUnit,
    Conv (1 + 1 / 30000) (SpeedUnit.factor u v).ratio (siSpeed u) (siSpeed v) := by decide +kernel
theorem grade_cal : ∀ u v : GradeUnit, Conv 1 (GradeUnit.factor u v).ratio (siGrade u) (siGrade v) := by
  decide +kernel
theorem weight_cal : ∀ u v : WeightUnit,
    Conv (1 + 1 / 500000) (WeightUnit.factor u v).ratio (siWeight u) (siWeight v) := by decide +kernel

theorem siDistance_pos (u : DistanceUnit) : 0 < siDistance u := (distance_cal u u).pos_left
theorem siTime_pos (u : TimeUnit) : 0 < siTime u := (time_cal u u).pos_left
theorem siSpeed_pos (u : SpeedUnit) : 0 < siSpeed u := (speed_cal u u).pos_left

/-- the base units are the SI units -/
theorem si_base : siDistance baseDistanceUnit = 1 ∧ siSpeed baseSpeedUnit = 1 ∧ siTime baseTimeUnit = 1 := by
  decide +kernel

theorem energy_roundtrip_table : ∀ u v : EnergyUnit,
    |(EnergyUnit.factor u v).ratio * (EnergyUnit.factor v u).ratio - 1| ≤ tol := by decide +kernel

/-! ### Equal units convert by the identity (no arithmetic: the entry is `Factor.id`) -/

section
variable {α : Type} [Mul α] [Div α] [Lit α]

theorem distance_convert_id (u : DistanceUnit) (x : α) : u.convert u x = x := by
  simp [DistanceUnit.convert, distance_id, Factor.apply]
theorem time_convert_id (u : TimeUnit) (x : α) : u.convert u x = x := by
  simp [TimeUnit.convert, time_id, Factor.apply]
theorem energy_convert_id (u : EnergyUnit) (x : α) : u.convert u x = x := by
  simp [EnergyUnit.convert, energy_id, Factor.apply]

end

/-! ### Lifting to every magnitude and sign, in any linearly ordered field -/

section
variable {α : Type} [Field α] [LinearOrder α] [IsStrictOrderedRing α] [Lit α] [LawfulLit α]

/-- scaling by a rational within `ε` of 1 moves a value by at most `ε` of its size -/
theorem abs_mul_cast_sub_le (y : α) {q ε : ℚ} (h : |q - 1| ≤ ε) : |y * (q : α) - y| ≤ |y| * (ε : α) := by
  have h' := (Rat.cast_le (K := α)).mpr h
  rw [Rat.cast_abs, Rat.cast_sub, Rat.cast_one] at h'
  rw [← mul_sub_one, abs_mul]
  exact mul_le_mul_of_nonneg_left h' (abs_nonneg y)

theorem roundtrip_of_table (f g : Factor) {ε : ℚ} (h : |f.ratio * g.ratio - 1| ≤ ε) (x : α) :
    |g.apply (f.apply x) - x| ≤ |x| * (ε : α) := by
  rw [Factor.apply_eq, Factor.apply_eq, mul_assoc, ← Rat.cast_mul]
  exact abs_mul_cast_sub_le x h

theorem physical_of_ratio (a : α) (f u v : ℚ) {ε : ℚ} (hu : 0 < u) (hv : 0 < v) (h : |f * v / u - 1| ≤ ε) :
    |a * (f : α) - a * ((u / v : ℚ) : α)| ≤ |a * ((u / v : ℚ) : α)| * (ε : α) := by
  have e : f = u / v * (f * v / u) := by field_simp
  rw [congrArg (Rat.cast (K := α)) e, Rat.cast_mul, ← mul_assoc]
  exact abs_mul_cast_sub_le _ h

theorem quotient_physical {n m : α} (hn : 0 ≤ n) (hm : 0 < m) (k w u v : ℚ) {ε : ℚ} (hu : 0 < u) (hv : 0 < v)
    (h : |k * w * v / u - 1| ≤ ε) :
    |n / m * (k : α) * (w : α) - n * (u : α) / (m * (v : α))| ≤ n * (u : α) / (m * (v : α)) * (ε : α) := by
  have hu' : (0 : α) < (u : α) := Rat.cast_pos.mpr hu
  have hv' : (0 : α) < (v : α) := Rat.cast_pos.mpr hv
  have h := physical_of_ratio (n / m) (k * w) u v hu hv h
  rwa [Rat.cast_mul, ← mul_assoc, Rat.cast_div, div_mul_div_comm,
    abs_of_nonneg (div_nonneg (mul_nonneg hn hu'.le) (mul_pos hm hv').le)] at h

/-- one `u` is `factor u v` `v`s; physically it is `si u / si v` -/
theorem physical_of_cal {f : Factor} {r siu siv ε : ℚ} (h : Conv r f.ratio siu siv) (hr : r ≤ 1 + ε) (x : α) :
    |f.apply x - x * ((siu / siv : ℚ) : α)| ≤ |x * ((siu / siv : ℚ) : α)| * (ε : α) := by
  rw [Factor.apply_eq]
  exact physical_of_ratio x _ _ _ h.pos_left h.pos_right (h.abs_sub_one_le hr)

end

/-! ### Derived quantities -/

/-- exact combined factor of `create_time` for a unit triple -/
def timeK (su : SpeedUnit) (du : DistanceUnit) (tu : TimeUnit) : ℚ :=
  (DistanceUnit.factor du baseDistanceUnit).ratio / (SpeedUnit.factor su baseSpeedUnit).ratio
    * (TimeUnit.factor baseTimeUnit tu).ratio

/-- exact combined factor of `create_speed` for a unit triple -/
def speedK (tu : TimeUnit) (du : DistanceUnit) (su : SpeedUnit) : ℚ :=
  (DistanceUnit.factor du baseDistanceUnit).ratio / (TimeUnit.factor tu baseTimeUnit).ratio
    * (SpeedUnit.factor baseSpeedUnit su).ratio

/-- three calibrated legs — a quotient of two factors into base units worth 1, times a factor out of a base unit
worth 1 — are as accurate together as their factors multiply -/
theorem conv_div_mul_of_base {r1 r2 r3 k1 k2 k3 s1 s2 b1 b2 b3 t3 ε : ℚ} (h1 : Conv r1 k1 s1 b1)
    (h2 : Conv r2 k2 s2 b2) (h3 : Conv r3 k3 b3 t3) (hb1 : b1 = 1) (hb2 : b2 = 1) (hb3 : b3 = 1)
    (hr : r1 * r2 * r3 ≤ 1 + ε) : |k1 / k2 * k3 * t3 * s2 / s1 - 1| ≤ ε := by
  have h := ((h1.div h2).mul h3).abs_sub_one_le hr
  rw [hb1, hb2, hb3, div_one, one_mul, mul_one] at h
  rwa [mul_assoc, mul_div_assoc, ← div_div_eq_mul_div, ← mul_div_assoc]

/-- `timeK`: distance to metres, over speed to metres per second, seconds to the time unit -/
theorem timeK_physical_table (su : SpeedUnit) (du : DistanceUnit) (tu : TimeUnit) :
    |timeK su du tu * siTime tu * siSpeed su / siDistance du - 1| ≤ tol :=
  conv_div_mul_of_base (distance_cal du baseDistanceUnit) (speed_cal su baseSpeedUnit) (time_cal baseTimeUnit tu)
    si_base.1 si_base.2.1 si_base.2.2 (by norm_num [tol])

/-- `speedK`: distance to metres, over time to seconds, metres per second to the speed unit -/
theorem speedK_physical_table (tu : TimeUnit) (du : DistanceUnit) (su : SpeedUnit) :
    |speedK tu du su * siSpeed su * siTime tu / siDistance du - 1| ≤ tol :=
  conv_div_mul_of_base (distance_cal du baseDistanceUnit) (time_cal tu baseTimeUnit) (speed_cal baseSpeedUnit su)
    si_base.1 si_base.2.2 si_base.2.1 (by norm_num [tol])

theorem timeK_pos (su : SpeedUnit) (du : DistanceUnit) (tu : TimeUnit) : 0 < timeK su du tu :=
  mul_pos (div_pos (Factor.ratio_pos _ (distance_wf du baseDistanceUnit)) (Factor.ratio_pos _ (speed_wf su baseSpeedUnit)))
    (Factor.ratio_pos _ (time_wf baseTimeUnit tu))

/-! ### `create_time` and `create_speed` in closed form -/

section
variable {α : Type} [Field α] [LinearOrder α] [IsStrictOrderedRing α] [Lit α] [LawfulLit α]

theorem mul_nonpos_iff_of_pos_right {x r : α} (hr : 0 < r) : x * r ≤ 0 ↔ x ≤ 0 := by
  rw [← not_lt, ← not_lt, mul_pos_iff_of_pos_right hr]

theorem ite_none_some_eq_none_iff {β : Type} {c : Prop} [Decidable c] {x : β} :
    (if c then none else some x) = none ↔ c := by
  split <;> simp [*]

theorem createTime_eq (s : α) (su : SpeedUnit) (d : α) (du : DistanceUnit) (tu : TimeUnit) :
    createTime s su d du tu =
      if s ≤ 0 ∨ d ≤ 0 then none
      else some (d * ((DistanceUnit.factor du baseDistanceUnit).ratio : α)
                  / (s * ((SpeedUnit.factor su baseSpeedUnit).ratio : α))
                  * ((TimeUnit.factor baseTimeUnit tu).ratio : α)) := by
  -- the conversion factors are positive, so the converted speed / distance is `≤ 0` exactly when the given one is
  have hd := ratio_cast_pos (α := α) _ (distance_wf du baseDistanceUnit)
  have hs := ratio_cast_pos (α := α) _ (speed_wf su baseSpeedUnit)
  simp only [createTime, DistanceUnit.convert, SpeedUnit.convert, TimeUnit.convert, Factor.apply_eq,
    zero_eq, mul_nonpos_iff_of_pos_right hs, mul_nonpos_iff_of_pos_right hd]

/-- C09: `create_time` rejects exactly a non-positive speed or distance -/
theorem createTime_none_iff (s : α) (su : SpeedUnit) (d : α) (du : DistanceUnit) (tu : TimeUnit) :
    createTime s su d du tu = none ↔ (s ≤ 0 ∨ d ≤ 0) := by
  rw [createTime_eq, ite_none_some_eq_none_iff]

/-- C09: for positive speed and distance `create_time` is distance over speed, exactly `timeK · d / s` -/
theorem createTime_def (s : α) (su : SpeedUnit) (d : α) (du : DistanceUnit) (tu : TimeUnit)
    (hs : 0 < s) (hd : 0 < d) :
    createTime s su d du tu = some (d / s * (timeK su du tu : α)) := by
  rw [createTime_eq, if_neg (not_or.mpr ⟨not_le.mpr hs, not_le.mpr hd⟩), timeK, Rat.cast_mul, Rat.cast_div,
    ← mul_assoc, div_mul_div_comm]

/-- `createTime_none_iff` and `createTime_def` read from an answer -/
theorem createTime_eq_some {s : α} {su : SpeedUnit} {d : α} {du : DistanceUnit} {tu : TimeUnit} {t : α}
    (h : createTime s su d du tu = some t) : 0 < s ∧ 0 < d ∧ t = d / s * (timeK su du tu : α) := by
  have hn : ¬ (s ≤ 0 ∨ d ≤ 0) := fun hc => by
    rw [(createTime_none_iff s su d du tu).2 hc] at h; cases h
  rw [not_or, not_le, not_le] at hn
  rw [createTime_def s su d du tu hn.1 hn.2] at h
  exact ⟨hn.1, hn.2, (Option.some.inj h).symm⟩

theorem createTime_pos {s : α} {su : SpeedUnit} {d : α} {du : DistanceUnit} {tu : TimeUnit} {tv : α}
    (h : createTime s su d du tu = some tv) : 0 < tv := by
  obtain ⟨hs, hd, rfl⟩ := createTime_eq_some h
  exact mul_pos (div_pos hd hs) (Rat.cast_pos.mpr (timeK_pos su du tu))

theorem createSpeed_eq (t : α) (tu : TimeUnit) (d : α) (du : DistanceUnit) (su : SpeedUnit) :
    createSpeed t tu d du su =
      if t ≤ 0 then none
      else some (d * ((DistanceUnit.factor du baseDistanceUnit).ratio : α)
                  / (t * ((TimeUnit.factor tu baseTimeUnit).ratio : α))
                  * ((SpeedUnit.factor baseSpeedUnit su).ratio : α)) := by
  have ht := ratio_cast_pos (α := α) _ (time_wf tu baseTimeUnit)
  simp only [createSpeed, DistanceUnit.convert, SpeedUnit.convert, TimeUnit.convert, Factor.apply_eq,
    zero_eq, mul_nonpos_iff_of_pos_right ht]

end

/-! ### `from_str`: `jsonUnescape`, the JSON string reader the text goes through (header of `Props/C09.lean`) -/

/-- a text the JSON string reader copies unchanged: no quote, backslash or control character -/
abbrev PlainText (l : List Char) : Prop := ∀ c ∈ l, c ≠ '"' ∧ c ≠ '\\' ∧ 32 ≤ c.toNat

theorem jsonUnescape_cons_plain (c : Char) (rest : List Char) (hc : c ≠ '\\') :
    jsonUnescape (c :: rest) =
      if c == '"' || c.toNat < 32 then none else (jsonUnescape rest).map (c :: ·) := by
  conv_lhs => unfold jsonUnescape
  split
  · rename_i heq; cases heq
  · rename_i heq; simp at heq; exact absurd heq.1 hc
  · rename_i heq
    simp at heq
    obtain ⟨rfl, rfl⟩ := heq
    rfl

theorem jsonUnescape_plain_append (pre rest : List Char) (hpre : PlainText pre) :
    jsonUnescape (pre ++ rest) = (jsonUnescape rest).map (pre ++ ·) := by
  induction pre with
  | nil => simp
  | cons c pre ih =>
    obtain ⟨h1, h2, h3⟩ := hpre c (by simp)
    have : ¬ c.toNat < 32 := by omega
    rw [List.cons_append, jsonUnescape_cons_plain c _ h2, ih (fun d hd => hpre d (by simp [hd]))]
    simp [h1, this, Function.comp_def]

theorem jsonUnescape_plain (l : List Char) (h : PlainText l) : jsonUnescape l = some l := by
  simpa [jsonUnescape] using jsonUnescape_plain_append l [] h

/-- a text that holds a raw quote or a raw control character is no JSON string body: refused -/
theorem jsonUnescape_refuses_raw (pre : List Char) (c : Char) (post : List Char)
    (hpre : PlainText pre) (hc : c = '"' ∨ (c.toNat < 32)) :
    jsonUnescape (pre ++ c :: post) = none := by
  have hb : c ≠ '\\' := by rintro rfl; exact absurd hc (by decide)
  rw [jsonUnescape_plain_append pre _ hpre, jsonUnescape_cons_plain c post hb]
  rcases hc with rfl | hc <;> simp [*]

/-- escapes are the only decoding: a text without a backslash is accepted only as itself -/
theorem jsonUnescape_eq_self {l r : List Char} (hl : '\\' ∉ l) (h : jsonUnescape l = some r) : r = l := by
  induction l generalizing r with
  | nil => simpa [jsonUnescape, eq_comm] using h
  | cons c rest ih =>
    rw [List.mem_cons, not_or] at hl
    rw [jsonUnescape_cons_plain c rest (Ne.symm hl.1)] at h
    split at h
    · cases h
    · obtain ⟨r', hr', rfl⟩ := Option.map_eq_some_iff.mp h
      rw [ih hl.2 hr']

/-- the family-independent core: with a name table that is read back exactly, `from_str` accepts a text as
`u` exactly when the text stands for `u`'s name -/
theorem unitFromStr_iff {β : Type} (ofName? : String → Option β) (name : β → String)
    (hn : ∀ t u, ofName? t = some u ↔ t = name u) (s : String) (u : β) :
    unitFromStr ofName? s = some u ↔ jsonUnescape s.toList = some (name u).toList := by
  unfold unitFromStr
  cases h : jsonUnescape s.toList with
  | none => simp
  | some cs =>
    simp only [hn, Option.some.injEq]
    constructor
    · intro h'; rw [← h']; simp
    · intro h'; rw [h']; simp

/-- for a text without a backslash: accepted as `u` exactly when it IS `u`'s name -/
theorem unitFromStr_plain_iff {β : Type} (ofName? : String → Option β) (name : β → String)
    (hn : ∀ t u, ofName? t = some u ↔ t = name u) (hplain : ∀ u, PlainText (name u).toList)
    (s : String) (hs : '\\' ∉ s.toList) (u : β) :
    unitFromStr ofName? s = some u ↔ s = name u := by
  rw [unitFromStr_iff ofName? name hn]
  constructor
  · intro h
    exact String.toList_inj.mp (jsonUnescape_eq_self hs h).symm
  · rintro rfl
    exact jsonUnescape_plain _ (hplain u)

/-- a string literal is by definition `String.ofList` of its characters, so for a literal `s` the first
hypothesis is `rfl` and tells the characters; `String.toList_ofList` then hands them back without the
kernel running the UTF-8 codec that evaluating `s.toList` would -/
theorem plainText_toList {s : String} (l : List Char) (hs : s = String.ofList l) (hl : PlainText l) :
    PlainText s.toList := by
  rwa [hs, String.toList_ofList]

/-! What is decided about each generated name table: every unit is found under its own name. -/

theorem speed_unit_of_name_name : ∀ u : SpeedUnit, SpeedUnit.ofName? u.name = some u := by decide +kernel
theorem distance_unit_of_name_name : ∀ u : DistanceUnit, DistanceUnit.ofName? u.name = some u := by decide +kernel
theorem time_unit_of_name_name : ∀ u : TimeUnit, TimeUnit.ofName? u.name = some u := by decide +kernel
theorem energy_unit_of_name_name : ∀ u : EnergyUnit, EnergyUnit.ofName? u.name = some u := by decide +kernel
theorem energy_rate_unit_of_name_name : ∀ u : EnergyRateUnit, EnergyRateUnit.ofName? u.name = some u := by decide +kernel
theorem grade_unit_of_name_name : ∀ u : GradeUnit, GradeUnit.ofName? u.name = some u := by decide +kernel
theorem weight_unit_of_name_name : ∀ u : WeightUnit, WeightUnit.ofName? u.name = some u := by decide +kernel

/-! … and the names are plain texts. -/

theorem speed_unit_name_plain (u : SpeedUnit) : PlainText u.name.toList := by
  cases u <;> exact plainText_toList _ rfl (by decide)
theorem distance_unit_name_plain (u : DistanceUnit) : PlainText u.name.toList := by
  cases u <;> exact plainText_toList _ rfl (by decide)
theorem time_unit_name_plain (u : TimeUnit) : PlainText u.name.toList := by
  cases u <;> exact plainText_toList _ rfl (by decide)
theorem energy_unit_name_plain (u : EnergyUnit) : PlainText u.name.toList := by
  cases u <;> exact plainText_toList _ rfl (by decide)
theorem energy_rate_unit_name_plain (u : EnergyRateUnit) : PlainText u.name.toList := by
  cases u <;> exact plainText_toList _ rfl (by decide)
theorem grade_unit_name_plain (u : GradeUnit) : PlainText u.name.toList := by
  cases u <;> exact plainText_toList _ rfl (by decide)
theorem weight_unit_name_plain (u : WeightUnit) : PlainText u.name.toList := by
  cases u <;> exact plainText_toList _ rfl (by decide)

end C09
end Compass
